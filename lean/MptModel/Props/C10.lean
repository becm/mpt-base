/-
  C10 — the configuration store behaves as a path -> value map.

  M = `Impl/Config.lean`: byte-level model of mpt_path_set/next/last/addchar/valid/add/del and the
  tree functions node_query/node_assign/meta_set/config_global assign·query·remove on ordered trees
  (`CNode`; the pointer operations behind them are the subject of C14).  S = `Spec/PathMap.lean`.

  Proved: `path_split` / `path_split_assign` (mpt_path_set + mpt_path_next visit exactly the separator-delimited
  components in front of the first assign character, for every text without a 0 byte, incl. first elements longer than
  the 8 bit `first` field; the statements ask for `sep ≠ 0` and `sep ≠ assign`, the proofs hold for every separator and
  assign character), `path_last` (mpt_path_last after any number of consumed
  components reduces the path to the last component), `path_rebuild_sep`/`path_rebuild_bin`/`path_undo_sep`/
  `path_undo_bin`/`path_last_bin` (a path built with addchar/valid/add holds exactly its elements in separator and
  in binary length mode, del takes the last element off again and the rest can be walked and extended),
  `map_refinement` (for every history of assignments and removals with non-empty paths a query of the
  tree returns what the map holds: get-after-set, independence of different paths, remove = remove the
  prefix and nothing else), for the node tree of the global configuration, through sub-tree views
  (`map_refinement_view`: make_global never touches a value, a view with base `b` acts at `b ++ k`) and
  (`map_refinement_items`) for the item arrays of the private C++ configuration `mpt::config::root`
  (`Impl/ConfigItems.lean`).
  `assign_refused_pure`: a refused assignment (value without text form, over-long element) leaves the tree as it
  was, on every front end.
  `map_refinement_view_empty`: remove through a view with an empty / NULL path.
  Single steps and links between the levels: `get_after_set`, `remove_prefix_only`, `make_global_keeps_values` (one
  operation on any tree), `config_global_ops` and `root_query_value` (the functions of the global object and of
  `config::root::query` are the tree functions), `cursor_walk` (node_assign / node_query on the path cursor of a text =
  the key-level functions on its components), `assign_accepted` (counterpart of `assign_refused_pure`), `split_basic`
  (two facts about the components of a text in S).
  The notions of the statements: `valueAt`, `Uniq`, `Op`, `stepM`, `stepS`, `Agree` (head of `Lemmas/ConfigMap.lean`),
  `AllUsed`, `ivalueAt`, `stepI` (`Lemmas/ConfigItemsMap.lean`).  Fuel: a walk needs one call per element and the call that
  sees the empty rest; a text of n bytes has at most n + 1 components, hence `text.length + 2`, `(joinSep …).length + 2`; in
  binary mode the elements are counted directly.
  Not proved (correspondence run only): mpt_path_set with an explicit length, paths with a non-zero offset handed to the builders.
-/
import MptModel.Lemmas.ConfigMap
import MptModel.Lemmas.ConfigPath
import MptModel.Lemmas.ConfigItemsMap
import MptModel.Lemmas.ConfigPathBuild
import MptModel.Lemmas.ConfigCursor
namespace Mpt.C10
open Mpt Mpt.Config Mpt.PathMap


/-- Splitting a path text with `mpt_path_set(path, text, -1)` (separator `sep ≠ 0`, assign character 0) and
    consuming it with `mpt_path_next` until it is used up yields exactly the separator-delimited components
    of the text — also when the first element is longer than 255 bytes (`first` cannot hold its length). -/
theorem path_split (sep : Byte) (hs : sep ≠ 0) (text : List Byte) (h0 : (0 : Byte) ∉ text) :
    elems (pathSet sep 0 text).1 (text.length + 2) = .ok (splitOn sep text) :=
  splitPath_no_assign sep 0 text h0 ▸ elems_pathSet_assign sep 0 text h0

-- the text `a..bc` with separator `.` (46; 47 below is `/`, 61 `=`)
example : elems (pathSet 46 0 [97, 46, 46, 98, 99]).1 7 = .ok [[97], [], [98, 99]] :=
  path_split 46 (by decide) [97, 46, 46, 98, 99] (by decide)

/-- the components of a text in S: there is always at least one, and a text without separator is its only component -/
theorem split_basic (sep : Byte) (t : List Byte) :
    splitOn sep t ≠ [] ∧ (sep ∉ t → splitOn sep t = [t]) :=
  ⟨splitOn_ne_nil sep t, splitOn_no_sep sep t⟩

/-- `path_split` with any assign character: the walk yields the components of the text in front of the first assign
    character (`splitPath`).  `sep ≠ 0` and `sep ≠ assign` (here, in `path_split` and in `path_last`) are what a sensible
    caller of `mpt_path_set` provides; the model's walk does not depend on them (`Config.elems_pathSet_assign`). -/
theorem path_split_assign (sep assign : Byte) (hs : sep ≠ 0) (hsa : sep ≠ assign) (text : List Byte)
    (h0 : (0 : Byte) ∉ text) :
    elems (pathSet sep assign text).1 (text.length + 2) = .ok (splitPath sep assign text) :=
  elems_pathSet_assign sep assign text h0

example : elems (pathSet 46 61 [97, 46, 98, 61, 99, 46, 100]).1 9 = .ok [[97], [98]] :=
  path_split_assign 46 61 (by decide) (by decide) [97, 46, 98, 61, 99, 46, 100] (by decide)

/-- `mpt_path_last` after `n` calls of `mpt_path_next` (fewer than there are components): the path is reduced to
    the last component of the text and its length is returned — whatever was consumed before and however long the
    components are (`first` only holds 8 bits) -/
theorem path_last (sep assign : Byte) (hs : sep ≠ 0) (hsa : sep ≠ assign) (text : List Byte)
    (h0 : (0 : Byte) ∉ text) (n : Nat) (hn : n < (splitPath sep assign text).length) :
    ∃ p q last, (splitPath sep assign text).getLast? = some last ∧
      nextN (pathSet sep assign text).1 n = .ok p ∧ pathLast p = .ok (q, last.length) ∧
      elems q (last.length + 2) = .ok [last] :=
  pathLast_after_next sep assign text h0 n hn

example : ∃ p q, nextN (pathSet 46 0 [97, 46, 98, 46, 99, 100]).1 1 = .ok p ∧ pathLast p = .ok (q, 2) ∧
    elems q 4 = .ok [[99, 100]] := by
  obtain ⟨p, q, last, h1, h2, h3, h4⟩ := path_last 46 0 (by decide) (by decide) [97, 46, 98, 46, 99, 100] (by decide) 1
    (by simp [splitPath, splitOn])
  have : last = [99, 100] := by simpa [splitPath, splitOn] using h1.symm
  subst this
  exact ⟨p, q, h2, h3, h4⟩

/-- rebuilding in separator mode: a path built element by element (every character through `mpt_path_addchar` +
    `mpt_path_valid`, then `mpt_path_add`; elements without separator, empty ones included — also as the first one) is walked by
    `mpt_path_next` as exactly these elements -/
theorem path_rebuild_sep (sep assign : Byte) (e0 : List Byte) (es : List (List Byte))
    (hs : ∀ e ∈ e0 :: es, sep ∉ e) :
    ∃ p, pushElems (emptyPath sep assign false) (e0 :: es) = .ok p ∧
      elems p ((joinSep sep (e0 :: es)).length + 2) = .ok (e0 :: es) := by
  obtain ⟨p, h1, h2⟩ := build_arr sep assign false (e0 :: es) hs
  exact ⟨p, h1, elems_cur _ _ h2.toCur (fuel_joinSep sep _)⟩

example : ∃ p, pushElems (emptyPath 47 0 false) [[97], [], [98, 99]] = .ok p ∧ elems p 7 = .ok [[97], [], [98, 99]] := by
  exact path_rebuild_sep 47 0 [97] [[], [98, 99]] (by simp)

-- the text `.a`: an empty first element
example : ∃ p, pushElems (emptyPath 46 0 false) [[], [97]] = .ok p ∧ elems p 4 = .ok [[], [97]] := by
  exact path_rebuild_sep 46 0 [] [[97]] (by simp)

/-- rebuilding in binary length mode (elements of at most 255 bytes, empty ones included) -/
theorem path_rebuild_bin (sep assign : Byte) (e0 : List Byte) (es : List (List Byte))
    (hs : ∀ e ∈ e0 :: es, e.length ≤ 255) :
    ∃ p, pushElems (emptyPath sep assign true) (e0 :: es) = .ok p ∧
      elems p ((e0 :: es).length + 1) = .ok (e0 :: es) := by
  obtain ⟨p, h1, h2⟩ := build_arr sep assign true (e0 :: es) hs
  exact ⟨p, h1, elems_cur _ _ h2.toCur (Nat.le_refl _)⟩

example : ∃ p, pushElems (emptyPath 46 0 true) [[97, 46], [98]] = .ok p ∧ elems p 3 = .ok [[97, 46], [98]] :=
  path_rebuild_bin 46 0 [97, 46] [[98]] (by simp)

/-- undo in separator mode: `mpt_path_del` on the path built from `es ++ [e]` returns the length of `e`, and what is
    left is walked as `es` and can be extended again (`pushElem` of a new element succeeds and gives `es ++ [e']`) -/
theorem path_undo_sep (sep assign : Byte) (e0 : List Byte) (es : List (List Byte)) (e e' : List Byte)
    (hs : ∀ x ∈ e0 :: es ++ [e], sep ∉ x) (hs' : sep ∉ e') :
    ∃ p q r, pushElems (emptyPath sep assign false) (e0 :: es ++ [e]) = .ok p ∧ pathDel p = .ok (q, e.length) ∧
      elems q ((joinSep sep (e0 :: es)).length + 2) = .ok (e0 :: es) ∧
      pushElem q e' = .ok r ∧ elems r ((joinSep sep (e0 :: es ++ [e'])).length + 2) = .ok (e0 :: es ++ [e']) := by
  obtain ⟨p, q, r, h1, hq, hQ, hr, hR⟩ := undo_arr sep assign false (e0 :: es) e e' hs hs'
  exact ⟨p, q, r, h1, hq, elems_cur _ _ hQ.toCur (fuel_joinSep sep _), hr,
    elems_cur _ _ hR.toCur (fuel_joinSep sep _)⟩

example : ∃ p q r, pushElems (emptyPath 47 0 false) [[97], [98], [99]] = .ok p ∧ pathDel p = .ok (q, 1) ∧
    elems q 5 = .ok [[97], [98]] ∧ pushElem q [100, 101] = .ok r ∧ elems r 8 = .ok [[97], [98], [100, 101]] := by
  exact path_undo_sep 47 0 [97] [[98]] [99] [100, 101] (by simp) (by simp)

/-- undo in binary length mode: `mpt_path_del` returns the length of `e`, what is left is walked as `es` and takes a new
    element `e'` (at most 255 bytes) again -/
theorem path_undo_bin (sep assign : Byte) (e0 : List Byte) (es : List (List Byte)) (e e' : List Byte)
    (hs : ∀ x ∈ e0 :: es ++ [e], x.length ≤ 255) (hs' : e'.length ≤ 255) :
    ∃ p q r, pushElems (emptyPath sep assign true) (e0 :: es ++ [e]) = .ok p ∧ pathDel p = .ok (q, e.length) ∧
      elems q ((e0 :: es).length + 1) = .ok (e0 :: es) ∧
      pushElem q e' = .ok r ∧ elems r ((e0 :: es ++ [e']).length + 1) = .ok (e0 :: es ++ [e']) := by
  obtain ⟨p, q, r, h1, hq, hQ, hr, hR⟩ := undo_arr sep assign true (e0 :: es) e e' hs hs'
  exact ⟨p, q, r, h1, hq, elems_cur _ _ hQ.toCur (Nat.le_refl _), hr, elems_cur _ _ hR.toCur (Nat.le_refl _)⟩

example : ∃ p q r, pushElems (emptyPath 47 0 true) [[97], [47]] = .ok p ∧ pathDel p = .ok (q, 1) ∧
    elems q 2 = .ok [[97]] ∧ pushElem q [] = .ok r ∧ elems r 3 = .ok [[97], []] := by
  exact path_undo_bin 47 0 [97] [] [47] [] (by simp) (by simp)

/-- `mpt_path_last` on a binary-mode path built from `es ++ [e]`: the path is reduced to `e` -/
theorem path_last_bin (sep assign : Byte) (e0 : List Byte) (es : List (List Byte)) (e : List Byte)
    (hs : ∀ x ∈ e0 :: es ++ [e], x.length ≤ 255) :
    ∃ p q, pushElems (emptyPath sep assign true) (e0 :: es ++ [e]) = .ok p ∧ pathLast p = .ok (q, e.length) ∧
      elems q 2 = .ok [e] := by
  obtain ⟨p, h1, h2⟩ := build_arr sep assign true (e0 :: es ++ [e]) hs
  obtain ⟨q, pre, hq, hQ⟩ := pathLast_cur (es := e0 :: es) h2.toCur
  exact ⟨p, q, h1, hq, elems_cur [e] 2 hQ (Nat.le_refl _)⟩

example : ∃ p q, pushElems (emptyPath 47 0 true) [[97], [98, 47]] = .ok p ∧ pathLast p = .ok (q, 2) ∧
    elems q 2 = .ok [[98, 47]] := by
  exact path_last_bin 47 0 [97] [] [98, 47] (by simp)


/-- get-after-set and independence on the tree: after `mpt_node_assign` the assigned path reads the new
    value, every other path reads what it read before (no uniqueness assumption needed) -/
theorem get_after_set (k : Key) (l l' : List CNode) (v : Value) (h : nodeAssign l k v = some l') :
    valueAt l' k = some v ∧ ∀ k', k' ≠ k → valueAt l' k' = valueAt l k' := by
  refine ⟨by simp [valueAt_assign k l l' v h k], fun k' hk => ?_⟩
  rw [valueAt_assign k l l' v h k']
  simp [hk]

/-- remove = remove the prefix and nothing else (sibling names unique, as every reachable tree has them) -/
theorem remove_prefix_only (k : Key) (l l' : List CNode) (hu : Uniq l) (h : removeExact l k = some l') :
    (∀ k', k.isPrefixOf k' = true → valueAt l' k' = none) ∧
    (∀ k', k.isPrefixOf k' = false → valueAt l' k' = valueAt l k') := by
  have hk : k ≠ [] := by rintro rfl; simp [removeExact] at h
  have hv := valueAt_remove k hk l hu
  simp only [h, Option.getD_some] at hv
  exact ⟨fun k' hp => by simp [hv, hp], fun k' hp => by simp [hv, hp]⟩

/-- For all histories of assignments and removals (non-empty paths) starting from the empty configuration:
    the tree keeps unique sibling names, and a query for any path returns exactly what the map
    `set`/`removePrefix` holds. -/
theorem map_refinement (ops : List Op) (hk : ∀ op ∈ ops, op.key ≠ []) :
    Uniq (ops.foldl stepM []) ∧ ∀ k, k ≠ [] → valueAt (ops.foldl stepM []) k = PathMap.get (ops.foldl stepS []) k :=
  agree_foldl ops [] [] (by simp [Uniq]) agree_nil hk

example : valueAt ([Op.set [[97], [98]] [1], Op.set [[97]] [2], Op.del [[97], [98]]].foldl stepM []) [[97]] = some [2] := by
  have := (map_refinement [Op.set [[97], [98]] [1], Op.set [[97]] [2], Op.del [[97], [98]]] (by simp [Op.key])).2 [[97]] (by simp)
  rw [this]
  decide

/-- the functions of the global configuration object (no view base) are the tree functions:
    assign = `mpt_node_assign`, query = exact lookup of a value, remove = unlink + destroy at the exact path -/
theorem config_global_ops (l : List CNode) (k : Key) (hk : k ≠ []) (v : Value) :
    (∀ l', configAssign l [] k v = .ok l' ↔ nodeAssign l k v = some l') ∧
    (∀ x, configQuery l [] k = .ok x ↔ valueAt l k = some x) ∧
    (∀ l' r, configRemove l [] k = .ok (l', r) → l' = (removeExact l k).getD l) := by
  refine ⟨fun l' => by simpa [ensure] using configAssign_ok (l := l) (b := []) (k := k) (by simpa using hk),
    fun x => by simpa using configQuery_ok (l := l) (b := []) (k := k), fun l' r h => configRemove_ok (b := []) hk h⟩

/-- The private C++ configuration (`config::root::assign/remove/query` on its item arrays): for all histories of
    assignments and removals (non-empty paths) from the empty object no slot is ever unused (so the slot re-use
    branch of `mpt_config_item_reserve` is never taken: `iunused` finds none, `Config.iunused_ofC`), and a value query for any path returns exactly what the
    map `set`/`removePrefix` holds: get-after-set, independence, remove = the prefix and nothing else. -/
theorem map_refinement_items (ops : List Op) (hk : ∀ op ∈ ops, op.key ≠ []) :
    AllUsed (ops.foldl stepI []) ∧
    ∀ k, k ≠ [] → ivalueAt (ops.foldl stepI []) k = PathMap.get (ops.foldl stepS []) k := by
  obtain ⟨t, h, ha⟩ := agreeI_foldl ops [] [] agree_nil hk
  rw [show ofC [] = [] from rfl] at h
  exact ⟨h ▸ AllUsed_ofC t, fun k hk' => by rw [h, ivalueAt_ofC]; exact ha k hk'⟩

example : ivalueAt ([Op.set [[97], [98]] [1], Op.set [[97], [99]] [2], Op.del [[97]], Op.set [[100]] [3]].foldl stepI []) [[100], [98]] = none := by
  have := (map_refinement_items [Op.set [[97], [98]] [1], Op.set [[97], [99]] [2], Op.del [[97]], Op.set [[100]] [3]]
    (by simp [Op.key])).2 [[100], [98]] (by simp)
  rw [this]
  decide

/-- `config::root::query` with a value handler returns the value found at exactly the path -/
theorem root_query_value (l : List Item) (k : Key) (x : Value) :
    rootQuery l k = .ok x ↔ ivalueAt l k = some x := by
  simp only [rootQuery, ivalueAt]
  cases itemFind l k with
  | none => simp
  | some c => cases hv : c.value <;> simp [hv]

/-- Sub-tree views (`mpt_config_global(&path)`): on any tree that agrees with a map, assign / query / remove through a
    view with base path `b` act on the map at `b ++ k` and keep the agreement — in particular `make_global` (which
    creates the missing part of the base) never changes what any path reads, whether the base exists completely
    (with or without children), partially or not at all. -/
theorem map_refinement_view (l : List CNode) (m : PMap) (b k : Key) (v : Value) (hu : Uniq l) (ha : Agree l m)
    (hne : b ++ k ≠ []) :
    (∀ l', configAssign l b k v = .ok l' → Uniq l' ∧ Agree l' (PathMap.set m (b ++ k) v)) ∧
    (∀ x, configQuery l b k = .ok x ↔ PathMap.get m (b ++ k) = some x) ∧
    (∀ l' r, k ≠ [] → configRemove l b k = .ok (l', r) → Uniq l' ∧ Agree l' (removePrefix m (b ++ k))) := by
  refine ⟨?_, fun x => by rw [configQuery_ok, ha (b ++ k) hne], ?_⟩
  · intro l' h
    have key := (configAssign_ok hne).1 h
    exact ⟨Uniq_assign _ _ _ v (Uniq_ensure b l hu) key,
      agree_assign (fun k' hk' => by rw [valueAt_ensure, ha k' hk']) key⟩
  · intro l' r hk h
    rw [configRemove_ok hk h]
    exact agree_step hu ha (.del (b ++ k)) (by simpa [Op.key] using hne)

/-- a view on a base that does not exist yet: the assignment creates `a.b` and nothing else is readable -/
example : ∀ l', configAssign [] [[97]] [[98]] [1] = .ok l' →
    (∀ k, k ≠ [] → valueAt l' k = PathMap.get [([[97], [98]], [1])] k) := by
  intro l' h
  have := (map_refinement_view [] [] [[97]] [[98]] [1] (by simp [Uniq])
    agree_nil (by simp)).1 l' h
  simpa [PathMap.set, Agree] using this.2

/-- The empty-path forms through a view with base `b ≠ []`: remove with an empty path (`mpt_node_clear` of the base)
    removes everything strictly beneath `b` and nothing else, remove with a NULL path drops the value stored at exactly
    `b`; an empty path on the global object empties it.  (Assign and query with an empty path are the `k = []`
    instances of `map_refinement_view`: they act at `b` itself.) -/
theorem map_refinement_view_empty (l : List CNode) (m : PMap) (b : Key) (hu : Uniq l) (ha : Agree l m) :
    (∀ l' r, b ≠ [] → configRemoveP l b (some []) = .ok (l', r) → Uniq l' ∧ Agree l' (removeBelow m b)) ∧
    (∀ l' r, b ≠ [] → configRemoveP l b none = .ok (l', r) → Uniq l' ∧ Agree l' (PathMap.unset m b)) ∧
    (∀ l' r, configRemoveP l [] (some []) = .ok (l', r) → l' = []) := by
  refine ⟨?_, ?_, ?_⟩
  · intro l' r hb h
    exact configRemoveP_empty hb h ▸
      ⟨Uniq_clear b l hu, agree_hide (fun k' => b.isPrefixOf k' && k' != b) ha (valueAt_clear b hb l)⟩
  · intro l' r hb h
    exact configRemoveP_null hb h ▸ ⟨Uniq_unset b l hu, agree_hide (fun k' => k' == b) ha (valueAt_unset b hb l)⟩
  · intro l' r h
    simp only [configRemoveP, configRemove] at h
    by_cases hl : l.isEmpty
    · simp [hl] at h
    · simp [hl] at h
      exact h.1

/-- `s = v` with `s.o = f`: clearing through the view `s` removes `s.o` and keeps `s` -/
example : ∀ l' r, configRemoveP [.mk [115] (some [118]) [.mk [111] (some [102]) []]] [[115]] (some []) = .ok (l', r) →
    valueAt l' [[115]] = some [118] ∧ valueAt l' [[115], [111]] = none := by
  intro l' r h
  have hu : Uniq [CNode.mk [115] (some [118]) [.mk [111] (some [102]) []]] := by simp [Uniq]
  have ha : Agree [CNode.mk [115] (some [118]) [.mk [111] (some [102]) []]] [([[115]], [118]), ([[115], [111]], [102])] := by
    have := (map_refinement [Op.set [[115], [111]] [102], Op.set [[115]] [118]] (by simp [Op.key])).2
    intro k hk
    have h2 := this k hk
    simpa [stepM, stepS, nodeAssign, locate, chain, CNode.name, CNode.kids, CNode.value, PathMap.set] using h2
  obtain ⟨_, hA⟩ := (map_refinement_view_empty _ _ [[115]] hu ha).1 l' r (by simp) h
  exact ⟨by rw [hA _ (by simp)]; decide, by rw [hA _ (by simp)]; decide⟩

/-- `make_global(base)` alone: every path reads what it read before -/
theorem make_global_keeps_values (b : Key) (l : List CNode) (k : Key) : valueAt (ensure l b) k = valueAt l k :=
  valueAt_ensure b l k

/-- a view whose base (`s.o`, think `srv.opt`) is a valued leaf: assigning `l` through the view keeps the value of the
    base (a `make_global` that re-created the base would lose it) -/
example : ∀ l', configAssign [.mk [115] none [.mk [111] (some [102]) []]] [[115], [111]] [[108]] [57] = .ok l' →
    valueAt l' [[115], [111]] = some [102] := by
  intro l' h
  have hk := (configAssign_ok (by simp)).1 h
  rw [(get_after_set _ _ _ _ hk).2 [[115], [111]] (by decide), make_global_keeps_values]
  simp [valueAt, findExact, locate, CNode.name, CNode.kids, CNode.value]


/-- `mpt_node_assign` / `mpt_node_query` as written — they consume the path cursor with `mpt_path_next` while they walk
    the tree, a step to a missing element leaves the cursor where it was — applied to the path of a TEXT are the
    key-level functions of the map theorems applied to the separator-delimited components of that text. -/
theorem cursor_walk (sep : Byte) (hs : sep ≠ 0) (text : List Byte) (h0 : (0 : Byte) ∉ text) (l : List CNode) (v : Value) :
    nodeAssignP l (pathSet sep 0 text).1 v (text.length + 2) = .ok (nodeAssign l (splitOn sep text) v) ∧
    nodeGetP l (pathSet sep 0 text).1 (text.length + 2) = .ok (valueAt l (splitOn sep text)) :=
  ⟨nodeAssignP_eq v _ l _ _ (path_split sep hs text h0), nodeGetP_eq _ l _ _ (path_split sep hs text h0)⟩

example : nodeGetP [.mk [97] none [.mk [98] (some [1]) []]] (pathSet 46 0 [97, 46, 98]).1 5 = .ok (some [1]) := by
  have h := (cursor_walk 46 (by decide) [97, 46, 98] (by decide) [.mk [97] none [.mk [98] (some [1]) []]] []).2
  simp only [List.length_cons, List.length_nil] at h
  rw [h]
  simp [splitOn, valueAt, findExact, locate, CNode.name, CNode.kids, CNode.value]


/-- A refused assignment changes nothing — `mpt_node_assign` (the value is made and the element lengths are checked
    before any node is linked), an assignment through the global configuration or a sub-tree view (value and path
    are checked before `make_global` creates the base) and `config::root::assign` on the item arrays: whenever the
    call does not succeed, the tree (hence every value and the set of existing elements) is the one before. -/
theorem assign_refused_pure :
    (∀ (l l' : List CNode) (k : Key) (v : AVal), nodeAssignE l k v = (l', false) → l' = l) ∧
    (∀ (l l' : List CNode) (b k : Key) (v : AVal) (r : Res Unit), configAssignE l b k v = (l', r) → r ≠ .ok () → l' = l) ∧
    (∀ (l l' : List Item) (k : Key) (v : Value), itemAssignE l k v = (l', false) → l' = l) := by
  -- every refusing branch returns `l` itself; the accepting branch contradicts the hypothesis
  refine ⟨?_, ?_, ?_⟩
  · intro l l' k v h
    unfold nodeAssignE at h
    repeat' split at h
    all_goals (cases h; try rfl)
  · intro l l' b k v r h hr
    unfold configAssignE at h
    repeat' split at h
    all_goals (cases h; first | rfl | exact absurd rfl hr)
  · intro l l' k v h
    unfold itemAssignE at h
    repeat' split at h
    all_goals (cases h; try rfl)

example : configAssignE [.mk [115] none []] [[113]] [[108], [109]] .noText = ([.mk [115] none []], .err .BadOperation) := by
  simp [configAssignE]

/-- an assignment of a text along a non-empty path whose elements all fit an identifier is accepted, and is the plain
    assignment -/
theorem assign_accepted (l : List CNode) (b k : Key) (t : Value) (hk : k ≠ []) (hf : (b ++ k).all elemFits = true) :
    (∃ l', nodeAssignE l k (.text t) = (l', true) ∧ nodeAssign l k t = some l') ∧
    (∃ l', configAssignE l b k (.text t) = (l', .ok ()) ∧ configAssign l b k t = .ok l') := by
  have hfk : k.all elemFits = true := by
    rw [List.all_append] at hf
    exact (Bool.and_eq_true _ _ ▸ hf).2
  obtain ⟨l1, h1⟩ := nodeAssign_some k l t hk
  obtain ⟨l2, h2⟩ := nodeAssign_some (b ++ k) (ensure l b) t (by simp [hk])
  refine ⟨⟨l1, by simp [nodeAssignE, hfk, h1], h1⟩, ⟨l2, ?_, (configAssign_ok (by simp [hk])).2 h2⟩⟩
  cases k with
  | nil => exact absurd rfl hk
  | cons e es => simp [configAssignE, hf, h2]

example : ∃ l', nodeAssignE [] [[97], [98]] (.text [1]) = (l', true) :=
  let ⟨l', h, _⟩ := (assign_accepted [] [] [[97], [98]] [1] (by simp) (by decide)).1
  ⟨l', h⟩

end Mpt.C10
