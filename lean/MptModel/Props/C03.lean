/-
  C03 — decoders are safe and honest on arbitrary bytes.  The property theorems, the three definitions their
  statements need (`WF`, `total`, `peek_pure_statement`); most proofs are a reference to a lemma or a few lines, three are
  longer (`cmd_honest`, `honest_frames`, `peek_effect`)
  (helper lemmas: Lemmas/DecodeStep.lean, DecodeRan.lean, DecodeSafe.lean, DecodeSpec.lean, DecodeCall.lean,
  DecodeDeliver.lean, DecodePeek.lean, DecodeCommand.lean; C02 uses the lemmas about one call too).
  The storage of a call is the concatenation of the segments (`flat`): the theorems speak about indices into
  that one buffer.  Segment cursors of the C code (`mpt_message_read`, the `dvec` walk) and the termination
  of the C loops are tied to the model by the correspondence run (guards, sanitizers, alarm), not by proof.
  `decodeV v st segs peek` is the model of mpt_decode_cobs / _r / _zpe / _zpe_r (Impl/Decode.lean):
  `segs` = the iovec array as (address mod 16, bytes), `peek` = (sourcelen == 0).
-/
import MptModel.Lemmas.DecodeDeliver
import MptModel.Lemmas.DecodePeek
import MptModel.Lemmas.DecodeCommand
namespace Mpt.C03
open Mpt.Cobs Mpt.Codec

/-- states the decoders themselves produce: a waiting message is exactly the decoded data -/
def WF (st : DecState) : Prop := ∀ m, st.msg = some m → m = st.len

/-- the storage the call may touch -/
def total (segs : List Seg) (peek : Bool) : Nat := (flat (if peek then segs.take 1 else segs)).length

/-- Termination: the block loop is structurally recursive on a counter that every caller sets to the number of
    unread bytes (no `partial`); in every call, for every state and every input, the loads happen at strictly
    increasing indices inside the storage — each byte is read at most once per call. -/
theorem terminates (v : Variant) (st : DecState) (segs : List Seg) (peek : Bool) (hwf : WF st) :
    (decodeV v st segs peek).reads.Pairwise (· < ·) ∧
    ∀ x ∈ (decodeV v st segs peek).reads, x < total segs peek :=
  (decodeV_safe v st segs peek hwf).reads

example : (decodeV .cobs {} [(3, [3, 0x61, 0x62, 0])] false).reads = [0, 1, 2, 3] := by decide

/-- Memory safety of the model: for every state, every byte string, every segmentation, alignment and
    mode, no load leaves the storage (`.oob`), every store goes to an index strictly below the current
    read index which itself is inside the storage (never `.clobber`), and the storage keeps its size. -/
theorem write_behind_read (v : Variant) (st : DecState) (segs : List Seg) (peek : Bool) (hwf : WF st) :
    (decodeV v st segs peek).ret ≠ .oob ∧ (decodeV v st segs peek).ret ≠ .clobber ∧
    (decodeV v st segs peek).store.length = total segs peek ∧
    ∀ x ∈ (decodeV v st segs peek).writes, x.1 < x.2 ∧ x.2 ≤ total segs peek :=
  let h := decodeV_safe v st segs peek hwf
  ⟨h.nofault.1, h.nofault.2, h.len, h.writes⟩

example : (decodeV .cobsR {} [(0, [5, 1, 2, 0])] false).writes = [(0, 2), (1, 3), (2, 4)] := by decide

/-- Honesty over every segmentation in time: from the reset state, however the byte stream arrives in
    pieces (`arrive`: the pieces are appended to the receive segment at any base alignment `a`, the
    decoder is called after every arrival and resumes after every `0`), the first delivered message is the
    reference decoding of the first frame `pre ++ [0]` of the stream — for all four framings and
    arbitrary bytes `junk` behind the frame. -/
theorem honest (v : Variant) (a : Nat) (pieces : List (List Byte)) (pre junk : List Byte) (o : DecOut)
    (hS : pieces.flatten = pre ++ 0 :: junk) (hnz : ∀ x ∈ pre, x ≠ 0)
    (h : arrive v a {} [] pieces = some o) (h1 : o.ret = .val 1) : dec v (pre ++ [0]) = some o.region := by
  obtain ⟨W', rest, hg, he⟩ := arrive_pend v a pieces {} [] _ o
    (Or.inl ⟨Fresh.init, Nat.le_refl _, rfl⟩) h h1
  exact hg.frame (he.trans hS) hnz

example : (arrive .cobsR 0 {} [] [[3], [0x61], [], [0x62, 0, 9]]).map (fun o => (o.ret, o.region))
    = some (.val 1, [0x61, 0x62]) := by decide

/-- Honesty, one call, any segment structure: on a state between two messages (reset state, head room
    state, or after a delivered message) whose unread input — spread over any number of segments with
    any base alignments — starts with the bytes `pre ++ [0]` (`pre` without zero), a delivered message
    is the reference decoding of that frame. -/
theorem honest_call (v : Variant) (st : DecState) (segs : List Seg) (pre junk : List Byte) (hf : Fresh st)
    (hin : (flat segs).drop st.curr = pre ++ 0 :: junk) (hnz : ∀ x ∈ pre, x ≠ 0)
    (h1 : (decodeV v st segs false).ret = .val 1) :
    dec v (pre ++ [0]) = some (decodeV v st segs false).region ∧
    (decodeV v st segs false).st.msg = some (decodeV v st segs false).st.len :=
  have h := decodeV_one v st segs pre junk hf hin hnz h1
  ⟨h.1, h.2.1⟩

example : (decodeV .zpe { curr := 2 } [(0, [0xdd, 0xdd, 0xe1, 7, 1, 0])] false).region = [7, 0, 0] := by decide

/-- Honesty for every frame of a stream: from any state between two messages (after earlier deliveries
    or skipped delimiters), with part of the frame possibly in the segment already and the rest arriving
    in arbitrary pieces, a delivered message is the reference decoding of the frame at the input position. -/
theorem honest_stream (v : Variant) (a : Nat) (st : DecState) (store : List Byte) (pieces : List (List Byte))
    (pre junk : List Byte) (o : DecOut) (hf : Fresh st) (hc : st.curr ≤ store.length)
    (hS : store.drop st.curr ++ pieces.flatten = pre ++ 0 :: junk) (hnz : ∀ x ∈ pre, x ≠ 0)
    (h : arrive v a st store pieces = some o) (h1 : o.ret = .val 1) : dec v (pre ++ [0]) = some o.region := by
  obtain ⟨W', rest, hg, he⟩ := arrive_pend v a pieces st store _ o (Or.inl ⟨hf, hc, rfl⟩) h h1
  exact hg.frame (he.trans hS) hnz

/-- Honesty over every segmentation in time and space (`arriveSegs`): the stream arrives in arbitrary
    pieces, each appended to the last segment of the iovec array or put into a further segment (empty
    segments included, any base alignments), the decoder is called on the whole array after every
    arrival; from any state between two messages a delivered message is the reference decoding of the
    frame at the input position. -/
theorem honest_segments (v : Variant) (st : DecState) (segs : List Seg) (xs : List Arrival)
    (pre junk : List Byte) (o : DecOut) (hf : Fresh st) (hc : st.curr ≤ (flat segs).length)
    (hS : (flat segs).drop st.curr ++ arrBytes xs = pre ++ 0 :: junk) (hnz : ∀ x ∈ pre, x ≠ 0)
    (h : arriveSegs v st segs xs = some o) (h1 : o.ret = .val 1) : dec v (pre ++ [0]) = some o.region := by
  obtain ⟨W', rest, hg, he⟩ := arriveSegs_pend v xs st segs _ o (Or.inl ⟨hf, hc, rfl⟩) h h1
  exact hg.frame (he.trans hS) hnz

example : (arriveSegs .cobs {} [] [⟨true, 3, [3, 0x11]⟩, ⟨true, 0, []⟩, ⟨true, 9, [0x22, 2]⟩, ⟨false, 0, [0x33, 0]⟩]).map
    (fun o => (o.ret, o.region)) = some (.val 1, [0x11, 0x22, 0, 0x33]) := by decide

/-- The command text decoder (`mpt_decode_command`) over every arrival pattern: from a state between two
    messages with the two bytes of head room its header needs, whatever the pieces in which the text arrives
    (a call after every arrival, resuming after `0`), the first delivered message is the reference decoding
    (header ++ text) of the frame at the input position. -/
theorem cmd_honest (a : Nat) (pieces : List (List Byte)) (st : DecState) (store body junk : List Byte) (o : DecOut)
    (hlen : st.len - st.msg.getD 0 = 0) (hpos : 2 ≤ st.curr) (hle : st.curr ≤ store.length)
    (hS : store.drop st.curr ++ pieces.flatten = body ++ 0 :: junk) (hnz : ∀ x ∈ body, x ≠ 0)
    (h : arriveCmd a st store pieces = some o) (h1 : o.ret = .val 1) : decCmd (body ++ [0]) = some o.region := by
  have hdec := decCmd_frame body hnz
  rw [hdec]
  congr 1
  cases pieces with
  | nil => simp [arriveCmd] at h
  | cons p ps =>
    simp only [arriveCmd] at h
    have hdrop : (store ++ p).drop st.curr = store.drop st.curr ++ p := List.drop_append_of_le_length hle
    simp only [List.flatten_cons, ← List.append_assoc] at hS
    -- the delimiter lies behind the first piece (the call starts the message, `arriveCmd_mid` goes on) or in it
    rcases first_zero_split hS with ⟨tl', rfl, hrest⟩ | ⟨post, hp⟩
    · have hxnz : ∀ x ∈ (flat [(a, store ++ p)]).drop st.curr, x ≠ 0 := by
        rw [flat_single, hdrop]; intro x hx; exact hnz x (List.mem_append_left _ hx)
      obtain ⟨r0, hmid⟩ := cmd_start st [(a, store ++ p)] hlen hpos (by rw [flat_single]; simp; omega) hxnz
      rw [if_pos r0] at h
      rw [flat_single, hdrop] at hmid
      exact (arriveCmd_mid a st.curr ps _ _ _ tl' junk o hmid (fun x hx => hnz x (by simp [hx])) hrest h h1).symm
    · have hin : (flat [(a, store ++ p)]).drop st.curr = body ++ 0 :: post := by rw [flat_single, hdrop, hp]
      obtain ⟨r1, hreg, _, _⟩ := decodeCommand_honest st [(a, store ++ p)] body post hlen hpos hin hnz
      rw [if_neg (by rw [r1]; simp)] at h
      cases h
      rw [hdec] at hreg
      exact Option.some.inj hreg

example : (arriveCmd 0 { curr := 2 } [0xdd, 0xdd] [[0x68], [], [0x69, 0, 7]]).map (fun o => (o.ret, o.region))
    = some (.val 1, [0x04, 0x20, 0x68, 0x69]) := by decide

/-- malformed input is never turned into a message: when the reference decoder rejects the frame (zero
    inside a block for the plain framings, leading or doubled delimiter, …) the call does not deliver -/
theorem no_invention (v : Variant) (st : DecState) (segs : List Seg) (pre junk : List Byte) (hf : Fresh st)
    (hin : (flat segs).drop st.curr = pre ++ 0 :: junk) (hnz : ∀ x ∈ pre, x ≠ 0)
    (hbad : dec v (pre ++ [0]) = none) : (decodeV v st segs false).ret ≠ .val 1 := by
  intro h1
  have := (honest_call v st segs pre junk hf hin hnz h1).1
  rw [hbad] at this
  simp at this

example : dec .cobs [3, 0x61, 0] = none ∧ (decodeV .cobs {} [(0, [3, 0x61, 0, 0x62, 0])] false).ret = .err .MissingData := by decide
example : dec .cobs [0] = none ∧ (decodeV .cobs {} [(0, [0, 2, 0x61, 0])] false).ret = .err .BadValue := by decide

/-- The set of decoder states with consistent offsets (`pos + len ≤ curr ≤ storage size`, a waiting message
    is exactly the decoded data — this implies `WF`) is closed under every call, whatever it returns: the
    states reached by resuming after any return code — 0, 1, MissingData, MissingBuffer, BadValue, … — are
    all covered by `terminates` and `write_behind_read`. -/
theorem state_closed (v : Variant) (st : DecState) (segs : List Seg) (peek : Bool)
    (h : Bnd (total segs peek) st) : Bnd (total segs peek) (decodeV v st segs peek).st ∧ WF (decodeV v st segs peek).st :=
  ⟨decodeV_bnd v st segs peek h, (decodeV_bnd v st segs peek h).msg⟩

example : Bnd 4 ({} : DecState) := ⟨by decide, by decide, by simp⟩

/-- A complete well-formed frame at the input position of a decoder between two messages is delivered, and
    the message is the reference decoding, provided the head room in front of the input position exceeds
    the frame body by the alignment margin; without that head room the only other answer is the request for
    work area — never "wait for data", never "broken", never another message.  (The margin 15 is the 14 of
    `C01.model_roundtrip` plus the delimiter, which `pre` does not count.) -/
theorem delivers (v : Variant) (st : DecState) (segs : List Seg) (pre junk msg : List Byte)
    (hb : Bnd (flat segs).length st) (hf : Fresh st)
    (hin : (flat segs).drop st.curr = pre ++ 0 :: junk) (hnz : ∀ x ∈ pre, x ≠ 0)
    (hdec : dec v (pre ++ [0]) = some msg) :
    (((decodeV v st segs false).ret = .val 1 ∧ (decodeV v st segs false).region = msg) ∨
      (decodeV v st segs false).ret = .err .MissingBuffer) ∧
    (st.pos + st.len + pre.length + 15 ≤ st.curr →
      (decodeV v st segs false).ret = .val 1 ∧ (decodeV v st segs false).region = msg) :=
  decodeV_frame v st segs pre junk msg hb hf hin hnz hdec

example : (decodeV .zpe {} [(0, [0xe0, 0])] false).ret = .err .MissingBuffer ∧
    (decodeV .zpe { curr := 18 } [(0, List.replicate 18 7 ++ [0xe0, 0])] false).region = [0, 0] := by decide

/-- After a delivery the decoder stands between two messages again (`Fresh`), its input position is exactly
    behind the delimiter of the delivered frame, the unread input is untouched and the storage keeps its
    size: the next call starts with the next frame. -/
theorem after_delivery (v : Variant) (st : DecState) (segs : List Seg) (pre junk : List Byte)
    (hb : Bnd (flat segs).length st) (hf : Fresh st)
    (hin : (flat segs).drop st.curr = pre ++ 0 :: junk) (hnz : ∀ x ∈ pre, x ≠ 0)
    (h1 : (decodeV v st segs false).ret = .val 1) :
    Fresh (decodeV v st segs false).st ∧ (decodeV v st segs false).st.curr = st.curr + pre.length + 1 ∧
    (decodeV v st segs false).store.drop (decodeV v st segs false).st.curr = junk ∧
    (decodeV v st segs false).store.length = (flat segs).length ∧
    dec v (pre ++ [0]) = some (decodeV v st segs false).region := by
  obtain ⟨hdec, hmsg, hctx, hcurr, hrest⟩ := decodeV_one v st segs pre junk hf hin hnz h1
  exact ⟨Fresh.ofMsg hctx hmsg, hcurr, hrest, decodeV_len v st segs hb.msg, hdec⟩

/-- A delimiter where a frame should start (leading or doubled delimiter) is answered with BadValue, exactly
    that byte is consumed, nothing is stored, and the decoder stands between two messages again. -/
theorem after_refusal (v : Variant) (st : DecState) (segs : List Seg) (tl : List Byte)
    (hb : Bnd (flat segs).length st) (hf : Fresh st) (hin : (flat segs).drop st.curr = 0 :: tl) :
    (decodeV v st segs false).ret = .err .BadValue ∧ Fresh (decodeV v st segs false).st ∧
    (decodeV v st segs false).st.curr = st.curr + 1 ∧ (decodeV v st segs false).store = flat segs := by
  obtain ⟨st', l, hprep⟩ := decPrep_noerr st segs (flat segs) hb
  have hc := (decodeCobs_fresh v hf hprep).zero tl hin
  rw [decodeV_of_ret v st segs false (by rw [hc]; simp), hc]
  have he := (decPrep_fresh hf hprep).fresh
  exact ⟨rfl, ⟨he.ctx, he.hnone, he.hsome⟩, rfl, rfl⟩

/-- Honesty for every frame of a stream, not only the first: calling the decoder again and again on the same
    storage (`decodeAll`), the k-th delivered message is the reference decoding of the k-th frame — no frame
    is skipped, merged or delivered twice, whatever follows the frames. -/
theorem honest_frames (v : Variant) (a : Nat) (frames : List (List Byte)) (n : Nat) (st : DecState)
    (store junk : List Byte) (hb : Bnd store.length st) (hf : Fresh st)
    (hin : store.drop st.curr = (frames.map (· ++ [0])).flatten ++ junk) (hnz : ∀ p ∈ frames, ∀ x ∈ p, x ≠ 0)
    (k : Nat) (hk : k ≤ frames.length) (hk2 : k ≤ (decodeAll v a n st store).length) :
    ((decodeAll v a n st store).take k).map some = (frames.take k).map (fun p => dec v (p ++ [0])) := by
  induction frames generalizing n st store k with
  | nil => simp at hk; subst hk; simp
  | cons p rest ih =>
    cases k with
    | zero => simp
    | succ k =>
    cases n with
    | zero => simp [decodeAll] at hk2
    | succ n =>
    have hflat : flat [(a, store)] = store := flat_single a store
    simp only [decodeAll] at hk2 ⊢
    by_cases h1 : (decodeV v st [(a, store)] false).ret = .val 1
    · rw [if_pos h1] at hk2 ⊢
      have hin' : (flat [(a, store)]).drop st.curr = p ++ 0 :: ((rest.map (· ++ [0])).flatten ++ junk) := by
        rw [hflat, hin]; simp
      obtain ⟨e1, e2, e3, e4, e5⟩ := after_delivery v st [(a, store)] p _ (by rw [hflat]; exact hb) hf hin'
        (hnz p (by simp)) h1
      have hb' := decodeV_bnd v st [(a, store)] false (by simpa [hflat] using hb)
      simp only [Bool.false_eq_true, if_false, hflat] at hb'
      rw [hflat] at e4
      have := ih n _ _ (by rw [e4]; exact hb') e1 e3 (fun q hq => hnz q (by simp [hq])) k
        (by simpa using hk) (by simpa using hk2)
      simp only [List.take_succ_cons, List.map_cons, this]
      congr 1
      exact e5.symm
    · rw [if_neg h1] at hk2; simp at hk2

example : decodeAll .cobs 0 5 {} [2, 0x61, 0, 1, 0, 3, 0x62, 0x63, 0] = [[0x61], [], [0x62, 0x63]] := by decide

/-- Safety of the command decoder model for every state, every byte string, every segmentation and both
    modes: it returns no fault (the model has no checked access that could: its loads and stores are the lists
    below); the storage keeps its size; every store hits an index inside the storage and in front of the input
    position `curr` (the two header bytes — the already-consumed part), and only when a new message starts; the
    loads happen at strictly increasing indices from `curr` on, inside the storage (so the scan ends); every byte not
    stored to is unchanged; in peek mode, and while a message is continued, nothing is stored at all. -/
theorem cmd_safe (st : DecState) (segs : List Seg) (peek : Bool) :
    (decodeCommand st segs peek).ret ≠ .oob ∧ (decodeCommand st segs peek).ret ≠ .clobber ∧
    (decodeCommand st segs peek).store.length = total segs peek ∧
    (∀ x ∈ (decodeCommand st segs peek).writes, x.1 < x.2 ∧ x.2 = st.curr ∧ x.1 < total segs peek) ∧
    ((decodeCommand st segs peek).reads.Pairwise (· < ·) ∧
      ∀ x ∈ (decodeCommand st segs peek).reads, st.curr ≤ x ∧ x < total segs peek) ∧
    (∀ i, (∀ x ∈ (decodeCommand st segs peek).writes, x.1 ≠ i) →
      (decodeCommand st segs peek).store[i]? = (flat (if peek then segs.take 1 else segs))[i]?) ∧
    ((peek = true ∨ st.len - st.msg.getD 0 ≠ 0) →
      (decodeCommand st segs peek).writes = [] ∧
      (decodeCommand st segs peek).store = flat (if peek then segs.take 1 else segs)) :=
  let h := decodeCommand_safe st segs peek
  ⟨h.nofault.1, h.nofault.2, h.len, h.writes, h.reads, h.keep, h.pure⟩

example : (decodeCommand { curr := 2 } [(0, [9, 9]), (0, [0x68, 0, 7])] false).writes = [(0, 2), (1, 2)] ∧
    (decodeCommand { curr := 3 } [(0, [0x61, 0])] false).writes = [(1, 3)] := by decide

/-- the size query (`source == NULL`, `sourcelen != 0`) changes nothing (there is no storage argument); the
    model returns the state unchanged in that branch, so this holds by definition — the tie to the code
    is the `dec size n` op of the run -/
theorem query_pure (v : Variant) (st : DecState) (n : Nat) (h : n ≠ 0) : (decodeQuery v st n).2 = st := by
  simp [decodeQuery, h]

example : (decodeQuery .zpe { len := 2 } 5).1 = .val 12 := by decide

/-- The reset (`source == NULL`, `sourcelen == 0`) leaves a decoder between two messages, whatever state it
    was in — stuck on an inline zero, inside a block, asking for work area: the open block and the partial
    message are dropped (a delivered message that is still waiting stays), input position and offsets stay
    consistent.  All statements about `Fresh` states (`honest_call`, `delivers`, `after_delivery`,
    `honest_frames`, …) therefore apply to what arrives after a reset: bytes of an abandoned frame never get
    into a later message. -/
theorem reset_fresh (v : Variant) (st : DecState) (hwf : WF st) :
    Fresh (decodeQuery v st 0).2 ∧ (decodeQuery v st 0).2.curr = st.curr ∧ (decodeQuery v st 0).2.pos = st.pos ∧
    (decodeQuery v st 0).2.msg = st.msg ∧ ∀ total, Bnd total st → Bnd total (decodeQuery v st 0).2 := by
  simp only [decodeQuery, if_true]
  refine ⟨⟨rfl, ?_, ?_⟩, trivial, trivial, trivial, ?_⟩
  · intro hn; simp only at hn ⊢; simp [hn]
  · intro m hm; simp only at hm ⊢; simp [hm]; exact hwf m hm
  · intro total hb
    refine ⟨?_, hb.tot, ?_⟩
    · have := hb.le; simp only; split <;> omega
    · intro m hm; simp only at hm ⊢; simp [hm]; exact hb.msg m hm

example : (decodeQuery .cobs { ctx := 0x205, curr := 3, pos := 0, len := 2 } 0).2 = { curr := 3 } := by decide

/-- full statement of the header comment "Pass sourcelen = 0 … No data change is performed":
    peek mode returns the storage unchanged -/
def peek_pure_statement : Prop :=
  ∀ (v : Variant) (st : DecState) (seg : Seg), WF st → (decodeV v st [seg] true).store = seg.2

/-- it does not hold for the code as written: peek mode decodes the rest of the open block in place -/
theorem peek_pure_counterexample : ¬ peek_pure_statement := by
  intro h
  have := h .cobs { ctx := 3, curr := 2, pos := 0, len := 1 } (0, [0x61, 0xdd, 0x62, 0]) (by simp [WF])
  revert this
  decide

/-- what does hold in peek mode: no message is started or dropped — with a delivered message waiting, or
    no message in progress, the call is refused and neither state nor storage change -/
theorem peek_pure_partial (v : Variant) (st : DecState) (seg : Seg)
    (h : st.msg.isSome ∨ st.len = 0) :
    (decodeV v st [seg] true).store = seg.2 ∧
    ((decodeV v st [seg] true).ret = .err .BadOperation ∨ (decodeV v st [seg] true).ret = .err .BadArgument) := by
  obtain ⟨e, hor, heq⟩ := peek_refused_eq v st seg.1 seg.2 (h.imp_right Or.inl)
  rw [heq]
  exact ⟨rfl, hor.imp (fun h => by rw [h]) (fun h => by rw [h])⟩

/-- What a peek call may change, for a decoder in the middle of a frame (`Hist`: the state stands for a
    machine run over the bytes `c0 :: U` of the frame consumed so far; `store` is the first segment — peek
    looks at one segment only).  The call never delivers; `data.pos` and `data.msg` keep their values; the
    storage keeps its size and everything in front of the end of the decoded data (`pos + len`) — in
    particular the bytes decoded so far — is untouched; and when it returns 0 it has only moved on inside the
    open block: `curr` and `len` have grown, the unread input from the new `curr` on is untouched, and the
    new state stands for the *same* machine run (`Hist` again), so a later normal call continues exactly as
    if the peek had not happened.  (Every store goes below the read index of its time: `write_behind_read`.) -/
theorem peek_effect (v : Variant) (c0 : Nat) (U : List Byte) (st : DecState) (store : List Byte) (segs : List Seg)
    (hflat : flat (segs.take 1) = store) (h : Hist v c0 U st store) :
    (decodeV v st segs true).ret ≠ .val 1 ∧
    (decodeV v st segs true).store.length = store.length ∧
    (decodeV v st segs true).st.pos = st.pos ∧ (decodeV v st segs true).st.msg = st.msg ∧
    (decodeV v st segs true).store.take (st.pos + st.len) = store.take (st.pos + st.len) ∧
    ((decodeV v st segs true).ret = .val 0 →
      Hist v c0 U (decodeV v st segs true).st (decodeV v st segs true).store ∧
      st.curr ≤ (decodeV v st segs true).st.curr ∧ st.len ≤ (decodeV v st segs true).st.len ∧
      (decodeV v st segs true).store.drop (decodeV v st segs true).st.curr = store.drop (decodeV v st segs true).st.curr) := by
  by_cases hle : st.pos + st.len ≤ st.curr
  · obtain ⟨hp, hlow, hlen⟩ := peek_window v c0 U st store store.length segs (Nat.le_refl _) (by rw [List.take_length]; exact hflat) hle h
    have hh := hp.hist
    have hu := hp.unread
    rw [List.drop_length, List.append_nil] at hh hu
    rw [List.take_length] at hlow
    exact ⟨hp.nofault.2.2, hp.len, hp.pos, by rw [hp.msg, h.msg], hlow, fun _ => ⟨hh, hp.ge, hlen, hu⟩⟩
  · have hprep : decPrep st (segs.take 1) (flat (segs.take 1)) true = .inl (.BadArgument, st) := by
      unfold decPrep; rw [if_pos (Or.inl (by omega))]
    have hc := decodeCobs_err v true (sg := segs.take 1) rfl hprep
    rw [decodeV_of_ret v st segs true (by rw [hc]; simp), hc, hflat]
    exact ⟨by simp, rfl, rfl, rfl, rfl, by simp⟩

example : ((decodeV .cobs { ctx := 260, curr := 2, pos := 0, len := 1 } [(0, [0x61, 0xdd, 0x62, 0x63, 0])] true).st,
           (decodeV .cobs { ctx := 260, curr := 2, pos := 0, len := 1 } [(0, [0x61, 0xdd, 0x62, 0x63, 0])] true).store)
    = ({ ctx := 3 * 256 + 4, curr := 4, pos := 0, len := 3 }, [0x61, 0x62, 0x63, 0x63, 0]) := by decide

end Mpt.C03
