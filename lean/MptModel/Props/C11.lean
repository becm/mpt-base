/-
  C11 — Event dispatch reaches exactly the registered handler.

  Objects:
  * `run st ops` (Impl/Dispatch.lean): the implementation model M driven through a history `ops`, started from
    `mpt_dispatch_init` with the harness fallback (`Start.fb`, registration 0), without a fallback, or with the
    library's built-in one; it yields the final model state and the trace `(op, outcome)` with outcome = return
    value + handler log of that op.
  * `Spec.run` (Spec/Dispatch.lean): the spec S as a monitor over such traces; its state is the finite map
    id ↦ registration (`live`), the fallback, the default id and the list `regd` of every registration that was
    accepted so far.  "The handler currently registered for id" is `sp.lookup id` of the monitor state `sp`
    reached on the history; the handler an event must reach is `sp.target id` (registered one, else fallback).
  All theorems quantify over *all* histories (lists of operations), all ids (64 bit), all handler answers.
  Proof technique: induction over the history with the refinement relation of Lemmas/DispatchRefine.lean
  (`run_refines`).  What an emitted event or a hash dispatch logs is then read off the monitor's acceptance of it
  (`step_refines`); what `mpt_dispatch_emit` returns and leaves as default id, and all about the default event, off the
  model's equations (`emitResolved_book`, `emitResolved_nest`, `dispatchEmit_none`).
-/
import MptModel.Lemmas.DispatchRefine
namespace Mpt.C11
open Mpt.Dispatch

def logAfter (st : Start) (ops : List Op) : List LogE := logOf (run st ops).2

def stateAfter (st : Start) (ops : List Op) : St := (run st ops).1

/-- S accepts every run of M: for each operation of each history, return value and handler log are among the
    outcomes the property allows -/
theorem monitor_accepts (st : Start) (ops : List Op) :
    ∃ sp, (Spec.init st).run (run st ops).2 = some sp := by
  obtain ⟨sp, h, _⟩ := run_refines st ops
  exact ⟨sp, h⟩

example : ((Spec.init .fb).run (run .fb [.set 1, .set 2, .cset 1, .emitId 1 ⟨1, false⟩, .clear 2, .emitNone ⟨0, false⟩, .fini]).2).isSome = true := by
  decide

/-- **delivery (event carrying an id)**: after any history, emitting an event with id `id` logs exactly one
    invocation — of the handler currently registered for `id`, else of the fallback — and nothing else; without
    either, nobody is invoked. -/
theorem delivery (st : Start) (ops : List Op) (id : Id) (h : HRes) :
    ∃ sp, (Spec.init st).run (run st ops).2 = some sp ∧
      (step (stateAfter st ops) (.emitId id h)).2.log =
        (match sp.target id with | some r => [.call r id] | none => []) := by
  obtain ⟨sp, hrun, hrel, hw, hs, _⟩ := run_refines st ops
  obtain ⟨sp', hst, _⟩ := step_refines (op := .emitId id h) hw hrel hs
  exact ⟨sp, hrun, stepEmit_log hst⟩

example : (step (stateAfter .fb [.set 1, .set 2, .cset 1]) (.emitId 1 ⟨1, false⟩)).2.log = [.call 3 1] := by decide
example : (step (stateAfter .fb [.set 1, .clear 1]) (.emitId 1 ⟨0, false⟩)).2.log = [.call 0 1] := by decide

/-- **delivery (message)**: the first byte of the message is the id; an empty message reaches nobody. -/
theorem delivery_msg (st : Start) (ops : List Op) (msg : List Byte) (h : HRes) :
    ∃ sp, (Spec.init st).run (run st ops).2 = some sp ∧
      (step (stateAfter st ops) (.emitMsg msg h)).2.log =
        (match msg with
         | [] => []
         | b :: _ => match sp.target b.toUInt64 with | some r => [.call r b.toUInt64] | none => []) := by
  obtain ⟨sp, hrun, hrel, hw, hs, _⟩ := run_refines st ops
  obtain ⟨sp', hst, _⟩ := step_refines (op := .emitMsg msg h) hw hrel hs
  refine ⟨sp, hrun, ?_⟩
  cases msg with
  | nil => rfl
  | cons b rest => exact stepEmit_log hst

example : (step (stateAfter .fb [.set 2]) (.emitMsg [2, 0xff] ⟨0, false⟩)).2.log = [.call 1 2] := by decide

/-- **delivery (default event)**: without an event the default id is dispatched: nobody is invoked when there is
    none; else exactly the handler registered for it.  When the default id names no handler the model refuses
    without invoking anybody. -/
theorem delivery_default (st : Start) (ops : List Op) (h : HRes) :
    ∃ sp, (Spec.init st).run (run st ops).2 = some sp ∧
      (step (stateAfter st ops) (.emitNone h)).2.log =
        (if sp.dflt = 0 then [] else
          match sp.lookup sp.dflt with | some r => [.call r sp.dflt] | none => []) := by
  obtain ⟨sp, hrun, hrel, hw, hs, _⟩ := run_refines st ops
  refine ⟨sp, hrun, ?_⟩
  show (dispatchEmit (run st ops).1.d none h).2.log = _
  rw [hrel.dflt, lookup_eq hrel hs, dispatchEmit_none hw]
  split
  · rfl
  · cases commandGet (run st ops).1.d.tab (run st ops).1.d.dflt <;> rfl

example : (step (stateAfter .fb [.set 1, .emitId 1 ⟨1, false⟩]) (.emitNone ⟨0, false⟩)).2.log = [.call 1 1] := by decide

/-- **delivery (command text)**: dispatching a command message by the hash of its text invokes exactly the
    handler registered for that hash (else the fallback), where the text is one of the readings `cmdIds` admits;
    a message without command text reaches nobody. -/
theorem delivery_hash (st : Start) (ops : List Op) (msg : List Byte) (h : HRes) :
    ∃ sp, (Spec.init st).run (run st ops).2 = some sp ∧
      ∃ cid, cid ∈ cmdIds msg ∧
        (step (stateAfter st ops) (.hash msg h)).2.log = sp.hashLog cid := by
  obtain ⟨sp, hrun, hrel, hw, hs, _⟩ := run_refines st ops
  obtain ⟨sp', hst, _⟩ := step_refines (op := .hash msg h) hw hrel hs
  obtain ⟨cid, hmem, hcid⟩ := List.exists_of_findSome?_eq_some hst
  exact ⟨sp, hrun, cid, hmem, (stepHashId_some hcid).2⟩

/-- the command text "a" (Output header) and " a:b" (Command header, separator ':') both hash to djb2("a") -/
example : cmdIds [0, 0, 0x61] = [some 177604] ∧ cmdIds [4, 0x3a, 0x20, 0x61, 0x3a, 0x62] = [some 177604] := by decide
example : (step (stateAfter .fb [.set 177604]) (.hash [4, 0x3a, 0x20, 0x61, 0x3a, 0x62] ⟨2, false⟩)).2 = ⟨.val 2, [.call 1 177604]⟩ := by
  decide

/-- **delivery (white-space separated command)**: for a Command message whose separator is a blank (arguments split
    at white space) and whose command word is plain — no quote characters, followed by a blank or the end of the
    message — the handler invoked is exactly the one registered for the hash of that word (`wsWord`: the text after
    the leading white space up to the first white-space character); no other cut of the text is accepted. -/
theorem delivery_hash_word (st : Start) (ops : List Op) (sep : Byte) (payload : List Byte) (h : HRes)
    (hs : sep ≠ 0) (hg : isGraph sep = false) (hp : plainWord payload = true) :
    cmdIds (msgCommand :: sep :: payload) = [some (hashDjb2 (wsWord payload))] ∧
    ∃ sp, (Spec.init st).run (run st ops).2 = some sp ∧
      (step (stateAfter st ops) (.hash (msgCommand :: sep :: payload) h)).2.log = sp.hashLog (some (hashDjb2 (wsWord payload))) := by
  have hc : cmdIds (msgCommand :: sep :: payload) = [some (hashDjb2 (wsWord payload))] := by
    simp [cmdIds, hs, hg, hp]
  refine ⟨hc, ?_⟩
  obtain ⟨sp, hrun, cid, hmem, hlog⟩ := delivery_hash st ops (msgCommand :: sep :: payload) h
  rw [hc, List.mem_singleton] at hmem
  exact ⟨sp, hrun, by rw [hlog, hmem]⟩

/-- "ab c" split at blanks: the command is "ab" (177604 = djb2 "a" is not a reading); with handlers for both hashes
    the one for "ab" is invoked -/
example : plainWord [0x61, 0x62, 0x20, 0x63] = true ∧ wsWord [0x20, 0x61, 0x62, 0x20, 0x63] = [0x61, 0x62] ∧
    cmdIds [4, 0x20, 0x61, 0x62, 0x20, 0x63] = [some (hashDjb2 [0x61, 0x62])] := by decide
example : (step (stateAfter .fb [.set (hashDjb2 [0x61]), .set (hashDjb2 [0x61, 0x62])]) (.hash [4, 0x20, 0x61, 0x62, 0x20, 0x63] ⟨2, false⟩)).2
    = ⟨.val 2, [.call 2 (hashDjb2 [0x61, 0x62])]⟩ := by decide
/-- the monitor rejects a delivery to the handler of a shorter cut of the word -/
example : (Spec.init .fb).run [(.set (hashDjb2 [0x61]), ⟨.val 1, []⟩), (.set (hashDjb2 [0x61, 0x62]), ⟨.val 1, []⟩),
    (.hash [4, 0x20, 0x61, 0x62, 0x20, 0x63] ⟨2, false⟩, ⟨.val 2, [.call 1 (hashDjb2 [0x61])]⟩)] = none := by decide

/-- **delivery (fragmented command message)**: a command message that arrives in several fragments is dispatched
    like the flattened message: same handler, same answer, whatever the fragment boundaries are (inside the header,
    the leading white space or the command word, empty fragments, texts longer than the scratch buffer). -/
theorem delivery_hash_fragments (st : Start) (ops : List Op) (frags : List (List Byte)) (h : HRes) :
    (step (stateAfter st ops) (.hashFrag frags h)).2 = (step (stateAfter st ops) (.hash frags.flatten h)).2 := by
  simp only [step, dispatchHashFrag, dispatchHash, hashIdFrag_flat]

example : (step (stateAfter .fb [.set 193506797]) (.hashFrag [[4, 0x20, 0x20, 0x73], [0x74, 0x61], [0x72, 0x74, 0x20, 0x6e]] ⟨2, false⟩)).2
    = (step (stateAfter .fb [.set 193506797]) (.hash [4, 0x20, 0x20, 0x73, 0x74, 0x61, 0x72, 0x74, 0x20, 0x6e] ⟨2, false⟩)).2 := by decide

/-- **delivery (handler dispatches by hash)**: when the handler an emitted message reaches hands the message on
    with `mpt_dispatch_hash`, the log is its own invocation followed by what the spec lists for the command text
    (`hashOutcomes`: exactly the handler registered for the hash, else the fallback, else nobody), and the
    bookkeeping is done with the value and event id the inner call left: after an inner failure
    (`MPT_event_fail`: id cleared, `Fail|Default`) there is no default event any more. -/
theorem nested_dispatch (st : Start) (ops : List Op) (b : Byte) (rest : List Byte) (h : HRes) :
    ∃ sp, (Spec.init st).run (run st ops).2 = some sp ∧ ∃ o, o ∈ sp.hashOutcomes (some (b :: rest)) h ∧
      let m := stateAfter st ops
      let r := step m (.emitCmd (b :: rest) h)
      match sp.target b.toUInt64 with
      | some t => r.2.log = .call t b.toUInt64 :: o.1 ∧
          r.2.ret = .val (book m.d.dflt o.2.2 ⟨o.2.1, false⟩).1 ∧ r.1.d.dflt = (book m.d.dflt o.2.2 ⟨o.2.1, false⟩).2
      | none => r.2.log = [] := by
  obtain ⟨sp, hrun, hrel, hw, hs, _⟩ := run_refines st ops
  refine ⟨sp, hrun, nestedOutcome sp (some (b :: rest)) h, nestedOutcome_mem _ _ _, ?_⟩
  intro m r
  have hw' : TWf m.d.tab := hw
  have hrel' : Rel m sp := hrel
  have hr : r = ({ m with d := (emitResolved m.d (commandGet m.d.tab b.toUInt64) b.toUInt64 (some (b :: rest)) true h).1 },
      (emitResolved m.d (commandGet m.d.tab b.toUInt64) b.toUInt64 (some (b :: rest)) true h).2) := rfl
  rw [hr, emitResolved_nest _ (get_user hw') (nestedCall_outcome hw' hrel' hs _ h), target_eq hrel' hs]
  cases resolveReg (commandGet m.d.tab b.toUInt64) m.d.err with
  | some t => simp [emitOutcome]
  | none => by_cases hb : m.d.bi = true <;> simp [emitOutcome, hb]

/-- an inner dispatch that finds nobody gives up the default event: event 7 is the default, its handler hands on a
    command nobody is registered for -/
example : (step (stateAfter .nofb [.set 4, .set 7, .emitId 7 ⟨1, false⟩]) (.emitCmd [4, 0x20, 0x78] ⟨0, false⟩)).1.d.dflt = 0 := by decide

/-- no operation of a reachable state is undefined behaviour in the model (the placeholder handler of a reserved
    element is never invoked, no index leaves the table): the monitor accepts the step, and every guard of the
    monitor asks for a value (`Spec.step_fault`) -/
theorem no_fault (st : Start) (ops : List Op) (op : Op) :
    (step (stateAfter st ops) op).2.ret ≠ .fault := by
  obtain ⟨sp, hrun, hrel, hw, hs, _⟩ := run_refines st ops
  obtain ⟨sp', hst, _⟩ := step_refines (op := op) hw hrel hs
  intro hf
  have := Spec.step_fault sp op (step (stateAfter st ops) op).2.log
  rw [← hf] at this
  cases hst.symm.trans this

/-- **finalised_once**: in the log of any history
    * a registration that was accepted and is no longer registered (replaced, cleared, or the dispatcher torn
      down) has exactly one end-of-life call; one that is still registered — and a number that was never
      accepted — has none;
    * only accepted registrations are ever invoked;
    * no invocation of a registration comes after its end-of-life call. -/
theorem finalised_once (st : Start) (ops : List Op) :
    ∃ sp, (Spec.init st).run (run st ops).2 = some sp ∧
      (∀ r, (logAfter st ops).count (.fin r) = if r ∈ sp.regd ∧ r ∉ sp.liveRegs then 1 else 0) ∧
      (∀ r id, .call r id ∈ logAfter st ops → r ∈ sp.regd) ∧
      (logAfter st ops).Pairwise (fun a b => ∀ r id, a = .fin r → b ≠ .call r id) := by
  obtain ⟨sp, hrun, _, _, _, hl⟩ := run_refines st ops
  exact ⟨sp, hrun, hl.fins, hl.calls, hl.ordered⟩

/-- the registrations the monitor counts as live are exactly those stored in the table plus the fallback -/
theorem live_is_table (st : Start) (ops : List Op) :
    ∃ sp, (Spec.init st).run (run st ops).2 = some sp ∧
      (∀ p, p ∈ sp.live ↔ p ∈ liveList (stateAfter st ops).d.tab) ∧ sp.fb = (stateAfter st ops).d.err := by
  obtain ⟨sp, hrun, hrel, _⟩ := run_refines st ops
  exact ⟨sp, hrun, fun p => (hrel.live p).symm, hrel.fb⟩

/-- **teardown**: after `mpt_dispatch_fini` every registration ever accepted (fallback included) has had exactly
    one end-of-life call -/
theorem finalised_at_teardown (st : Start) (ops : List Op) :
    ∃ sp, (Spec.init st).run (run st (ops ++ [.fini])).2 = some sp ∧
      ∀ r, (logAfter st (ops ++ [.fini])).count (.fin r) = if r ∈ sp.regd then 1 else 0 := by
  obtain ⟨sp, hrun, hrel, _, _, hl⟩ := run_refines st (ops ++ [.fini])
  -- the last operation leaves an empty dispatcher
  have hm : (run st (ops ++ [.fini])).1.d = ⟨none, 0, none, false⟩ := by
    rw [run, runFrom_snoc]
    rfl
  have hnone : sp.liveRegs = [] := by
    have h1 : sp.live = [] := List.eq_nil_iff_forall_not_mem.mpr fun p hp => by
      have := (hrel.live p).mpr hp
      rw [hm] at this
      cases this
    rw [Spec.liveRegs_eq, h1, hrel.fb, hm]
    rfl
  exact ⟨sp, hrun, fun r => by rw [logAfter, hl.fins r, hnone]; simp⟩

example : logAfter .fb [.set 5, .cset 5, .reserve 1, .emitId 5 ⟨0, false⟩, .fini] = [.fin 1, .call 2 5, .fin 2, .fin 3, .fin 0] := by decide

/-- **default_bookkeeping**: when an emitted event (id `id`) reaches a handler that answers `h`, the value
    returned by `mpt_dispatch_emit` and the default id afterwards are those of `book`: an error is passed
    through and changes nothing; else `Default` in the answer makes the event id (as the handler left it) the
    default id, and the returned flags carry `Default` exactly when a default id exists afterwards.  When nobody
    is invoked, the library's built-in fallback (if it is still installed) answers `builtinAnswer` and the same
    bookkeeping applies; without any fallback the default id is unchanged. -/
theorem default_bookkeeping (st : Start) (ops : List Op) (id : Id) (h : HRes) :
    let m := stateAfter st ops
    let r := step m (.emitId id h)
    (r.2.log ≠ [] → r.2.ret = .val (book m.d.dflt id h).1 ∧ r.1.d.dflt = (book m.d.dflt id h).2) ∧
    (r.2.log = [] → m.d.bi = true →
      r.2.ret = .val (book m.d.dflt id (builtinAnswer id none)).1 ∧ r.1.d.dflt = (book m.d.dflt id (builtinAnswer id none)).2) ∧
    (r.2.log = [] → m.d.bi = false → r.1.d.dflt = m.d.dflt) := by
  obtain ⟨sp, _, _, hw, _⟩ := run_refines st ops
  exact emitResolved_book (get_user hw)

/-- the same for the default event (the event id is the default id itself; a default id that names no handler is
    refused and forgotten without asking any fallback: when nobody is invoked there is no default event afterwards) -/
theorem default_bookkeeping_none (st : Start) (ops : List Op) (h : HRes) :
    let m := stateAfter st ops
    let r := step m (.emitNone h)
    (r.2.log ≠ [] → r.2.ret = .val (book m.d.dflt m.d.dflt h).1 ∧ r.1.d.dflt = (book m.d.dflt m.d.dflt h).2) ∧
    (r.2.log = [] → r.1.d.dflt = 0) := by
  obtain ⟨sp, _, _, hw, _⟩ := run_refines st ops
  intro m r
  have hr : r = ({ m with d := (dispatchEmit m.d none h).1 }, (dispatchEmit m.d none h).2) := rfl
  rw [hr, dispatchEmit_none (show TWf m.d.tab from hw)]
  split
  · simp [*]
  · cases commandGet m.d.tab m.d.dflt <;> simp

/-- the same for an event given as a message (the id is the first byte) -/
theorem default_bookkeeping_msg (st : Start) (ops : List Op) (b : Byte) (rest : List Byte) (h : HRes) :
    let m := stateAfter st ops
    let r := step m (.emitMsg (b :: rest) h)
    let id := b.toUInt64
    (r.2.log ≠ [] → r.2.ret = .val (book m.d.dflt id h).1 ∧ r.1.d.dflt = (book m.d.dflt id h).2) ∧
    (r.2.log = [] → m.d.bi = true →
      r.2.ret = .val (book m.d.dflt id (builtinAnswer id (some (b :: rest)))).1 ∧
      r.1.d.dflt = (book m.d.dflt id (builtinAnswer id (some (b :: rest)))).2) ∧
    (r.2.log = [] → m.d.bi = false → r.1.d.dflt = m.d.dflt) := by
  obtain ⟨sp, _, _, hw, _⟩ := run_refines st ops
  exact emitResolved_book (get_user hw)

/-- **bookkeeping follows the flags**, against the declarative statement `Follows` (Spec/Dispatch.lean: default id
    := event id as the handler left it exactly when the answer carries `Default`, every other flag handed through,
    `Default` in the returned value exactly when a default event exists afterwards, errors passed through), for an
    event with id; handler answers are C `int`s (`hv`). -/
theorem bookkeeping_follows_flags (st : Start) (ops : List Op) (id : Id) (h : HRes) (hv : h.val < 2 ^ 31) :
    let m := stateAfter st ops
    let r := step m (.emitId id h)
    r.2.log ≠ [] → ∃ ret, r.2.ret = .val ret ∧ Follows m.d.dflt (if h.zero then 0 else id) h.val ret r.1.d.dflt := by
  intro m r hl
  exact follows_of_book hv ((default_bookkeeping st ops id h).1 hl)

/-- the same for an event given as a message -/
theorem bookkeeping_follows_flags_msg (st : Start) (ops : List Op) (b : Byte) (rest : List Byte) (h : HRes) (hv : h.val < 2 ^ 31) :
    let m := stateAfter st ops
    let r := step m (.emitMsg (b :: rest) h)
    r.2.log ≠ [] → ∃ ret, r.2.ret = .val ret ∧ Follows m.d.dflt (if h.zero then 0 else b.toUInt64) h.val ret r.1.d.dflt := by
  intro m r hl
  exact follows_of_book hv ((default_bookkeeping_msg st ops b rest h).1 hl)

/-- the same for the default event -/
theorem bookkeeping_follows_flags_none (st : Start) (ops : List Op) (h : HRes) (hv : h.val < 2 ^ 31) :
    let m := stateAfter st ops
    let r := step m (.emitNone h)
    r.2.log ≠ [] → ∃ ret, r.2.ret = .val ret ∧ Follows m.d.dflt (if h.zero then 0 else m.d.dflt) h.val ret r.1.d.dflt := by
  intro m r hl
  exact follows_of_book hv ((default_bookkeeping_none st ops h).1 hl)

/-- `Follows` determines the outcome: there is exactly one (returned value, default id) that follows the flags -/
theorem bookkeeping_determined {dflt left : Id} {v r1 r2 : Int} {d1 d2 : Id}
    (h1 : Follows dflt left v r1 d1) (h2 : Follows dflt left v r2 d2) : r1 = r2 ∧ d1 = d2 := by
  unfold Follows at h1 h2
  by_cases hneg : v < 0
  · rw [if_pos hneg] at h1 h2
    exact ⟨h1.1.trans h2.1.symm, h1.2.trans h2.2.symm⟩
  · rw [if_neg hneg] at h1 h2
    obtain ⟨rfl, p1, q1, b1⟩ := h1
    obtain ⟨rfl, p2, q2, b2⟩ := h2
    refine ⟨?_, rfl⟩
    have : r1 % 2 = 1 ↔ r2 % 2 = 1 := b1.trans b2.symm
    omega

/-- nested dispatch, against `Follows`: the outer bookkeeping follows the flags and the event id the inner
    `mpt_dispatch_hash` left -/
theorem nested_dispatch_follows_flags (st : Start) (ops : List Op) (b : Byte) (rest : List Byte) (h : HRes) :
    ∃ sp, (Spec.init st).run (run st ops).2 = some sp ∧ ∃ o, o ∈ sp.hashOutcomes (some (b :: rest)) h ∧
      let m := stateAfter st ops
      let r := step m (.emitCmd (b :: rest) h)
      ∀ t, sp.target b.toUInt64 = some t → o.2.1 < 2 ^ 31 →
        r.2.log = .call t b.toUInt64 :: o.1 ∧ ∃ ret, r.2.ret = .val ret ∧ Follows m.d.dflt o.2.2 o.2.1 ret r.1.d.dflt := by
  obtain ⟨sp, hrun, o, ho, hmain⟩ := nested_dispatch st ops b rest h
  refine ⟨sp, hrun, o, ho, ?_⟩
  intro m r t ht hv
  simp only [ht] at hmain
  obtain ⟨hlog, hb⟩ := hmain
  exact ⟨hlog, follows_of_book (h := ⟨o.2.1, false⟩) hv hb⟩

/-- answer `Default|Fail` (3) with the id kept: event 7 becomes the default, the caller sees 3; answer 4 (another
    flag) while a default exists: handed through with `Default` added; an error changes nothing -/
example : Follows 0 7 3 3 7 ∧ Follows 7 9 4 5 7 ∧ Follows 7 9 (-5) (-5) 7 ∧ ¬ Follows 0 7 3 3 0 ∧ ¬ Follows 7 9 4 4 7 := by
  unfold Follows; decide
example : (step (stateAfter .fb [.set 7]) (.emitMsg [7, 1] ⟨3, false⟩)).1.d.dflt = 7 := by decide

example : book 0 7 ⟨3, false⟩ = (3, 7) ∧ book 7 7 ⟨3, true⟩ = (2, 0) ∧ book 7 9 ⟨-5, true⟩ = (-5, 7) ∧ book 7 9 ⟨4, false⟩ = (5, 7) := by decide
example : (step (stateAfter .fb [.set 7]) (.emitId 7 ⟨3, false⟩)).2.ret = .val 3 := by decide

/-- dispatching by hash leaves the default id alone (the flags are handed to the caller) -/
theorem hash_keeps_default (st : Start) (ops : List Op) (msg : List Byte) (h : HRes) :
    (step (stateAfter st ops) (.hash msg h)).1 = stateAfter st ops := rfl

/-- in every reachable state the ids of the live elements are pairwise distinct, and so are their registrations -/
theorem ids_distinct (st : Start) (ops : List Op) :
    ((liveList (stateAfter st ops).d.tab).map (·.1)).Nodup ∧ ((liveList (stateAfter st ops).d.tab).map (·.2)).Nodup := by
  obtain ⟨sp, _, _, hw, _⟩ := run_refines st ops
  exact ⟨hw.keys, hw.regs⟩

/-- **reserve on any table**: whatever the table holds — handlers, free elements, and reservations that are still
    outstanding (placeholder handler, not yet activated by the caller; such states are not produced by the histories
    above, where a reservation is activated at once) — an id handed out by `mpt_command_reserve` is carried by no
    active element, the active elements stay what they were, and distinct ids stay distinct. -/
theorem reserve_unique_any_table (tab tab' : Option Table) (w idx : Nat) (h : commandReserve tab w = (tab', some idx)) :
    ∃ t' s, tab' = some t' ∧ t'.slots[idx]? = some s ∧ s.cmd = some .logReply ∧
      (∀ r, (s.id, r) ∉ liveList tab) ∧
      (∀ p, p ∈ liveList tab' ↔ p ∈ liveList tab ∨ p = (s.id, s.arg)) ∧
      (((liveList tab).map (·.1)).Nodup → ((liveList tab').map (·.1)).Nodup) := by
  obtain ⟨a, b, idv, m, cap, rfl, rfl, hlive, _, hfresh⟩ := commandReserve_some h
  -- the new table's live list is the old one with the reserved entry put in somewhere
  have hp : (liveList (some ⟨a ++ ⟨idv, some .logReply, m⟩ :: b, cap⟩)).Perm ((idv, m) :: liveList tab) := by
    rw [liveList_some, liveL_append, liveL_cons, ← hlive]
    exact List.perm_middle
  refine ⟨_, ⟨idv, some .logReply, m⟩, rfl, by simp, rfl, hfresh,
    fun p => hp.mem_iff.trans (List.mem_cons.trans Or.comm), fun hnd => ?_⟩
  refine (hp.map _).nodup_iff.mpr (List.nodup_cons.mpr ⟨fun hm => ?_, hnd⟩)
  obtain ⟨p, hp', hpe⟩ := List.mem_map.mp hm
  exact hfresh p.2 (by rw [← show p.1 = idv from hpe]; exact hp')

/-- **known finding (outside the clauses of the property)**: while a reservation is outstanding — the element still
    carries the library's placeholder handler `log_reply`, which takes its second argument for a message — an event
    with the reserved id is undefined behaviour (the real code reads the event structure as a message:
    stack-buffer-overflow, `e holdemit 1` in the harness).  The histories of the theorems above activate a reservation
    at once, which is what `no_fault` rests on. -/
theorem outstanding_reservation_event_counterexample :
    (dispatchEmit ⟨(commandReserve none 1).1, 0, none, false⟩ (some ⟨1, none⟩) ⟨0, false⟩).2.ret = .fault := by decide

/-- **when reserve must succeed**: for a valid width class `mpt_command_reserve` hands out an id whenever some id of
    the class's range `1..max` is carried by no active element (it refuses only when the whole range is taken);
    again for any table. -/
theorem reserve_succeeds (tab : Option Table) (w i : Nat) (hw : widthMax w ≠ 0) (h1 : 1 ≤ i) (h2 : i ≤ widthMax w)
    (hfree : ∀ r, (UInt64.ofNat i, r) ∉ liveList tab) : ∃ tab' idx, commandReserve tab w = (tab', some idx) := by
  unfold commandReserve
  simp only [hw, if_false]
  cases tab with
  | none => exact ⟨_, _, rfl⟩
  | some t =>
    simp only
    obtain ⟨htake, _⟩ := compactLoop_spec t.slots
    generalize compactLoop ⟨t.slots, none, 0, 0⟩ 0 t.slots.length = st at htake
    by_cases hmid : st.mid.toNat ≥ widthMax w
    · simp only [hmid, if_true]
      have hfree' : ∀ r, (UInt64.ofNat i, r) ∉ liveL (st.slots.take st.used) := by
        intro r
        rw [htake, liveL_filter]
        exact hfree r
      obtain ⟨m, hm⟩ := lowFreeId_some (widthMax_le w) h1 h2 hfree'
      rw [hm]
      exact ⟨_, _, rfl⟩
    · simp only [hmid, if_false]
      exact ⟨_, _, rfl⟩

/-- two reservations in a row, the first one still outstanding: ids 1 and 2 -/
example : (commandReserve (commandReserve none 1).1 1).2 = some 1 ∧
    ((commandReserve (commandReserve none 1).1 1).1.map fun t => t.slots.map (·.id)) = some [1, 2] := by decide

/-- **reserve_unique**: an id handed out by `mpt_command_reserve` (any width class) after any history is a 64-bit
    value that no live element carries, and afterwards all live ids are still pairwise distinct; the elements
    that were live stay live with their ids and registrations. -/
theorem reserve_unique (st : Start) (ops : List Op) (w : Nat) (v : Int) :
    let m := stateAfter st ops
    let r := step m (.reserve w)
    r.2.ret = .val v →
      0 ≤ v ∧ v < 2 ^ 64 ∧ (∀ p, p ∈ liveList m.d.tab → (p.1.toNat : Int) ≠ v) ∧
      ((liveList r.1.d.tab).map (·.1)).Nodup ∧
      (∀ p, p ∈ liveList r.1.d.tab ↔ p ∈ liveList m.d.tab ∨ p = (UInt64.ofNat v.toNat, m.next)) := by
  obtain ⟨sp, hrun, hrel, hw, hs, _⟩ := run_refines st ops
  intro m r hret
  obtain ⟨sp', hst, hrel', hw'⟩ := step_refines (op := .reserve w) hw hrel hs
  -- range and freshness of the id are the guard under which the monitor accepted the step
  have hr2 : (step (run st ops).1 (.reserve w)).2.ret = .val v := hret
  simp only [Spec.step, hr2] at hst
  obtain ⟨hc, rfl⟩ := Option.ite_some_none_eq_some.mp hst
  simp only [Bool.and_eq_true, decide_eq_true_eq, beq_iff_eq, Option.isNone_iff_eq_none] at hc
  obtain ⟨⟨⟨h0, h64⟩, _⟩, hlk⟩ := hc
  refine ⟨h0, h64, fun p hp hpv => ?_, hw'.keys, fun p => ?_⟩
  · have : UInt64.ofNat v.toNat = p.1 := by rw [← hpv]; simp
    exact Spec.lookup_eq_none.mp hlk p.2 (this ▸ (hrel.live p).mp hp)
  · have h1 := hrel'.live p
    simp only [List.mem_append, List.mem_singleton] at h1
    rw [show r.1 = (step (run st ops).1 (.reserve w)).1 from rfl, h1, ← hrel.live p, hrel.next]
    rfl

example : (step (stateAfter .fb [.reserve 1, .cset 18446744073709551615, .cset 0]) (.reserve 1)).2.ret = .val 2 := by decide

/-- **release through the traits**: releasing the handler table through the generic array interface
    (`mpt_array_clone(&_d, 0)`: buffer unref, `_command_fini` per element) gives every registered handler exactly
    its end-of-life call — the log of the operation is, up to order and without repetition, the `fin` of each live
    registration — and leaves an empty table. -/
theorem drop_finalises_all (st : Start) (ops : List Op) :
    ∃ sp, (Spec.init st).run (run st ops).2 = some sp ∧
      let r := step (stateAfter st ops) .drop
      r.2.log.Nodup ∧ (∀ e, e ∈ r.2.log ↔ ∃ p, p ∈ sp.live ∧ e = .fin p.2) ∧ liveList r.1.d.tab = [] := by
  obtain ⟨sp, hrun, hrel, hw, hs, _⟩ := run_refines st ops
  obtain ⟨hnd, hmem⟩ := sameSet_iff.mp (arrayDrop_sameSet hw hrel hs)
  refine ⟨sp, hrun, hnd, fun e => (hmem e).trans ?_, rfl⟩
  simp only [List.mem_map, eq_comm]

/-- **copy through the traits**: copy-constructing the table element of a live registration (`_command_init` with
    that element as source) is refused and invokes nobody, so a registration never gets a second owner -/
theorem traits_copy_refused (st : Start) (ops : List Op) (r : Reg) :
    (∃ id, (id, r) ∈ liveList (stateAfter st ops).d.tab) →
      (step (stateAfter st ops) (.tcopy r)).2 = ⟨.val Err.BadOperation.code, []⟩ ∧
      (step (stateAfter st ops) (.tcopy r)).1 = stateAfter st ops := by
  rintro ⟨id, hm⟩
  refine ⟨?_, rfl⟩
  show (⟨.val (traitsCopy (stateAfter st ops).d.tab r), []⟩ : Out) = _
  rw [traitsCopy_eq, if_pos (List.mem_map.mpr ⟨_, hm, rfl⟩)]

example : (step (stateAfter .fb [.set 4, .reserve 1]) .drop).2.log = [.fin 1, .fin 2] := by decide
example : (step (stateAfter .fb [.set 4]) (.tcopy 1)).2 = ⟨.val (-4), []⟩ := by decide

/-- **C++ `dispatch::set_default(id)`**: accepted exactly when a handler is registered for
    `id`, and then `id` is the default event; refused calls change nothing -/
theorem set_default_iff_registered (st : Start) (ops : List Op) (id : Id) :
    ∃ sp, (Spec.init st).run (run st ops).2 = some sp ∧
      let r := step (stateAfter st ops) (.setDefault id)
      (sp.lookup id ≠ none → r.2.ret = .val 1 ∧ r.1.d.dflt = id) ∧
      (sp.lookup id = none → r.2.ret = .val (-1) ∧ r.1 = stateAfter st ops) := by
  obtain ⟨sp, hrun, hrel, hw, hs, _⟩ := run_refines st ops
  refine ⟨sp, hrun, ?_⟩
  have hlk := lookup_eq (id := id) hrel hs
  have hm : stateAfter st ops = (run st ops).1 := rfl
  rw [hm]
  cases hg : commandGet (run st ops).1.d.tab id with
  | some c => rw [hg] at hlk; simp [step, setDefaultX, hg, hlk]
  | none => rw [hg] at hlk; simp [step, setDefaultX, hg, hlk]

/-- **C++ `dispatch::set_error`**: the previous fallback registration gets its end-of-life call (the built-in one
    is dropped silently), the new registration is the fallback from then on -/
theorem set_error_finalises_old (st : Start) (ops : List Op) :
    let m := stateAfter st ops
    let r := step m .setError
    r.2.log = (match m.d.err with | some o => [.fin o] | none => []) ∧ r.1.d.err = some m.next ∧ r.1.d.bi = false := by
  intro m r
  refine ⟨?_, rfl, rfl⟩
  show errFin m.d.err = _
  cases m.d.err <;> rfl

/-- the built-in fallback `unknownEvent` of the model is the spec's `builtinAnswer` -/
theorem builtin_fallback_answer (evid : Id) (msg : Option (List Byte)) :
    unknownEvent evid msg = ((builtinAnswer evid msg).val, if (builtinAnswer evid msg).zero then 0 else evid) :=
  (unknownEvent_answer evid msg).1

example : (step (stateAfter .builtin [.set 1, .emitId 1 ⟨1, false⟩]) (.emitId 9 ⟨0, false⟩)).2 = ⟨.val 2, []⟩ := by decide
example : (step (stateAfter .builtin [.set 5, .setDefault 5, .setError, .setError]) (.emitId 9 ⟨0, false⟩)).2 = ⟨.val 1, [.call 3 9]⟩ := by decide

end Mpt.C11
