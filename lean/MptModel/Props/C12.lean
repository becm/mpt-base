/-
  C12 — each request is answered at most once, to the right requester.

  Part 1: message ids (mptcore/message/message_id.c) for ALL ids and header widths.
  Part 2: the deferrable reply context (mptcore/event/reply_deferrable.c, reply_set.c) over ALL
  histories of arm / reply / defer / deferred reply / release with an arbitrary transport
  (the transport's answer to a send is a parameter of each operation).
  Part 3: the stream-input variant (mptio/stream/stream_input.c): one request, one reply frame.
  Part 4: the requester side (io::stream, command_reserve.c, stream_sync.c): fresh ids, a reply reaches the handler
  registered for its id once, and the slot array refines the pending set `ReplySpec.ReqSt` of Spec/Reply.lean.
  Which state of /repo each part of M mirrors (commit ids) is said at the head of that part in Impl/Reply.lean.
-/
import MptModel.Lemmas.ReplyCtx
import MptModel.Lemmas.ReplyStream
import MptModel.Lemmas.ReplyRefine
namespace Mpt.C12
open Mpt Mpt.Reply Mpt.ReplySpec

/-- an id that fits the header width (`id < 2^(8w−1)`, 64-bit id) is written and read back unchanged -/
theorem id_roundtrip (id w : Nat) (h64 : id < 2 ^ 64) (hfit : id < 2 ^ (8 * w - 1)) :
    ∃ bs u1 u2, MsgId.id2buf id w = .ok (bs, u1) ∧ MsgId.buf2id bs = .ok (id, u2) := by
  obtain ⟨u1, h1⟩ := (id2buf_spec id w).1 (by simp [fits, hfit])
  have hv : value (beDigits w id) = id := value_beDigits w id (lt_pow256_of_fits id w hfit)
  obtain ⟨u2, h2⟩ := (buf2id_spec (beDigits w id)).1 (by rw [hv]; exact h64)
  exact ⟨_, u1, u2, h1, by rw [h2, hv]⟩
example : (12345 : Nat) < 2 ^ (8 * 2 - 1) ∧ MsgId.id2buf 12345 2 = .ok ([0x30, 0x39], 2) ∧
    MsgId.buf2id [0x30, 0x39] = .ok (12345, 2) := by decide

/-- an id that does not fit is refused (nothing is accepted beyond `2^(8w−1)`) -/
theorem id_refused (id w : Nat) (h : 2 ^ (8 * w - 1) ≤ id) : ∃ e, MsgId.id2buf id w = .err e :=
  (id2buf_spec id w).2 (by simp [fits]; omega)
example : MsgId.id2buf 128 1 = .err .BadValue ∧ MsgId.id2buf 256 1 = .err .MissingBuffer := by decide

/-- the bytes written are the big-endian digits the spec prescribes -/
theorem id2buf_encode (id w : Nat) :
    match encode id w with
    | some bs => ∃ used, MsgId.id2buf id w = .ok (bs, used)
    | none => ∃ e, MsgId.id2buf id w = .err e := by
  unfold encode
  cases h : fits id w with
  | true => simpa using (id2buf_spec id w).1 h
  | false => simpa using (id2buf_spec id w).2 h

/-- reading any byte string: its big-endian value when that is a 64-bit number, refused otherwise -/
theorem buf2id_decode (bs : List Byte) :
    match decode bs with
    | some v => ∃ used, MsgId.buf2id bs = .ok (v, used)
    | none => MsgId.buf2id bs = .err .BadValue := by
  rcases buf2id_decode_cases bs with ⟨v, u, h, hd⟩ | ⟨h, hd⟩
  · rw [hd]; exact ⟨u, h⟩
  · rw [hd]; exact h
example : MsgId.buf2id [0, 0, 1, 0] = .ok (256, 2) ∧ MsgId.buf2id [1, 0, 0, 0, 0, 0, 0, 0, 0] = .err .BadValue := by decide

/-- **at most once**: over every history on a fresh context, whatever the transport answers,
    * a call the transport accepted is never followed by another call for the same armed request
      (so rejected calls may precede the accepted one — retries — but nothing comes after it),
    * hence the transport accepts at most one reply per `arm`,
    * and every call carries the bytes given to that `arm` with the reply mark set. -/
theorem at_most_once (len : Nat) (ptr : Bool) (c0 : Ctx) (hc : create len ptr = some c0) (ops : List Op) :
    (run c0 ops).log.Pairwise (fun a b => a.tag = b.tag → a.ok = false) ∧
    (∀ t, ((run c0 ops).log.filter (fun e => e.tag == t && e.ok)).length ≤ 1) ∧
    (∀ e ∈ (run c0 ops).log, e.id = mark ((run c0 ops).arms.getD e.tag [])) := by
  have hinv := inv_run c0 ops (inv_create len ptr c0 hc)
  exact ⟨hinv.ordered, fun t => count_le_one _ t hinv.ordered, hinv.logId⟩
example : ((create 2 true).map fun c => (run c [.arm [1, 2], .reply (some [9]) (-4), .defer, .reply none 0,
      .dreply 0 (some [9]) 0, .arm [3, 4], .dropCtx 0]).log) =
    some [⟨0, [0x81, 2], some [9], false⟩, ⟨0, [0x81, 2], some [9], true⟩, ⟨1, [0x83, 4], none, true⟩] := by decide

/-- (one call, from any state) later attempts are refused: without an unanswered request on the context a
    reply returns BadArgument and the transport is not called; safety over whole histories is `at_most_once` -/
theorem answered_refused (c : Ctx) (msg : Option (List Byte)) (ans : Int) (h : c.cur = none) :
    (reply c msg ans).1 = Err.BadArgument.code ∧ (reply c msg ans).2.log = c.log ∧ (reply c msg ans).2.cur = none := by
  simp [reply, h, csend_none, addCall]

/-- … and an accepted reply leaves no request on the context -/
theorem accepted_consumes (c : Ctx) (msg : Option (List Byte)) (ans : Int) (r : Req) (hs : c.send = true) (hp : c.ptr = true)
    (hc : c.cur = some r) (ha : 0 ≤ ans) :
    (reply c msg ans).2.cur = none ∧ (reply c msg ans).2.log = c.log ++ [⟨r.tag, mark r.val, msg, true⟩] := by
  simp [reply, hc, contextSend, hs, hp, ha, addCall]

/-- a rejected send may be retried: the request stays, and the next attempt carries the same marked id -/
theorem retry (c : Ctx) (m1 m2 : Option (List Byte)) (a1 a2 : Int) (r : Req) (hs : c.send = true) (hp : c.ptr = true)
    (hc : c.cur = some r) (h1 : a1 < 0) (h2 : 0 ≤ a2) :
    (reply c m1 a1).1 = a1 ∧
    (reply (reply c m1 a1).2 m2 a2).2.log =
      c.log ++ [⟨r.tag, mark r.val, m1, false⟩, ⟨r.tag, mark r.val, m2, true⟩] := by
  have n1 : ¬ 0 ≤ a1 := by omega
  simp [reply, hc, contextSend, hs, hp, n1, h2, addCall, mark_unmark_mark]
example : ((create 2 true).map fun c => (reply (reply (arm c [1, 2]).2 (some [7]) (-4)).2 (some [8]) 0).2.log) =
    some [⟨0, [0x81, 2], some [7], false⟩, ⟨0, [0x81, 2], some [8], true⟩] := by decide

/-- **default reply**, owner releases the context: an unanswered request on it gets exactly one
    default reply (NULL message) when the transport is attached, and nothing is sent otherwise -/
theorem default_reply (c : Ctx) (ans : Int) :
    (dropCtx c ans).log =
      match c.cur with
      | some r => if c.send ∧ c.ptr then c.log ++ [⟨r.tag, mark r.val, none, decide (0 ≤ ans)⟩] else c.log
      | none => c.log := by
  unfold dropCtx
  cases hc : c.cur with
  | none => simp [addCall]
  | some r =>
    by_cases hs : c.send = true
    · by_cases hp : c.ptr = true
      · by_cases ha : 0 ≤ ans <;> simp [contextSend, hs, hp, ha, addCall]
      · simp [contextSend, hs, hp, addCall]
    · simp [hs, addCall]

/-- **default reply**, a deferred handle is released (reply with NULL message): exactly one default
    reply when the transport is attached, none otherwise; the handle is gone in every case -/
theorem default_reply_deferred (c : Ctx) (k : Nat) (ans : Int) (r : Req) (hk : c.handles.getD k none = some r) :
    (dreply c k none ans).2.log =
      (if c.send ∧ c.ptr then c.log ++ [⟨r.tag, mark r.val, none, decide (0 ≤ ans)⟩] else c.log) ∧
    (dreply c k none ans).2.handles = c.handles.set k none ∧ 0 ≤ (dreply c k none ans).1 := by
  unfold dreply
  rw [hk]
  by_cases hs : c.send = true
  · by_cases hp : c.ptr = true
    · by_cases ha : 0 ≤ ans <;> simp [contextSend, hs, hp, ha, addCall] <;> omega
    · simp [contextSend, hs, hp, addCall]
  · simp [contextSend, hs, addCall]
example : ((create 2 true).map fun c => (run c [.arm [1, 2], .defer, .arm [3, 4], .dropCtx 0, .dreply 0 none 0]).log) =
    some [⟨1, [0x83, 4], none, true⟩] := by decide

/-- arming touches the reply data only.  In the model this holds by construction (`arm` is a record update of `cur` and
    the ghost fields): a store over the interface pointers of the context — what the clause excludes in C — cannot be
    expressed in M.  For the C code the clause rests on the correspondence run: after every `r arm` the driver checks
    that the context still answers `convert` with the same interface pointers (`ctx=intact`), and ASan watches the
    stores.  The theorem says what M does: nothing but the data changes, an unanswered request is never overwritten,
    an id longer than the header is refused. -/
theorem arm_pure (c : Ctx) (bytes : List Byte) :
    (arm c bytes).2.refs = c.refs ∧ (arm c bytes).2.send = c.send ∧ (arm c bytes).2.ptr = c.ptr ∧
    (arm c bytes).2.owner = c.owner ∧ (arm c bytes).2.handles = c.handles ∧ (arm c bytes).2.log = c.log ∧
    (arm c bytes).2.max = c.max ∧
    (c.cur.isSome = true → (arm c bytes).2 = c ∧ (arm c bytes).1 = Err.BadOperation.code) ∧
    (c.cur = none → bytes.length ≤ c.max →
      (arm c bytes).2.cur = if bytes.length = 0 then none else some ⟨bytes, c.nextTag⟩) ∧
    (c.cur = none → c.max < bytes.length → (arm c bytes).2 = c ∧ (arm c bytes).1 = Err.BadValue.code) := by
  unfold arm
  by_cases h0 : c.cur.isSome = true
  · have hne : c.cur ≠ none := by intro hn; simp [hn] at h0
    simp [h0, hne]
  · by_cases h : bytes.length > c.max
    · simp [h0, h]; omega
    · simp [h0, h]
example : (arm (arm ⟨2, true, 1, true, true, none, [], 0, [], [], []⟩ [1, 2]).2 [3, 4]).1 = Err.BadOperation.code := by decide

/-- **every request is accounted for** — over every history on a fresh context with a transport
    pointer, whatever the transport answers: each accepted `arm` with a non-empty id either still stands
    (on the context or on a deferred handle), or the transport was called for it (reply or default reply,
    accepted or rejected), or it was discarded after the owner had released the context while deferred
    handles were outstanding (`reply.send = 0`, the transport is gone).  No request is lost silently while
    the transport is attached. -/
theorem every_request_accounted (len : Nat) (c0 : Ctx) (hc : create len true = some c0) (ops : List Op) (t : Nat)
    (ht : t < (run c0 ops).nextTag) (hne : (run c0 ops).arms.getD t [] ≠ []) :
    (∃ s r, (run c0 ops).slot s = some r ∧ r.tag = t) ∨ (∃ e ∈ (run c0 ops).log, e.tag = t) ∨
    (t ∈ (run c0 ops).lost ∧ (run c0 ops).send = false) := by
  have hinv := inv_run c0 ops (inv_create len true c0 hc)
  have hp : (run c0 ops).ptr = true := by
    rw [run_ptr]
    unfold create at hc; split at hc
    · cases hc
    · cases hc; rfl
  rcases hinv.covered hp t ht hne with h | h | h
  · exact Or.inl h
  · exact Or.inr (Or.inl h)
  · exact Or.inr (Or.inr ⟨h, hinv.lostDet (List.ne_nil_of_mem h)⟩)

/-- … in particular: while the transport is still attached at the end of the history and nothing stands
    on the context or a handle any more, the transport has been called for every request -/
theorem released_all_answered (len : Nat) (c0 : Ctx) (hc : create len true = some c0) (ops : List Op)
    (hs : (run c0 ops).send = true) (hfree : ∀ s, (run c0 ops).slot s = none) (t : Nat)
    (ht : t < (run c0 ops).nextTag) (hne : (run c0 ops).arms.getD t [] ≠ []) :
    ∃ e ∈ (run c0 ops).log, e.tag = t := by
  rcases every_request_accounted len c0 hc ops t ht hne with ⟨s, r, h, _⟩ | h | ⟨_, h⟩
  · rw [hfree s] at h; cases h
  · exact h
  · rw [hs] at h; cases h
example : ((create 2 true).map fun c => (run c [.arm [1, 2], .arm [3, 4], .dropCtx 0]).log) =
    some [⟨0, [0x81, 2], none, true⟩] := by decide
example : ((create 2 true).map fun c => ((run c [.arm [1, 2], .defer, .dropCtx 0, .dreply 0 (some [9]) 0]).lost,
      (run c [.arm [1, 2], .defer, .dropCtx 0, .dreply 0 (some [9]) 0]).send)) = some ([0], false) := by decide

/-- deferred handle: a rejected reply (with a message) keeps the handle and the request, so that the
    reply can be retried with the same marked id (the handle keeps `unmark (mark r.val)`, and marking that again gives
    `mark r.val`: `mark_unmark_mark`) … -/
theorem dreply_retry (c : Ctx) (k : Nat) (m : List Byte) (ans : Int) (r : Req) (hk : c.handles.getD k none = some r)
    (hs : c.send = true) (hp : c.ptr = true) (ha : ans < 0) :
    (dreply c k (some m) ans).1 = ans ∧
    (dreply c k (some m) ans).2.handles = c.handles.set k (some ⟨unmark (mark r.val), r.tag⟩) ∧
    (dreply c k (some m) ans).2.log = c.log ++ [⟨r.tag, mark r.val, some m, false⟩] ∧
    (dreply c k (some m) ans).2.refs = c.refs := by
  have n1 : ¬ 0 ≤ ans := by omega
  unfold dreply
  rw [hk]
  simp [contextSend, hs, hp, n1, ha, addCall, addLost]

/-- … and an accepted reply through the handle consumes handle and request -/
theorem dreply_accepted_releases (c : Ctx) (k : Nat) (msg : Option (List Byte)) (ans : Int) (r : Req)
    (hk : c.handles.getD k none = some r) (hs : c.send = true) (hp : c.ptr = true) (ha : 0 ≤ ans) :
    (dreply c k msg ans).1 = ans ∧ (dreply c k msg ans).2.handles = c.handles.set k none ∧
    (dreply c k msg ans).2.log = c.log ++ [⟨r.tag, mark r.val, msg, true⟩] := by
  have n1 : ¬ ans < 0 := by omega
  unfold dreply
  rw [hk]
  simp [contextSend, hs, hp, ha, n1, addCall, addLost]
example : ((create 2 true).map fun c => (run c [.arm [1, 2], .defer, .dreply 0 (some [7]) (-4), .dreply 0 (some [8]) 0,
      .dreply 0 (some [9]) 0]).log) = some [⟨0, [0x81, 2], some [7], false⟩, ⟨0, [0x81, 2], some [8], true⟩] := by decide

/-- **stream input (mptio/stream/stream_input.c)**: for every incoming message on an idle stream input
    and every handler behaviour (any list of reply / NULL reply / defer attempts and return values),
    the frames handed to the stream are exactly what the spec names: no frame when no reply is due
    (no id header, id all zero, message is itself a reply, header incomplete), otherwise ONE frame made
    of the request id with the reply mark followed by the handler's first reply — or the answer header
    `01 <code>` when the handler did not reply (default reply); the input is idle again afterwards. -/
theorem stream_one_reply (s : StreamIn.SIn) (hs : s.rdlen = 0) (data : List Byte) (acts : List StreamIn.Act) :
    (StreamIn.request s data acts).frames =
      (streamFrame s.idlen data (StreamIn.firstReply acts) (StreamIn.codeByte (StreamIn.lastRet acts 0))).toList ∧
    (StreamIn.request s data acts).s.rdlen = 0 := by
  open StreamIn in
  obtain ⟨idlen, rdlen, val⟩ := s
  simp only at hs
  subst hs
  unfold request streamFrame
  simp only []
  by_cases h0 : idlen = 0
  · subst h0
    have := runActs_noctx acts { s := ⟨0, 0, val⟩ }
    simp [this]
  · by_cases hl : data.length < idlen
    · simp [h0, hl]
    · by_cases hm : ((data.take idlen).headD 0).toNat ≥ 128
      · -- the message is itself a reply: the handler sees its id, no reply context, no frame
        simp only [h0, hl, hm, if_true, if_false, true_or, or_true]
        rcases buf2id_decode_cases (Reply.unmark (data.take idlen)) with ⟨rid, u, hb, _⟩ | ⟨hb, _⟩ <;> rw [hb]
        · have := runActs_noctx acts { s := ⟨idlen, 0, Reply.unmark (data.take idlen)⟩ }
          simp [this]
        · simp
      · have hlen : (data.take idlen).length = idlen := by simp; omega
        by_cases hc : (data.take idlen).any (· ≠ 0) = true
        · -- a reply context is offered
          have hall : (data.take idlen).all (· == 0) = false := by rw [all_zero_eq_not_any, hc]; rfl
          have ha := runActs_armed acts { s := ⟨idlen, idlen, data.take idlen⟩ } (by simpa using h0) (by simpa using hm)
          simp only [h0, hl, hm, hc, hall, if_true, if_false, or_false, Bool.false_eq_true]
          have htake : (mark (data.take idlen)).take idlen = mark (data.take idlen) := by
            apply List.take_of_length_le; rw [mark_length, hlen]; exact Nat.le_refl _
          cases hf : firstReply acts with
          | none =>
            rw [hf] at ha
            obtain ⟨hr, hfr, hst⟩ := ha
            simp [hfr, hst, hr, h0, sreply, htake]
          | some m =>
            rw [hf] at ha
            obtain ⟨hr, hfr, hst⟩ := ha
            simp [hfr, hst, htake]
        · -- id all zero: no reply is expected, the handler runs without a reply context
          have hc' : (data.take idlen).any (· ≠ 0) = false := by simpa using hc
          have hall : (data.take idlen).all (· == 0) = true := by rw [all_zero_eq_not_any, hc']; rfl
          have := runActs_noctx acts { s := ⟨idlen, 0, data.take idlen⟩ }
          simp only [h0, hl, hm, hc', hall, if_true, if_false, Bool.false_eq_true, false_and, or_true]
          exact ⟨by rw [this.1]; rfl, by rw [this.2.1]⟩
example : (StreamIn.request ⟨2, 0, []⟩ [0, 5, 0x78] [.reply [0x41], .reply [0x42], .ret (-4)]).frames = [[0x80, 5, 0x41]] ∧
    (StreamIn.request ⟨2, 0, []⟩ [0, 6, 0x79] [.defer, .ret (-4)]).frames = [[0x80, 6, 1, 0xfc]] ∧
    (StreamIn.request ⟨2, 0, []⟩ [0x80, 6, 0x79] [.reply [1]]).frames = [] := by decide

/-- stream variant, retry: a reply attempt the stream cannot take (`mpt_stream_reply` < 0, act `replyFail`) is refused,
    puts nothing on the stream and leaves the pending request exactly as it was, reply mark taken back — so the next
    attempt, or the default reply, goes out once with the same id (`stream_one_reply` holds for act lists with failed
    attempts in any position: `firstReply` skips them) -/
theorem stream_retry (s : StreamIn.SIn) (msg : Option (List Byte)) (h0 : s.rdlen ≠ 0) (hv : (s.val.headD 0).toNat < 128) :
    StreamIn.sreply s msg false = (Err.BadArgument.code, s, none) := by
  obtain ⟨idlen, rdlen, val⟩ := s
  simp only at h0 hv
  simp [StreamIn.sreply, h0, unmark_mark val hv]
example : (StreamIn.request ⟨2, 0, []⟩ [0, 5, 0x78] [.replyFail [0x41], .reply [0x42], .reply [0x43]]).frames = [[0x80, 5, 0x42]] ∧
    (StreamIn.request ⟨2, 0, []⟩ [0, 5, 0x78] [.replyFail [0x41], .ret 3]).frames = [[0x80, 5, 1, 0]] := by decide

/-- at most one frame per request, and it starts with the marked request id -/
theorem stream_at_most_once (s : StreamIn.SIn) (hs : s.rdlen = 0) (data : List Byte) (acts : List StreamIn.Act) :
    (StreamIn.request s data acts).frames.length ≤ 1 ∧
    ∀ f ∈ (StreamIn.request s data acts).frames, f.take s.idlen = mark (data.take s.idlen) := by
  rw [(stream_one_reply s hs data acts).1]
  unfold streamFrame
  simp only []
  split
  · simp
  · rename_i h
    have hlen : (data.take s.idlen).length = s.idlen := by
      have : ¬ data.length < s.idlen := fun hl => h (Or.inr (Or.inl hl))
      simp; omega
    refine ⟨by simp, ?_⟩
    intro f hf
    simp at hf
    subst hf
    rw [List.take_append_of_le_length (by rw [mark_length, hlen]; exact Nat.le_refl _)]
    apply List.take_of_length_le
    rw [mark_length, hlen]; exact Nat.le_refl _

/-- **to the right requester**: `mpt_command_reserve` (`Requester.reserve`, what `await` calls) hands a new request
    an id that is legal for the header width and that no outstanding request uses; ids in use stay pairwise distinct
    (so a reply id names at most one waiting handler) -/
theorem request_id_fresh (arr : Option (List Requester.Slot)) (idlen tag : Nat) (a : List Requester.Slot) (i : Nat)
    (hn : ∀ es, arr = some es → (Requester.activeIds es).Nodup)
    (h : Requester.reserve arr idlen tag = some (a, i)) :
    1 ≤ i ∧ i ≤ Requester.idMax idlen ∧ (∀ es, arr = some es → i ∉ Requester.activeIds es) ∧
    (Requester.activeIds a).Nodup ∧ i ∈ Requester.activeIds a :=
  Requester.reserve_fresh arr idlen tag a i hn h
example : Requester.reserve (some [⟨1, some 7⟩, ⟨2, none⟩, ⟨3, some 9⟩]) 2 5 = some ([⟨1, some 7⟩, ⟨3, some 9⟩, ⟨4, some 5⟩], 4) := by
  decide

/-- **to the right requester, at most once (requester side)**: when `io::stream` hands message `m` to a reply
    handler `t`, then the id header of `m` decodes (mark removed) to an id `rid`, `t` is the handler
    registered under exactly `rid`, it receives exactly the bytes after the id header, and afterwards nobody
    waits for `rid` (a second reply with the same id reaches no reply handler) -/
theorem reply_delivered_once (s : Requester.St) (m : List Byte) (t : Nat) (p : Option (List Byte))
    (hn : (Requester.activeIds (s.arr.getD [])).Nodup)
    (h : (Requester.process s m).2 = some ⟨some t, p⟩) :
    ∃ rid u, MsgId.buf2id (Reply.unmark (m.take s.idlen)) = .ok (rid, u) ∧
      ((m.take s.idlen).headD 0).toNat ≥ 128 ∧ p = some (m.drop s.idlen) ∧
      Requester.findActive (s.arr.getD []) rid = some t ∧
      rid ∉ Requester.activeIds ((Requester.process s m).1.arr.getD []) := by
  rcases Requester.process_cases s m with ⟨rid, u, t', hm, hb, hf, hp⟩ | ⟨_, hno⟩
  · rw [hp] at h ⊢
    simp only [Option.some.injEq, Requester.Call.mk.injEq] at h
    obtain ⟨rfl, rfl⟩ := h
    refine ⟨rid, u, hb, hm, rfl, hf, ?_⟩
    simp [Requester.activeIds_release s.arr rid hn]
  · exact absurd h (hno t p)
example : (Requester.process ⟨2, some [⟨1, some 7⟩, ⟨2, some 8⟩], 0, []⟩ [0x80, 2, 0x41]).2 = some ⟨some 8, some [0x41]⟩ := by
  decide

/-- the hypothesis of `reply_delivered_once` holds along every requester history (await / send / peer frames
    dispatched / peer frames taken by `sync`, including the compaction of the handler array, commands that
    report failure (`fails`) and commands that register a follow-up request while they handle their reply
    (`follow`)): the ids of the waiting handlers are always pairwise distinct -/
theorem requester_ids_distinct (fails : Nat → Bool) (follow : Nat → Option Nat) (idlen : Nat) (ops : List Requester.ROp) :
    (Requester.activeIds ((Requester.rrun fails follow { idlen := idlen } ops).1.arr.getD [])).Nodup :=
  Requester.distinct_rrun fails follow { idlen := idlen } ops (by simp [Requester.Distinct, Requester.activeIds, Requester.active])
example : (Requester.rrun (fun _ => false) Requester.noFollow { idlen := 1 } [.await 7, .send [1], .await 8, .send [2],
    .sync [[0x82, 5], [0x82, 6]], .await 9, .answer [[0x81], [0x83]]]).2 = [⟨some 8, some [5]⟩, ⟨some 7, some []⟩, ⟨some 9, some []⟩] := by decide
-- a command that reports failure ends the wait; its reply is consumed, the next sync goes on with the following one
example : (Requester.rrun (· == 8) Requester.noFollow { idlen := 1 } [.await 7, .send [1], .await 8, .send [2],
    .sync [[0x82, 5], [0x82, 6], [0x81, 4]], .sync []]).2 = [⟨some 8, some [5]⟩, ⟨some 7, some [4]⟩] := by decide
-- command 7 registers request 70 while it handles its reply: the new request gets id 3 and its own reply later
example : (Requester.rrun (fun _ => false) (fun t => if t = 7 then some 70 else none) { idlen := 1 } [.await 7, .send [1], .await 8, .send [2],
    .sync [[0x81, 5]], .send [3], .sync [[0x83, 6], [0x82, 4]]]).2 = [⟨some 7, some [5]⟩, ⟨some 70, some [6]⟩, ⟨some 8, some [4]⟩] := by decide

/-- **refinement Requester ⊑ ReplySpec.ReqSt, dispatching**: from related states (same header width, the waiting
    handlers of the slot array = the spec's pending set, same queue) every message is delivered to the same
    handler with the same bytes by model and spec, and the states stay related.  `drain` is what a history runs
    (`drainF`) when no command registers a follow-up request (`Requester.drainF_noFollow`); the spec knows none. -/
theorem requester_refines_dispatch (x : Requester.St) (sp : ReqSt) (q : List (List Byte)) (h : Requester.Rel x sp) :
    (Requester.drain q x []).2.map Requester.callS = (deliverAll q sp []).2 ∧
    Requester.Rel { (Requester.drain q x []).1 with inq := [] } { (deliverAll q sp []).1 with inq := [] } := by
  obtain ⟨rfl, hd⟩ := (Requester.rel_iff x sp).1 h
  rw [show deliverAll q (Requester.absS x) [] = _ from Requester.deliverAll_abs q x [] hd]
  exact ⟨rfl, (Requester.rel_iff _ _).2 ⟨rfl, by simpa [Requester.Distinct] using Requester.distinct_drain q x [] hd⟩⟩

/-- **… waiting for replies**: `sync` (mpt_stream_sync: only while a handler waits, only replies, left after a command
    reported failure — whose reply is consumed and whose registration is released all the same —, handler array
    compacted afterwards) makes the same calls as the spec's "take replies while a request is outstanding".
    Stated for `noFollow`: the spec's `awaitReplies` knows no follow-up requests.  `fuel` is the spec's recursion bound;
    it only has to exceed the length of the queue (`hf`). -/
theorem requester_refines_sync (fails : Nat → Bool) (x : Requester.St) (sp : ReqSt) (fuel : Nat) (h : Requester.Rel x sp)
    (hf : x.inq.length < fuel) :
    (Requester.sync fails Requester.noFollow x).2.map Requester.callS = (awaitReplies fails fuel sp.inq sp []).2 ∧
    Requester.Rel (Requester.sync fails Requester.noFollow x).1 (awaitReplies fails fuel sp.inq sp []).1 := by
  open Requester in
  obtain ⟨rfl, hd⟩ := (rel_iff x sp).1 h
  have hstop : (absS x).pending.isEmpty = true ∨ (absS x).w = 0 →
      awaitReplies fails fuel (absS x).inq (absS x) [] = (absS x, []) :=
    awaitReplies_stop fails fuel x.inq (absS x) []
  unfold sync
  split
  · rename_i ha
    rw [hstop (Or.inl (by simp [pendingOf_isEmpty, ha, active]))]
    exact ⟨rfl, h⟩
  · rename_i es ha
    simp only []
    split
    · rename_i hz
      rw [hstop (hz.imp (fun a => by simp [pendingOf_isEmpty, ha, active, List.eq_nil_of_length_eq_zero a]) id)]
      exact ⟨rfl, h⟩
    · rename_i hz
      have hw : x.idlen ≠ 0 := fun a => hz (Or.inr a)
      have hl := distinct_syncLoop fails noFollow x.inq x (active es).length [] hd
      rw [show awaitReplies fails fuel (absS x).inq (absS x) [] = _ from
        awaitReplies_abs fails x.inq x (active es).length [] fuel hd (by rw [ha]; rfl) hw hf]
      -- the handler array may have been compacted: same waiting entries
      split
      · exact ⟨rfl, (rel_iff _ _).2 ⟨by simp [absS, pendingOf_active], by simpa [Distinct, activeIds_active] using hl⟩⟩
      · exact ⟨rfl, (rel_iff _ _).2 ⟨rfl, hl⟩⟩

/-- **… new requests**: the id `await` assigns (mpt_command_reserve) is one the spec accepts as fresh (≥ 1, fits
    the header, not in use), and the request is pending in both afterwards -/
theorem requester_refines_await (x : Requester.St) (sp : ReqSt) (tag : Nat) (x' : Requester.St) (i : Nat)
    (h : Requester.Rel x sp) (ha : Requester.await x tag = some (x', i)) :
    freshId sp i = true ∧ Requester.Rel x' { sp with pending := sp.pending ++ [(i, tag)], cur := i } := by
  open Requester in
  obtain ⟨rfl, hd⟩ := (rel_iff x sp).1 h
  obtain ⟨hfresh, he⟩ := await_abs x tag x' i ha
  exact ⟨hfresh, (rel_iff _ _).2 ⟨he.symm, distinct_await x tag x' i hd ha⟩⟩

end Mpt.C12
