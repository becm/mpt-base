/-
  C20 — Layout object properties round-trip and do not interfere; a copy owns its strings.  The Boolean check of the
  generated tables (`entryOk` … `tablesOk`), its evaluation, and the property theorems that rest on it.

  M = `Mpt.Layout` (MptModel/Impl/Layout.lean): interpreter of the tables that translate/layout_extract.py
  regenerates from mptplot/layout/*_property.c, layout.h, color_parse.c, lattr_set.c into
  MptModel/Generated/LayoutTables.lean on every run (`Gen.kinds`, `Gen.colors`).
  S = `Mpt.Record` (MptModel/Spec/Record.lean): a record of the listed properties; `Record.denote` says which
  values a text denotes for a property type.

  Theorems quantified over `Gen.kinds` use the Boolean table check `tablesOk`, which is DECIDED on the
  generated tables (`tables_ok`, by kernel evaluation): an edit of a table, of a setter chain or of a
  default that breaks one of the side conditions makes that proof — and every theorem that names `kinds` — fail.
  `tablesOk` includes `docOk`: the generated tables agree with the HAND-WRITTEN documentation `Record.docs` (which
  names set which listed property, with what kind of value).  Theorems that hold for any table (`prefix_match*`,
  `colour_roundtrip`, `frame`, `refuse_pure`, `reset_default`) do not depend on it.

  By name (5 kinds, 45 handlers, 10 handler shapes): `doc_linked`, `get_listed`, `get_alias`, `set_get_named`,
  `frame_named`, `reset_named`, `set_get_record` (whole record, M ⊑ S for non-blank text).  Per handler/row: `set_get_partial` (38 of the 45 handlers), `set_get_clip`,
  `set_get_point`, `set_get_intervals`, `set_get_coord`, `handlers_covered`, `one_property`, `null_resets`,
  `null_clears_log`; `clip_print_parse`.  Copy: `copy_owns`, `copy_self`.  Stated only:
  `set_get_statement` (the whole-record equation also for blank/NULL text, NULL source and the coordinate names; typed
  sources have no theorem).

  NOT in any theorem (S and M share the functions): what number a numeral text is (`convScalar`), what colour a colour
  text is (`colorParse`), what point a point text is (`fpointText`); `Record.denote` calls the model's converters, so
  "reads back the value the text denotes" means: the value the shared converter assigns.  `convScalar` is a hand model
  of its own of `_mpt_convert_[u]int`, `mpt_cfloat/cdouble` (Impl/Layout.lean, texts as byte lists); the conversion
  property C07 proves about another model of the same C functions (`Mpt.Conv`, Impl/Convert.lean) and no theorem relates
  the two: here only examples (`"0x1f"` is 31, ...) and the correspondence run show the conversions.
-/
import MptModel.Lemmas.Layout
import MptModel.Generated.LayoutTables

namespace Mpt.C20
open Mpt Mpt.Layout Mpt.Layout.Gen Mpt.Record


/-- rows of the getter table whose shown value depends on a member handler `a` may write -/
def affected (k : Kind) (a : Act) : List Nat :=
  (List.range k.gets.length).filter fun i => (k.reads i).any fun f => a.touched.contains f

/-- the handler stores one member and its row shows that member as it is -/
def isPlain (k : Kind) (a : Act) : Bool :=
  match a.plainField with
  | some f => (affected k a).all (k.plainRow · f)
  | none => false

def entryOk (k : Kind) (e : SetEntry) : Bool :=
  (affected k e.act).length == 1 &&          -- every handler belongs to exactly one listed property
  e.act.nullOK k &&                          -- its "no source" branch stores the documented default
  e.act.touched.all (· < k.fields.length)    -- it names members of the struct

/-- a text-alias table the getter PRINTS from must be the inverse of what the setter PARSES: entry `v` is the
    axis letters of mask `v` (`Record.clipText`, defined from the letters, not from the table), the parser's
    letter loop maps it back to `v`, and the clip handler's row shows its own member through that table -/
def clipOk (k : Kind) : Bool :=
  match k.clipAlias with
  | none => k.sets.all fun e => match e.act with | .clip _ => false | _ => true
  | some (_, names) =>
    names == (List.range 8).map clipText &&
    (List.range names.length).all (fun v => clipLetters (names.getD v []) 0 == v) &&
    k.sets.all fun e => match e.act with
      | .clip f => (affected k e.act).all (k.clipRow · f)
      | _ => true

/-- the handlers that are neither plain nor the clip handler belong to rows of the matching shape: a point
    handler to the row showing its two members, a coordinate handler (`conv 'f'` into a point member) to the
    point row that contains the member, the intervals handler to the row with the `log` alias of its flag -/
def restOk (k : Kind) (e : SetEntry) : Bool :=
  match e.act with
  | .fpoint f _ _ _ => (affected k e.act).all (k.pointRow · f)
  | .intervals f g bit _ => (affected k e.act).all (k.logRow · f g bit) && bit != 0
  | .conv ty f =>
    isPlain k e.act ||
      (ty == 'f' && (affected k e.act).all fun i =>
        match k.gets[i]? with
        | some r => (r.field == f || r.field + 1 == f) && k.pointRow i r.field && r.field + 1 < k.fields.length
        | none => false)
  | .clip _ => true
  | a => isPlain k a

/-- per handler `entryOk` and `restOk`, the clip table, and what the copy theorems need: the sibling copy asks for the kind's
    own type, guards against self-assignment, and `init` duplicates every string member -/
def baseOk (k : Kind) : Bool :=
  k.sets.all (entryOk k) && k.copyOwnType && k.selfGuard && k.strsDuplicated && clipOk k && k.sets.all (restOk k)

/-- one documented way to set a property (`Record.docs`, written by hand): the listed name is a row of the getter
    and reading by it finds that row; every documented name selects — in the generated setter chain — a handler
    that writes the members of THAT row and of no other, with the documented meaning of a value; reading by such
    a name finds the same row, the coordinate the handler writes, or is refused — never another property -/
def docPropOk (k : Kind) (p : DocProp) : Bool :=
  match k.gets.findIdx? (·.name == p.listed) with
  | none => false
  | some i =>
    k.lookup p.listed == .row i &&
    p.names.all fun n =>
      match findSet k.sets n with
      | none => false
      | some e =>
        affected k e.act == [i] && k.ptyOf e.act i == p.ty &&
        (match k.lookup n with
         | .row j => j == i
         | .single g => g.name == n && e.act.touched == [g.field] && g.ty != -2
         | .refused => true)

/-- the generated tables against the documentation: same abbreviation length, every documented property checks,
    every row of the getter and every name of the setter chain is documented, no two rows share a name -/
def docOk (k : Kind) : Bool :=
  match docOf k.name with
  | none => false
  | some d =>
    d.abbr == k.matchLen && d.props.all (docPropOk k) &&
    k.gets.all (fun g => d.props.any (·.listed == g.name)) &&
    k.sets.all (fun e => e.names.all fun n => d.props.any (·.names.contains n.1)) &&
    decide (k.gets.map (·.name)).Nodup

def lookupOk (k : Kind) : Bool :=
  (List.range k.gets.length).all fun i =>
    match k.gets[i]? with
    | some g => k.lookup g.name == .row i
    | none => false

def kindOk (k : Kind) : Bool := baseOk k && docOk k && lookupOk k

def tablesOk : Bool := kinds.all kindOk

theorem tables_ok : tablesOk = true := by decide +kernel

/-- the helper functions that are modelled by hand (`setPosition` of axis and line, `lattr_pset`) still have
    the source text the model was written from -/
theorem helpers_current : staleHelpers = [] := by decide

theorem kind_ok (k : Kind) (hk : k ∈ kinds) : kindOk k = true := by
  have := tables_ok
  unfold tablesOk at this
  exact List.all_eq_true.mp this k hk

theorem base_ok (k : Kind) (hk : k ∈ kinds) : baseOk k = true := by
  obtain ⟨hbase, _, _⟩ := and3 (kind_ok k hk)
  exact hbase

theorem entry_ok (k : Kind) (hk : k ∈ kinds) (e : SetEntry) (he : e ∈ k.sets) : entryOk k e = true := by
  exact List.all_eq_true.mp (baseParts (base_ok k hk)).entries e he

abbrev WF (k : Kind) (o : Obj) : Prop := o.vals.length = k.fields.length


/-- **matching on a fixed number of characters** (`mlen ≥ 0`; the getters pass the constants 3 and 2, NOT the length
    of the requested name — this is not "unique prefix" matching: `in` does not find `intervals`, `intxyz` does), as
    one equation for every name list: the first name that agrees with the requested name on `n` characters (case
    ignored; a shorter name must end there too) decides.  It is the answer unless a later name agrees as well and
    `n` does not exceed its length — then the request is ambiguous (BadType).  No such name: missing (BadValue).
    A closed form of the loop of property_match.c; what it means for the listed names is `get_listed`/`get_alias`. -/
theorem prefix_match (m : Str) (n : Nat) (names : List Str) :
    propertyMatch m (some n) names 0 =
      match names.findIdx? (fun c => eqNoCaseN m c n) with
      | none => .missing
      | some i =>
        if n ≤ (names.getD i []).length ∧ (names.drop (i + 1)).any (fun c => eqNoCaseN m c n) then .ambiguous
        else .found i := by
  have h := propertyMatch_eq m (some n) names 0
  simp only [ambiguous, Bool.and_eq_true, decide_eq_true_eq, Nat.zero_add] at h
  exact h

/-- **full matching** (`mlen < 0`): the first name equal up to case, never ambiguous -/
theorem full_match (m : Str) (names : List Str) :
    propertyMatch m none names 0 =
      match names.findIdx? (fun c => eqNoCase m c) with
      | none => .missing
      | some i => .found i := by
  have h := propertyMatch_eq m none names 0
  simp only [ambiguous, Bool.false_eq_true, if_false, Nat.zero_add] at h
  exact h

/-- a name that no table entry agrees with is refused -/
theorem prefix_match_missing (m : Str) (mlen : Option Nat) (names : List Str)
    (h : ∀ c ∈ names, (match mlen with | some n => eqNoCaseN m c n | none => eqNoCase m c) = false) :
    propertyMatch m mlen names 0 = .missing := by
  have : names.findIdx? (nameAgrees m mlen) = none :=
    List.findIdx?_eq_none_iff.mpr fun c hc => h c hc
  rw [propertyMatch_eq, this]

/-- a result is always an index whose name agrees with the request (exactness of `found`) -/
theorem prefix_match_sound (m : Str) (mlen : Option Nat) (names : List Str) (i : Nat)
    (h : propertyMatch m mlen names 0 = .found i) :
    ∃ c, names[i]? = some c ∧ (match mlen with | some n => eqNoCaseN m c n | none => eqNoCase m c) = true := by
  rw [propertyMatch_eq] at h
  cases hf : names.findIdx? (nameAgrees m mlen) with
  | none => rw [hf] at h; cases h
  | some j =>
    rw [hf] at h
    simp only [] at h
    split at h
    · cases h
    · obtain rfl : j = i := by simpa using h
      obtain ⟨c, hc, hp⟩ := getElem?_of_findIdx? hf
      -- the statement's own `match` on the mode
      exact ⟨c, hc, by cases mlen <;> exact hp⟩

/-- two table entries that agree with the request on `n` characters, the first of them at least `n` long:
    the request is ambiguous and refused -/
theorem prefix_match_ambiguous (m : Str) (n : Nat) (names : List Str) (i j : Nat) (ci cj : Str)
    (hi : names[i]? = some ci) (hj : names[j]? = some cj) (hij : i < j)
    (hfirst : ∀ l c, l < i → names[l]? = some c → eqNoCaseN m c n = false)
    (hmi : eqNoCaseN m ci n = true) (hmj : eqNoCaseN m cj n = true) (hlen : n ≤ ci.length) :
    propertyMatch m (some n) names 0 = .ambiguous := by
  rw [prefix_match]
  obtain ⟨hlt, hci⟩ := List.getElem?_eq_some_iff.mp hi
  have hf : names.findIdx? (fun c => eqNoCaseN m c n) = some i := by
    rw [List.findIdx?_eq_some_iff_getElem]
    refine ⟨hlt, by rw [hci]; exact hmi, ?_⟩
    intro l hl
    have := hfirst l names[l] hl (List.getElem?_eq_getElem (by omega))
    simp [this]
  rw [hf]
  simp only []
  have h1 : (names.getD i []).length = ci.length := by
    simp [List.getD_eq_getElem?_getD, hi]
  have h2 : (names.drop (i + 1)).any (fun c => eqNoCaseN m c n) = true := by
    rw [List.any_eq_true]
    refine ⟨cj, ?_, hmj⟩
    rw [List.mem_iff_getElem?]
    refine ⟨j - (i + 1), ?_⟩
    rw [List.getElem?_drop]
    have : i + 1 + (j - (i + 1)) = j := by omega
    rw [this]; exact hj
  rw [if_pos ⟨by rw [h1]; exact hlen, h2⟩]

-- the axis table (three characters are compared): `int` names `intervals` (row 5), the two-letter request `ti` names nothing
example : propertyMatch [105, 110, 116] axis.matchLen (axis.gets.map (·.name)) 0 = .found 5 := by decide
example : propertyMatch [116, 105] axis.matchLen (axis.gets.map (·.name)) 0 = .missing := by decide
-- an ambiguous request on a two-entry table
example : propertyMatch [97, 98] (some 2) [[97, 98, 99], [97, 98, 100]] 0 = .ambiguous := by decide


/-- **colour text round-trip**: the printed form of any colour (`#rrggbb`, `#rrggbbaa` when not opaque, as
    mpt++/color.cpp prints it) is accepted by `mpt_color_parse` and denotes the same colour, for every
    name table -/
theorem colour_roundtrip (tab : List NamedColor) (c : Color)
    (hr : c.r < 256) (hg : c.g < 256) (hb : c.b < 256) (ha : c.a < 256) :
    (colorParse tab (colorPrint c)).map (·.1) = some c := by
  rw [colorParse_print tab c hr hg hb ha]; rfl

example : colorPrint ⟨16, 32, 48, 64⟩ = [35, 49, 48, 50, 48, 51, 48, 52, 48] := by decide
example : colorParse colors [35, 49, 48, 50, 48, 51, 48, 52, 48] = some (⟨16, 32, 48, 64⟩, 9) := by decide


/-- **non-interference**: a set (any name, any source, accepted or not) leaves every listed property
    unchanged whose row does not read a member the selected handler may write.  With `one_property` below
    these are all rows but exactly one. -/
theorem frame (k : Kind) (tab : List NamedColor) (o : Obj) (name : Str) (src : Src) (tok : Nat) (i : Nat)
    (h : ∀ e, findSet k.sets name = some e → i ∉ affected k e.act) (hlt : i < k.gets.length) :
    k.getAt (k.setProp tab o name src tok).obj i = k.getAt o i := by
  cases he : findSet k.sets name with
  | none => rw [Kind.setProp_none he]
  | some e =>
    rw [Kind.setProp_some he]
    refine Act.run_getAt k tab e.act o src tok i fun f hf ht => h e he ?_
    -- `i` reads the member `f`, which the handler may write: it is one of the affected rows
    unfold affected
    simp only [List.mem_filter, List.mem_range, List.any_eq_true, List.contains_iff_mem]
    exact ⟨hlt, f, hf, ht⟩

/-- in the generated tables every handler of every setter chain affects exactly one listed property -/
theorem one_property (k : Kind) (hk : k ∈ kinds) (e : SetEntry) (he : e ∈ k.sets) :
    ∃ c, affected k e.act = [c] := by
  obtain ⟨h1, _⟩ := and3 (entry_ok k hk e he)
  rw [beq_iff_eq] at h1
  match hl : affected k e.act, h1 with
  | [c], _ => exact ⟨c, rfl⟩

-- setting the axis title: row 0 is affected, the other nine rows are not
example : affected axis (.string 0) = [0] := by decide
example : (axis.setProp colors axis.defaults [116, 105, 116, 108, 101] (.text (some [97])) 1).ret = .ok 0 ∧
    axis.dump (axis.setProp colors axis.defaults [116, 105, 116, 108, 101] (.text (some [97])) 1).obj
      = (axis.dump axis.defaults).set 0 ([116, 105, 116, 108, 101], .str (some [97])) := by decide


/-- **refusal leaves the object unchanged**: whenever a setter does not return success (unknown name,
    conversion error, range error) the object is exactly what it was -/
theorem refuse_pure (k : Kind) (tab : List NamedColor) (o : Obj) (name : Str) (src : Src) (tok : Nat)
    (h : (k.setProp tab o name src tok).ret.isOk = false) : (k.setProp tab o name src tok).obj = o := by
  cases he : findSet k.sets name with
  | none => rw [Kind.setProp_none he]
  | some e =>
    rw [Kind.setProp_some he] at h ⊢
    exact Act.run_refuse_pure k tab e.act o src tok h

example : (line.setProp colors line.defaults [119, 105, 100, 116, 104] (.text (some [49, 49])) 1).ret = .err .BadValue := by
  decide


/-- **reset of the whole object** (`set "" NULL`) gives the `def_<kind>` values.  True by the definition of
    `Kind.reset` (the model of that branch IS the assignment of the defaults); see `reset_named` for what ties it to
    the code.  The "documented default" is the `def_<kind>` initialiser. -/
theorem reset_default (k : Kind) (o : Obj) : k.dump (k.reset o) = k.dump k.defaults := rfl

/-- **reset of one property** (`set name NULL`), for every kind and handler of the generated tables: success,
    and every member of the property holds its `def_<kind>` value (the flags byte of axis `intervals` has its
    `log` bit cleared instead) -/
theorem null_resets (k : Kind) (hk : k ∈ kinds) (e : SetEntry) (he : e ∈ k.sets) (tab : List NamedColor)
    (o : Obj) (hw : WF k o) (tok : Nat) :
    (e.act.run k tab o .null tok).ret = .ok 0 ∧
    ∀ f ∈ e.act.resetFields, (e.act.run k tab o .null tok).obj.get f = k.dflt f := by
  obtain ⟨_, hnull, hlt⟩ := Act.entry_parts (entry_ok k hk e he) o hw
  exact Act.null_resets k tab e.act hnull o tok hlt

/-- the `log` alias of axis `intervals` is gone after the reset -/
theorem null_clears_log (tab : List NamedColor) (o : Obj) (tok : Nat) (hw : WF axis o) :
    ∀ f g bit cn, Act.intervals f g bit cn ∈ axis.sets.map (·.act) →
      hasBit ((Act.run axis tab (.intervals f g bit cn) o .null tok).obj.get g).toInt bit = false := by
  intro f g bit cn hmem
  -- `axis.sets` holds exactly one `intervals` handler: membership gives its member indices and its flag
  have hm : f = 5 ∧ g = 7 ∧ bit = 32 := by
    revert hmem; simp only [axis]; simp; intro a b c _; exact ⟨a, b, c⟩
  obtain ⟨rfl, rfl, rfl⟩ := hm
  unfold Act.run
  simp only []
  rw [Obj.get_put _ _ _ (by rw [Obj.put_length, hw]; decide)]
  exact hasBit_clearBit _ _ (by decide)

example : world.dump (world.setProp colors (world.setProp colors world.defaults [99, 111, 108, 111, 114] (.text (some [114, 101, 100])) 1).obj
    [99, 111, 108, 111, 114] .null 2).obj = world.dump world.defaults := by decide


/-- **set then get** for the handlers that store one member shown as it is (numbers, characters, strings,
    colours, line attributes, axis and line positions; those with `isPlain`, 38 of the 45 handlers of the generated
    tables — per kind axis, line, text, graph, world: 9 of 10, 9 of 9, 6 of 9, 7 of 10, 7 of 7): when the setter accepts the
    text `v`, the listed property of that handler reads back as a value that `v` DENOTES for the property's
    type (`Record.denote`: the number of a numeral prefix after blanks, the first visible character, the
    string itself with "" = NULL, the colour of a colour text, a count within the attribute's limits) — or
    `v` is blank and the property shows the handler's "no value" result (`Act.blankVal`: the default, for a
    colour the unchanged value).  Canonicalisation: what is read back is the denoted value, not the text.  (The current
    value given to `denote`, here and in the three theorems below, matters for the coordinates of a point only:
    `denote_old`.) -/
theorem set_get_partial (k : Kind) (hk : k ∈ kinds) (e : SetEntry) (he : e ∈ k.sets) (hp : isPlain k e.act = true)
    (tab : List NamedColor) (o : Obj) (hw : WF k o) (v : Str) (tok : Nat)
    (hok : (e.act.run k tab o (.text (some v)) tok).ret.isOk = true) :
    ∃ row g f, affected k e.act = [row] ∧ k.gets[row]? = some g ∧ e.act.plainField = some f ∧
      ((∃ x, x ∈ denote tab e.act.pty (o.get f) v ∧
          k.getAt (e.act.run k tab o (.text (some v)) tok).obj row = some (g.name, x)) ∨
       (blank (some v) = true ∧
          k.getAt (e.act.run k tab o (.text (some v)) tok).obj row = some (g.name, e.act.blankVal k o))) := by
  obtain ⟨row, hrow⟩ := one_property k hk e he
  obtain ⟨f, hpf, hpr⟩ := Act.plain_parts hrow hp
  obtain ⟨g, hg, hget⟩ := Kind.getAt_plain k (e.act.run k tab o (.text (some v)) tok).obj row f hpr
  obtain ⟨_, _, hlt⟩ := Act.entry_parts (entry_ok k hk e he) o hw
  have hf : f < o.vals.length := hlt f (Act.plainField_touched hpf)
  refine ⟨row, g, f, hrow, hg, hpf, ?_⟩
  rw [hget]
  rcases Act.set_get k tab e.act f hpf o v tok hf hok with ⟨x, hx, hgx⟩ | ⟨hb, hgx⟩
  · left; exact ⟨x, hx, by rw [hgx]⟩
  · right; exact ⟨hb, by rw [hgx]⟩

-- "0x1f" for the subtick count of an axis reads back as the number 31
example : (axis.setProp colors axis.defaults [115, 117, 98] (.text (some [48, 120, 49, 102])) 1).ret = .ok 0 ∧
    axis.getProp (axis.setProp colors axis.defaults [115, 117, 98] (.text (some [48, 120, 49, 102])) 1).obj [115, 117, 98]
      = some ([115, 117, 98, 116, 105, 99, 107], .int 31) := by decide

/-- **print and parse of the clip text are inverse** on the generated table: for every kind with a text-alias
    table and every mask `v` the table covers, the printed text is the axis letters of `v` and the setter's
    letter loop reads it back as `v` -/
theorem clip_print_parse (k : Kind) (hk : k ∈ kinds) (nm : Str) (names : List Str)
    (hc : k.clipAlias = some (nm, names)) (v : Nat) (hv : v < names.length) :
    names.getD v [] = clipText v ∧ clipLetters (names.getD v []) 0 = v ∧ clipMask (clipText v) = v := by
  have hco := (baseParts (base_ok k hk)).clip
  unfold clipOk at hco
  simp only [hc, Bool.and_eq_true, beq_iff_eq, List.all_eq_true, List.mem_range] at hco
  obtain ⟨⟨hn, hp⟩, _⟩ := hco
  have hl : names.length = 8 := by rw [hn]; simp
  have h1 : names.getD v [] = clipText v := by
    rw [hn]; rw [hl] at hv
    simp [List.getD_eq_getElem?_getD, hv]
  have h2 := hp v hv
  refine ⟨h1, h2, ?_⟩
  rw [← clipLetters_eq, ← h1]; exact h2

/-- **set then get, graph clip**: when the setter accepts the text `v`, the `clip` row reads back as the value
    `v` denotes in S — for a numeral its number, otherwise the set of axis letters it names — SHOWN as axis
    letters (`Record.clipText`, from the letters themselves) whenever the mask holds axes only; or `v` is
    blank and the default is stored.  This is the theorem a permuted print table breaks. -/
theorem set_get_clip (k : Kind) (hk : k ∈ kinds) (e : SetEntry) (he : e ∈ k.sets) (f : Nat) (ha : e.act = .clip f)
    (tab : List NamedColor) (o : Obj) (hw : WF k o) (v : Str) (tok : Nat)
    (hok : (e.act.run k tab o (.text (some v)) tok).ret.isOk = true) :
    ∃ row g, affected k e.act = [row] ∧ k.gets[row]? = some g ∧
      ((∃ x, x ∈ denote tab .clipAxes (o.get f) v ∧
          k.getAt (e.act.run k tab o (.text (some v)) tok).obj row = some (g.name, x)) ∨
       (blank (some v) = true ∧ (e.act.run k tab o (.text (some v)) tok).obj.get f = k.dflt f)) := by
  obtain ⟨row, hrow⟩ := one_property k hk e he
  have hco := (baseParts (base_ok k hk)).clip
  obtain ⟨_, _, hlt⟩ := Act.entry_parts (entry_ok k hk e he) o hw
  have hf : f < o.vals.length := hlt f (by rw [ha]; simp [Act.touched])
  have hcr : k.clipRow row f = true := by
    unfold clipOk at hco
    cases hc : k.clipAlias with
    | none =>
      simp only [hc, List.all_eq_true] at hco
      have := hco e he; rw [ha] at this; cases this
    | some t =>
      obtain ⟨nm, names⟩ := t
      simp only [hc, Bool.and_eq_true, List.all_eq_true] at hco
      have := hco.2 e he
      rw [ha] at this
      simp only [List.all_eq_true] at this
      rw [← ha] at this
      exact this row (by rw [hrow]; simp)
  rw [ha] at hok ⊢
  rcases Act.set_get_clip k tab f o v tok hf hok with ⟨n, hx, hg⟩ | ⟨hb, hg⟩
  · obtain ⟨g, hgr, hget⟩ := Kind.getAt_clip k _ row f n hcr hg
    rw [ha] at hrow
    exact ⟨row, g, hrow, hgr, Or.inl ⟨showClip n, hx, hget⟩⟩
  · cases hgr : k.gets[row]? with
    | none => unfold Kind.clipRow at hcr; simp [hgr] at hcr
    | some g => rw [ha] at hrow; exact ⟨row, g, hrow, hgr, Or.inr ⟨hb, hg⟩⟩

-- "zx" for the graph clip reads back as the letters "xz", the number 6 as "yz"
example : graph.getProp (graph.setProp colors graph.defaults [99, 108, 105, 112] (.text (some [122, 120])) 1).obj [99, 108, 105, 112]
      = some ([99, 108, 105, 112], .str (some [120, 122])) ∧
    graph.getProp (graph.setProp colors graph.defaults [99, 108, 105, 112] (.text (some [54])) 1).obj [99, 108, 105, 112]
      = some ([99, 108, 105, 112], .str (some [121, 122])) := by decide

theorem rest_ok (k : Kind) (hk : k ∈ kinds) (e : SetEntry) (he : e ∈ k.sets) : restOk k e = true := by
  exact List.all_eq_true.mp (baseParts (base_ok k hk)).rest e he

/-- **set then get, point properties** (text/graph `pos`, graph `scale`): an accepted text reads back as the point
    it denotes (one number: both coordinates; two numbers; both inside the property's limits); a blank text
    restores the default point -/
theorem set_get_point (k : Kind) (hk : k ∈ kinds) (e : SetEntry) (he : e ∈ k.sets) (f : Nat) (lo hi : Fl) (rl : Bool)
    (ha : e.act = .fpoint f lo hi rl) (tab : List NamedColor) (o : Obj) (hw : WF k o) (v : Str) (tok : Nat)
    (hok : (e.act.run k tab o (.text (some v)) tok).ret.isOk = true) :
    ∃ row g, affected k e.act = [row] ∧ k.gets[row]? = some g ∧
      ((∃ x, x ∈ denote tab (.point lo hi) (o.get f) v ∧
          k.getAt (e.act.run k tab o (.text (some v)) tok).obj row = some (g.name, x)) ∨
       (blank (some v) = true ∧
          k.getAt (e.act.run k tab o (.text (some v)) tok).obj row = some (g.name, .pt (k.dflt f).toFl (k.dflt (f + 1)).toFl))) := by
  obtain ⟨row, hrow⟩ := one_property k hk e he
  have hr := rest_ok k hk e he
  obtain ⟨_, _, hlt⟩ := Act.entry_parts (entry_ok k hk e he) o hw
  have hf : f + 1 < o.vals.length := hlt _ (by rw [ha]; simp [Act.touched])
  unfold restOk at hr
  rw [ha] at hr hok hrow ⊢
  simp only [hrow, List.all_cons, List.all_nil, Bool.and_true] at hr
  obtain ⟨g, hg, hget⟩ := Kind.getAt_point k ((Act.fpoint f lo hi rl).run k tab o (.text (some v)) tok).obj row f hr
  refine ⟨row, g, hrow, hg, ?_⟩
  rw [hget]
  rcases Act.set_get_point k tab f lo hi rl o v tok hf hok with ⟨x, y, hx, h1, h2⟩ | ⟨hb, h1, h2⟩
  · exact Or.inl ⟨.pt x y, hx, by rw [h1, h2]; rfl⟩
  · exact Or.inr ⟨hb, by rw [h1, h2]⟩

/-- **set then get, axis intervals**: an accepted text reads back as the count it denotes or, for the keyword, as
    `log`; a blank text restores the default count (log mode off) -/
theorem set_get_intervals (k : Kind) (hk : k ∈ kinds) (e : SetEntry) (he : e ∈ k.sets) (f g bit : Nat) (cn : Bool)
    (ha : e.act = .intervals f g bit cn) (tab : List NamedColor) (o : Obj) (hw : WF k o) (v : Str) (tok : Nat)
    (hok : (e.act.run k tab o (.text (some v)) tok).ret.isOk = true) :
    ∃ row r, affected k e.act = [row] ∧ k.gets[row]? = some r ∧
      ((∃ x, x ∈ denote tab .countOrLog (o.get f) v ∧
          k.getAt (e.act.run k tab o (.text (some v)) tok).obj row = some (r.name, x)) ∨
       (blank (some v) = true ∧ k.getAt (e.act.run k tab o (.text (some v)) tok).obj row = some (r.name, k.dflt f))) := by
  obtain ⟨row, hrow⟩ := one_property k hk e he
  have hr := rest_ok k hk e he
  obtain ⟨_, hn, hlt⟩ := Act.entry_parts (entry_ok k hk e he) o hw
  rw [ha] at hn hlt
  simp only [Act.nullOK, Bool.and_eq_true, beq_iff_eq, bne_iff_ne, ne_eq] at hn
  obtain ⟨⟨hcl, hfg⟩, hcn⟩ := hn
  subst hcn
  have hf : f < o.vals.length := hlt f (by simp [Act.touched])
  have hg : g < o.vals.length := hlt g (by simp [Act.touched])
  unfold restOk at hr
  rw [ha] at hr hok hrow ⊢
  simp only [hrow, List.all_cons, List.all_nil, Bool.and_true, Bool.and_eq_true, bne_iff_ne, ne_eq] at hr
  obtain ⟨r, hgr, hget⟩ := Kind.getAt_log k ((Act.intervals f g bit true).run k tab o (.text (some v)) tok).obj row f g bit hr.1
  refine ⟨row, r, hrow, hgr, ?_⟩
  rw [hget]
  rcases Act.set_get_intervals k tab f g bit o v tok hf hg hfg hr.2 (Nat.and_self bit) hcl hok with hx | ⟨hb, hd⟩
  · exact Or.inl ⟨_, hx, rfl⟩
  · exact Or.inr ⟨hb, by rw [hd]⟩

/-- **set then get, one coordinate of a point** (text `x`, `y`): an accepted text puts the number it denotes into
    that coordinate of the point property and keeps the other one; a blank text restores that coordinate's default -/
theorem set_get_coord (k : Kind) (hk : k ∈ kinds) (e : SetEntry) (he : e ∈ k.sets) (f : Nat)
    (ha : e.act = .conv 'f' f) (hnp : isPlain k e.act = false)
    (tab : List NamedColor) (o : Obj) (hw : WF k o) (v : Str) (tok : Nat)
    (hok : (e.act.run k tab o (.text (some v)) tok).ret.isOk = true) :
    ∃ row r, affected k e.act = [row] ∧ k.gets[row]? = some r ∧ (r.field = f ∨ r.field + 1 = f) ∧
      ∃ px py, k.getAt (e.act.run k tab o (.text (some v)) tok).obj row = some (r.name, .pt px py) ∧
        ((∃ x u, convScalar 'f' (skipSpaces v) = .val (.flt x) u ∧
            (r.field = f → px = x ∧ py = (o.get (r.field + 1)).toFl) ∧
            (r.field + 1 = f → py = x ∧ px = (o.get r.field).toFl)) ∨
         blank (some v) = true) := by
  obtain ⟨row, hrow⟩ := one_property k hk e he
  have hr := rest_ok k hk e he
  obtain ⟨_, _, hlt⟩ := Act.entry_parts (entry_ok k hk e he) o hw
  have hf : f < o.vals.length := hlt f (by rw [ha]; simp [Act.touched])
  unfold restOk at hr
  rw [ha] at hr hnp hok hrow ⊢
  obtain ⟨r, hgr, hfld, hpr⟩ := Act.coord_parts hrow hnp hr
  obtain ⟨g', hg', hget⟩ := Kind.getAt_point k ((Act.conv 'f' f).run k tab o (.text (some v)) tok).obj row r.field hpr
  rw [hgr] at hg'
  cases hg'
  refine ⟨row, r, hrow, hgr, hfld, _, _, hget, ?_⟩
  rcases Act.set_get_coord k tab f o v tok hf hok with ⟨x, u, hs, hx⟩ | ⟨hb, _⟩
  · left
    refine ⟨x, u, hs, ?_, ?_⟩
    · intro e1
      subst e1
      refine ⟨by rw [hx]; rfl, ?_⟩
      exact congrArg Val.toFl (Obj.get_congr _ _ _
        (Act.run_untouched k tab (.conv 'f' r.field) o _ tok (r.field + 1) (by simp [Act.touched])))
    · intro e1
      refine ⟨by rw [e1, hx]; rfl, ?_⟩
      exact congrArg Val.toFl (Obj.get_congr _ _ _
        (Act.run_untouched k tab (.conv 'f' f) o _ tok r.field (by simp only [Act.touched, List.mem_singleton]; omega)))
  · exact Or.inr hb

/-- **coverage**: every handler of every setter chain of the generated tables falls under one of the set-then-get
    theorems: `set_get_partial` (plain), `set_get_clip`, `set_get_point`, `set_get_intervals`, `set_get_coord` -/
theorem handlers_covered (k : Kind) (hk : k ∈ kinds) (e : SetEntry) (he : e ∈ k.sets) :
    isPlain k e.act = true ∨ (∃ f, e.act = .clip f) ∨ (∃ f lo hi rl, e.act = .fpoint f lo hi rl) ∨
    (∃ f g bit cn, e.act = .intervals f g bit cn) ∨ (∃ f, e.act = .conv 'f' f) := by
  have hr := rest_ok k hk e he
  unfold restOk at hr
  cases ha : e.act with
  | conv ty f =>
    rw [ha] at hr
    simp only [Bool.or_eq_true, Bool.and_eq_true, beq_iff_eq] at hr
    rcases hr with h | ⟨h, _⟩
    · exact Or.inl h
    · exact Or.inr (Or.inr (Or.inr (Or.inr ⟨f, by rw [h]⟩)))
  | clip f => exact Or.inr (Or.inl ⟨f, rfl⟩)
  | fpoint f lo hi rl => exact Or.inr (Or.inr (Or.inl ⟨f, lo, hi, rl, rfl⟩))
  | intervals f g bit cn => exact Or.inr (Or.inr (Or.inr (Or.inl ⟨f, g, bit, cn, rfl⟩)))
  | _ => rw [ha] at hr; exact Or.inl hr   -- for every other shape `restOk` is `isPlain`


theorem doc_ok (k : Kind) (hk : k ∈ kinds) : docOk k = true := by
  obtain ⟨_, hdoc, _⟩ := and3 (kind_ok k hk)
  exact hdoc

/-- **a documented name selects the handler of its own property**: for every kind of the generated tables, every
    documented property `p` (`Record.docs`) and every name `n` documented for setting it, `p.listed` is row `i` of
    the getter, reading by `p.listed` finds row `i`, and `n` selects in the setter chain a handler that writes
    members of row `i` only, whose value type is the documented one.  Tables in which `begin` and `end` (handlers or
    rows) are exchanged fail this check. -/
theorem doc_linked (k : Kind) (hk : k ∈ kinds) (d : DocKind) (hd : docOf k.name = some d)
    (p : DocProp) (hp : p ∈ d.props) (n : Str) (hn : n ∈ p.names) :
    ∃ i g e, k.gets[i]? = some g ∧ g.name = p.listed ∧ k.lookup p.listed = .row i ∧
      findSet k.sets n = some e ∧ e ∈ k.sets ∧ affected k e.act = [i] ∧ k.ptyOf e.act i = p.ty := by
  have h := doc_ok k hk
  unfold docOk at h
  rw [hd] at h
  obtain ⟨_, hprops, _, _, _⟩ := and5 h
  obtain ⟨i, g, e, hg, hgn, hl, hfs, he, hcheck⟩ := docProp_parts k p _ (List.all_eq_true.mp hprops p hp) n hn
  obtain ⟨haff, hty, hlook⟩ := and3 hcheck
  exact ⟨i, g, e, hg, hgn, hl, hfs, he, by simpa using haff, by simpa using hty⟩

-- each of the ten documented axis properties passes `docPropOk`
example : (docOf "axis").map (fun d => d.props.map (docPropOk axis)) = some (List.replicate 10 true) := by
  -- part of what `tables_ok` evaluated: the documentation of the axis is the first entry of `docs`, with ten properties
  have h := doc_ok axis (List.mem_cons_self ..)
  unfold docOk at h
  have hd : docOf axis.name = some docs[0] := rfl
  rw [hd] at h
  obtain ⟨_, hprops, _, _, _⟩ := and5 h
  refine (congrArg (Option.map _) hd).trans (congrArg some (List.eq_replicate_iff.mpr ⟨rfl, fun b hb => ?_⟩))
  obtain ⟨p, hp, rfl⟩ := List.mem_map.mp hb
  exact List.all_eq_true.mp hprops p hp

/-- **reading by a listed name finds its own row** (`mpt_<kind>_get` with the name of row `i`, through
    `mpt_property_match` with the getter's length or the single-character table) -/
theorem get_listed (k : Kind) (hk : k ∈ kinds) (i : Nat) (g : GetEntry) (hg : k.gets[i]? = some g) (o : Obj) :
    k.getProp o g.name = k.getAt o i := by
  obtain ⟨_, _, hl⟩ := and3 (kind_ok k hk)
  unfold lookupOk at hl
  rw [List.all_eq_true] at hl
  have hlt : i < k.gets.length := (List.getElem?_eq_some_iff.mp hg).1
  have := hl i (List.mem_range.mpr hlt)
  rw [hg] at this
  exact Kind.getProp_row k o g.name i (by simpa using this)

/-- **reading by a name the setter takes** gives the value of that name's own property, the coordinate it writes
    (single-character table), or is refused — never the value of another property -/
theorem get_alias (k : Kind) (hk : k ∈ kinds) (d : DocKind) (hd : docOf k.name = some d)
    (p : DocProp) (hp : p ∈ d.props) (n : Str) (hn : n ∈ p.names) (o : Obj) :
    k.getProp o n = none ∨ k.getProp o n = k.getProp o p.listed ∨
    ∃ (g : GetEntry) (e : SetEntry), findSet k.sets n = some e ∧ e.act.touched = [g.field] ∧ k.getProp o n = some (n, o.get g.field) := by
  have h := doc_ok k hk
  unfold docOk at h
  rw [hd] at h
  obtain ⟨_, hprops, _, _, _⟩ := and5 h
  obtain ⟨i, g, e, hg, hgn, hl, hfs, he, hcheck⟩ := docProp_parts k p _ (List.all_eq_true.mp hprops p hp) n hn
  obtain ⟨haff, hty, hlook⟩ := and3 hcheck
  unfold Kind.getProp
  cases hlk : k.lookup n with
  | refused => left; rfl
  | row j =>
    rw [hlk] at hlook
    simp only [beq_iff_eq] at hlook
    right; left
    rw [hl, hlook]
  | single g' =>
    rw [hlk] at hlook
    simp only [Bool.and_eq_true, beq_iff_eq, bne_iff_ne, ne_eq] at hlook
    right; right
    refine ⟨g', e, hfs, hlook.1.2, ?_⟩
    simp only [Kind.readEntry, hlook.2, ↓reduceIte, hlook.1.1]

/-- **set then get BY NAME** — the central clause with the identity of the property in it: for every kind, every
    documented property `p` and every name `n` documented for setting it (aliases included), when
    `mpt_<kind>_set(o, n, text v)` accepts, reading `p.listed` back gives a value that `v` denotes for the DOCUMENTED
    type of `p` (for a coordinate name: the point with that coordinate replaced) — or `v` is blank.
    Name, row and type come from the hand-written documentation; the generated tables enter through `tables_ok`. -/
theorem set_get_named (k : Kind) (hk : k ∈ kinds) (d : DocKind) (hd : docOf k.name = some d)
    (p : DocProp) (hp : p ∈ d.props) (n : Str) (hn : n ∈ p.names)
    (tab : List NamedColor) (o : Obj) (hw : WF k o) (v : Str) (tok : Nat)
    (hok : (k.setProp tab o n (.text (some v)) tok).ret.isOk = true) :
    ∃ old x, k.getProp o p.listed = some (p.listed, old) ∧
      k.getProp (k.setProp tab o n (.text (some v)) tok).obj p.listed = some (p.listed, x) ∧
      (x ∈ denote tab p.ty old v ∨ blank (some v) = true) := by
  obtain ⟨i, g, e, hg, hgn, hl, hfs, he, haff, hty⟩ := doc_linked k hk d hd p hp n hn
  rw [Kind.setProp_some hfs] at hok ⊢
  rw [Kind.getProp_row k _ _ i hl, Kind.getProp_row k _ _ i hl, ← hgn, ← hty]
  obtain ⟨old, hold⟩ := Kind.getAt_name k o i g hg
  -- a per-handler result speaks of the handler's own row: that is row `i` with entry `g`; for a type whose meaning
  -- does not depend on the old value this is the claim
  have finish : ∀ (T : PTy) (f row : Nat) (g2 : GetEntry), k.ptyOf e.act i = T → T ≠ .pointX → T ≠ .pointY →
      affected k e.act = [row] → k.gets[row]? = some g2 →
      ((∃ x, x ∈ denote tab T (o.get f) v ∧
          k.getAt (e.act.run k tab o (.text (some v)) tok).obj row = some (g2.name, x)) ∨ blank (some v) = true) →
      ∃ old x, k.getAt o i = some (g.name, old) ∧
        k.getAt (e.act.run k tab o (.text (some v)) tok).obj i = some (g.name, x) ∧
        (x ∈ denote tab (k.ptyOf e.act i) old v ∨ blank (some v) = true) := by
    intro T f row g2 hpt hx hy hrow hg2 hres
    obtain rfl : i = row := by simpa [haff] using hrow
    obtain rfl : g = g2 := Option.some.inj (hg.symm.trans hg2)
    rcases hres with ⟨x, hx', hgx⟩ | hb
    · exact ⟨old, x, hold, hgx, Or.inl (by rw [hpt, denote_old tab T old (o.get f) v hx hy]; exact hx')⟩
    · obtain ⟨x, hx'⟩ := Kind.getAt_name k (e.act.run k tab o (.text (some v)) tok).obj i g hg
      exact ⟨old, x, hold, hx', Or.inr hb⟩
  cases hpl : isPlain k e.act with
  | true =>
    -- one member shown as it is
    obtain ⟨row, g2, f, hrow, hg2, hpf, hres⟩ := set_get_partial k hk e he hpl tab o hw v tok hok
    obtain ⟨f', hpf', hpr⟩ := Act.plain_parts haff hpl
    obtain rfl : f = f' := Option.some.inj (hpf.symm.trans hpf')
    exact finish _ f row g2 (Kind.ptyOf_plain k e.act i f g hg hpr) e.act.pty_ne_coord.1 e.act.pty_ne_coord.2
      hrow hg2 (hres.imp id And.left)
  | false =>
    rcases handlers_covered k hk e he with hp' | ⟨f, ha⟩ | ⟨f, lo, hi, rl, ha⟩ | ⟨f, g', bit, cn, ha⟩ | ⟨f, ha⟩
    · rw [hpl] at hp'; cases hp'
    · obtain ⟨row, g2, hrow, hg2, hres⟩ := set_get_clip k hk e he f ha tab o hw v tok hok
      exact finish .clipAxes f row g2 (by rw [ha]; rfl) nofun nofun hrow hg2 (hres.imp id And.left)
    · obtain ⟨row, g2, hrow, hg2, hres⟩ := set_get_point k hk e he f lo hi rl ha tab o hw v tok hok
      exact finish (.point lo hi) f row g2 (by rw [ha]; rfl) nofun nofun hrow hg2 (hres.imp id And.left)
    · obtain ⟨row, g2, hrow, hg2, hres⟩ := set_get_intervals k hk e he f g' bit cn ha tab o hw v tok hok
      exact finish .countOrLog f row g2 (by rw [ha]; rfl) nofun nofun hrow hg2 (hres.imp id And.left)
    · -- one coordinate of a point
      obtain ⟨row, r, hrow, hr, hfld, px, py, hget, hres⟩ := set_get_coord k hk e he f ha hpl tab o hw v tok hok
      obtain rfl : i = row := by simpa [haff] using hrow
      obtain rfl : g = r := Option.some.inj (hg.symm.trans hr)
      -- the row is a point row
      have hro := rest_ok k hk e he
      unfold restOk at hro
      have haff' := haff
      rw [ha] at hro hpl haff'
      obtain ⟨r, hr', _, hprow⟩ := Act.coord_parts haff' hpl hro
      obtain rfl : g = r := Option.some.inj (hg.symm.trans hr')
      obtain ⟨g3, hg3, hgo⟩ := Kind.getAt_point k o i g.field hprow
      rw [hg] at hg3
      cases hg3
      have hty2 : g.ty = -2 := (Kind.pointRow_entry k i g.field g hg hprow).2
      refine ⟨_, _, hgo, hget, ?_⟩
      rcases hres with ⟨x, u, hs, h1, h2⟩ | hb
      · left
        rw [ha]
        unfold Kind.ptyOf
        simp only [hg, hty2, ↓reduceIte]
        rcases hfld with hf1 | hf2
        · obtain ⟨e1, e2⟩ := h1 hf1
          simp only [hf1, ↓reduceIte, denote, hs, List.mem_singleton, e1, e2]
        · obtain ⟨e1, e2⟩ := h2 hf2
          have hne : ¬ f = g.field := by omega
          simp only [hne, ↓reduceIte, denote, hs, List.mem_singleton, e1, e2]
      · exact Or.inr hb

-- hypotheses are satisfiable: `titlepos` is documented for `tpos`; setting "t" through it reads back through `tpos`
-- and through `titlepos` itself, and the title keeps its value
example : (axis.setProp colors axis.defaults (str "titlepos") (.text (some (str "t"))) 1).ret = .ok 0 ∧
    axis.getProp (axis.setProp colors axis.defaults (str "titlepos") (.text (some (str "t"))) 1).obj (str "tpos")
      = some (str "tpos", .chr 116) ∧
    axis.getProp (axis.setProp colors axis.defaults (str "titlepos") (.text (some (str "t"))) 1).obj (str "titlepos")
      = some (str "tpos", .chr 116) ∧
    axis.getProp (axis.setProp colors axis.defaults (str "titlepos") (.text (some (str "t"))) 1).obj (str "title")
      = some (str "title", .str none) := by decide +kernel

/-- the axis tables with the handlers of `begin` and `end` exchanged -/
def axisSwapSet : Kind :=
  { axis with sets := (axis.sets.set 1 ⟨[(str "begin", true)], .conv 'd' 2⟩).set 2 ⟨[(str "end", true)], .conv 'd' 1⟩ }
/-- the axis tables with the getter rows of `begin` and `end` exchanged -/
def axisSwapGet : Kind :=
  { axis with gets := (axis.gets.set 1 ⟨str "begin", 100, 2⟩).set 2 ⟨str "end", 100, 1⟩ }

-- both pass every per-handler condition and are rejected by the comparison with the documentation
example : baseOk axisSwapSet = true ∧ docOk axisSwapSet = false := by decide +kernel
example : baseOk axisSwapGet = true ∧ docOk axisSwapGet = false := by decide +kernel

/-- **no other property changes, by name**: setting through a documented name leaves every other row of the getter
    as it was (any source, accepted or not) -/
theorem frame_named (k : Kind) (hk : k ∈ kinds) (d : DocKind) (hd : docOf k.name = some d)
    (p : DocProp) (hp : p ∈ d.props) (n : Str) (hn : n ∈ p.names)
    (tab : List NamedColor) (o : Obj) (src : Src) (tok : Nat) (j : Nat) (g : GetEntry)
    (hg : k.gets[j]? = some g) (hne : g.name ≠ p.listed) :
    k.getProp (k.setProp tab o n src tok).obj g.name = k.getProp o g.name := by
  obtain ⟨i, gi, e, hgi, hgn, _, hfs, _, haff, _⟩ := doc_linked k hk d hd p hp n hn
  rw [get_listed k hk j g hg, get_listed k hk j g hg]
  have hlt : j < k.gets.length := (List.getElem?_eq_some_iff.mp hg).1
  apply frame k tab o n src tok j _ hlt
  intro e' he'
  rw [hfs] at he'
  cases he'
  rw [haff]
  simp only [List.mem_singleton]
  intro hji
  subst hji
  rw [hg] at hgi
  cases hgi
  exact hne hgn

/-- **reset by name**: after `set "" NULL` every listed name reads the value of the `def_<kind>` initialiser.
    (`Kind.reset` IS the assignment of the defaults: that `mpt_<kind>_set(o, "", 0)` does `fini` + `*o = def_<kind>`
    rests on the translator's template for that branch and on the correspondence run, not on this theorem.) -/
theorem reset_named (k : Kind) (hk : k ∈ kinds) (i : Nat) (g : GetEntry) (hg : k.gets[i]? = some g) (o : Obj) :
    k.getProp (k.reset o) g.name = k.getAt k.defaults i := by
  rw [get_listed k hk i g hg]; rfl

theorem names_nodup (k : Kind) (hk : k ∈ kinds) : (k.gets.map (·.name)).Nodup := by
  have h := doc_ok k hk
  unfold docOk at h
  cases hd : docOf k.name with
  | none => rw [hd] at h; cases h
  | some d =>
    rw [hd] at h
    obtain ⟨_, _, _, _, hnodup⟩ := and5 h
    exact of_decide_eq_true hnodup

/-- **the whole record after a set, M ⊑ S**: for every kind, documented property `p` (coordinates of a point aside) and
    documented name `n`, when the setter accepts a text `v` that is not blank, the record of ALL listed properties
    afterwards is one of the records S allows (`Record.setOutcomes`, the list the driver prints in the S column of
    `y set`): the named property holds a value `v` denotes for the documented type, every other listed property
    holds what it held -/
theorem set_get_record (k : Kind) (hk : k ∈ kinds) (d : DocKind) (hd : docOf k.name = some d)
    (p : DocProp) (hp : p ∈ d.props) (n : Str) (hn : n ∈ p.names) (hx : p.ty ≠ .pointX) (hy : p.ty ≠ .pointY)
    (tab : List NamedColor) (o : Obj) (hw : WF k o) (v : Str) (tok : Nat) (hnb : blank (some v) = false)
    (hok : (k.setProp tab o n (.text (some v)) tok).ret.isOk = true) :
    k.dump (k.setProp tab o n (.text (some v)) tok).obj ∈
      setOutcomes tab (k.dump o) (k.dump k.defaults) p.listed p.ty (some (some v)) := by
  obtain ⟨old, x, _, hnew, hden⟩ := set_get_named k hk d hd p hp n hn tab o hw v tok hok
  obtain ⟨i, g, e, hg, hgn, hl, _, _, _, _⟩ := doc_linked k hk d hd p hp n hn
  have hden' : x ∈ denote tab p.ty old v := by
    rcases hden with h | h
    · exact h
    · rw [hnb] at h; cases h
  rw [Kind.getProp_row k _ _ i hl] at hnew
  have hdump : k.dump (k.setProp tab o n (.text (some v)) tok).obj = Record.set (k.dump o) p.listed x := by
    rw [← hgn]
    apply Kind.dump_set k o _ i g x hg (names_nodup k hk) (by rw [hgn]; exact hnew)
    intro j hj hji
    have hgj : k.gets[j]? = some k.gets[j] := List.getElem?_eq_getElem hj
    have hne : k.gets[j].name ≠ p.listed := hgn ▸ Kind.name_ne k (names_nodup k hk) i j g _ hg hgj hji
    have := frame_named k hk d hd p hp n hn tab o (.text (some v)) tok j _ hgj hne
    rw [get_listed k hk j _ hgj, get_listed k hk j _ hgj] at this
    exact this
  rw [hdump]
  unfold setOutcomes
  simp only [Option.getD_some]
  have hmem : ∀ old', Record.set (k.dump o) p.listed x ∈ (denote tab p.ty old' v).map (Record.set (k.dump o) p.listed) := by
    intro old'
    rw [denote_old tab p.ty old' old v hx hy]
    exact List.mem_map.mpr ⟨x, hden', rfl⟩
  -- `setOutcomes` distinguishes the types for blank text only: with `hnb` every branch is the same `map`
  cases hty : p.ty <;> simp only [hnb, Bool.false_eq_true, ↓reduceIte] <;> rw [← hty] <;> exact hmem _

-- hypotheses satisfiable: "4.5" for the axis `begin` is accepted and not blank
example : (axis.setProp colors axis.defaults (str "begin") (.text (some (str "4.5"))) 1).ret.isOk = true ∧
    blank (some (str "4.5")) = false := by decide +kernel

/-- the whole-record form for EVERY text/NULL source.  Proved: `set_get_record` (non-blank text, every documented name
    but the two coordinate names of text `pos`).  STATED ONLY, tied by the correspondence run: blank and NULL text and
    the NULL source as one list equation (per handler: `null_resets`, the blank disjuncts of the `set_get_*` theorems),
    the coordinate names `x`, `y` (per name: `set_get_named`), typed sources (`y setv`: no theorem). -/
def set_get_statement : Prop :=
  ∀ (k : Kind), k ∈ kinds → ∀ (d : DocKind), docOf k.name = some d → ∀ p ∈ d.props, ∀ n ∈ p.names,
    ∀ (o : Obj), WF k o → ∀ (src : Src) (tok : Nat), (∀ t x, src ≠ .typed t x) →
    (k.setProp colors o n src tok).ret.isOk = true →
      k.dump (k.setProp colors o n src tok).obj ∈
        setOutcomes colors (k.dump o) (k.dump k.defaults) p.listed p.ty (match src with | .text t => some t | _ => none)


/-- **copy through the generic assignment**, for every kind of the generated tables: the copy succeeds, has
    the members (hence all properties) of the source, and every heap block it owns afterwards is a fresh one —
    none is a block of the source -/
theorem copy_owns (k : Kind) (hk : k ∈ kinds) (o src : Obj) (base : Nat)
    (ht : k.Typed src) (hb : ∀ t ∈ src.toks, t < base) :
    (k.copy o k.name src false base).ret = .ok 0 ∧
    k.dump (k.copy o k.name src false base).obj = k.dump src ∧
    ∀ t ∈ (k.copy o k.name src false base).obj.toks, t ≠ 0 → t ∉ src.toks := by
  have hparts := baseParts (base_ok k hk)
  have hdup := hparts.strsDuplicated
  have hc : k.copy o k.name src false base = ⟨k.copyFrom src base, .ok 0⟩ := by
    unfold Kind.copy; simp [hparts.copyOwnType]
  rw [hc]
  refine ⟨rfl, Kind.dump_congr k src _ rfl, ?_⟩
  apply copyToks_fresh k.dups src base hb
  intro i s hi
  obtain ⟨fd, hfd, hty⟩ := ht i s hi
  unfold Kind.strsDuplicated at hdup
  rw [List.all_eq_true] at hdup
  have hlt : i < k.fields.length := (List.getElem?_eq_some_iff.mp hfd).1
  have := hdup i (List.mem_range.mpr hlt)
  simpa [hfd, hty] using this

/-- assigning an object to itself keeps it -/
theorem copy_self (k : Kind) (hk : k ∈ kinds) (o : Obj) (base : Nat) :
    (k.copy o k.name o true base) = ⟨o, .ok 0⟩ := by
  have hparts := baseParts (base_ok k hk)
  unfold Kind.copy; simp [hparts.copyOwnType, hparts.selfGuard]

-- a text with value and font: the copy owns tokens 100 and 101, the source 7 and 8
example : (text.copy text.defaults "text" ⟨(text.defaults.vals.set 0 (.str (some [97]))).set 1 (.str (some [98])),
      (text.defaults.toks.set 0 7).set 1 8⟩ false 100).obj.toks = [100, 101, 0, 0, 0, 0, 0, 0, 0, 0] := by decide

end Mpt.C20
