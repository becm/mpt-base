/-
  C19 — Value generators follow the iterator protocol and their formulas.  The property theorems, each stated over
  the model and proved from the lemma files, and in front of them the two call-sequence machines the generator
  theorems compare: `stepM` / `runM` (the generator model) and `stepS` / `runS` (the abstract cursor).  The machines
  of the text and buffer argument iterators stand with their lemmas: in Lemmas/IterText.lean `StrIt.step` / `StrIt.run` /
  `TOut`, the comparison `resOk` / `allOk` with the answers of the automaton `TCur`, the loops `strWalk` / `keyWalk`; in
  Lemmas/IterBuf.lean `BufIt.step` / `BufIt.run` / `BOut`, the automaton `lstep` / `lrun` over `LCur`, the loop `bufWalk`.

  M = `Mpt.Iter` (MptModel/Impl/Iter.lean: iterator_create.c, iterator_linear.c, iterator_factor.c,
  iterator_boundary.c, iterator_poly.c, iterator_values.c, iterator_profile.c, values_linear.c, values_bound.c and the
  scanners mpt_cdouble / mpt_cuint32 / mpt_string_nextvis), S = `Mpt.IterSpec` (Spec/Iterator.lean: sequences, the
  protocol automaton `Cur`, the same over elements of any type `LCur` and for text arguments `TCur` with the calls
  `Call` and answers `TRes`, the documented loop `walk`; Spec/IterGrammar.lean: the canonical description grammar).
  Numbers are exact rationals: rounding of `double`, overflow, NaN and arithmetic on infinities are outside the model; an
  infinity literal in a value list is an element of its own with the stand-in value `infVal` (`values_inf`).

  Defined in Lemmas/IterGen.lean and IterScan.lean (not part of M): `Gen.all g` = all elements the generator state denotes,
  `Gen.rem g` = those still to come (current one first), `Gen.WF g` = the invariant the protocol theorems assume (holds for
  everything `create`/`profile` return, see `created_wf`), `Gen.abs g = ⟨all, rem⟩` the abstract cursor; `advClass`
  (the model's answers of `advance()` as the automaton's), `nums` / `numsOk` (the numbers of a value-list text, and
  whether its scan ends regularly), `mValue` / `mAdvance` (the two calls of the documented loop).

  Also modelled and tied by the correspondence run: the text argument iterator (Impl/IterString.lean,
  mptcore/meta/iterator_string.c), the buffer argument iterator over `char` arrays, `mpt_iterator_consume`,
  `mpt_range_set` and the iterator-argument forms of the linear/range/factor creators (Impl/IterArgs.lean).

  NOT modelled: `file` profiles, buffer iterators over non-`char` content, element types other than
  `double`/`uint32` in `mpt_iterator_consume`.
-/
import MptModel.Lemmas.IterProfile
import MptModel.Lemmas.IterText
import MptModel.Lemmas.IterBuf

namespace Mpt.C19
open Mpt Mpt.Iter Mpt.IterSpec

inductive Op where
  | value | advance | reset
  deriving Repr, DecidableEq

inductive Out where
  | val (v : Option Rat)     -- `value()`: NULL or the number
  | adv (a : Adv)            -- `advance()`: more / last / error
  | rst (ok : Bool)          -- `reset()`: return value not negative
  deriving Repr, DecidableEq

/-- M: one call on the generator model -/
def stepM (g : Gen) : Op → Gen × Out
  | .value => (g.value.1, .val g.value.2)
  | .advance => (g.advance.1, .adv (advClass g.advance.2))
  | .reset => (g.reset.1, .rst (decide (0 ≤ g.reset.2)))

/-- S: the same call on the abstract cursor -/
def stepS (c : Cur) : Op → Cur × Out
  | .value => (c, .val c.value)
  | .advance => (c.advance.1, .adv c.advance.2)
  | .reset => (c.reset, .rst true)

def runM (g : Gen) : List Op → Gen × List Out
  | [] => (g, [])
  | op :: ops => ((runM (stepM g op).1 ops).1, (stepM g op).2 :: (runM (stepM g op).1 ops).2)

def runS (c : Cur) : List Op → Cur × List Out
  | [] => (c, [])
  | op :: ops => ((runS (stepS c op).1 ops).1, (stepS c op).2 :: (runS (stepS c op).1 ops).2)

theorem step_refines (g : Gen) (h : g.WF) (op : Op) :
    (stepM g op).1.WF ∧ (stepM g op).1.abs = (stepS g.abs op).1 ∧ (stepM g op).2 = (stepS g.abs op).2 := by
  cases op with
  | value =>
    obtain ⟨a, b, c⟩ := value_sim g h
    exact ⟨c, a, by simp only [stepM, stepS]; rw [b]⟩
  | advance =>
    obtain ⟨a, b, c⟩ := advance_sim g h
    exact ⟨c, a, by simp only [stepM, stepS]; rw [b]⟩
  | reset =>
    obtain ⟨a, b, c⟩ := reset_sim g h
    exact ⟨c, a, by simp only [stepM, stepS]; simp [b]⟩

/-- **Protocol, for all interleavings**: from every well-formed generator state and for every finite
    sequence of `value / advance / reset` calls, the model reports exactly what the protocol automaton over
    the denoted sequence reports: `value` the current element or NULL past the end, `advance` "more" /
    "last" / an error past the end (nothing changes then), `reset` succeeds and restarts. -/
theorem protocol (ops : List Op) (g : Gen) (h : g.WF) :
    (runM g ops).1.WF ∧ (runM g ops).1.abs = (runS g.abs ops).1 ∧ (runM g ops).2 = (runS g.abs ops).2 := by
  induction ops generalizing g with
  | nil => exact ⟨h, rfl, rfl⟩
  | cons op ops ih =>
    obtain ⟨hw, ha, ho⟩ := step_refines g h op
    obtain ⟨iw, ia, io⟩ := ih (stepM g op).1 hw
    simp only [runM, runS]
    rw [← ha]
    exact ⟨iw, ia, by rw [ho, io]⟩

example : (runM (.linear 0 (1/2) 3 0) [.value, .advance, .advance, .value, .advance, .value, .advance]).2
    = [.val (some 0), .adv .more, .adv .more, .val (some 1), .adv .last, .val none, .adv .err] := by decide +kernel

/-- **The documented loop** (read the value, advance, stop when advance reports no further element) visits
    exactly the elements still to come, in order — from the start these are all elements the source denotes. -/
theorem walk_visits (g : Gen) (h : g.WF) (fuel : Nat) (hf : g.rem.length ≤ fuel) :
    IterSpec.walk mValue mAdvance fuel g = g.rem := by
  rw [walk_sim fuel g h]
  exact walk_cur fuel g.abs hf

/-- **Past the end**: with nothing left `value` returns NULL, `advance` reports an error and the state
    denotes the same (empty) rest — reported, never a fault. -/
theorem past_end (g : Gen) (h : g.WF) (he : g.rem = []) :
    g.value.2 = none ∧ advClass g.advance.2 = .err ∧ g.advance.1.rem = [] := by
  exact ⟨by rw [(value_sim g h).2.1]; exact congrArg List.head? he, advance_nil g h he⟩

/-- **Reset replays**: after `reset` the elements to come are all elements again (and the denoted sequence
    is unchanged), so the documented loop yields the identical full sequence. -/
theorem reset_replays (g : Gen) (h : g.WF) :
    g.reset.1.rem = g.all ∧ g.reset.1.all = g.all ∧ 0 ≤ g.reset.2 ∧
    (∀ fuel, g.all.length ≤ fuel → IterSpec.walk mValue mAdvance fuel g.reset.1 = g.all) := by
  obtain ⟨a, b, c⟩ := reset_sim g h
  have h1 : g.reset.1.rem = g.all := congrArg Cur.rem a
  have h2 : g.reset.1.all = g.all := congrArg Cur.all a
  refine ⟨h1, h2, b, ?_⟩
  intro fuel hf
  rw [walk_visits _ c fuel (by rw [h1]; exact hf), h1]

/-- **Clone replays**: the state a clone is given equals the state of the original (taken at any point), hence
    every later call sequence reports on the clone what it reports on the original; after `reset` both replay
    the full sequence.  The model follows the C functions: the linear and factor generators copy their
    parameter block, the boundary generator and the value list build a new object through the public creator
    and transfer position and current value afterwards (`clone_defined`: that creator accepts what it is
    given).  The polynomial generator has no clone (`clone = none`).
    NOT expressible in this model: storage shared between original and clone (the model has values, not
    objects) — that later calls on one do not disturb the other is tied by the correspondence run only
    (clone, diverge, compare both). -/
theorem clone_replays (g g' : Gen) (h : g.clone = some g') :
    g' = g ∧ ∀ ops, (runM g' ops).2 = (runM g ops).2 := by
  have e := clone_eq g g' h
  exact ⟨e, fun ops => by rw [e]⟩

/-- the public creators used by `clone` accept the parameters of every generator they have made -/
theorem clone_defined :
    (∀ (l i r : Rat) (elem pos : Nat), 2 ≤ elem →
      (Gen.boundary l i r elem pos).clone = some (.boundary l i r elem pos)) ∧
    (∀ (text : List Char) (next : Option (List Char)) (curr : Rat) (g0 : Gen), mkValues text = some g0 →
      (Gen.values text next curr).clone = some (.values text next curr)) :=
  ⟨clone_some_boundary, clone_some_values⟩

example : ((create "1 2 3".toList).bind fun g => g.advance.1.clone).map Gen.rem = some [2, 3] := by
  -- the literal becomes a character list first: unfolding `String.toList` on a literal is the slow part of
  -- elaborating `decide`
  simp only [String.reduceToList]
  decide +kernel

/-- **Linear formula**: `n ≥ 1` steps from `a` to `b` give the `n + 1` values `a + i·(b−a)/n`. -/
theorem linear_formula (n : Nat) (a b : Rat) (hn : 1 ≤ n) :
    ∃ g, mkLinear (n + 1) a b = some g ∧ g.WF ∧ g.all = (IterSpec.linear n a b).elems ∧ g.rem = g.all
      ∧ g.all.length = n + 1 :=
  mkLinear_ok n a b hn

example : (mkLinear 5 0 1).map Gen.all = some [0, 1/4, 1/2, 3/4, 1] := by decide +kernel

/-- the text form: whatever `lin( n : a b )` is accepted as, it is the linear generator of the count the
    integer scanner reads behind the opening parenthesis (`n`, giving `n + 1` elements, 32-bit wrap) between the
    bounds the number scanner reads behind the `:` (0 and 1 when that group is absent), and the closing
    parenthesis follows with nothing but white space behind it; for canonical texts `accepted` says which numbers these are -/
theorem linear_text (s : List Char) (g : Gen) (h : linArgs s = some g) :
    ∃ c s0 n s1 a b s2, nextvis s = .ok (c, s0) ∧ c = '(' ∧ cuint32 s0.tail = .ok n s1 ∧
      linRange s1 = some (a, b, s2) ∧ closeOk s2 = true ∧ 2 ≤ wrap32 (n + 1) ∧
      g = .linear a ((b - a) / ((wrap32 (n + 1) - 1 : Nat) : Rat)) (wrap32 (n + 1)) 0 := by
  obtain ⟨s0, n, s1, a, b, s2, hv, hrest⟩ := linArgs_inv s g h
  exact ⟨'(', s0, n, s1, a, b, s2, hv, rfl, hrest⟩

example : linRange " : 0 1)".toList = some (0, 1, ")".toList) ∧
    (match cuint32 "4 : 0 1)".toList with | .ok n r => n == 4 && r == " : 0 1)".toList | _ => false) = true := by
  simp only [String.reduceToList]
  decide +kernel

example : (create "lin(4 : 0 1)".toList).map Gen.all = some [0, 1/4, 1/2, 3/4, 1] := by
  simp only [String.reduceToList]
  decide +kernel
example : (create "Linear( 2:-1 2 )".toList).map Gen.all = some [-1, 1/2, 2] := by
  simp only [String.reduceToList]
  decide +kernel

/-- **Factor formula**: the factor generator denotes `init, base, base·f, base·f², …` (`elem` values) -/
theorem factor_formula (base f init : Rat) (n : Nat) :
    (Gen.factor base f init (n + 1) 0 init).all = (IterSpec.factor n base f init).elems
    ∧ (Gen.factor base f init (n + 1) 0 init).WF :=
  ⟨rfl, fun _ => rfl⟩

example : (create "fac(4:2:0.5:1)".toList).map Gen.all = some [1, 2, 1, 1/2, 1/4] := by
  simp only [String.reduceToList]
  decide +kernel

/-- **Boundary formula**: `left, inter, …, inter, right` -/
theorem boundary_formula (l i r : Rat) (len : Nat) :
    (Gen.boundary l i r len 0).all = (IterSpec.boundary len l i r).elems :=
  boundary_all l i r len 0

/-- **Polynomial formula**: the generator denotes `Σ_j mult_j·(x + shift_j)^(nc−1−j)` at the grid points -/
theorem poly_formula (grid : List Rat) (coeff : List (Rat × Rat)) :
    (Gen.poly grid coeff 0 none).all = grid.map (IterSpec.polyAt coeff) :=
  poly_all grid coeff 0 none

/-- a polynomial source over an array without data evaluates the polynomial at the element index
    0, 1, 2, … (`UINT_MAX` elements); its reset restores the first element -/
theorem poly_index_formula (coeff : List (Rat × Rat)) (pos : Nat) (cache : Option Rat) :
    (Gen.polyN coeff pos cache).all = (List.range 4294967295).map (fun (i : Nat) => IterSpec.polyAt coeff (i : Rat)) ∧
    (Gen.polyN coeff pos cache).reset.1 = Gen.polyN coeff 0 none :=
  ⟨List.map_congr_left fun _ _ => polyEval_eq coeff _, rfl⟩

/-- an infinity literal in a value list is an element of its own (the model's stand-in value `infVal` lies
    beyond every `double`); NaN is not a number and ends the well-formed part of the list -/
theorem values_inf : (create "1 inf -Infinity 3".toList).map Gen.all = some [1, infVal, -infVal, 3] ∧
    create "-nan 1".toList = none := by
  simp only [String.reduceToList]
  decide +kernel

example : (profile [-1, -1/2, 0, 1/2] "poly 1 0 0 : 1".toList).map Gen.all = some [0, 1/4, 1, 9/4] := by
  simp only [String.reduceToList]
  decide +kernel

/-- **Explicit value list**: the generator made from a text of numbers denotes those numbers, starting at
    the first -/
theorem values_formula (s : List Char) (g : Gen) (h : mkValues s = some g) : g.all = nums s ∧ g.rem = nums s := by
  obtain ⟨v, rest, hc, rfl⟩ := mkValues_some h
  exact ⟨rfl, by simp [Gen.rem, (nums_step s v rest hc).1]⟩

example : (create "-1.25 +3 .5 5. 1e1 2.5e-1".toList).map Gen.all = some [-5/4, 3, 1/2, 5, 10, 1/4] := by
  simp only [String.reduceToList]
  decide +kernel

/-- **A malformed element of a value list is reported**: when the text continues with something that is
    not a number, `advance` returns the error code BadValue and changes nothing. -/
theorem values_malformed (text s : List Char) (curr : Rat) (e : Err) (hne : s.isEmpty = false)
    (h : cdouble s = .err e) :
    (Gen.values text (some s) curr).advance = (Gen.values text (some s) curr, .err .BadValue) := by
  simp only [Gen.advance, hne, h]
  rfl

/-- **Everything the creators return satisfies the invariant** the protocol theorems assume (for a value
    list: when the text consists of numbers only) -/
theorem created_wf (s : List Char) (grid : List Rat) (g : Gen) :
    (create s = some g → (∀ text next curr, g = .values text next curr → numsOk text = true) → g.WF) ∧
    (profile grid s = some g → g.WF) :=
  ⟨create_wf s g, profile_wf grid s g⟩

/-- **Malformed descriptions are refused**: every text the specification calls certainly malformed — an
    unknown keyword, a keyword without opening or without closing parenthesis, a list that does not start
    with a sign, digit or decimal point — is refused by `mpt_iterator_create` (result NULL), and a
    keyword's argument is accepted only if both parentheses are present. -/
theorem malformed_refused (s : List Char) :
    (IterSpec.certainlyMalformed s = true → create s = none) ∧
    (∀ g, linArgs s = some g ∨ facArgs s = some g ∨ rangeArgs s = some g → '(' ∈ s ∧ ')' ∈ s) := by
  refine ⟨create_refuses_malformed s, ?_⟩
  intro g h
  have key : ∀ k, kindArgs k s = some g → '(' ∈ s ∧ ')' ∈ s := fun k hk => by
    obtain ⟨ho, _, hcl, _⟩ := kindArgs_parens k s g hk
    exact ⟨ho, mem_of_close hcl⟩
  -- 0, 2, 1: the numbers `keywordKind` gives `lin`, `fac`, `range`
  rcases h with h | h | h
  · exact key 0 h
  · exact key 2 h
  · exact key 1 h

example : IterSpec.certainlyMalformed "linx(4 : 0 1)".toList = true ∧ create "lin(4 : 0 1".toList = none
    ∧ create "lin(4  : 0 1)".toList = none ∧ create "lin(0 : 0 1)".toList = none := by
  simp only [String.reduceToList]
  decide +kernel


/-- **Accepted**: every text of the canonical description grammar (Spec/IterGrammar.lean: `lin(n : a b)`,
    `range(a b : s)`, `fac(n:b:f:i)` with their optional fields and blanks, and blank-separated number
    lists) whose meaning the grammar fixes is accepted by `mpt_iterator_create` and the generator denotes
    exactly that sequence — count and values — from its first element on, and satisfies the invariant of the
    protocol theorems. -/
theorem accepted (s : List Char) (d : Desc) (den : Den) (h : recognise s = some d) (hd : d.den = some den) :
    ∃ g, create s = some g ∧ g.all = den.elems ∧ g.rem = g.all ∧ g.WF := by
  have hc := recognise_create s d h
  cases d with
  | lin k a b =>
    obtain ⟨hk, rfl⟩ := some_guard hd
    rw [hc, wrap32_small k hk.2]
    obtain ⟨g, h1, h2, h3, h4, _⟩ := mkLinear_ok k a b hk.1
    exact ⟨g, h1, h3, h4, h2⟩
  | range a b st =>
    obtain ⟨⟨_, c2, c3, c4, c5⟩, rfl⟩ := some_guard hd
    rw [hc, rangeMake, if_neg (range_check a b st c2 c3 c4)]
    exact ⟨_, rfl, range_den a b st c2 c4 c5, rfl, trivial⟩
  | fac k base f init =>
    obtain ⟨⟨_, hf, hk⟩, rfl⟩ := some_guard hd
    have nf : ¬ f < dblMin := Rat.not_lt.2 hf
    rw [hc, facMake, if_neg nf, wrap32_small k hk]
    exact ⟨_, rfl, rfl, rfl, fun _ => rfl⟩
  | values vs =>
    cases hd
    obtain ⟨hname, hq, _⟩ := hc
    obtain ⟨g, h1, h2, h3, h4⟩ := accept_values s vs hname hq
    exact ⟨g, h1, by rw [h2, explicit_elems], by rw [h3, h2], h4⟩

example : recognise "Linear( 16 : 1 3 )".toList = some (.lin 16 1 3) ∧ recognise "fac(3:2::1)".toList = none := by
  simp only [String.reduceToList]
  decide +kernel

/-- a number token of the grammar is read by the `strtod` subset of the model to exactly its value, and the
    scan stops right behind it (the lemma behind `accepted`) -/
theorem number_scanned (t rest : List Char) (v : Rat) (h : strictNumber t = some v) (hs : Stops rest) :
    cdouble (t ++ rest) = .ok v rest :=
  cdouble_strict t rest v h hs

/-! ### Text argument iterator (mptcore/meta/iterator_string.c) -/

/-- **The documented loop on a text argument**: for a text of number tokens separated by single characters
    that cannot continue a number (blank, comma, semicolon, …), reading and advancing yields exactly the
    numbers, in order. -/
theorem string_walk (pairs : List (List Char × Char)) (last sep : List Char) (vs : List Rat) (vl : Rat)
    (hp : ∀ p ∈ pairs, SepChar p.2) (hv : pairs.map (fun p => strictNumber p.1) = vs.map some)
    (hl : strictNumber last = some vl) (fuel : Nat) (hf : pairs.length < fuel) :
    (strWalk fuel (StrIt.create (some (sepJoin pairs last)) (some sep))).1 = vs ++ [vl] :=
  strWalk_from pairs last vs vl hp hv hl [] sep fuel hf

example : (strWalk 9 (StrIt.create (some "1,2;3 4".toList) none)).1 = [1, 2, 3, 4] := by
  simp only [String.reduceToList]
  decide +kernel

/-- **Past the end of a text argument**: no value (NULL), a conversion of the retained element reports
    MissingData, and `advance` reports "no further element" once and an error from then on. -/
theorem string_past_end (s : StrIt) (h : s.pos = none) :
    s.hasValue = false ∧ s.conv.2 = .err .MissingData ∧
    (s.endNull = false → s.advance.2 = .last ∧ s.advance.1.advance.2 = .err .MissingData) ∧
    (s.endNull = true → s.advance.2 = .err .MissingData) := by
  refine ⟨by simp [StrIt.hasValue, h], by simp [StrIt.conv, StrIt.convWith, h], ?_, ?_⟩
  · intro he; simp [StrIt.advance, he, h]
  · intro he; simp [StrIt.advance, he]

/-- **Reset and clone of a text argument**: `reset` restores the state of a freshly created iterator (the
    replay of the whole text is part of `string_protocol`); the clone — a new iterator over a copy of text
    and separators, with position, end mark and element mark transferred — is an equal state (no field is
    lost; shared storage is not expressible, see `clone_replays`). -/
theorem string_reset_clone (s : StrIt) :
    s.reset.1 = { s with pos := some 0, endNull := false, restore := none, patched := false } ∧ s.clone = s := by
  refine ⟨rfl, ?_⟩
  cases s
  rfl

/-- **Protocol on a text argument, for all call sequences the protocol speaks about**: over a text of number
    tokens separated by single separator characters every sequence of `value` (read the element as a number) /
    `advance` / `reset` calls in which no element in the middle of the text is advanced over without having
    been read reports what the automaton over the numbers reports: the current number or NULL past the end,
    "more" / "last", past the end "last" once more or an error, and `reset` restarts the whole text. -/
theorem string_protocol (pairs : List (List Char × Char)) (last sep : List Char) (vs : List Rat) (vl : Rat)
    (hp : ∀ p ∈ pairs, SepChar p.2) (hv : pairs.map (fun p => strictNumber p.1) = vs.map some)
    (hl : strictNumber last = some vl) (ops : List Call) (outs : List TRes)
    (h : ({ all := vs ++ [vl], rem := vs ++ [vl], read := false } : TCur).run ops = some outs) :
    allOk outs ((StrIt.create (some (sepJoin pairs last)) (some sep)).run ops) := by
  have hT := toks_sepJoin pairs last vs vl hp hv hl
  exact strRel_run sep _ _ hT ops _ _ (StrRel.at _ [] hT rfl rfl rfl rfl) outs h

example : ((StrIt.create (some "1,2 3".toList) none).run [.value, .value, .advance, .reset, .value, .advance, .value,
    .advance, .value, .advance, .value, .advance, .advance])
    = [.val (some 1), .val (some 1), .adv .more, .rst, .val (some 1), .adv .more, .val (some 2), .adv .more,
       .val (some 3), .adv .last, .val none, .adv .last, .adv (.err .MissingData)] := by
  simp only [String.reduceToList]
  decide +kernel

/-- white space behind the last number is no further element -/
example : ((StrIt.create (some "1 2 ".toList) none).run [.value, .advance, .value, .advance, .value, .advance])
    = [.val (some 1), .adv .more, .val (some 2), .adv .last, .val none, .adv .last] := by
  simp only [String.reduceToList]
  decide +kernel

/-- **Key reads**: over a text of words separated by single characters of the separator set (words without
    white space and separator characters) the documented loop with key reads yields the words, in order. -/
theorem key_walk (sep : List Char) (pairs : List (List Char × Char)) (last : List Char)
    (hp : ∀ p ∈ pairs, KeyWord sep p.1 ∧ sep.contains p.2 = true ∧ isSpace p.2 = false)
    (hl : KeyWord sep last) (hsep : sep.isEmpty = false) (fuel : Nat) (hf : pairs.length < fuel) :
    keyWalk fuel (StrIt.create (some (sepJoin pairs last)) (some sep)) = pairs.map (·.1) ++ [last] :=
  keyWalk_from sep pairs last hp hl hsep [] fuel hf

example : keyWalk 9 (StrIt.create (some "abc,def;g".toList) none) = ["abc".toList, "def".toList, "g".toList] := by
  simp only [String.reduceToList]
  decide +kernel

/-- **Word reads** (`char` vector): the word up to the next white space; the element ends behind it -/
theorem word_read (sep pre w rest : List Char) (hne : w ≠ []) (hw : ∀ x ∈ w, isSpace x = false) :
    (atPos sep (pre ++ (w ++ ' ' :: rest)) pre.length).word =
      ({ atPos sep (pre ++ (w ++ ' ' :: rest)) pre.length with restore := some (pre.length + w.length), patched := true },
        .ok w) := by
  have he : (w ++ ' ' :: rest).isEmpty = false := by cases w <;> rfl
  have hsl : StrIt.spaceLen (w ++ ' ' :: rest) = 0 := by
    cases w with
    | nil => exact absurd rfl hne
    | cons x xs => exact spaceLen_head x _ (hw x (by simp))
  unfold StrIt.word atPos
  simp only [List.drop_left, he, Bool.false_eq_true, ↓reduceIte, hsl, List.drop_zero, wordLen_word w rest hw,
    Nat.zero_add, List.take_left']
  rw [if_neg (by simp)]

/-! ### `mpt_iterator_consume` and the iterator-argument forms of the creators -/

/-- **Consume**: on a value generator `mpt_iterator_consume(it, 'd', …)` delivers the current element and
    moves to the next one; past the end it reports MissingData and nothing is delivered. -/
theorem consume_gen (g : Gen) (h : g.WF) :
    (g.rem = [] → (Src.gen g).consumeD.2 = .err .MissingData) ∧
    (∀ v t, g.rem = v :: t → ∃ g', (Src.gen g).consumeD = (.gen g', .ok v) ∧ g'.rem = t) := by
  constructor
  · intro he
    have := (read_advance_nil g h he).1
    simp only [Src.consumeD]
    cases hq : g.value with
    | mk g1 r => rw [hq] at this; simp only [] at this; subst this; rfl
  · intro v t he
    obtain ⟨h1, h2, _, h4⟩ := read_advance_cons g h v t he
    refine ⟨_, ?_, h2⟩
    simp only [Src.consumeD]
    cases hq : g.value with
    | mk g1 r =>
      rw [hq] at h1 h4; simp only [] at h1 h4; subst h1
      -- the second alternative of the match applies since the answer is no error: `simp` finds `h4` in the context
      simp only []

/-- **Skip and unsigned consume on a generator**: `mpt_iterator_consume(it, 0, 0)` moves to the next element
    (an error past the end); `'u'` finds no conversion from `double` (BadType, MissingData past the end) and
    consumes nothing. -/
theorem consume_skip_unsigned (g : Gen) (h : g.WF) :
    (∀ v t, g.rem = v :: t → ∃ g', (Src.gen g).skip = (.gen g', none) ∧ g'.rem = t ∧ g'.WF) ∧
    (g.rem = [] → ∃ g' e, (Src.gen g).skip = (.gen g', some e) ∧ g'.rem = []) ∧
    (∃ g', (Src.gen g).consumeU.1 = .gen g' ∧ g'.abs = g.abs ∧ g'.WF ∧
      (Src.gen g).consumeU.2 = .err (if g.rem = [] then .MissingData else .BadType)) :=
  ⟨(skip_gen g h).1, (skip_gen g h).2, consumeU_gen g h⟩

/-- **Consume on a text argument**: `'d'` delivers the number token at the position and moves behind its
    separator (the text goes on with something that is not white space), `'u'` the same for a count token. -/
theorem consume_text (sep pre t : List Char) (c : Char) (rest : List Char) (hr : NoLeadSpace rest) :
    (∀ v, strictNumber t = some v → SepChar c →
      (Src.str (atPos sep (pre ++ (t ++ c :: rest)) pre.length)).consumeD =
        (.str (atPos sep ((pre ++ t ++ [c]) ++ rest) (pre ++ t ++ [c]).length), .ok v)) ∧
    (∀ k, strictCount t = some k → isDigit c = false →
      (Src.str (atPos sep (pre ++ (t ++ c :: rest)) pre.length)).consumeU =
        (.str (atPos sep ((pre ++ t ++ [c]) ++ rest) (pre ++ t ++ [c]).length), .ok k)) :=
  ⟨fun v hv hs => consumeD_mid sep pre t c rest v hv hs hr, fun k hk hc => consumeU_mid sep pre t c rest k hk hc hr⟩

/-- **Linear generator from an argument iterator**: fed with the text `n a b` (any single separator
    characters) `_mpt_iterator_linear` makes the same generator as the description `lin(n : a b)`. -/
theorem linear_from_argument (sep n ta tb : List Char) (c1 c2 : Char) (k : Nat) (va vb : Rat)
    (hn : strictCount n = some k) (ha : strictNumber ta = some va) (hb : strictNumber tb = some vb)
    (h1 : SepChar c1) (h2 : SepChar c2) :
    (linFromIter (.str (StrIt.create (some (n ++ c1 :: (ta ++ c2 :: tb))) (some sep)))).2
      = mkLinear (wrap32 (k + 1)) va vb := by
  rw [StrIt.create_atPos]
  unfold linFromIter
  rw [consumeU_mid sep [] n c1 _ k hn h1.1 (strict_noLead ta _ va ha)]
  simp only [rangeSet]
  rw [consumeD_mid sep ([] ++ n ++ [c1]) ta c2 tb va ha h2 (strict_lead tb vb hb)]
  simp only []
  rw [consumeD_last sep (([] ++ n ++ [c1]) ++ ta ++ [c2]) tb vb hb]

/-- **Range generator from an argument iterator**: fed with the text `a b s` `_mpt_iterator_range` applies the
    checks of the description `range(a b : s)` and makes the same generator. -/
theorem range_from_argument (sep ta tb ts : List Char) (c1 c2 : Char) (va vb vs : Rat)
    (ha : strictNumber ta = some va) (hb : strictNumber tb = some vb) (hs : strictNumber ts = some vs)
    (h1 : SepChar c1) (h2 : SepChar c2) :
    (rangeFromIter (.str (StrIt.create (some (ta ++ c1 :: (tb ++ c2 :: ts))) (some sep)))).2
      = (if ¬ (0 < vs) ∨ (vb - va) * (1 + rangeTol) < vs ∨ vs < (vb - va) * (1 / 1000000) then none
         else some (.linear va vs (wrap32 (rangeSteps va vb vs + 1)) 0)) := by
  rw [StrIt.create_atPos]
  unfold rangeFromIter
  simp only [rangeSet]
  rw [consumeD_mid sep [] ta c1 _ va ha h1 (strict_noLead tb _ vb hb)]
  simp only []
  rw [consumeD_mid sep ([] ++ ta ++ [c1]) tb c2 ts vb hb h2 (strict_lead ts vs hs)]
  simp only []
  rw [consumeD_last sep (([] ++ ta ++ [c1]) ++ tb ++ [c2]) ts vs hs]

example : ((rangeFromIter (.str (StrIt.create (some "0 1 0.25".toList) none))).2.map Gen.all)
    = some [0, 1/4, 1/2, 3/4, 1] := by
  simp only [String.reduceToList]
  decide +kernel

/-- **Factor generator from an argument iterator** with count and base: the factor is the base, as for
    the description `fac(n:b)`; a base below `DBL_MIN` is refused.  (The forms with a factor and a start value
    are modelled in `facFromIter` and tied by the run; no theorem.) -/
theorem factor_from_argument (sep n tb : List Char) (c1 : Char) (k : Nat) (vb : Rat)
    (hn : strictCount n = some k) (hb : strictNumber tb = some vb) (h1 : SepChar c1) :
    (facFromIter (.str (StrIt.create (some (n ++ c1 :: tb)) (some sep)))).2
      = (if vb < dblMin then none else some (.factor vb vb 0 (wrap32 (k + 1)) 0 0)) := by
  rw [StrIt.create_atPos]
  have hlt := (cuint32_strict n (c1 :: tb) k hn (by intro x hx; cases hx; exact h1.1)).2
  unfold facFromIter
  rw [consumeU_mid sep [] n c1 _ k hn h1.1 (strict_lead tb vb hb)]
  simp only []
  rw [if_neg (by omega)]
  rw [consumeD_last sep ([] ++ n ++ [c1]) tb vb hb]
  simp only []
  rw [consumeD_done _ rfl]

example : ((facFromIter (.str (StrIt.create (some "3 2".toList) none))).2.map Gen.all) = some [0, 2, 4, 8] := by
  simp only [String.reduceToList]
  decide +kernel

/-! ### Buffer argument iterator (mptcore/array/meta_buffer.c over a `char` array) -/

/-- **The documented loop on a buffer argument**: over an array of NUL-terminated strings the iterator made by
    `mpt_meta_buffer` yields exactly these strings, in order; the clone made at a string or behind the last one
    (array reference, offset and length copied, string pointer recomputed) is an equal state. -/
theorem buffer_walk (cur : List Char) (more : List (List Char)) (fuel : Nat)
    (hc : nul ∉ cur) (hm : ∀ s ∈ more, nul ∉ s) (hf : more.length < fuel) :
    bufWalk fuel (BufIt.create (some (joinNul (cur :: more))) false) = (cur :: more).map .str ∧
    (∀ args pre c post, (bufAt args pre c post).clone = bufAt args pre c post) ∧
    ∀ data, (bufEnd data).clone = bufEnd data := by
  rw [BufIt.create_first cur more hc]
  exact ⟨bufWalk_from false cur more [] fuel hc hm hf, fun _ _ _ _ => rfl, fun _ => rfl⟩

example : bufWalk 9 (BufIt.create (some ("cmd".toList ++ nul :: "a".toList ++ nul :: "bb".toList ++ [nul])) true)
    = [.str "a".toList, .str "bb".toList] := by
  simp only [String.reduceToList]
  decide +kernel

/-- advancing from the last string reports "no further element" and leaves a state without value (the error of
    the next `advance` is part of `buffer_protocol`) -/
theorem buffer_past_end (pre cur : List Char) (args : Bool) :
    ((bufAt args pre cur []).advance).2 = .last ∧ ((bufAt args pre cur []).advance).1.value = .null := by
  rw [bufAt_advance_end]
  exact ⟨rfl, rfl⟩

/-- **Protocol on a buffer argument, for all interleavings**: over an array of NUL-terminated strings every
    sequence of `value` / `advance` / `reset` calls reports exactly what the automaton over the strings
    reports — the current string or NULL, "more" / "last" / an error past the end, and `reset` (successful)
    returns to the first string from every position. -/
theorem buffer_protocol (first : List Char) (rest : List (List Char)) (hf : nul ∉ first) (hr : ∀ s ∈ rest, nul ∉ s)
    (ops : List Call) :
    (BufIt.create (some (joinNul (first :: rest))) false).run ops
      = lrun { all := first :: rest, rem := first :: rest } ops := by
  rw [BufIt.create_first first rest hf]
  exact bufRel_run first rest hf hr ops _ _ (BufRel.here _ [] first rest (by simp) hf hr rfl rfl)

example : (BufIt.create (some ("a".toList ++ nul :: "bb".toList ++ [nul])) false).run
    [.advance, .value, .advance, .value, .advance, .reset, .value]
    = [.adv .more, .val (some "bb".toList), .adv .last, .val none, .adv .err, .rst true, .val (some "a".toList)] := by
  simp only [String.reduceToList]
  decide +kernel

/-! ### Profile descriptions (`mpt_iterator_profile`) -/

/-- **Accepted profile descriptions**: every canonical profile description (`lin a b` / `linear a b`,
    `bound l i r` / `boundary l i r`, `poly c… [ : s…]`; Spec/IterGrammar.lean) over a grid for which it has a
    meaning is accepted and the generator denotes exactly that sequence: the linear profile `len − 1` equal
    steps from `a` to `b`, the boundary profile `l, i, …, i, r`, the polynomial `Σ_j c_j·(x + s_j)^(n−1−j)` at
    the grid points. -/
theorem profile_accepted (grid : List Rat) (s : List Char) (d : PDesc) (den : Den)
    (h : recogniseProfile s = some d) (hd : d.den grid = some den) :
    ∃ g, profile grid s = some g ∧ g.all = den.elems ∧ g.rem = g.all ∧ g.WF := by
  have hge : grid.isEmpty = false := by
    cases grid with
    | nil => cases d <;> simp [PDesc.den] at hd
    | cons _ _ => rfl
  have hc := recognise_profile grid s hge d h
  cases d with
  | lin a b =>
    obtain ⟨hg, rfl⟩ := some_guard hd
    obtain ⟨n, hn⟩ : ∃ n, grid.length = n + 1 := ⟨grid.length - 1, by omega⟩
    rw [hc, hn]
    obtain ⟨g, h1, h2, h3, h4, _⟩ := mkLinear_ok n a b (by omega)
    exact ⟨g, h1, h3, h4, h2⟩
  | bound l i r =>
    obtain ⟨hg, rfl⟩ := some_guard hd
    rw [hc, mkBoundary, if_neg (by omega)]
    exact ⟨_, rfl, boundary_all l i r grid.length 0, rfl, trivial⟩
  | poly ms ss =>
    simp only [PDesc.den, hge] at hd hc
    cases hd
    rw [hc]
    exact ⟨_, rfl, by rw [poly_elems, poly_all], rfl, fun v hv => by cases hv⟩

example : recogniseProfile "poly 1 0 0 : 1".toList = some (.poly [1, 0, 0] [1]) ∧
    recogniseProfile "boundary 0.5 0 -0.5".toList = some (.bound (1/2) 0 (-1/2)) ∧
    ((PDesc.poly [1, 0, 0] [1]).den [-1, 0, 1]).map Den.elems = some [0, 1, 4] := by
  simp only [String.reduceToList]
  decide +kernel

/-- **Malformed profile descriptions are refused**: a text that does not begin with one of the three keywords,
    a canonical `lin` / `bound` description with too few numbers, and every description over an array without
    points. -/
theorem profile_malformed_refused (grid : List Rat) (s : List Char) (h : profileMalformed s = true ∨ grid = []) :
    profile grid s = none := by
  rcases h with h | h
  · unfold profileMalformed at h
    simp only [dropWhile_ws, startsCI_eq, Bool.or_eq_true, Bool.not_eq_eq_eq_not, Bool.not_true,
      Bool.or_eq_false_iff] at h
    by_cases hge : grid.isEmpty = true
    · unfold profile; rw [if_pos hge]
    · have hge : grid.isEmpty = false := by simpa using hge
      rcases h with h | h
      · unfold profile
        rw [if_neg (by simp [hge])]
        simp only []
        rw [if_neg (by simp [h.1.1]), if_neg (by simp [h.1.2]), if_neg (by simp [h.2])]
      · -- too few numbers
        rw [profile_drop]
        split at h
        · rename_i body hbody
          cases hn : numbers body with
          | none => rw [hn] at h; simp at h
          | some vs =>
            rw [hn] at h
            simp only [Bool.or_eq_true, Bool.and_eq_true, decide_eq_true_eq] at h
            rcases h with ⟨hname, hlen⟩ | ⟨hname, hlen⟩
            · rw [profile_lin grid _ body vs hge hbody hname hn (by omega)]
              -- `pick2` / `pick3` are `none` on fewer numbers
              match vs, hlen with
              | [], _ => rfl
              | [_], _ => rfl
            · rw [profile_bound grid _ body vs hge hbody hname hn (by omega)]
              match vs, hlen with
              | [], _ => rfl
              | [_], _ => rfl
              | [_, _], _ => rfl
        · cases h
  · subst h
    rfl

example : profileMalformed "other 1 2".toList = true ∧ profileMalformed "lin 1".toList = true ∧
    profileMalformed "bound 1 2".toList = true ∧ profileMalformed "lin 1 2".toList = false := by
  simp only [String.reduceToList]
  decide +kernel

/-! ### Malformed descriptions beyond the "certainly malformed" class -/

/-- **A malformed count is refused**: behind `lin(` / `fac(` something that is no count (`lin()`, `lin(abc)`,
    `lin(-3 : 0 1)`, `fac(:2)`) or a count followed by something else than `:` or `)` (`lin(4 ; 0 1)`). -/
theorem malformed_count_refused (s : List Char) (h : malformedCount s = true) : create s = none := by
  unfold malformedCount at h
  simp only [dropWhile_ws] at h
  split at h
  · cases h
  · rename_i hk
    have hname : ((dropSpace s).takeWhile isLetter).isEmpty = false := by
      simpa using fun hp => hk (Or.inl hp)
    obtain ⟨k, hk0, hkind⟩ : ∃ k, (k = 0 ∨ k = 2) ∧ keywordKind ((dropSpace s).takeWhile isLetter) = some k := by
      rcases Decidable.not_not.1 (fun hq => hk (Or.inr hq)) with e | e
      · exact ⟨0, Or.inl rfl, e⟩
      · exact ⟨2, Or.inr rfl, e⟩
    rw [create_keyword s hname, hkind]
    split at h
    · rename_i body hbody
      -- an accepted text would have a count that scans and is followed by `:` or `)` (`count_needs`);
      -- by `badCount_scan` the scan fails or something else follows
      have hscan := badCount_scan body h
      cases hl : kindArgs k ((dropSpace s).dropWhile isLetter) with
      | none => exact hl
      | some g =>
        exfalso
        obtain ⟨body', hd, hne, hnx⟩ := count_needs k hk0 _ g hl
        rw [hbody] at hd
        cases hd
        rcases hscan with ⟨e, he⟩ | ⟨n', s1', hu', h1, h2⟩
        · exact hne e he
        · rcases hnx n' s1' hu' with hq | hq
          · rw [h1] at hq; cases hq
          · rw [h2] at hq; cases hq
    · cases h

example : malformedCount "lin(abc)".toList = true ∧ malformedCount "lin()".toList = true ∧
    malformedCount "lin(4 ; 0 1)".toList = true ∧ malformedCount "lin(-3 : 0 1)".toList = true ∧
    malformedCount "fac(:2)".toList = true ∧ malformedCount "lin(4 : 0 1)".toList = false ∧
    malformedCount "fac(3)".toList = false := by
  simp only [String.reduceToList]
  decide +kernel

/-- **Text behind the description is refused**: a keyword description that does not end (white space aside)
    with its closing parenthesis — `lin(2:0 1)junk`, `fac(3) 4` — is refused. -/
theorem trailing_junk_refused (s : List Char) (h : trailingJunk s = true) : create s = none := by
  unfold trailingJunk at h
  simp only [dropWhile_ws] at h
  split at h
  · cases h
  · rename_i hk
    have hname : ((dropSpace s).takeWhile isLetter).isEmpty = false := by
      simpa using fun hp => hk (Or.inl hp)
    cases hc : create s with
    | none => rfl
    | some g =>
      exfalso
      -- an accepted keyword text ends with the closing parenthesis
      rw [create_keyword s hname] at hc
      cases hq : keywordKind ((dropSpace s).takeWhile isLetter) with
      | none => rw [hq] at hc; cases hc
      | some k =>
        rw [hq] at hc
        obtain ⟨_, tl, a, b⟩ := kindArgs_parens k _ g hc
        obtain ⟨pre, e⟩ := a.trans ((List.dropWhile_suffix _).trans (dropSpace_suffix s))
        have := reverse_tail_ws pre tl b
        rw [e] at this
        rw [this] at h
        simp at h

example : trailingJunk "lin(2:0 1)junk".toList = true ∧ trailingJunk "lin(2:0 1) \t".toList = false ∧
    create "lin(2:0 1) ".toList ≠ none := by
  simp only [String.reduceToList]
  decide +kernel

/-- **Recognised descriptions without a sequence are refused**: `lin(0 : a b)` (no step), `range(a b …)` with
    `b ≤ a`, a step that is not positive. -/
theorem senseless_refused (s : List Char) (d : Desc) (h : recognise s = some d) (hs : d.senseless = true) :
    create s = none :=
  Mpt.Iter.senseless_refused s d h hs

example : (recognise "range(1 0)".toList).map Desc.senseless = some true ∧
    (recognise "lin(0 : 0 1)".toList).map Desc.senseless = some true ∧
    (recognise "range(0 1 : -0.5)".toList).map Desc.senseless = some true := by
  simp only [String.reduceToList]
  decide +kernel

/-! ### Array fillers (values_linear.c, values_bound.c) -/

/-- **`mpt_values_linear`** (at least two points, stride at least 1): slot `i·ld` holds the `i`-th of `points`
    values from `min` to `max` in equal steps, nothing else is written. -/
theorem values_linear_fill (points ld : Nat) (mn mx : Rat) (size : Nat) (hp : 2 ≤ points) (hl : 1 ≤ ld)
    (k : Nat) (hk : k < size) :
    (valuesLinear points ld mn mx size).getD k 0 =
      if k % ld = 0 ∧ k / ld < points then (IterSpec.linear (points - 1) mn mx).nth (k / ld) else 0 := by
  unfold valuesLinear
  rw [if_neg (by omega)]
  simp only []
  rw [getD_map_range _ _ _ hk]
  exact stride_slots points ld k hp hl mn mx _ (IterSpec.linear (points - 1) mn mx).nth
    (by simp [IterSpec.linear, Rat.add_zero]) (linear_last mn mx (points - 1) (by omega)).symm (fun _ _ _ => rfl)

/-- **`mpt_values_bound`** (at least two points, stride at least 1): `left`, `cont` …, `right` at stride `ld` -/
theorem values_bound_fill (points ld : Nat) (l c r : Rat) (size : Nat) (hp : 2 ≤ points) (hl : 1 ≤ ld)
    (k : Nat) (hk : k < size) :
    (valuesBound points ld l c r size).getD k 0 =
      if k % ld = 0 ∧ k / ld < points then (IterSpec.boundary points l c r).nth (k / ld) else 0 := by
  unfold valuesBound
  rw [if_neg (by omega), if_neg (by omega)]
  simp only []
  rw [getD_map_range _ _ _ hk, Nat.mul_comm ld]
  refine stride_slots points ld k hp hl l r (fun _ => c) (IterSpec.boundary points l c r).nth rfl ?_ ?_
  · simp only [IterSpec.boundary]
    rw [if_neg (by omega), if_neg (by omega)]
  · intro q h0 h1
    simp only [IterSpec.boundary]
    rw [if_neg (by omega), if_pos (by omega)]

example : valuesLinear 3 2 0 1 6 = [0, 0, 1/2, 0, 1, 0] ∧ valuesBound 3 2 7 8 9 6 = [7, 0, 8, 0, 9, 0] := by
  decide +kernel

end Mpt.C19
