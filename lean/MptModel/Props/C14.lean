/-
  C14 — node trees stay structurally sound.

  M = `Impl/Nodes.lean` (pointer store mirroring mptcore/node/*.c), S = `Spec/Forest.lean` (ordered forests).
  The abstraction is the relation `Realises s tops` (`Lemmas/NodesReal.lean`): the store `s` lays out the
  top-level sibling lists `tops` — `Real` fixes all four link fields, name and value of every node from the
  forest, no handle occurs twice, every live record belongs to the forest, and the `free` log lists exactly
  the dead records, each once.  `WF s := ∃ tops, Realises s tops`.
  The statements about release speak of `post l` (the handles of `l` in post-order, the order of release) and `cost l`
  (the fuel the release of `l` consumes, three steps per node), both defined in `Lemmas/NodesFree.lean`.

  Shape of the refinement theorems (`abs_*`): on a store that realises the lists (given in decomposed form:
  the lists the call talks about first, `rest` arbitrary; `Realises.perm` makes the order irrelevant) the C
  function's model succeeds and the new store realises the lists changed by the forest operation.  Each of
  them therefore also shows that `WF` is preserved (`wf_preserved`).

  The operations: after, before, add/insert by position (incl. the position search of gnode_pos.c and the first
  child of a childless parent) and by name (the search loops of node_locate.c, `abs_locate`), unlink, clear,
  destroy (incl. refusal), node/tree/list clone, move/merge (`abs_move`: mpt_node_move incl. the re-parenting of
  handed-over children, the recursion into namesakes and the update of the caller's list reference); the link
  invariants in pointer terms; release exactly once; a clone realises the relabelled source (same shape, names
  and values at every depth); the walk the drivers print is the abstraction.
  `history_wf`: for any history of new/after/before/add/insert/unlink/move/clone/clear/destroy from the empty store
  (`runOp`, the function the model driver executes) the model never fails and the store realises the specification
  state.
  `abs_ops` states add/insert/clone/move through the spec state `Forest.St` (which also searches the operands in
  `tops`; `Lemmas/NodesSt.lean` ties `sibsOf?`/`detached?`/`topOf?`/`find?` to the located form).
  gnode_swap.c (children of two nodes exchanged) and gnode_relink.c (parent/predecessor
  links below a node restored from the child/successor links) are modelled (`Store.swap`, `Store.relink`) and
  compared with the specification (`St.swap`, `St.relink`) by the correspondence run, incl. relink on wiped links;
  no theorem about them.
-/
import MptModel.Lemmas.NodesHistory
import MptModel.Lemmas.NodesWalk
namespace Mpt.C14
open Mpt Mpt.Nodes Mpt.Forest

/-! ### example store: `0:a(1:b)` and the detached root `2:a=v` -/

def exStore : Store :=
  { nodes := [ { children := some 1, name := some "a" },
               { parent := some 0, name := some "b" },
               { name := some "a", value := some "v" } ],
    freed := [] }

def exTops : List Forest := [[.node 2 (some "a") (some "v") []], [.node 0 (some "a") none [.node 1 (some "b") none []]]]

theorem exRealises : Realises exStore exTops := by
  refine ⟨?_, by simp [exTops], ?_, by simp [exStore], ?_⟩
  · intro l hl
    simp only [exTops, List.mem_cons, List.not_mem_nil, or_false] at hl
    rcases hl with rfl | rfl
    · exact ⟨by simp, by simp [Real_cons, exStore, headId]⟩
    · exact ⟨by simp, by simp [Real_cons, exStore, headId, Tree.id]⟩
  · intro i n hn _
    match i with
    | 0 | 1 | 2 => simp [exTops]
    | i + 3 => simp [exStore] at hn
  · intro i
    match i with
    | 0 | 1 | 2 => simp [exStore]
    | i + 3 => simp [exStore]


/-- On a well-formed store every live record satisfies the invariants the property names: next/prev agree
    and siblings share the parent, the first-child link leads to a node without predecessor that names this
    node as parent, the parent is alive and its first-child link is the head of the sibling list.
    ("No cycles, no node reachable from two places" is the existence of the finite forest with
    duplicate-free handles inside `WF`.) -/
theorem wf_links {s : Store} (h : WF s) : ∀ i n, s.Live i n → LinksAt s i n := by
  obtain ⟨tops, hR⟩ := h
  exact hR.links

example : LinksAt exStore 1 { parent := some 0, name := some "b" } :=
  wf_links ⟨exTops, exRealises⟩ 1 _ ⟨rfl, rfl⟩

/-- The walk both drivers perform after every op (every list head = live node without parent and predecessor,
    `prev`/`parent` of every element checked, nothing reached twice, nothing live left over) returns on a
    well-formed store exactly the realised lists, when these are listed in the order of creation of their heads:
    what the model driver prints in its `C` section is the abstraction the theorems speak about. -/
theorem walk_is_abstraction {s : Store} {tops : List Forest} (h : Realises s tops)
    (hord : tops.filterMap headId = s.heads) : s.walk = .ok tops := by
  have hfuel : ∀ l ∈ tops, (ids l).length + 1 ≤ s.fuel := by
    intro l hl
    have := h.ids_length_le hl
    simp only [Store.fuel]
    omega
  have hw := walkHeads_real tops [] (fun l hl => h.real l hl) h.nodup (by simp) hfuel
  rw [hord] at hw
  simp only [Store.walk, hw]
  have : s.liveIds.find? (fun i => !((tops.flatMap ids).reverse ++ []).contains i) = none := by
    apply List.find?_eq_none.2
    intro i hi
    simp only [Store.liveIds, List.mem_filter, List.mem_range] at hi
    cases hn : s.nodes[i]? with
    | none => simp [hn] at hi
    | some n =>
      simp [hn] at hi
      have := h.cover i n hn hi.2
      simp [this]
  rw [this]

/-- the walk's starting points are exactly the heads of the realised top-level lists -/
theorem heads_are_roots {s : Store} {tops : List Forest} (h : Realises s tops) (i : Nat) :
    i ∈ s.heads ↔ ∃ l ∈ tops, headId l = some i := by
  rw [Nodes.mem_heads]
  constructor
  · rintro ⟨n, hn, ha, hp, hv⟩
    have hi := h.cover i n hn ha
    obtain ⟨l, hl, hil⟩ := List.mem_flatMap.1 hi
    exact ⟨l, hl, (Real.root_is_head (h.real l hl).2 hil hn hp hv).2.2⟩
  · rintro ⟨l, hl, hh⟩
    have hr := (h.real l hl).2
    cases l with
    | nil => simp at hh
    | cons t ts =>
      cases t with
      | node j nm v cs =>
        simp at hh; subst hh
        rw [Real_cons] at hr
        exact ⟨_, hr.1, rfl, rfl, rfl⟩

example : exStore.walk = .ok [[.node 0 (some "a") none [.node 1 (some "b") none []]], [.node 2 (some "a") (some "v") []]] :=
  walk_is_abstraction (exRealises.perm (List.Perm.swap _ _ _)) (by decide)

/-- the abstraction relation does not depend on the order in which the top-level lists are given -/
theorem realises_perm {s : Store} {tops tops' : List Forest} (h : Realises s tops) (hp : tops'.Perm tops) :
    Realises s tops' := h.perm hp

/-- every node has a sibling list (so the `SibsAt` hypothesis of the theorems below can always be met) -/
theorem sibs_exist {p : Nat} {l : Forest} (hnd : (ids l).Nodup) (hp : p ∈ ids l) : ∃ L j par, SibsAt p l L j par := by
  revert hnd hp
  induction l using forest_induct with
  | nil => intro _ h; simp at h
  | cons i n v cs ts ihc iht =>
    intro hnd hp
    obtain ⟨⟨hics, hits⟩, ndcs, ndts, disj⟩ := nodup_ids_cons.1 hnd
    by_cases hip : i = p
    · exact ⟨_, 0, none, SibsAt.top (by rw [idx?_cons]; simp [hip])⟩
    simp only [ids_cons, List.mem_cons, List.mem_append] at hp
    rcases hp with rfl | hp | hp
    · exact absurd rfl hip
    · -- below the first root: a top-level position there is a position among the children of `i`
      obtain ⟨L, j, par, h⟩ := ihc ndcs hp
      cases h with
      | top hj => exact ⟨_, j, some i, SibsAt.kids (tq := .node i n v cs) (find?_cons_self i n v cs ts) hj⟩
      | @kids q tq _ hf hj =>
        have hiq : ¬ i = q := by rintro rfl; exact hics (find?_mem hf).1
        exact ⟨_, j, some q, SibsAt.kids (by simp only [find?, hiq, ↓reduceIte, hf]) hj⟩
    · obtain ⟨L, j, par, h⟩ := iht ndts hp
      cases h with
      | top hj => exact ⟨_, j + 1, none, SibsAt.top (by rw [idx?_cons]; simp [hip, hj])⟩
      | @kids q tq _ hf hj =>
        have hq := (find?_mem hf).1
        have hiq : ¬ i = q := by rintro rfl; exact hits hq
        exact ⟨_, j, some q,
          SibsAt.kids (by simp only [find?, hiq, ↓reduceIte, find?_none (fun h => disj q h hq), hf]) hj⟩


/-- `mpt_gnode_after(p, x)`, `x` a detached root outside the structure of `p`: `x` is inserted behind `p` -/
theorem abs_after {s : Store} {p x j : Nat} {n' : Name} {v' : Val} {cs' l0 L : Forest} {rest : List Forest}
    {par : Option Nat}
    (hR : Realises s ([.node x n' v' cs'] :: l0 :: rest)) (hat : SibsAt p l0 L j par) :
    ∃ s', s.gnodeAfter (some p) x = .ok s' ∧
      Realises s' (applyAt par (fun L => L.insertIdx (j + 1) (.node x n' v' cs')) l0 :: rest) :=
  after_refines hR hat

example : ∃ s', exStore.gnodeAfter (some 1) 2 = .ok s' ∧
    Realises s' [[.node 0 (some "a") none [.node 1 (some "b") none [], .node 2 (some "a") (some "v") []]]] :=
  by simpa [applyAt, modKids, Tree.children] using
    abs_after (p := 1) (rest := []) exRealises (SibsAt.first_kid ..)

/-- `mpt_gnode_before(p, x)`: `x` is inserted in front of `p` (and becomes the parent's first child when `p` was) -/
theorem abs_before {s : Store} {p x j : Nat} {n' : Name} {v' : Val} {cs' l0 L : Forest} {rest : List Forest}
    {par : Option Nat}
    (hR : Realises s ([.node x n' v' cs'] :: l0 :: rest)) (hat : SibsAt p l0 L j par) :
    ∃ s', s.gnodeBefore (some p) x = .ok s' ∧
      Realises s' (applyAt par (fun L => L.insertIdx j (.node x n' v' cs')) l0 :: rest) :=
  before_refines hR hat

example : ∃ s', exStore.gnodeBefore (some 1) 2 = .ok s' ∧
    Realises s' [[.node 0 (some "a") none [.node 2 (some "a") (some "v") [], .node 1 (some "b") none []]]] :=
  by simpa [applyAt, modKids, Tree.children] using
    abs_before (p := 1) (rest := []) exRealises (SibsAt.first_kid ..)

/-- `mpt_gnode_add(first, pos, x)` by position: `x` is placed into the sibling list of `first` at the index the
    position denotes — `addIdx`: 0 = end, k > 0 = in front of the k-th element counted from `first` (end when there is
    none), -k = so that k elements follow (in front of `first` when the list is shorter) -/
theorem abs_add {s : Store} {first x f : Nat} {n' : Name} {v' : Val} {cs' l0 L : Forest} {rest : List Forest}
    {par : Option Nat} (pos : Int)
    (hR : Realises s ([.node x n' v' cs'] :: l0 :: rest)) (hat : SibsAt first l0 L f par) :
    ∃ s', s.add first pos x false = .ok s' ∧
      Realises s' (applyAt par (fun L' => L'.insertIdx (addIdx L.length f pos) (.node x n' v' cs')) l0 :: rest) :=
  add_at_refines pos false hR hat

/-- `mpt_gnode_insert(parent, pos, x)` by position, parent with children -/
theorem abs_insert {s : Store} {parent x : Nat} {n' : Name} {v' : Val} {cs' l0 : Forest} {rest : List Forest}
    {tp : Tree} (pos : Int)
    (hR : Realises s ([.node x n' v' cs'] :: l0 :: rest)) (hf : find? parent l0 = some tp) (hne : tp.children ≠ []) :
    ∃ s', s.insert parent pos x false = .ok s' ∧
      Realises s' (modKids parent (fun L' => L'.insertIdx (addIdx tp.children.length 0 pos) (.node x n' v' cs')) l0 :: rest) :=
  insert_at_refines pos false hR hf hne

/-- `mpt_gnode_insert`/`mpt_node_insert(parent, pos, x)`, parent without children: `x` becomes the only child -/
theorem abs_insert_first_child {s : Store} {parent x : Nat} {n' : Name} {v' : Val} {cs' l0 : Forest} {rest : List Forest}
    {tp : Tree} (pos : Int) (byName : Bool)
    (hR : Realises s ([.node x n' v' cs'] :: l0 :: rest)) (hf : find? parent l0 = some tp) (hempty : tp.children = []) :
    ∃ s', s.insert parent pos x byName = .ok s' ∧
      Realises s' (modKids parent (fun _ => [.node x n' v' cs']) l0 :: rest) :=
  insert_empty_refines pos byName hR hf hempty

example : ∃ s', exStore.insert 0 (-1) 2 false = .ok s' ∧
    Realises s' [[.node 0 (some "a") none [.node 2 (some "a") (some "v") [], .node 1 (some "b") none []]]] := by
  simpa [modKids, addIdx, Tree.children] using
    abs_insert (rest := []) (parent := 0) (tp := .node 0 (some "a") none [.node 1 (some "b") none []]) (-1) exRealises
      (by simp [find?]) (by simp [Tree.children])

/-- `mpt_node_locate(first, pos, name)`: the element `locIdx` names — pos > 0: the pos-th namesake from `first`
    on, pos < 0: the |pos|-th namesake before `first` counted backwards, 0: the last element if it is a namesake -/
theorem abs_locate {s : Store} {first f : Nat} {l0 L : Forest} {rest : List Forest} {par : Option Nat}
    (key : Name) (pos : Int) (hR : Realises s (l0 :: rest)) (hat : SibsAt first l0 L f par) :
    s.locate (some first) pos key = .ok ((locIdx L f key pos).bind fun i => (L[i]?).map Tree.id) := by
  obtain ⟨tf, htf, rfl⟩ := getElem?_of_idx? hat.idx
  exact locate_real key pos (hat.real (hR.real l0 (by simp)).2) htf (hat.length_le_fuel hR (by simp))

example : exStore.locate (some 1) 1 (some "b") = .ok (some 1) := by
  have hk : locIdx [Tree.node 1 (some "b") none []] 0 (some "b") 1 = some 0 := by decide
  simpa [Tree.children, hk, Tree.id] using
    abs_locate (first := 1) (l0 := [.node 0 (some "a") none [.node 1 (some "b") none []]]) (rest := [[.node 2 (some "a") (some "v") []]])
      (some "b") 1 (exRealises.perm (List.Perm.swap _ _ _))
      (SibsAt.first_kid ..)

/-- `mpt_node_add(first, pos, x)` by name (the namesakes of `x` are searched with node_locate.c): `x` is placed at
    the index `nameIdx` names (behind the last / in front of the pos-th namesake, …); nothing changes where
    `nameIdx` is `none` -/
theorem abs_add_by_name {s : Store} {first x f : Nat} {n' : Name} {v' : Val} {cs' l0 L : Forest} {rest : List Forest}
    {par : Option Nat} (pos : Int)
    (hR : Realises s ([.node x n' v' cs'] :: l0 :: rest)) (hat : SibsAt first l0 L f par) :
    ∃ s', s.add first pos x true = .ok s' ∧
      Realises s' (match nameIdx L f n' pos with
        | some k => applyAt par (fun L' => L'.insertIdx k (.node x n' v' cs')) l0 :: rest
        | none => [.node x n' v' cs'] :: l0 :: rest) := by
  obtain ⟨s', h1, h2⟩ := add_at_refines pos true hR hat
  rw [if_pos rfl] at h2
  refine ⟨s', h1, ?_⟩
  cases hq : nameIdx L f n' pos with
  | none => rwa [hq] at h2
  | some k => rwa [hq] at h2

/-- `mpt_node_insert(parent, pos, x)` by name, parent with children -/
theorem abs_insert_by_name {s : Store} {parent x : Nat} {n' : Name} {v' : Val} {cs' l0 : Forest} {rest : List Forest}
    {tp : Tree} (pos : Int)
    (hR : Realises s ([.node x n' v' cs'] :: l0 :: rest)) (hf : find? parent l0 = some tp) (hne : tp.children ≠ []) :
    ∃ s', s.insert parent pos x true = .ok s' ∧
      Realises s' (match nameIdx tp.children 0 n' pos with
        | some k => modKids parent (fun L' => L'.insertIdx k (.node x n' v' cs')) l0 :: rest
        | none => [.node x n' v' cs'] :: l0 :: rest) := by
  obtain ⟨s', h1, h2⟩ := insert_at_refines pos true hR hf hne
  rw [if_pos rfl] at h2
  refine ⟨s', h1, ?_⟩
  cases hq : nameIdx tp.children 0 n' pos with
  | none => rwa [hq] at h2
  | some k => rwa [hq] at h2

example : ∃ s', exStore.add 0 0 2 true = .ok s' ∧
    Realises s' [[.node 0 (some "a") none [.node 1 (some "b") none []], .node 2 (some "a") (some "v") []]] := by
  have h := abs_add_by_name (rest := []) (first := 0) (f := 0) (par := none)
    (L := [.node 0 (some "a") none [.node 1 (some "b") none []]]) 0 exRealises (SibsAt.top (by rfl))
  have hk : nameIdx [.node 0 (some "a") none [.node 1 (some "b") none []]] 0 (some "a") 0 = some 1 := by decide
  rw [hk] at h
  simpa [applyAt] using h

/-- `mpt_node_unlink(x)`: `x` and everything below it leaves its sibling list and becomes a list of its own;
    the result is the old successor.  (For a detached root nothing is linked and nothing changes.) -/
theorem abs_unlink {s : Store} {x j : Nat} {l0 L : Forest} {rest : List Forest} {par : Option Nat} {t : Tree}
    (hR : Realises s (l0 :: rest)) (hat : SibsAt x l0 L j par) (ht : L[j]? = some t)
    (hne : applyAt par (fun L => L.eraseIdx j) l0 ≠ []) :
    ∃ s', s.unlink x = .ok (s', headId (L.drop (j + 1))) ∧
      Realises s' ([t] :: applyAt par (fun L => L.eraseIdx j) l0 :: rest) :=
  unlink_refines hR hat ht hne

example : ∃ s', exStore.unlink 1 = .ok (s', none) ∧
    Realises s' [[.node 1 (some "b") none []], [.node 0 (some "a") none []], [.node 2 (some "a") (some "v") []]] :=
  by simpa [applyAt, modKids, Tree.children, headId] using
    abs_unlink (x := 1) (t := .node 1 (some "b") none []) (l0 := [.node 0 (some "a") none [.node 1 (some "b") none []]]) (rest := [[.node 2 (some "a") (some "v") []]])
      (exRealises.perm (List.Perm.swap _ _ _))
      (SibsAt.first_kid ..)
      (by simp) (by simp [applyAt, modKids])

/-- `mpt_node_unlink(x)` of a node that is a list of its own: nothing changes -/
theorem abs_unlink_lone {s : Store} {x : Nat} {n : Name} {v : Val} {cs : Forest} {rest : List Forest}
    (hR : Realises s ([.node x n v cs] :: rest)) : s.unlink x = .ok (s, none) :=
  unlink_lone hR

example : exStore.unlink 2 = .ok (exStore, none) := abs_unlink_lone exRealises

/-- `mpt_node_move(&from, to)`, `from` = `a` (the `ia`-th element of its sibling list `S`), `to` = `b` (the `d`-th
    element of `D`), the two in different top-level structures: the list from `a` on is merged into `D` as
    `Forest.merge` says — an element without namesake (searched from `b` on) moves to the end of `D` with everything
    below it, an element with namesake stays (emptied) and its children are merged into the namesake's children
    (handed over and re-parented when the namesake has none); the result is the number of moved nodes.
    `slot` is where the caller keeps `from`: the child link of the parent (possible only when there is one) or a
    variable; a source list that became empty disappears from the top-level lists. -/
theorem abs_move {s : Store} {a b ia d : Nat} {lsrc ldst S D : Forest} {rest : List Forest} {ps pd : Option Nat}
    {slot : Store.Slot}
    (hR : Realises s (lsrc :: ldst :: rest)) (hsa : SibsAt a lsrc S ia ps) (hsb : SibsAt b ldst D d pd)
    (hslot : ∀ p, slot = .kids p → ps = some p) :
    ∃ s', s.move s.fuel slot (some a) b = .ok (s', (merge (S.drop ia) D d).2.2) ∧
      Realises s' ((if (applyAt ps (fun _ => S.take ia ++ (merge (S.drop ia) D d).1) lsrc).isEmpty then []
          else [applyAt ps (fun _ => S.take ia ++ (merge (S.drop ia) D d).1) lsrc]) ++
        applyAt pd (fun _ => (merge (S.drop ia) D d).2.1) ldst :: rest) :=
  move_refines hR hsa hsb hslot

/-- moving the detached `2:a=v` onto `0:a(1:b)`: namesake, no children on the source side — nothing moves -/
example : ∃ s', exStore.move exStore.fuel .loc (some 2) 0 = .ok (s', 0) ∧ Realises s' exTops := by
  have h := abs_move (slot := .loc) (rest := []) exRealises (SibsAt.top (p := 2) (j := 0) (by rfl))
    (SibsAt.top (p := 0) (j := 0) (by rfl)) (by simp)
  have hm : merge ([Tree.node 2 (some "a") (some "v") []].drop 0) [.node 0 (some "a") none [.node 1 (some "b") none []]] 0 =
      ([.node 2 (some "a") (some "v") []], [.node 0 (some "a") none [.node 1 (some "b") none []]], 0) := by
    simp [merge, findName, namesakes, midx, Tree.name]
  simp only [hm] at h
  simpa [applyAt, exTops] using h

/-- moving the child `1:b` of `0:a` (list reference = the parent's child link) to the list of `2:a`: no namesake,
    the node moves, the parent's child link is cleared -/
example : ∃ s', exStore.move exStore.fuel (.kids 0) (some 1) 2 = .ok (s', 1) ∧
    Realises s' [[.node 0 (some "a") none []], [.node 2 (some "a") (some "v") [], .node 1 (some "b") none []]] := by
  have h := abs_move (slot := .kids 0) (rest := []) (exRealises.perm (List.Perm.swap _ _ _))
    (SibsAt.first_kid ..)
    (SibsAt.top (p := 2) (j := 0) (by rfl)) (by simp)
  have hm : merge ([Tree.node 1 (some "b") none []].drop 0) [.node 2 (some "a") (some "v") []] 0 =
      ([], [.node 2 (some "a") (some "v") [], .node 1 (some "b") none []], 1) := by
    simp [merge, findName, namesakes, midx, Tree.name]
  simp only [hm] at h
  simpa [applyAt, modKids] using h

/-- `mpt_node_clear(x)`: the children of `x` are gone, everything else keeps its place -/
theorem abs_clear {s : Store} {x : Nat} {l0 : Forest} {tx : Tree} {rest : List Forest} {fuel : Nat}
    (hR : Realises s (l0 :: rest)) (hfx : find? x l0 = some tx) (hf : cost tx.children + 1 ≤ fuel) :
    ∃ s', s.clear fuel x = .ok s' ∧ Realises s' (modKids x (fun _ => []) l0 :: rest) :=
  let ⟨s', h1, h2, _⟩ := clear_refines hR hfx hf
  ⟨s', h1, h2⟩

/-- `mpt_node_destroy(x)` of a detached root: the tree is gone -/
theorem abs_destroy {s : Store} {x : Nat} {n : Name} {v : Val} {cs : Forest} {rest : List Forest} {fuel : Nat}
    (hR : Realises s ([.node x n v cs] :: rest)) (hf : cost cs + 2 ≤ fuel) :
    ∃ s', s.destroy fuel x = .ok (s', true) ∧ Realises s' rest :=
  let ⟨s', h1, h2, _⟩ := destroy_refines hR hf
  ⟨s', h1, h2⟩

/-- `mpt_node_destroy` refuses a node that still has a parent, a predecessor or a successor -/
theorem destroy_linked_refused {s : Store} {x : Nat} {xn : Node} {fuel : Nat} (hx : s.Live x xn)
    (hl : xn.parent.isSome ∨ xn.next.isSome ∨ xn.prev.isSome) : s.destroy (fuel + 1) x = .ok (s, false) := by
  simp only [Store.destroy, Store.get_ok hx, Res.bind_ok]
  simp only [hl, ↓reduceIte]
  rfl

example : exStore.destroy exStore.fuel 1 = .ok (exStore, false) :=
  destroy_linked_refused (xn := { parent := some 0, name := some "b" }) ⟨rfl, rfl⟩ (Or.inl rfl)

/-- `mpt_node_clone(x)`: a new detached root with the same name and value -/
theorem abs_node_clone {s : Store} {tops : List Forest} {x : Nat} {xn : Node}
    (hR : Realises s tops) (hx : s.Live x xn) :
    ∃ s', s.nodeClone x = .ok (s', s.nodes.length) ∧
      Realises s' (tops ++ [[.node s.nodes.length xn.name xn.value []]]) :=
  nodeClone_refines hR hx

/-- `mpt_tree_clone(x)`: the copy is a new detached root realising the relabelled source tree -/
theorem abs_tree_clone {s : Store} {x : Nat} {l0 : Forest} {rest : List Forest} {n : Name} {v : Val} {cs : Forest}
    (hR : Realises s (l0 :: rest)) (hfx : find? x l0 = some (.node x n v cs)) :
    ∃ s', s.treeClone x = .ok (s', s.nodes.length) ∧
      Realises s' ((l0 :: rest) ++ [(relabel [.node x n v cs] s.nodes.length).1]) :=
  treeClone_refines hR hfx

/-- `mpt_list_clone(x)`: the copy of the sibling list from `x` on is a new top-level list realising the
    relabelled source list -/
theorem abs_list_clone {s : Store} {x j : Nat} {l0 L : Forest} {rest : List Forest} {par : Option Nat}
    (hR : Realises s (l0 :: rest)) (hat : SibsAt x l0 L j par) :
    ∃ s', s.listClone s.fuel (some x) = .ok (s', some s.nodes.length) ∧
      Realises s' ((l0 :: rest) ++ [(relabel (L.drop j) s.nodes.length).1]) :=
  listClone_refines hR hat

example : ∃ s', exStore.treeClone 0 = .ok (s', 3) ∧
    Realises s' [[.node 0 (some "a") none [.node 1 (some "b") none []]], [.node 2 (some "a") (some "v") []],
      [.node 3 (some "a") none [.node 4 (some "b") none []]]] := by
  simpa [relabel, exStore] using
    abs_tree_clone (x := 0) (n := some "a") (v := none) (cs := [.node 1 (some "b") none []])
      (exRealises.perm (List.Perm.swap _ _ _)) (by simp [find?])

/-- the fuel both drivers pass to `clear`/`destroy` (`Store.fuel`) suffices on every well-formed store -/
theorem fuel_suffices {s : Store} {tops : List Forest} (h : Realises s tops) {l : Forest} (hl : l ∈ tops) :
    cost l + 2 ≤ s.fuel := by
  have := h.cost_le hl
  simp only [Store.fuel]
  omega


/-- Every operation of the property keeps the store well-formed (and succeeds), in every situation the C
    preconditions allow: `x` a detached root outside the structure of the target for after/before/add/insert
    (by position and by name), any node for unlink/clear/clone, a detached root for destroy (a linked node is
    refused and the store unchanged, `destroy_linked_refused`), two nodes of different structures for move. -/
theorem wf_preserved {s : Store} {tops : List Forest} (hR : Realises s tops) :
    -- after / before
    (∀ p x j n' v' cs' l0 L rest par, tops.Perm ([.node x n' v' cs'] :: l0 :: rest) → SibsAt p l0 L j par →
        (∃ s', s.gnodeAfter (some p) x = .ok s' ∧ WF s') ∧ (∃ s', s.gnodeBefore (some p) x = .ok s' ∧ WF s')) ∧
    -- add / insert by position and by name
    (∀ first x f n' v' cs' l0 L rest par (pos : Int) (byName : Bool), tops.Perm ([.node x n' v' cs'] :: l0 :: rest) →
        SibsAt first l0 L f par → ∃ s', s.add first pos x byName = .ok s' ∧ WF s') ∧
    (∀ parent x n' v' cs' l0 rest tp (pos : Int) (byName : Bool), tops.Perm ([.node x n' v' cs'] :: l0 :: rest) →
        find? parent l0 = some tp → ∃ s', s.insert parent pos x byName = .ok s' ∧ WF s') ∧
    -- unlink of any node
    (∀ x j l0 L rest par, tops.Perm (l0 :: rest) → SibsAt x l0 L j par → ∃ r, s.unlink x = .ok r ∧ WF r.1) ∧
    -- clear of any node
    (∀ x l0 tx rest, tops.Perm (l0 :: rest) → find? x l0 = some tx → ∃ s', s.clear s.fuel x = .ok s' ∧ WF s') ∧
    -- destroy of a detached root
    (∀ x n v cs rest, tops.Perm ([.node x n v cs] :: rest) → ∃ s', s.destroy s.fuel x = .ok (s', true) ∧ WF s') ∧
    -- clones
    (∀ x xn, s.Live x xn → ∃ r, s.nodeClone x = .ok r ∧ WF r.1) ∧
    (∀ x n v cs l0 rest, tops.Perm (l0 :: rest) → find? x l0 = some (.node x n v cs) → ∃ r, s.treeClone x = .ok r ∧ WF r.1) ∧
    (∀ x j l0 L rest par, tops.Perm (l0 :: rest) → SibsAt x l0 L j par → ∃ r, s.listClone s.fuel (some x) = .ok r ∧ WF r.1) ∧
    -- move / merge
    (∀ a b ia d lsrc ldst S D rest ps pd slot, tops.Perm (lsrc :: ldst :: rest) → SibsAt a lsrc S ia ps →
        SibsAt b ldst D d pd → (∀ p, slot = Store.Slot.kids p → ps = some p) →
        ∃ r, s.move s.fuel slot (some a) b = .ok r ∧ WF r.1) := by
  -- each conjunct is the refinement theorem of the operation (`abs_*`; add and insert in both modes at once:
  -- `add_at_refines`, `insert_at_refines`), with the new lists forgotten
  refine ⟨?_, ?_, ?_, ?_, ?_, ?_, ?_, ?_, ?_, ?_⟩
  · intro p x j n' v' cs' l0 L rest par hp hat
    obtain ⟨s1, h1, r1⟩ := abs_after (hR.perm hp.symm) hat
    obtain ⟨s2, h2, r2⟩ := abs_before (hR.perm hp.symm) hat
    exact ⟨⟨s1, h1, _, r1⟩, ⟨s2, h2, _, r2⟩⟩
  · intro first x f n' v' cs' l0 L rest par pos byName hp hat
    exact let ⟨s1, h1, r1⟩ := add_at_refines pos byName (hR.perm hp.symm) hat; ⟨s1, h1, _, r1⟩
  · intro parent x n' v' cs' l0 rest tp pos byName hp hf
    by_cases hc : tp.children = []
    · exact let ⟨s1, h1, r1⟩ := abs_insert_first_child pos byName (hR.perm hp.symm) hf hc; ⟨s1, h1, _, r1⟩
    · exact let ⟨s1, h1, r1⟩ := insert_at_refines pos byName (hR.perm hp.symm) hf hc; ⟨s1, h1, _, r1⟩
  · intro x j l0 L rest par hp hat
    obtain ⟨t, ht, _⟩ := getElem?_of_idx? hat.idx
    exact let ⟨r, h1, r1⟩ := unlink_any_refines (hR.perm hp.symm) hat ht; ⟨r, h1, _, r1⟩
  · intro x l0 tx rest hp hfx
    exact let ⟨s1, h1, r1⟩ := abs_clear (hR.perm hp.symm) hfx (clear_fuel (hR.perm hp.symm) hfx); ⟨s1, h1, _, r1⟩
  · intro x n v cs rest hp
    exact let ⟨s1, h1, r1⟩ := abs_destroy (hR.perm hp.symm) (destroy_fuel (hR.perm hp.symm)); ⟨s1, h1, _, r1⟩
  · exact fun x xn hx => let ⟨_, h1, r1⟩ := abs_node_clone hR hx; ⟨_, h1, _, r1⟩
  · exact fun x n v cs l0 rest hp hfx => let ⟨_, h1, r1⟩ := abs_tree_clone (hR.perm hp.symm) hfx; ⟨_, h1, _, r1⟩
  · exact fun x j l0 L rest par hp hat => let ⟨_, h1, r1⟩ := abs_list_clone (hR.perm hp.symm) hat; ⟨_, h1, _, r1⟩
  · exact fun a b ia d lsrc ldst S D rest ps pd slot hp hsa hsb hslot =>
      let ⟨_, h1, r1⟩ := abs_move (hR.perm hp.symm) hsa hsb hslot; ⟨_, h1, _, r1⟩

example : ∃ s', exStore.destroy exStore.fuel 2 = .ok (s', true) ∧ WF s' :=
  (wf_preserved exRealises).2.2.2.2.2.1 2 _ _ _ _ (List.Perm.refl _)


/-- `abs_ops` through the specification state `Forest.St`, whose operations first search their operands in `tops`
    (`sibsOf?`, `detached?`, `topOf?`, `find?`) and then change the lists: whenever the specification accepts
    add / insert (by position or by name), tree clone, list clone or move, the C function's model succeeds on every
    store that realises `sp.tops` and the new store realises the new `tops` (move: with the same count). -/
theorem abs_ops (s : Store) (sp : Forest.St) (hR : Realises s sp.tops) (hn : sp.next = s.nodes.length) :
    (∀ p pos x byName sp', sp.add p pos x byName = some sp' → ∃ s', s.add p pos x byName = .ok s' ∧ Realises s' sp'.tops) ∧
    (∀ p pos x byName sp', sp.insert p pos x byName = some sp' → ∃ s', s.insert p pos x byName = .ok s' ∧ Realises s' sp'.tops) ∧
    (∀ x sp', sp.clone x 1 = some sp' → ∃ r, s.treeClone x = .ok r ∧ Realises r.1 sp'.tops) ∧
    (∀ x sp', sp.clone x 2 = some sp' → ∃ r, s.listClone s.fuel (some x) = .ok r ∧ Realises r.1 sp'.tops) ∧
    (∀ a b sp' m, sp.move a b = some (sp', m) →
      ∃ slot r, s.move s.fuel slot (some a) b = .ok r ∧ r.2 = m ∧ Realises r.1 sp'.tops) :=
  ⟨fun _ _ _ _ _ h => st_add_refines hR h, fun _ _ _ _ _ h => st_insert_refines hR h,
   fun _ _ h => (st_clone_refines hR hn).1 h, fun _ _ h => (st_clone_refines hR hn).2 h,
   fun _ _ _ _ h => st_move_refines hR h⟩

/-- the spec state of the example store; `add 0 0 2 byname` puts `2:a=v` behind its namesake `0:a` -/
example : ∃ s', exStore.add 0 0 2 true = .ok s' ∧
    ∀ sp', ({ tops := exTops, next := 3 } : Forest.St).add 0 0 2 true = some sp' → Realises s' sp'.tops := by
  obtain ⟨s0, h0, _⟩ := abs_add_by_name (rest := []) (first := 0) (f := 0) (par := none)
    (L := [.node 0 (some "a") none [.node 1 (some "b") none []]]) 0 exRealises (SibsAt.top (by rfl))
  refine ⟨s0, h0, fun sp' h => ?_⟩
  obtain ⟨s1, h1, r1⟩ := (abs_ops exStore { tops := exTops, next := 3 } exRealises rfl).1 0 0 2 true sp' h
  rw [h0] at h1
  cases h1
  exact r1

/-- `abs_ops` for operands given in located form (`SibsAt`/`find?` in a list of `tops`): insert/add by position and
    by name, tree/list clone and move act on the abstraction as the forest operations (`insertIdx` at
    `addIdx`/`nameIdx`, `relabel`, `merge`) say; `abs_ops` connects it to the operand search of `Forest.St`. -/
theorem abs_ops_located {s : Store} {tops : List Forest} (hR : Realises s tops) :
    -- add by position / by name
    (∀ first x f n' v' cs' l0 L rest par (pos : Int), tops.Perm ([.node x n' v' cs'] :: l0 :: rest) → SibsAt first l0 L f par →
      (∃ s', s.add first pos x false = .ok s' ∧
        Realises s' (applyAt par (fun L' => L'.insertIdx (addIdx L.length f pos) (.node x n' v' cs')) l0 :: rest)) ∧
      (∃ s', s.add first pos x true = .ok s' ∧
        Realises s' (match nameIdx L f n' pos with
          | some k => applyAt par (fun L' => L'.insertIdx k (.node x n' v' cs')) l0 :: rest
          | none => [.node x n' v' cs'] :: l0 :: rest))) ∧
    -- insert by position / by name
    (∀ parent x n' v' cs' l0 rest tp (pos : Int), tops.Perm ([.node x n' v' cs'] :: l0 :: rest) → find? parent l0 = some tp →
      tp.children ≠ [] →
      (∃ s', s.insert parent pos x false = .ok s' ∧
        Realises s' (modKids parent (fun L' => L'.insertIdx (addIdx tp.children.length 0 pos) (.node x n' v' cs')) l0 :: rest)) ∧
      (∃ s', s.insert parent pos x true = .ok s' ∧
        Realises s' (match nameIdx tp.children 0 n' pos with
          | some k => modKids parent (fun L' => L'.insertIdx k (.node x n' v' cs')) l0 :: rest
          | none => [.node x n' v' cs'] :: l0 :: rest))) ∧
    (∀ parent x n' v' cs' l0 rest tp (pos : Int) (byName : Bool), tops.Perm ([.node x n' v' cs'] :: l0 :: rest) →
      find? parent l0 = some tp → tp.children = [] →
      ∃ s', s.insert parent pos x byName = .ok s' ∧ Realises s' (modKids parent (fun _ => [.node x n' v' cs']) l0 :: rest)) ∧
    -- tree / list clone
    (∀ x n v cs l0 rest, tops.Perm (l0 :: rest) → find? x l0 = some (.node x n v cs) →
      ∃ s', s.treeClone x = .ok (s', s.nodes.length) ∧
        Realises s' ((l0 :: rest) ++ [(relabel [.node x n v cs] s.nodes.length).1])) ∧
    (∀ x j l0 L rest par, tops.Perm (l0 :: rest) → SibsAt x l0 L j par →
      ∃ s', s.listClone s.fuel (some x) = .ok (s', some s.nodes.length) ∧
        Realises s' ((l0 :: rest) ++ [(relabel (L.drop j) s.nodes.length).1])) ∧
    -- move
    (∀ a b ia d lsrc ldst S D rest ps pd slot, tops.Perm (lsrc :: ldst :: rest) → SibsAt a lsrc S ia ps →
      SibsAt b ldst D d pd → (∀ p, slot = Store.Slot.kids p → ps = some p) →
      ∃ s', s.move s.fuel slot (some a) b = .ok (s', (merge (S.drop ia) D d).2.2) ∧
        Realises s' ((if (applyAt ps (fun _ => S.take ia ++ (merge (S.drop ia) D d).1) lsrc).isEmpty then []
            else [applyAt ps (fun _ => S.take ia ++ (merge (S.drop ia) D d).1) lsrc]) ++
          applyAt pd (fun _ => (merge (S.drop ia) D d).2.1) ldst :: rest)) := by
  exact ⟨fun _ _ _ _ _ _ _ _ _ _ pos hp hat => ⟨abs_add pos (hR.perm hp.symm) hat, abs_add_by_name pos (hR.perm hp.symm) hat⟩,
    fun _ _ _ _ _ _ _ _ pos hp hf hc =>
      ⟨abs_insert pos (hR.perm hp.symm) hf hc, abs_insert_by_name pos (hR.perm hp.symm) hf hc⟩,
    fun _ _ _ _ _ _ _ _ pos byName hp hf hc => abs_insert_first_child pos byName (hR.perm hp.symm) hf hc,
    fun _ _ _ _ _ _ hp hfx => abs_tree_clone (hR.perm hp.symm) hfx,
    fun _ _ _ _ _ _ hp hat => abs_list_clone (hR.perm hp.symm) hat,
    fun _ _ _ _ _ _ _ _ _ _ _ _ hp hsa hsb hslot => abs_move (hR.perm hp.symm) hsa hsb hslot⟩

example : ∃ s', exStore.move exStore.fuel .loc (some 2) 0 = .ok (s', 0) ∧ WF s' := by
  obtain ⟨s', h, r⟩ := (abs_ops_located exRealises).2.2.2.2.2 2 0 0 0 _ _ _ _ [] none none .loc (List.Perm.refl _)
    (SibsAt.top (p := 2) (j := 0) (by rfl)) (SibsAt.top (p := 0) (j := 0) (by rfl)) (by simp)
  have hm : (merge ([Tree.node 2 (some "a") (some "v") []].drop 0) [.node 0 (some "a") none [.node 1 (some "b") none []]] 0).2.2 = 0 := by
    simp [merge, findName, namesakes, midx, Tree.name]
  exact ⟨s', by rw [h, hm], _, r⟩


/-- creating a node (`mpt_node_new` + name + value): a new detached root, everything else as before -/
theorem created_wf {s : Store} {tops : List Forest} (hR : Realises s tops) (n : Name) (v : Val) :
    Realises (s.alloc n v).1 (tops ++ [[.node s.nodes.length n v []]]) :=
  new_refines hR n v

example : WF (({} : Store).alloc (some "a") none).1 := ⟨_, created_wf realises_empty (some "a") none⟩

/-- one operation of a history (`runOp`: new, after, before, add, insert, unlink, move, clone, clear, destroy; the call is
    skipped when the specification says its precondition does not hold, the model executes the C function otherwise):
    the model does not fail and the new store realises the new specification state -/
theorem step_wf {s : NSt} (hR : Realises s.m s.sp.tops) (op : NOp) :
    ∃ s', runOp s op = .ok s' ∧ Realises s'.m s'.sp.tops :=
  runOp_inv hR op

/-- For ANY history of these operations from the empty store: no call of the model fails, and after every history the
    store realises the specification state — hence it is well-formed (all link invariants of `wf_links` hold) and its
    `free` log lists exactly the released records, each once (`released_log`).  `runOp` is what the model driver
    executes for these operations; it takes the next handle from the store's record count. -/
theorem history_wf (ops : List NOp) :
    ∃ s, runOps {} ops = .ok s ∧ Realises s.m s.sp.tops ∧ WF s.m :=
  let ⟨s, h1, h2⟩ := runOps_inv ops (s := {}) realises_empty
  ⟨s, h1, h2, _, h2⟩

example : ∃ s, runOps {} [.new (some "a") none, .new (some "b") none, .insert 0 0 1 false, .clone 0 1, .move 2 0,
    .destroy 2, .unlink 1] = .ok s ∧ WF s.m :=
  let ⟨s, h1, _, h3⟩ := history_wf _
  ⟨s, h1, h3⟩


/-- On a well-formed store the `free` log has no duplicates and lists exactly the dead records:
    nothing is released twice, and nothing dead is missing from the log. -/
theorem released_log {s : Store} (h : WF s) :
    s.freed.Nodup ∧ ∀ i, i ∈ s.freed ↔ ∃ n, s.nodes[i]? = some n ∧ n.alive = false := by
  obtain ⟨tops, hR⟩ := h
  exact ⟨hR.freedNodup, hR.freedIff⟩

/-- `destroy` of a detached root and `clear` of any node release every node of the tree (resp. below the node)
    exactly once: the log grows by a duplicate-free enumeration (post-order) of exactly those handles, the
    call does not fault (a second `free` of a record is a fault in the model), and the result is well-formed. -/
theorem released_once {s : Store} :
    (∀ x n v cs rest fuel, Realises s ([.node x n v cs] :: rest) → cost cs + 2 ≤ fuel →
      ∃ s', s.destroy fuel x = .ok (s', true) ∧ Realises s' rest ∧
        s'.freed = s.freed ++ post [.node x n v cs] ∧ (post [.node x n v cs]).Perm (ids [.node x n v cs]) ∧
        (post [.node x n v cs]).Nodup) ∧
    (∀ x l0 tx rest fuel, Realises s (l0 :: rest) → find? x l0 = some tx → cost tx.children + 1 ≤ fuel →
      ∃ s', s.clear fuel x = .ok s' ∧ Realises s' (modKids x (fun _ => []) l0 :: rest) ∧
        s'.freed = s.freed ++ post tx.children ∧ (post tx.children).Perm (ids tx.children) ∧
        (post tx.children).Nodup) := by
  refine ⟨?_, ?_⟩
  · intro x n v cs rest fuel hR hf
    obtain ⟨s', h1, h2, h3⟩ := destroy_refines hR hf
    refine ⟨s', h1, h2, h3, post_perm _, ?_⟩
    exact (post_perm _).nodup_iff.2 (hR.ids_nodup (by simp))
  · intro x l0 tx rest fuel hR hfx hf
    obtain ⟨s', h1, h2, h3⟩ := clear_refines hR hfx hf
    refine ⟨s', h1, h2, h3, post_perm _, ?_⟩
    exact (post_perm _).nodup_iff.2 (find?_children_nodup (hR.ids_nodup (by simp)) hfx).2

example : ∃ s', exStore.clear exStore.fuel 0 = .ok s' ∧
    Realises s' (modKids 0 (fun _ => []) [.node 0 (some "a") none [.node 1 (some "b") none []]] :: [[.node 2 (some "a") (some "v") []]]) ∧
    s'.freed = [] ++ post [.node 1 (some "b") none []] ∧
    (post [.node 1 (some "b") none []]).Perm (ids [.node 1 (some "b") none []]) ∧ (post [.node 1 (some "b") none []]).Nodup :=
  released_once.2 0 _ (.node 0 (some "a") none [.node 1 (some "b") none []]) _ exStore.fuel
    (exRealises.perm (List.Perm.swap _ _ _)) (by simp [find?]) (by simp [cost, Tree.children, Store.fuel, exStore])


/-- A relabelled copy (what `clone tree`/`clone list` produce in S) has the same shape, names and values as its
    source at every depth, and fresh consecutive handles. -/
theorem clone_equal (l : Forest) (k : Nat) :
    shape (relabel l k).1 = shape l ∧ ids (relabel l k).1 = List.range' k (ids l).length :=
  ⟨shape_relabel l k, (ids_relabel l k).1⟩

example : shape (relabel [.node 0 (some "a") none [.node 1 (some "b") none []]] 7).1 =
    shape [.node 0 (some "a") none [.node 1 (some "b") none []]] := (clone_equal _ 7).1

/-- `clone_equal` on the pointer store: `mpt_tree_clone` and `mpt_list_clone` succeed on a well-formed store, the
    new store is well-formed again with the copy as an additional top-level list, and the copy has the same shape,
    names and values as its source at every depth (handles: the fresh consecutive record numbers). -/
theorem clone_equal_store {s : Store} {l0 : Forest} {rest : List Forest} (hR : Realises s (l0 :: rest)) :
    (∀ x n v cs, find? x l0 = some (.node x n v cs) →
      ∃ s' copy, s.treeClone x = .ok (s', s.nodes.length) ∧ Realises s' ((l0 :: rest) ++ [copy]) ∧
        shape copy = shape [.node x n v cs]) ∧
    (∀ x j L par, SibsAt x l0 L j par →
      ∃ s' copy, s.listClone s.fuel (some x) = .ok (s', some s.nodes.length) ∧ Realises s' ((l0 :: rest) ++ [copy]) ∧
        shape copy = shape (L.drop j)) := by
  exact ⟨fun x n v cs hfx => let ⟨s', h1, h2⟩ := abs_tree_clone hR hfx; ⟨s', _, h1, h2, (clone_equal _ _).1⟩,
    fun x j L par hat => let ⟨s', h1, h2⟩ := abs_list_clone hR hat; ⟨s', _, h1, h2, (clone_equal _ _).1⟩⟩

end Mpt.C14
