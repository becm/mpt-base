/-
  C05 — managed elements in typed buffers are finalised exactly once.

  The model is `Impl/Heap.lean` with element callbacks (those of the harness: a constructor takes the next
  token, writes it into the element and logs it, and may be refused by a schedule; a destructor logs the token
  it finds and scribbles over the element).  S = `Spec/Tokens.lean`: a set of live tokens; `Mpt.Heap.replay`
  (`Lemmas/TokReplay.lean`) is its transition function on callback events.

  The theorems hold for all element sizes ≥ 4, counts, positions and EVERY constructor-failure schedule:
  `exactly_once` (one operation of `EOp`: reserve, slice, insert, set with/without sources, cut, clone, drop, detach,
  reduce, buffer-level set with/without sources), `exactly_once_history` (whole histories; nothing is alive after the
  last handle is dropped), `ctor_failure`, `cxx_exactly_once` (every C++ operation of `XEOp`: resize, trim, skip,
  insert by default / placement / copy of a caller's element, reserve, detach, assignment, destruction) and
  `exactly_once_history_cxx` (histories mixing both alphabets).  Beside them stand statements about single loops and calls:
  `replay_fini`, `fini_only_elements`, `exactly_once_partial`, `ctor_failure_partial` (every schedule) and
  `copy_constructs`, `copy_constructs_set` (the empty schedule: no constructor is refused, so the events are exact).

  Scope: the theorems speak about heaps in which EVERY live buffer holds managed elements of the
  harness token type (constructor, destructor, ≥ 4 bytes), about `slice`/`insert` on handles that hold a buffer, and
  about runs whose token counter stays below 2^32 (tokens are 32 bit in the elements).  Not covered by any theorem
  (correspondence run only): heaps that also hold plain buffers, destructor-only element types (`f8`,
  `reference_array<T>`), the library's own element types (arrays of arrays, metatype references: model
  `Impl/Refs.lean`), `buffer::copy` / `buffer::move` (not modelled, not driven).  The judgement the model driver
  applies in the run (`Driver/Array.lean` `judge`) is `replay` plus "live set = stored tokens", i.e. the objects of
  these theorems.
-/
import MptModel.Lemmas.TokXX
import MptModel.Lemmas.TokByteLoops
import MptModel.Impl.Refs
namespace Mpt.C05
open Mpt Mpt.Heap

/-- destroying exactly the tokens `toks` (each alive, pairwise distinct, apart from `rest`) is legal and
    leaves exactly `rest` alive -/
theorem replay_fini (toks rest : List Nat) (nd : (toks ++ rest).Nodup) :
    replay (toks ++ rest) (toks.map Ev.fini) = some rest :=
  replay_fini_block toks rest

example : replay [1, 2, 3, 9] ([1, 2, 3].map Ev.fini) = some [9] := by decide

/-- every argument of the destructor loop is an element slot of the range it was given: the tokens logged are
    those stored in the `n` elements from `pos` on, each once, in order; memory outside is untouched -/
theorem fini_only_elements (n : Nat) (s : State) (b pos sz : Nat) (x : Buf) (hb : s.buf? b = some x)
    (fit : pos + n * sz ≤ x.size) :
    ∃ s' d', finiLoop n s b pos sz = .ok s' () ∧ OnlyBuf s s' b ∧
      s'.log = s.log ++ (toksAt x.data pos sz n).map Ev.fini ∧
      s'.buf? b = some { x with data := d' } ∧
      (∀ i, i < pos ∨ pos + n * sz ≤ i → d'.getD i 0 = x.data.getD i 0) := by
  obtain ⟨s', d', h1, h2, h3, h4, _, h6⟩ := finiLoop_spec n s b pos sz x hb fit
  exact ⟨s', d', h1, h2, h3, h4, h6⟩

/-- exactly once, release: when the last handle of a buffer with destructor is dropped, the new events are
    the destruction of exactly its stored tokens; replayed on a live set that consists of these tokens and
    others, exactly the others stay alive (so after the last handle nothing of the buffer is alive, nothing
    is destroyed twice and no other element is touched); the buffer is freed -/
theorem exactly_once_partial {s : State} {h b : Nat} {x : Buf} {t : Traits} (hh : s.handle h = some b)
    (hb : s.buf? b = some x) (hr : x.ref = 1) (ht : x.traits = some t) (hf : t.fini.isSome = true)
    (hsz : t.size ≠ 0) (hu : x.used ≤ x.size) (rest : List Nat) (nd : (x.toks ++ rest).Nodup) :
    ∃ s', arrayClone s h none = .ok s' 2 ∧ s'.buf? b = none ∧ s'.handle h = none ∧
      (∀ c, c ≠ b → s'.buf? c = s.buf? c) ∧
      s'.log = s.log ++ x.toks.map Ev.fini ∧
      replay (x.toks ++ rest) (s'.log.drop s.log.length) = some rest := by
  obtain ⟨s', he, hhs, _, _, _, _, hbuf, hlog⟩ := replaceBuf_some h none hb (Nat.le_of_eq hr.symm) hu
  rw [if_pos hr] at hlog
  refine ⟨s', by unfold arrayClone; rw [hh]; exact he, by rw [hbuf, if_pos rfl, dropRef, hb]; simp only [hr, if_true],
    ?_, fun c ne => by rw [hbuf, if_neg ne], hlog, by rw [hlog, List.drop_left]; exact replay_fini _ _ nd⟩
  have := State.handle_setHandle s h h none (State.handle_lt hh)
  simp only [State.handle, State.setHandle, if_true] at this ⊢
  rw [hhs]; exact this

/-- copy construction: detaching a shared typed buffer (no refused constructor) copy-constructs every element:
    the source buffer keeps its elements and loses one reference, the new private buffer stores the fresh
    tokens `next .. next+k-1`, one per element, each logged as a copy of the token in the corresponding
    source element — no token exists twice, nothing is duplicated as raw bytes; no other buffer changes -/
theorem copy_constructs {s : State} {b : Nat} {x : Buf} {t : Traits} (hb : s.buf? b = some x)
    (xt : x.traits = some t) (ti : t.init = true) (tf : t.fini.isSome = true) (h4 : 4 ≤ t.size)
    (shared : 2 ≤ x.ref) (nc : x.nocopy = false) (k : Nat) (xu : x.used = k * t.size) (hu : x.used ≤ x.size)
    (n : Nat) (hn : x.used ≤ n) (ho : s.oracle = []) (small : s.next + k < 4294967296) :
    ∃ s' z, detach s b n = .ok s' s.bufs.length ∧
      s'.buf? b = some { x with ref := x.ref - 1 } ∧
      s'.buf? s.bufs.length = some z ∧ z.ref = 1 ∧ z.traits = some t ∧ z.used = x.used ∧
      toksAt z.data 0 t.size k = seqFrom s.next k ∧
      (∀ c, c ≠ b → c ≠ s.bufs.length → s'.buf? c = s.buf? c) ∧ s'.hs = s.hs ∧
      s'.next = s.next + k ∧
      s'.log = s.log ++ copyEvs s.next x.content 0 t.size k := by
  have blt := State.buf?_lt hb
  have nbne : s.bufs.length ≠ b := by omega
  have unc : x.uncopyable = false := by simp [Buf.uncopyable, nc, xt, ti]
  rw [detach_shared hb (by rw [xt, esize]; omega) shared (Or.inl unc), xt, esize]
  generalize hlen : roundUp n t.size = len
  have nlen : n ≤ len := by rw [← hlen]; exact le_roundUp n _
  -- the state in which the copy runs: the new buffer allocated, `b` with one reference less
  generalize hs2 : ((s.newBuf len (x.flags - x.flags % 2) (some t)).setBuf b { x with ref := x.ref - 1 }) = s2
  have h2 := fun c => hs2 ▸ State.buf?_newBuf_setBuf s len (x.flags - x.flags % 2) (some t) b c { x with ref := x.ref - 1 } blt
  have hz : s2.buf? s.bufs.length = some (State.fresh len (x.flags - x.flags % 2) (some t)) := by
    rw [h2, if_neg nbne, if_pos rfl]
  obtain ⟨s3, d', hd, fr, n3, _, l3, hb3, tk⟩ := bufferSet_copy_fresh (s := s2) hz rfl rfl ti tf h4 k x.content
    (by rw [content_length x hu, xu])
    (by simp only [State.fresh, Buf.size, List.length_replicate]; have := le_allocSize len; omega) (by rw [← hs2]; exact ho)
    (by rw [← hs2]; exact small)
  rw [detachCopy_ok (by rw [hs2, xt]; exact hd)]
  refine ⟨s3, _, rfl, ?_, hb3, rfl, rfl, by simp [xu], tk.trans (by rw [← hs2]; rfl), fun c c1 c2 => ?_, by rw [fr.hs, ← hs2]; rfl,
    by rw [n3, ← hs2]; rfl, by rw [l3, ← hs2]; rfl⟩
  · rw [fr.other b (fun e => nbne e.symm), h2, if_pos rfl, xt]
  · rw [fr.other c c2, h2, if_neg c1, if_neg c2]

/-- the same at the level of `mpt_buffer_set`: copying `k` source elements into an empty typed buffer creates
    `k` fresh tokens `next .. next+k-1`, one per element and stored in that element, each logged as a copy of
    the token in the corresponding source element; nothing is duplicated as raw bytes; no other buffer
    changes -/
theorem copy_constructs_set {s : State} {nb : Nat} {z : Buf} {t : Traits} (hz : s.buf? nb = some z)
    (zt : z.traits = some t) (zu : z.used = 0) (ti : t.init = true) (tf : t.fini.isSome = true) (h4 : 4 ≤ t.size)
    (k : Nat) (bytes : List Byte) (bl : bytes.length = k * t.size) (fit : k * t.size ≤ z.size)
    (ho : s.oracle = []) (small : s.next + k < 4294967296) :
    ∃ s' d', bufferSet s nb (some t) 0 bytes true = .ok s' (Int.ofNat k) ∧ Frame s s' nb ∧ s'.next = s.next + k ∧
      s'.log = s.log ++ copyEvs s.next bytes 0 t.size k ∧
      s'.buf? nb = some { z with data := d', used := k * t.size } ∧
      toksAt d' 0 t.size k = seqFrom s.next k := by
  obtain ⟨s', d', h1, h2, h3, _, h5, h6, h7⟩ := bufferSet_copy_fresh hz zt zu ti tf h4 k bytes bl fit ho small
  exact ⟨s', d', h1, h2, h3, h5, h6, h7⟩

/-- constructor failure, grow loop of `mpt_array_slice`, for EVERY failure schedule: a prefix of `m ≤ n`
    elements is constructed with fresh tokens; if a constructor is refused the used size ends exactly behind
    that prefix (no unconstructed memory inside the used data) and the call fails -/
theorem ctor_failure_partial (n : Nat) (s : State) (b pos sz : Nat) (x : Buf) (hb : s.buf? b = some x)
    (h4 : 4 ≤ sz) (fit : pos + n * sz ≤ x.size) (small : s.next + n < 4294967296) :
    ∃ s' d' m, m ≤ n ∧ Frame s s' b ∧ s'.next = s.next + m ∧
      toksAt d' pos sz m = seqFrom s.next m ∧
      s'.log = s.log ++ (seqFrom s.next m).map Ev.init ++ (if m < n then [Ev.fail] else []) ∧
      ((m = n ∧ initLoopStop n s b pos sz = .ok s' () ∧ s'.buf? b = some { x with data := d' }) ∨
       (m < n ∧ initLoopStop n s b pos sz = .fail s' .null ∧ s'.buf? b = some { x with data := d', used := pos + m * sz })) := by
  obtain ⟨s', d', m, h1, h2, h3, _, h5, _, h7, h8⟩ := initLoopStop_spec n s b pos sz x hb h4 fit small
  exact ⟨s', d', m, h1, h2, h3, h5, h7, h8⟩

/-! ### concrete instances (the hypotheses of the theorems above are met by real runs of the model) -/

/-- harness traits: 4-byte elements with constructor and destructor -/
def m4 : Traits := { id := 6, size := 4, init := true, fini := some 1 }

/-- two elements are constructed, the handle is dropped: both are finalised once, in order -/
example :
    (match arrayReserve { hs := [none], wins := [none] } 0 0 (some m4) with
     | .ok s1 _ => (match arraySlice s1 0 0 8 with
       | .ok s2 _ => (match arrayClone s2 0 none with
         | .ok s3 _ => s3.log
         | _ => [])
       | _ => [])
     | _ => []) = [Ev.init 1, Ev.init 2, Ev.fini 1, Ev.fini 2] := by decide

/-- a shared buffer of two elements is detached: two copy constructions with fresh tokens -/
example :
    (match arrayReserve { hs := [none, none], wins := [none, none] } 0 0 (some m4) with
     | .ok s1 _ => (match arraySlice s1 0 0 8 with
       | .ok s2 _ => (match arrayClone s2 1 (some 0) with
         | .ok s3 _ => (match detachOp s3 1 8 with
           | .ok s4 _ => (s4.log, s4.abs 0, s4.abs 1)
           | _ => ([], [], []))
         | _ => ([], [], []))
       | _ => ([], [], []))
     | _ => ([], [], [])) = ([Ev.init 1, Ev.init 2, Ev.copy 3 1, Ev.copy 4 2], [1, 0, 0, 0, 2, 0, 0, 0], [3, 0, 0, 0, 4, 0, 0, 0]) := by
  decide

/-- the second constructor of a grow by two elements is refused: one element is kept, the call fails -/
example :
    (match arrayReserve { hs := [none], wins := [none], oracle := [false, true] } 0 0 (some m4) with
     | .ok s1 _ => (match arraySlice s1 0 0 8 with
       | .fail s2 _ => (s2.log, s2.abs 0)
       | _ => ([], []))
     | _ => ([], [])) = ([Ev.init 1, Ev.fail], [1, 0, 0, 0]) := by decide

/-! ### the invariant over single operations and whole histories

  The proofs go through `GoodS` (a state with both invariants), `Step` (`Lemmas/TokUnits.lean`: a complete step, i.e.
  the invariants kept and the new events a legal run) and `OpOK` (ibid.: every outcome of an operation
  is a complete step); `GoodS.of_inv` (from the hypotheses of the statements to `GoodS`), `OpOK.exactly_once` and
  `Step.replay_end` (`Lemmas/TokHist.lean`) read these on the live set.
  Vocabulary of the statements (`Managed`, `InvM`, `stored` in `Lemmas/TokState.lean`; `TokInv`, `EOp` in `Lemmas/TokHist.lean`;
  `replay` in `Lemmas/TokReplay.lean`, `tokLimit` in `Lemmas/TokMem.lean`):
  * `Managed t`: the element type has constructor, destructor and at least 4 bytes (room for the token);
  * `InvM s`: handles name live buffers, reference count = number of handles ≥ 1, every live buffer holds
    managed elements, `used ≤ size`, `used` a multiple of the element size;
  * `stored s`: the tokens found in the element slots `[0, used)` of all live buffers;
  * `TokInv s live`: `live` is a permutation of `stored s`, without duplicates, below the token counter;
  * `EOp` / `execE` / `EOp.pre`: the array operations as a caller that handles elements correctly performs
    them, and what that caller has to respect.
  Tokens are 32 bit in the elements: everything about tokens is stated for runs whose token counter stays
  within `tokLimit = 2^32`.  The state `s` is arbitrary, in particular its constructor-failure schedule
  (`s.oracle`): every statement holds under every schedule. -/

/-- exactly once, one operation, every schedule: no fault; the structural invariant is kept; the callback events
    of the operation are legal for the live set (every destructor argument is alive, every copy source is alive,
    every created token is new) and lead to a live set that again is exactly what the buffers store -/
theorem exactly_once (s : State) (live : Tokens.Live) (op : EOp) (inv : InvM s) (ti : TokInv s live) (pre : op.pre s) :
    match execE s op with
    | .fault _ => False
    | .ok s' _ => InvM s' ∧ (s'.next ≤ tokLimit →
        ∃ live', replay live (s'.log.drop s.log.length) = some live' ∧ TokInv s' live')
    | .fail s' _ => InvM s' ∧ (s'.next ≤ tokLimit →
        ∃ live', replay live (s'.log.drop s.log.length) = some live' ∧ TokInv s' live') := by
  have ok := execE_ok (GoodS.of_inv inv ti) op pre
  generalize execE s op = r at ok
  cases r <;> exact ok.exactly_once ti

/-- exactly once over whole histories (failed operations included), every schedule: the events of the history
    are legal from the initial live set and end in the live set the buffers store; when the last handle has
    been dropped nothing is alive: every element ever created was destroyed, exactly once -/
theorem exactly_once_history (s s' : State) (live : Tokens.Live) (ops : List EOp) (inv : InvM s) (ti : TokInv s live)
    (hi : Hist s ops s') :
    InvM s' ∧ (s'.next ≤ tokLimit →
      ∃ live', replay live (s'.log.drop s.log.length) = some live' ∧ TokInv s' live' ∧
        ((∀ h, s'.handle h = none) → live' = [])) := by
  exact (hi.step (GoodS.of_inv inv ti)).replay_end ti

/-- constructor failure, every schedule: `detach` (the element-wise copy of a shared buffer; a refused copy
    constructor falls back to default construction, a refused fallback ends the copy) never faults and keeps the
    invariants — no element is lost, duplicated as bytes, or left unconstructed inside the used size.  The same
    holds for `slice`, `insert`, `set` and `reserve` by `exactly_once`. -/
theorem ctor_failure (s : State) (live : Tokens.Live) (h n : Nat) (inv : InvM s) (ti : TokInv s live) :
    match detachOp s h n with
    | .fault _ => False
    | .ok s' _ => InvM s' ∧ (s'.next ≤ tokLimit →
        ∃ live', replay live (s'.log.drop s.log.length) = some live' ∧ TokInv s' live')
    | .fail s' _ => InvM s' ∧ (s'.next ≤ tokLimit →
        ∃ live', replay live (s'.log.drop s.log.length) = some live' ∧ TokInv s' live') := by
  have ok := detachOp_ok (GoodS.of_inv inv ti) h n
  generalize detachOp s h n = r at ok
  cases r <;> exact ok.exactly_once ti

/-- the hypotheses are met by a real run: empty heap, one handle -/
example : InvM { hs := [none], wins := [none] } ∧ TokInv { hs := [none], wins := [none] } [] := by
  refine ⟨⟨fun h b e => ?_, fun b x e => ?_, fun b x e => ?_⟩, ?_, List.nodup_nil, fun t ht => by cases ht⟩
  · cases h with
    | zero => simp [State.handle] at e
    | succ h => simp [State.handle] at e
  · simp [State.buf?] at e
  · simp [State.buf?] at e
  · exact List.Perm.refl _

/-- token element type of the C++ harness (`Elem`, 4 bytes) -/
def xe : Traits := { id := 13, size := 4, init := true, fini := some 3 }

/-- `resize(6); resize(2)` on a `typed_array<Elem>`: `buffer::trim` destroys exactly the four removed elements -/
example :
    (match uResize { hs := [none], wins := [none] } 0 { t := xe, unique := false } 6 with
     | .ok s1 _ => (match uResize s1 0 { t := xe, unique := false } 2 with
       | .ok s2 _ => s2.log.drop 6
       | _ => [])
     | _ => []) = [Ev.fini 3, Ev.fini 4, Ev.fini 5, Ev.fini 6] := by decide

/-- exactly-once for the C++ layer, every schedule: every operation the harness performs on `typed_array<T>` /
    `unique_array<T>` with a managed element type (`XEOp`: resize, detach + `buffer::trim` / `buffer::skip`,
    insert with default / placement construction, `T val; insert(pos, val)` with its temporary source element,
    reserve, detach, assignment / copy construction, destruction) on an array whose buffer (if any) has the array's
    element type never faults, keeps the structural invariant, and its callback events are legal for the live set
    and lead to the live set the buffers store -/
theorem cxx_exactly_once (s : State) (live : Tokens.Live) (k : XKind) (op : XEOp) (inv : InvM s) (ti : TokInv s live)
    (pre : op.pre s k) :
    match execXE s k op with
    | .fault _ => False
    | .ok s' _ => InvM s' ∧ (s'.next ≤ tokLimit →
        ∃ live', replay live (s'.log.drop s.log.length) = some live' ∧ TokInv s' live')
    | .fail s' _ => InvM s' ∧ (s'.next ≤ tokLimit →
        ∃ live', replay live (s'.log.drop s.log.length) = some live' ∧ TokInv s' live') := by
  have ok := execXE_ok (GoodS.of_inv inv ti) k op pre
  generalize execXE s k op = r at ok
  cases r <;> exact ok.exactly_once ti

/-- histories that mix the C operations and the C++ operations (failed ones included): the events of the whole history
    are legal and end in the live set the buffers store; nothing is alive once no handle holds a buffer -/
theorem exactly_once_history_cxx (s s' : State) (live : Tokens.Live) (ops : List (EOp ⊕ (XKind × XEOp))) (inv : InvM s)
    (ti : TokInv s live) (hi : HistX s ops s') :
    InvM s' ∧ (s'.next ≤ tokLimit →
      ∃ live', replay live (s'.log.drop s.log.length) = some live' ∧ TokInv s' live' ∧
        ((∀ h, s'.handle h = none) → live' = [])) := by
  exact (hi.step (GoodS.of_inv inv ti)).replay_end ti

/-- a history of the model that reaches a non-empty state (the hypotheses of the theorems are met along real runs):
    three elements, a shared copy, then a detach under a schedule that refuses the first copy constructor — the
    refused copy falls back to default construction (token 4), the others are copies -/
example : ∃ s', Hist { hs := [none, none], wins := [none, none], oracle := [false, false, false, true] }
    [.reserve 0 0 m4, .slice 0 0 12, .clone 1 0, .detach 1 12] s' ∧
    s'.log = [.init 1, .init 2, .init 3, .fail, .init 4, .copy 5 2, .copy 6 3] := by
  refine ⟨_, .ok ?_ rfl (.ok ?_ rfl (.ok ?_ rfl (.ok ?_ rfl (.nil _)))), by decide⟩
  · exact ⟨by decide, by decide, by decide, by decide⟩
  · show State.handle _ 0 ≠ none; decide
  · show 1 < List.length _; decide
  · trivial

/-! ### buffers of references (arrays of arrays, metatype references; model `Impl/Refs.lean`)

  No general theorem here: the model is tied to array_traits.c / meta_reference_traits.c / array_clone.c by the third
  part of the correspondence (harness/drv_refs.c), where the harness checks after every operation that the reference
  counts of buffers and instances equal the references that exist and that nothing is released twice.  Instances: -/

/-- `mpt_array_clone(&P, &P[0])` with `P -> B -> C(3 tokens)` and `P` the only owner: the handle gets `B`, `P`'s
    buffer is destroyed, `B` and the tokens of `C` stay alive, nothing is finalised (the new reference is taken before
    the old buffer is released) -/
example :
    (let s : Refs.State := { bufs := [some { ref := 1, kind := .tok, elems := [.tok 1, .tok 2, .tok 3] },
                                      some { ref := 1, kind := .arr, elems := [.arr (some 0)] },
                                      some { ref := 1, kind := .arr, elems := [.arr (some 1)] }],
                             hs := [some 2], next := 4 }
     let r := Refs.arrayClone s 0 (some 1) false
     (r.2, r.1.handle 0, (r.1.buf? 2).isSome, (r.1.buf? 1).map (·.ref), (r.1.buf? 0).map (·.ref), r.1.log)) =
      (3, some 1, false, some 1, some 1, []) := by decide

/-- copying references to a sharable and a single-owner instance: the sharable one gets a second reference, the
    single-owner one refuses and the copy holds an empty element instead (it is released once, by its only owner) -/
example :
    (let s : Refs.State := { objs := [{ refs := 1, sharable := true }, { refs := 1, sharable := false }] }
     let r := Refs.copyElems s [.mref (some 1), .mref (some 2)]
     (r.2, r.1.objs.map (·.refs), r.1.log)) =
      ([.mref (some 1), .mref none], [2, 1], [.addref 1, .refuse 2]) := by decide

end Mpt.C05
