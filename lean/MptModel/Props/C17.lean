/-
  C17 — fragmented messages read like contiguous ones.

  For every function `f` that works on a fragment list — in mptcore/message (`read`, `length`, the searches `chr` … `tok`,
  `cpy`, `argv`, `append`), array/array_message.c (`args`), event/dispatch_hash.c (`dhash`), mptio/stream and mpt++/array.cpp
  (`sappend`) — the theorem `f_flat` says: the implementation model (Impl/Message.lean, which walks the fragments like the
  C code does) gives the result of the same operation on the ONE contiguous byte string `frags.flatten` (Spec/Flat.lean) —
  for EVERY fragment list, including empty fragments anywhere.  For functions that move the cursor the statement covers the
  bytes copied, the returned count and the content that remains.  `get_flat` says the same of the one or two fragments that
  `mpt_message_get` lays over the data of a queue.
  Beside these: `next_space_flat` (the search inside `argv`), the append with the array's allocations spelled out
  (`append_sched_ok`; a refused append leaves the array as it was: `append_refused_pure`) and into a stream already started
  (`sappend_started_flat`), the refusals `args_nomem`, `get_refused`, `get_novec`, the corner `cpy_nofrag` that `cpy_flat`
  excludes, and that the contiguous argument loop ends (`args_spec_total`).
  The model mirrors the C code as it stands in /repo, which includes 4f20369 (`mpt_message_append` adds every continuation
  fragment), 8c79496 (`mpt_dispatch_hash` takes a command word of any length that spans fragments) and 7541cab
  (`mpt_stream_append` skips empty parts); Impl/Message.lean names them at the functions concerned.
-/
import MptModel.Lemmas.MessageCpy
import MptModel.Lemmas.MessageArgv
import MptModel.Lemmas.MessageGet
namespace Mpt.C17
open Mpt Mpt.Flat

/-- `mpt_message_read`: bytes copied, content left, returned count -/
theorem read_flat (m : Msg) (n : Nat) :
    (m.read n).out = (Flat.read m.flat n).1 ∧
    (m.read n).msg.flat = (Flat.read m.flat n).2 ∧
    (m.read n).total = (Flat.read m.flat n).1.length := by
  obtain ⟨h1, h2, h3⟩ := read_spec m n
  exact ⟨h1, h2, by rw [h3, Flat.read, List.length_take]⟩
example : (Msg.read ⟨[1, 2], [[], [3], [4, 5]]⟩ 4).out = [1, 2, 3, 4] ∧
    (Msg.read ⟨[1, 2], [[], [3], [4, 5]]⟩ 4).msg.flat = [5] := by decide +kernel

/-- `mpt_message_length` -/
theorem length_flat (m : Msg) : m.length = Flat.length m.flat :=
  length_eq m
example : (Msg.mk [1, 2] [[], [3], [4, 5]]).length = 5 := by decide +kernel

/-- `mpt_memfcn` for every match function -/
theorem fcn_flat (frags : List Frag) (p : Byte → Bool) : Iov.memfcn frags p = Flat.find p frags.flatten :=
  memfcn_eq frags p

/-- `mpt_memrfcn` for every match function -/
theorem rfcn_flat (frags : List Frag) (p : Byte → Bool) : Iov.memrfcn frags p = Flat.rfind p frags.flatten :=
  memrfcn_eq frags p
example : Iov.memrfcn [[1, 2], [7], []] (· < 5) = some 1 := by decide +kernel

/-- `mpt_memchr`: by definition `mpt_memfcn` with the match function "is `b`" -/
theorem chr_flat (frags : List Frag) (b : Byte) : Iov.memchr frags b = Flat.chr frags.flatten b :=
  fcn_flat frags (· == b)
example : Iov.memchr [[1, 2], [], [3, 4]] 4 = some 3 := by decide +kernel

/-- `mpt_memrchr`: by definition `mpt_memrfcn` with the match function "is `b`" -/
theorem rchr_flat (frags : List Frag) (b : Byte) : Iov.memrchr frags b = Flat.rchr frags.flatten b :=
  rfcn_flat frags (· == b)
example : Iov.memrchr [[1, 2], [], [1, 4]] 1 = some 2 := by decide +kernel

/-- `mpt_memstr` -/
theorem str_flat (frags : List Frag) (set : List Byte) : Iov.memstr frags set = Flat.str frags.flatten set := by
  simp only [Iov.memstr, Flat.str, memfcn_eq]
/-- `mpt_memrstr` -/
theorem rstr_flat (frags : List Frag) (set : List Byte) : Iov.memrstr frags set = Flat.rstr frags.flatten set := by
  simp only [Iov.memrstr, Flat.rstr, memrfcn_eq]
example : Iov.memstr [[1], [], [2, 3]] [9, 3] = some 2 := by decide +kernel

/-- `mpt_memtok` for every token/comment/escape set.  The model has its own byte loop (`Iov.tokBytes`) and the two
    separate places where the C code moves to the next data part (top of the main loop / inside the comment
    skip, where the first byte of the new part is tested on its own); the theorem shows that both carry the
    scanner state (open quote, previous character, comment) correctly, i.e. agree with the one-pass scan of
    the contiguous bytes -/
theorem tok_flat (frags : List Frag) (a : TokArgs) : Iov.memtok frags a = Flat.tok frags.flatten a := by
  have := tokGo_eq frags a false none 32 frags [] (by simp)
  simp only [List.length_nil, List.flatten_nil, Nat.add_zero] at this
  simp only [Iov.memtok, Flat.tok, this]
  cases Flat.scan (tokStep a) {} frags.flatten <;> rfl
example : Iov.memtok [[39, 97], [32, 98, 39], [], [32]] wsTok = some 5 := by decide +kernel

/-- `nextSpace` of message_argv.c, the hand-written quote-aware search, modelled as its own loop with `pos += len`
    per part: it finds what `mpt_memtok` with the white-space token set finds on the contiguous bytes -/
theorem next_space_flat (curr : Frag) (cont : List Frag) :
    Iov.nextSpace curr cont = Flat.tok (curr ++ cont.flatten) wsTok :=
  nextSpace_eq curr cont
example : Iov.nextSpace [39, 97] [[], [32, 98, 92], [39, 39, 32]] = some 7 := by decide +kernel

/-- `mpt_message_append`: the array grows by exactly the message content -/
theorem append_flat (arr : List Byte) (m : Msg) : m.append arr = Flat.append arr m.flat := by
  simp only [Msg.append, append_foldl, Flat.append, Msg.flat]
  split
  · simp
  · rename_i h
    have : m.base = [] := List.eq_nil_of_length_eq_zero (by omega)
    simp [this]
example : (Msg.mk [1] [[], [2, 3]]).append [9] = [9, 1, 2, 3] := by decide +kernel

/-- `mpt_message_append` with the allocation behaviour of the array spelled out: when no allocation
    fails the result is the contiguous append -/
theorem append_sched_ok (arr : List Byte) (m : Msg) :
    (m.appendSched arr 0).ret = 0 ∧ (m.appendSched arr 0).out = Flat.append arr m.flat := by
  obtain ⟨x, h1, h2, h3⟩ :=
    appendLoop_spec 0 (m.base :: m.cont) (if arr.length = 0 then none else some (Msg.bufCap arr.length)) arr 0
  simp only [Msg.appendSched, h3 rfl, if_true, h1, h2 (h3 rfl), Flat.append, Msg.flat, List.flatten_cons, and_self]

/-- a **refused `mpt_message_append` leaves the array exactly as it was**, whichever allocation fails and
    however many fragments were already appended (the roll-back goes to the array's current buffer) -/
theorem append_refused_pure (arr : List Byte) (m : Msg) (failAt : Nat) (h : (m.appendSched arr failAt).ret < 0) :
    (m.appendSched arr failAt).out = arr := by
  unfold Msg.appendSched at h ⊢
  generalize (if arr.length = 0 then none else some (Msg.bufCap arr.length)) = cap0 at h ⊢
  obtain ⟨x, hx, _⟩ := appendLoop_spec failAt (m.base :: m.cont) cap0 arr 0
  by_cases hok : (Msg.appendLoop failAt (m.base :: m.cont) cap0 arr 0).1 = true
  · -- all appended: the return value is 0, not negative
    simp [hok] at h
  · -- the buffer is `arr ++ x` (`hx`), the roll-back keeps its first `arr.length` bytes
    simp [hok, hx]
example : (Msg.mk [1, 2, 3] [List.replicate 70 7]).appendSched [] 2 = ⟨Err.MissingBuffer.code, [], 2⟩ ∧
    ((Msg.mk [1, 2, 3] [List.replicate 70 7]).appendSched [9] 1).out = [9] := by decide +kernel

/-- `mpt_memcpy` between two fragment lists (at least one fragment each): return value, the target
    bytes afterwards, and every target fragment keeps its size.  All lengths, also negative
    ("as much as fits"). -/
theorem cpy_flat (len : Int) (src dst : List Frag) (hs : src ≠ []) (hd : dst ≠ []) :
    (Iov.memcpy len src dst).ret = (Flat.cpy len src.flatten dst.flatten).1 ∧
    (Iov.memcpy len src dst).dst.flatten = (Flat.cpy len src.flatten dst.flatten).2 ∧
    (Iov.memcpy len src dst).dst.map List.length = dst.map List.length := by
  match src, dst, hs, hd with
  | s :: ss, d :: dd, _, _ =>
    unfold Iov.memcpy
    simp only [sumLen_eq]
    by_cases h1 : len > 0 ∧ len > (((s :: ss).flatten.length : Nat) : Int)
    · rw [if_pos h1, Flat.cpy, if_pos h1.1, if_pos h1.2]; exact ⟨rfl, rfl, rfl⟩
    · rw [if_neg h1]
      by_cases h2 : len > 0 ∧ len > (((d :: dd).flatten.length : Nat) : Int)
      · rw [if_pos h2, Flat.cpy, if_pos h2.1, if_neg (by omega), if_pos h2.2]; exact ⟨rfl, rfl, rfl⟩
      · rw [if_neg h2, cpy_fits len _ _ h1 h2]
        have := cpyLoop_eq ((s :: ss).length + (d :: dd).length + (s :: ss).flatten.length + 1) len s ss [] [] d dd 0
          (by simp only [List.length_cons, List.flatten_cons, List.length_append]; omega) _ rfl
        simpa using this
example : (Iov.memcpy 3 [[1], [], [2, 3, 4]] [[0, 0], [], [0, 0]]).dst = [[1, 2], [], [3, 0]] := by decide +kernel

/-- the excluded corner of `cpy_flat`: with no source or no target fragment at all the function
    returns 0 for every length (a contiguous empty area refuses a positive length with −1/−2) -/
theorem cpy_nofrag (len : Int) (src dst : List Frag) (h : src = [] ∨ dst = []) :
    Iov.memcpy len src dst = ⟨0, dst⟩ := by
  cases src <;> cases dst <;> simp_all [Iov.memcpy]

/-- `mpt_message_argv` agrees with the contiguous computation: same return value (argument length
    or MissingData) and the same content left after the white-space removal -/
def ArgvAgrees (m : Msg) (sep : Byte) : Prop :=
  match Flat.argv m.flat sep with
  | none => (m.argv sep).2 = .err .MissingData ∧ (m.argv sep).1.flat = m.flat
  | some (n, d') => (m.argv sep).2 = .ok n ∧ (m.argv sep).1.flat = d'

/-- `mpt_message_argv` for EVERY cursor and EVERY separator (0, visible characters, white space with
    quotes and backslashes); in particular a quote opened in the base fragment and closed in the continuation is
    one quoted argument: the scanner state crosses the fragment boundary. -/
theorem argv_flat (m : Msg) (sep : Byte) : ArgvAgrees m sep := by
  unfold ArgvAgrees
  obtain ⟨m1, ⟨hf, hm, h1⟩ | ⟨n, hf, hm⟩⟩ := argv_cases m sep <;> rw [hf, hm]
  · exact ⟨rfl, h1⟩
  · exact ⟨rfl, rfl⟩
example : ((Msg.mk [32] [[], [32, 97], [98, 32, 99]]).argv 32).2 = .ok 2 := by decide +kernel
/-- a quote open at the end of the base fragment: 'a | b' quoted, cut after `a` -/
example : ((Msg.mk [39, 97] [[32, 98, 39]]).argv 32).2 = .ok 5 ∧
    Flat.argv [39, 97, 32, 98, 39] 32 = some (5, [39, 97, 32, 98, 39]) := by decide +kernel

/-- `mpt_array_message` agrees with the contiguous computation (number of arguments, array content) -/
def ArgsAgrees (m : Msg) (sep : Byte) : Prop :=
  m.arrayMessage sep = match Flat.args m.flat sep with
    | some r => .ok r
    | none => .fault

/-- `mpt_array_message` for every cursor and separator.  The arm `.fault` of `ArgsAgrees` stands for the contiguous loop
    running out of its fuel, which never happens (`args_spec_total`). -/
theorem args_flat (m : Msg) (sep : Byte) : ArgsAgrees m sep :=
  arrayMessage_eq m sep
example : (Msg.mk [97, 32] [[], [98, 99], [32]]).arrayMessage 32 = .ok (2, [97, 0, 98, 99, 0]) ∧
    (Msg.mk [39, 97] [[32, 98, 39]]).arrayMessage 32 = .ok (1, [39, 97, 32, 98, 39, 0]) := by decide +kernel

/-- allocation failure in `mpt_array_message` (its one allocation, the work array): refused with
    BadOperation, nothing else happens; an empty message needs no allocation -/
theorem args_nomem (m : Msg) (sep : Byte) :
    m.arrayMessage sep false = if m.length = 0 then .ok (0, []) else .err .BadOperation := by
  unfold Msg.arrayMessage; split <;> simp

/-- the contiguous argument loop never runs out of its fuel (so `.fault` above cannot occur) -/
theorem args_spec_total (d : List Byte) (sep : Byte) : (Flat.args d sep).isSome = true := by
  unfold Flat.args
  split
  · rfl
  · exact argsLoop_total sep _ d [] 0 (by omega)

/-- `mpt_dispatch_hash` (a caller that reads the type header, takes the command word with
    `mpt_message_argv` and hashes it in place or through a copy, of whatever length): the handler is reached with the
    same hash, or the message is refused, exactly as for the contiguous message -/
theorem dhash_flat (m : Msg) : m.dhash = .ok (Flat.dhash m.flat) := by
  unfold Msg.dhash
  rcases read_header m with ⟨ht, hl⟩ | ⟨ty, arg, ht, ho, hf⟩
  · simp only [ht, if_true]
    match m.flat, hl with
    | [], _ => rfl
    | [_], _ => rfl
  · simp only [ht, Nat.lt_irrefl, if_false, ho, List.headD_cons, List.drop_succ_cons, List.drop_zero]
    rw [hf, Flat.dhash]
    obtain ⟨m1, ⟨ha, hm, -⟩ | ⟨len, ha, hm⟩⟩ := argv_cases (m.read 2).msg (if (ty == 4) = true then arg else 0)
    · rw [hm, ha]
    · rw [hm, ha]
      simp only []
      -- the word read either way is the first `len` bytes of the content
      have hword : (if m1.base.length ≥ len then m1.base.take len else (m1.read len).out) = m1.flat.take len := by
        split
        · rename_i hb
          rw [Msg.flat, List.take_append_of_le_length hb]
        · exact (read_spec m1 len).1
      rw [hword]
      split <;> rfl
example : (Msg.mk [4, 32] [[97], [], [98, 32, 99]]).dhash = .ok (some (Flat.hash [97, 98])) := by decide +kernel

/-- `mpt_stream_append` / `mpt::encode_array::push(message)` into a stream on which earlier messages are finished
    (`done`) and the current one has been started (`cur`, e.g. the message id pushed by `mpt_stream_reply`): the
    finished messages are untouched, the message under construction is continued by exactly the contiguous bytes,
    in whatever steps the push function takes them (`step`) -/
theorem sappend_started_flat (step : Nat → Nat) (frags : List Frag) (cur : List Byte) (done : List (List Byte)) :
    Msg.sappendLoop step frags cur done 0 = (frags.flatten.length, cur ++ frags.flatten, done) := by
  rw [sappendLoop_eq]; simp
example : Msg.sappendLoop (fun _ => 2) [[1, 2, 3], [], [4]] [9] [[8, 8]] 0 = (4, [9, 1, 2, 3, 4], [[8, 8]]) := by decide +kernel

/-- `mpt_stream_append` (mptio consumer of fragment lists) / `mpt::encode_array::push(message)`
    and the end of the message: exactly one message arrives, the content, and its length is returned — empty
    fragments in any position neither add a delimiter nor lose bytes, and it does not matter in how many steps
    the push function takes each part (`step`: any number of bytes 1..n of the n offered per call) -/
theorem sappend_flat (m : Msg) (step : Nat → Nat) : m.sappend step = Flat.sappend m.flat := by
  rw [Msg.sappend, sappend_started_flat]; rfl
example : (Msg.mk [] [[1], [], [2, 3], []]).sappend = (3, [[1, 2, 3]]) := by decide +kernel
example : (Msg.mk [7] [[1, 2, 3, 4, 5], [], [6]]).sappend (fun n => n / 2) = (7, [[7, 1, 2, 3, 4, 5, 6]]) := by decide +kernel

/-- `mpt_message_get` on a queue (`len ≤ max`, `off ≤ max`): when the requested stretch lies inside the
    data, the message — one fragment, or two when the data wraps — denotes exactly those bytes of the
    queue's logical content -/
theorem get_flat (r : Ring) (h : r.len ≤ r.store.length ∧ r.off ≤ r.store.length) (pos take : Nat)
    (hle : pos + take ≤ r.len) :
    ∃ m, Msg.get r pos take = .ok m ∧ some m.flat = Flat.get r.content pos take := by
  have he := get_eq r h pos take hle
  exact ⟨_, he, by rw [get_denotes r h pos take hle _ he, Flat.get, if_pos (Ring.content_length r h.1 ▸ hle)]⟩
example : (Msg.get (Ring.make 4 3 [1, 2, 3]) 0 3) = .ok ⟨[1], [[2, 3]]⟩ := by decide +kernel

/-- `mpt_message_get` is refused when the requested stretch is not inside the data of the queue -/
theorem get_refused (r : Ring) (pos take : Nat) (hgt : r.len < pos + take) :
    ∃ e, Msg.get r pos take = .err e :=
  Mpt.get_refused r pos take hgt

/-- `mpt_message_get` without a second iovec is refused (−3) EXACTLY when the requested stretch starts in the
    first data part (`low = min (max − off) len` bytes up to the end of the storage) and runs beyond it;
    in every other case the single-fragment message denoting exactly the stretch is returned -/
theorem get_novec (r : Ring) (h : r.len ≤ r.store.length ∧ r.off ≤ r.store.length) (pos take : Nat)
    (hle : pos + take ≤ r.len) :
    ((pos < min (r.store.length - r.off) r.len ∧ min (r.store.length - r.off) r.len < pos + take) →
      Msg.getNoVec r pos take = .err .BadType) ∧
    (¬ (pos < min (r.store.length - r.off) r.len ∧ min (r.store.length - r.off) r.len < pos + take) →
      ∃ m, Msg.getNoVec r pos take = .ok m ∧ m.cont = [] ∧ some m.flat = Flat.get r.content pos take) := by
  obtain ⟨m, h1, h2⟩ := get_flat r h pos take hle
  have he := get_eq r h pos take hle
  unfold Msg.getNoVec
  constructor
  · intro hc
    rw [he, if_pos hc]; rfl
  · intro hc
    rw [if_neg hc] at he
    rw [he] at h1 ⊢
    cases h1
    exact ⟨_, rfl, rfl, h2⟩
example : Msg.getNoVec (Ring.make 4 3 [1, 2, 3]) 0 3 = .err .BadType ∧
    Msg.getNoVec (Ring.make 4 3 [1, 2, 3]) 1 2 = .ok ⟨[2, 3], []⟩ := by decide +kernel

end Mpt.C17
