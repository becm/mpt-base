/-
  C08 — Configuration parser is total and fails cleanly.

  M = `Mpt.Parse` (Impl/Parse.lean: character source, path, the four element functions
  `mpt_parse_format_pre/enc/sep`, `mpt_parse_option` and the `mpt_parse_data` they read a value with; Impl/ParseConfig.lean:
  `mpt_parse_config` = `loop`/`parseConfig`, the recording handler `record` with `events`, `mpt_node_append` =
  `nodeAppend`, `mpt_parse_node` = `parseNode`, `mpt_node_parse` = `nodeParse`, `mpt::parser::read` = `parserRead`).
  S = `Mpt.Events` (well nested event sequences, Spec/Events.lean).

  All theorems hold for EVERY input byte sequence, every format (`Cfg`: delimiters, comment and escape
  characters, name flag words, end marker -2 or -1), each of the four format families (`Kind`) and any
  previous-operation code.  Leak freedom and the absence of invalid accesses in the real code are
  sanitizer results of the correspondence run, not theorems.
-/
import MptModel.Lemmas.ParseLoop

namespace Mpt.C08
open Mpt Mpt.Parse Mpt.Events


/-- **Progress**: whenever one of the element functions returns an element (positive code) the
    termination measure — twice the unread input, plus one while the previous operation was a section
    end — has strictly decreased.  This is the fact by which Lean accepts the unbounded `while` loop of
    `mpt_parse_config` (`Parse.loop`) by well-founded recursion; every inner loop is structurally
    recursive on the unread input (`Parse.scanAux`).  No fuel parameter exists anywhere in the model. -/
theorem total (k : Kind) (cfg : Cfg) (prev : Nat) (s : St) (src : Src)
    (h : 0 < (next k cfg prev s src).1) :
    Parse.measure (next k cfg prev s src).2.1.curr (next k cfg prev s src).2.2 < Parse.measure prev src :=
  next_measure k cfg prev s src h

/-- **Bounded work**: the handler is called at most `2·|input| + 1` times, whatever the input is and
    whether or not it refuses at some point. -/
theorem total_calls (k : Kind) (cfg : Cfg) (failAt : Option Nat) (prev : Nat) (input : List UInt8) :
    (parseConfig k cfg (record failAt) [] prev input).ctx.length ≤ 2 * input.length + 1 := by
  have := loop_calls k cfg failAt [] prev {} { rest := input }
  unfold parseConfig
  unfold Parse.measure at this
  simp only [List.length_nil, Nat.zero_add] at this
  split at this <;> omega

/-- **Each character is read once**: when `mpt_parse_config` returns — with any handler, successfully
    or not — the characters delivered by `getc` so far (`trace`, newest first) followed by the unread
    rest are exactly the input: the i-th successful `getc` returned `input[i]`, nothing was skipped,
    nothing was delivered twice; and every delivered character cost at least one `getc` call (`reads`
    also counts the observations of the end marker).
    NOTE: every function written against the `Src` interface of M has this property — a `Src` is only ever
    advanced by `getc`/`scan` — so the theorem shows that M never re-reads or pushes back, and the tie compares
    the number of `getc` calls and of consumed bytes of the real parser with M on every script, op `p stat`;
    there is no bound on observations of the end marker, which the property does not count. -/
theorem reads_once {α : Type} (k : Kind) (cfg : Cfg) (save : Handler α) (ctx : α) (prev : Nat)
    (input : List UInt8) :
    input = (parseConfig k cfg save ctx prev input).src.trace.reverse ++ (parseConfig k cfg save ctx prev input).src.rest
    ∧ (parseConfig k cfg save ctx prev input).src.trace.length ≤ (parseConfig k cfg save ctx prev input).src.reads := by
  obtain ⟨cs, h1, h2, h3⟩ := loop_reads k cfg save ctx prev {} { rest := input }
  unfold parseConfig
  simp only [List.append_nil] at h1 h2 h3
  rw [h2]
  simp only [List.reverse_reverse, List.length_reverse]
  exact ⟨h1, by omega⟩

/-- … in the indexed form of the property text: the i-th character delivered is `input[i]` -/
theorem reads_once_index {α : Type} (k : Kind) (cfg : Cfg) (save : Handler α) (ctx : α) (prev : Nat)
    (input : List UInt8) (i : Nat)
    (hi : i < (parseConfig k cfg save ctx prev input).src.trace.length) :
    (parseConfig k cfg save ctx prev input).src.trace.reverse[i]? = input[i]? := by
  have h := (reads_once k cfg save ctx prev input).1
  conv => rhs; rw [h]
  rw [List.getElem?_append_left (by simpa using hi)]


/-- **A successful parse emits a well nested event sequence**: if `mpt_parse_config` returns a
    non-negative code, the events it handed to the handler, replayed from the empty stack of open
    sections, never fail: every `end_` finds an open section and names exactly the innermost one
    (the depth never goes negative), every `sect`/`opt` path is the open sections plus one name,
    every `data` path is the open sections. -/
theorem well_nested (k : Kind) (cfg : Cfg) (prev : Nat) (input : List UInt8)
    (hok : 0 ≤ (events k cfg prev input).1) : WellNested (events k cfg prev input).2 := by
  unfold events at hok ⊢
  unfold parseConfig at hok ⊢
  exact loop_nested k cfg none [] prev {} { rest := input } rfl hok

/-- one step of the same fact, for every element function and every state: a returned element is one
    of the five codes; section (1) / option (3) / option+data (7) appended exactly one path element,
    section end (2) / data (4) left the path elements as they were -/
theorem element_shape (k : Kind) (cfg : Cfg) (prev : Nat) (s : St) (src : Src) :
    (next k cfg prev s src).1 ≤ 0
    ∨ (((next k cfg prev s src).1 = 1 ∨ (next k cfg prev s src).1 = 3 ∨ (next k cfg prev s src).1 = 7)
        ∧ ∃ n, (next k cfg prev s src).2.1.path.elems = s.path.elems ++ [n])
    ∨ (((next k cfg prev s src).1 = 2 ∨ (next k cfg prev s src).1 = 4)
        ∧ (next k cfg prev s src).2.1.path.elems = s.path.elems) := by
  rcases next_elem k cfg prev s src with h | ⟨h, _⟩ | h | h
  · exact .inl (Int.le_of_lt h)
  · exact .inl (Int.le_of_eq h)
  · exact .inr (.inl h)
  · exact .inr (.inr h)

/-! ### fail clean

  NOTE (true by the construction of M): the three `fail_clean*` theorems read off the shape of the model
  functions — `parseNode` builds a temporary tree and merges it only on success, `nodeParse` sets the
  children aside and puts them back on failure, `parserRead` replaces the children only on success — which
  is the shape of the C functions (local `conf` node in parse_node.c, `old` children in node_parse.c,
  `tmp` node in mpt++/parse.cpp).  M is purely functional: it cannot express a parser that damages the
  target while it fails.  That the REAL functions leave the target alone is established by the
  correspondence run only (`p node`, `p nparse`, `x read`: the spec column allows `err` only together with
  the old target, printed by walking the real tree, and the sanitizers watch the walk), not by these
  theorems. -/

/-- **A failed parse leaves the target as it was** (definitional in M, see the note above):
    `mpt_parse_node` returning a negative code has the children of the target unchanged (the temporary
    tree is dropped, nothing was merged). -/
theorem fail_clean (root : Conf.Forest) (str : Option (List UInt8)) (sect opt : Nat) (eof : Int)
    (input : List UInt8) (h : (parseNode root str sect opt eof input).code < 0) :
    (parseNode root str sect opt eof input).children = root := by
  revert h
  unfold parseNode
  simp only []
  split
  · exact fun _ => rfl
  · exact ite_ind (fun r : NodeResult => r.code < 0 → r.children = root) (fun _ _ => rfl) fun hn h => absurd h hn

/-- (definitional in M) the same for the stdio front end `mpt_node_parse` (with or without logger): a refused restriction
    text or a failed parse returns a negative code and the children of the target as they were -/
theorem fail_clean_node_parse (root : Conf.Forest) (str limits : Option (List UInt8)) (input : List UInt8)
    (h : (nodeParse root str limits input).code < 0) : (nodeParse root str limits input).children = root := by
  unfold nodeParse at h ⊢
  -- `[110, 115]` = "ns", the restriction text `mpt_node_parse` uses when none is given
  cases hacc : parseAccept (some (limits.getD [110, 115])) with
  | none => rfl
  | some so =>
    rw [hacc] at h
    simp only [] at h ⊢
    by_cases hn : (parseNode [] str so.1 so.2 (-2) input).code < 0
    · rw [if_pos hn]
    · rw [if_neg hn] at h
      exact absurd h hn

/-- (definitional in M) and for the C++ wrapper `mpt::parser::read` (one context for all reads of a parser object): a failed
    read leaves the children of the target as they were, whatever the earlier reads left in the context -/
theorem fail_clean_parser_read (k : Kind) (cfg : Cfg) (curr : Nat) (target : Conf.Forest) (unread : List UInt8)
    (h : (parserRead k cfg curr target unread).1.code < 0) : (parserRead k cfg curr target unread).2 = target := by
  unfold parserRead at h ⊢
  simp only [] at h ⊢
  rw [if_pos h]


/-- the return code of `mpt_parse_config` is 0 (success) or negative, for every handler -/
theorem code_nonpos {α : Type} (k : Kind) (cfg : Cfg) (save : Handler α) (ctx : α) (prev : Nat)
    (input : List UInt8) : (parseConfig k cfg save ctx prev input).code ≤ 0 :=
  (loop_code k cfg save ctx prev {} { rest := input }).1

/-- **A read error is never a success**: when the source ends with anything but the regular end
    marker -2 (`getc` reports -1 = read error), `mpt_parse_config` returns a negative code — for every
    input read before the error, every format, every handler.  (The elements completed before the error
    have been delivered; the error is reported by the call that meets it or by the one after.) -/
theorem read_error_reported {α : Type} (k : Kind) (cfg : Cfg) (save : Handler α) (ctx : α) (prev : Nat)
    (input : List UInt8) (h : cfg.eof ≠ -2) : (parseConfig k cfg save ctx prev input).code < 0 := by
  have := loop_code k cfg save ctx prev {} { rest := input }
  unfold parseConfig
  have h0 : (loop k cfg save ctx prev {} { rest := input }).code ≠ 0 := fun h0 => h (this.2 h0)
  omega

/-- … and `mpt_parse_node` then fails and leaves the target alone -/
theorem read_error_reported_node (root : Conf.Forest) (str : Option (List UInt8)) (sect opt : Nat) (eof : Int)
    (input : List UInt8) (h : eof ≠ -2) :
    (parseNode root str sect opt eof input).code < 0 ∧ (parseNode root str sect opt eof input).children = root := by
  have hc : (parseNode root str sect opt eof input).code < 0 := by
    unfold parseNode
    simp only []
    split
    · exact Err.code_neg Err.BadType
    · rename_i kk _
      have := read_error_reported kk { fmt := (parseFormat str).1, sect := sect, opt := opt, eof := eof } nodeAppend
        ({} : Build) Flag.section_ input h
      rw [if_pos this]; exact this
  exact ⟨hc, fail_clean root str sect opt eof input hc⟩

/-- **A handler refusal is reported, and nothing is delivered after it**: let the handler refuse its
    call number `n` (counted from 0).  If the accepting handler would get more than `n` calls on this
    input, `mpt_parse_config` returns -0x80 and the events delivered are exactly the first `n` events of
    the accepting run; otherwise the refusal never happens and the result is that of the accepting
    run. -/
theorem refusal_reported (k : Kind) (cfg : Cfg) (n : Nat) (prev : Nat) (input : List UInt8) :
    (n < (parseConfig k cfg (record none) [] prev input).ctx.length →
        (parseConfig k cfg (record (some n)) [] prev input).code = -128
        ∧ (parseConfig k cfg (record (some n)) [] prev input).ctx.reverse
            = (parseConfig k cfg (record none) [] prev input).ctx.reverse.take n)
    ∧ ((parseConfig k cfg (record none) [] prev input).ctx.length ≤ n →
        parseConfig k cfg (record (some n)) [] prev input = parseConfig k cfg (record none) [] prev input) := by
  unfold parseConfig
  obtain ⟨h1, h2⟩ := loop_refuse k cfg n [] prev {} { rest := input } (Nat.zero_le _)
  refine ⟨fun hlt => ?_, h1⟩
  obtain ⟨hc, hl, l, hsuf⟩ := h2 hlt
  refine ⟨hc, ?_⟩
  rw [hsuf, List.reverse_append, List.take_left' (by simpa using hl)]

/-- so a refusing handler never sees more than `n` events -/
theorem refusal_stops (k : Kind) (cfg : Cfg) (n : Nat) (prev : Nat) (input : List UInt8) :
    (parseConfig k cfg (record (some n)) [] prev input).ctx.length ≤ n := by
  obtain ⟨h1, h2⟩ := refusal_reported k cfg n prev input
  by_cases h : n < (parseConfig k cfg (record none) [] prev input).ctx.length
  · have := congrArg List.length (h1 h).2
    simp only [List.length_reverse, List.length_take] at this
    omega
  · rw [h2 (by omega)]; omega


/-- **A name that does not fit an identifier is refused, not truncated**: `mpt_node_append` for a section
    or option element whose name (last path element) has 65535 bytes or more returns NULL, whatever the
    tree built so far — `mpt_parse_config` then returns -0x80 (the first exit of `Parse.loop`) and `mpt_parse_node`
    leaves the target alone.  (Path elements themselves have no length limit in the model: the path
    buffer of the real parser is an array that grows, `parser_context.valid` is a `size_t`.) -/
theorem name_limit_refused (b : Build) (s : St) (prev : Nat) (ret : Int) (n : List UInt8)
    (hret : ret = 1 ∨ ret = 3 ∨ ret = 7) (hlast : s.path.elems.getLast? = some n) (hlen : 65535 ≤ n.length) :
    nodeAppend b s prev ret = none := by
  have hname : nodeName s.path = none := by
    rw [nodeName_last hlast, if_pos (by omega)]
  unfold nodeAppend
  rcases hret with h | h | h <;> subst h <;> simp [Flag.sectEnd, Flag.section_, hname]

/-- a shorter name is never refused for its length: the only other refusal is the structural one (an
    element at depth 0 that is not the first child of the local root) -/
theorem name_limit_accepted (b : Build) (s : St) (prev : Nat) (ret : Int) (n : List UInt8)
    (hret : ret = 1 ∨ ret = 3 ∨ ret = 7) (hlast : s.path.elems.getLast? = some n) (hlen : n.length < 65535)
    (hdepth : b.depth ≠ 0) : (nodeAppend b s prev ret).isSome = true := by
  have hname : nodeName s.path = some n := by
    rw [nodeName_last hlast, if_neg (by omega)]
  unfold nodeAppend
  rcases hret with h | h | h <;> subst h <;> simp [Flag.sectEnd, Flag.section_, Flag.data, hname, metaNew, hdepth] <;>
    split <;> rfl

/-! ### non-vacuity: concrete inputs -/
section examples
def bytes (s : String) : List UInt8 := s.toUTF8.toList

/-- default format: `a {` / `b=1` / `}` gives section, option with value, section end -/
example : events .pre {} 0 (bytes "a {\nb=1\n}\n")
    = (0, [.sect [bytes "a"], .opt [bytes "a", bytes "b"] (some (bytes "1")), .end_ [bytes "a"]]) := by
  decide +kernel
example : WellNested (events .pre {} 0 (bytes "a {\nb=1\n}\n")).2 := by decide +kernel
/-- a stray section end fails (MissingData) although the handler saw the `end_` event first:
    the hypothesis of `well_nested` matters -/
example : (events .pre {} 0 (bytes "}\n")) = (-16, [.end_ []]) := by decide +kernel
example : ¬ WellNested (events .pre {} 0 (bytes "}\n")).2 := by decide +kernel
/-- all input characters are in the trace, one more `getc` saw the end marker -/
example : (parseConfig .pre {} (record none) [] 0 (bytes "a=1\n")).src.reads = 5
    ∧ (parseConfig .pre {} (record none) [] 0 (bytes "a=1\n")).src.trace.reverse = bytes "a=1\n" := by
  decide +kernel
/-- failing parse into a non-empty target: the target is returned unchanged -/
example : (parseNode [.node (bytes "x") none []] none 0xff 0xff (-2) (bytes "a {\n")).code = -16
    ∧ Conf.flat 0 (parseNode [.node (bytes "x") none []] none 0xff 0xff (-2) (bytes "a {\n")).children
        = [(0, bytes "x", none)] := by
  decide +kernel
example : (nodeParse [.node (bytes "x") none []] none none (bytes "a {\n")).code = -16
    ∧ Conf.flat 0 (nodeParse [.node (bytes "x") none []] none none (bytes "a {\n")).children
        = [(0, bytes "x", none)] := by
  decide +kernel
/-- `mpt_node_parse` replaces, `mpt_parse_node` merges -/
example : Conf.flat 0 (nodeParse [.node (bytes "x") none []] none none (bytes "a=1\n")).children
    = [(0, bytes "a", some (bytes "1"))] := by
  decide +kernel
/-- a successful one merges -/
example : Conf.flat 0 (parseNode [.node (bytes "x") none []] none 0xff 0xff (-2) (bytes "a {\nb=1\n}\n")).children
    = [(0, bytes "a", none), (1, bytes "b", some (bytes "1")), (0, bytes "x", none)] := by
  decide +kernel
/-- the one situation in which an element is returned without reading (separated format with the same
    start and end character): the second `/` ends the unnamed section, the section start implied by it
    is returned by the next call without a `getc` -/
example : events .sep { fmt := (parseFormat (some (bytes "/ / =;#"))).1 } 0 (bytes "b=1;//")
    = (0, [.opt [bytes "b"] (some (bytes "1")), .sect [[]], .end_ [[]], .sect [[]]]) := by
  decide +kernel
example : (next .sep { fmt := (parseFormat (some (bytes "/ / =;#"))).1 } 2
      { path := { elems := [[]], hasBuf := true } } { rest := bytes "x" }).1 = 1
    ∧ (next .sep { fmt := (parseFormat (some (bytes "/ / =;#"))).1 } 2
      { path := { elems := [[]], hasBuf := true } } { rest := bytes "x" }).2.2.rest = bytes "x" := by
  decide +kernel
/-- a handler that refuses the second call: -0x80, one event delivered -/
example : (parseConfig .pre {} (record (some 1)) [] 0 (bytes "a {\nb=1\n}\n")).code = -128
    ∧ (parseConfig .pre {} (record (some 1)) [] 0 (bytes "a {\nb=1\n}\n")).ctx = [.sect [bytes "a"]] := by
  decide +kernel
/-- a read error behind a complete text: the option is delivered, the parse fails -/
example : (parseConfig .pre { eof := -1 } (record none) [] 0 (bytes "a=1\n")).code = -1
    ∧ (parseConfig .pre { eof := -1 } (record none) [] 0 (bytes "a=1\n")).ctx.length = 1 := by
  decide +kernel
end examples

end Mpt.C08
