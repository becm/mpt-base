/-
  C09 — Configuration text is read back faithfully.

  S = the reference writer `Render.render style decor : Forest → List UInt8` (Spec/Render.lean) and the
  normal form `Render.norm` of a forest (a leaf without text has no value).
  M = `Parse.parseNode` (Impl/ParseConfig.lean) on an empty target, with the format description of the
  style and the name restriction words of the run (`roundtrip_flags`: any words that permit the names;
  `roundtrip`: all flags set).

  Besides the round trip (`roundtrip_flags`, `roundtrip`): decoration does not change what is read
  (`decor_invariant`), a second read through the same parser object (`roundtrip_reread`), a format description that
  names its escape character (`format_one_escape`), values of any length (`value_any_length`), the known finding
  `dot-in-name` (`roundtrip_dot_counterexample`), test vectors.

  What the theorems do NOT cover (correspondence run only, stream "layouts" of vlib/props/c09.py): a last ELEMENT
  line without line feed, blanks inside names and section headers, several elements on one line, single-quoted
  values, other delimiter / comment / assignment characters than those of the four descriptions.
-/
import MptModel.Lemmas.ParseForest

namespace Mpt.C09
open Mpt Mpt.Parse Mpt.Render Mpt.Conf

/-- parse a text in the format of `style` into an empty target under the name restriction words `sect`
    (section names) and `opt` (option names); `none` = the parser reports an error -/
def parseTreeF (style : Style) (sect opt : Nat) (text : List UInt8) : Option Forest :=
  if (parseNode [] style.desc sect opt (-2) text).code < 0 then none
  else some (parseNode [] style.desc sect opt (-2) text).children

/-- … with all name flags set -/
def parseTree (style : Style) (text : List UInt8) : Option Forest := parseTreeF style 0xff 0xff text

/-- full statement: every admissible forest, written in any style with any valid decoration, is read
    back as its normal form -/
def roundtrip_statement : Prop :=
  ∀ (style : Style) (d : Decor) (f : Forest), d.ok → admissible style f = true →
    parseTree style (render style d f) = some (norm f)

/-- full statement: decoration never changes what is read -/
def decor_invariant_statement : Prop :=
  ∀ (style : Style) (d : Decor) (f : Forest), d.ok → admissible style f = true →
    parseTree style (render style d f) = parseTree style (render style noDecor f)

/-- **Round trip, every style, every name restriction**: every admissible forest — nested styles (brace,
    `{x}`): any depth, any fan-out; flat styles: options and one level of sections; in all styles duplicate
    names, empty sections (written as `name=` or in section syntax) and empty values, values of any length,
    plain or needing quotes (blanks at the ends, `#`, quotes, backslashes, line feeds, bytes ≥ 0x80), names of
    any bytes but the zero byte, white space, `#`, `=`, `.` and the section delimiters — whose names are permitted by the
    name restriction words `sect` / `opt` (`forestFits`), written with ANY valid decoration (blank and comment
    lines, indentation, blanks — blank, tab, vertical tab, form feed, carriage return — around `=` and in
    front of `{`, trailing blanks and trailing comments, comments glued directly to a section name / brace,
    chosen per line; blank and comment lines behind the last element and a last line without line feed that
    holds blanks or a comment) is read back by `mpt_parse_node` with these restriction words as exactly its
    normal form: same nesting, same order, same names, same values byte for byte. -/
theorem roundtrip_flags (style : Style) (sect opt : Nat) (d : Decor) (hd : d.ok) (f : Forest)
    (ha : admissible style f = true) (hfit : forestFits sect opt f = true) :
    parseTreeF style sect opt (render style d f) = some (norm f) := by
  obtain ⟨hc, hf⟩ := loop_render style sect opt d hd f ha hfit {} clean_init rfl
  obtain ⟨hcode, hch⟩ := parseNode_style style sect opt _ hc
  unfold parseTreeF
  rw [hcode, hch, hf]
  rfl

/-- with all name flags set every name is permitted: `roundtrip` is `roundtrip_flags` at `0xff` -/
theorem forestFits_all (f : Forest) : forestFits 0xff 0xff f = true := by
  refine @Tree.rec_1 (fun t => treeFits 0xff 0xff t = true) (fun f => forestFits 0xff 0xff f = true) ?_ rfl ?_ f
  · intro n v cs ih
    unfold treeFits
    split
    · simp [nameFits_all]
    · simp [nameFits_all, ih]
  · intro t ts iht ihts
    simp [forestFits, iht, ihts]

/-- **Round trip, every style** (all name flags set, the setting of the correspondence run): see
    `roundtrip_flags` -/
theorem roundtrip (style : Style) (d : Decor) (hd : d.ok) (f : Forest) (ha : admissible style f = true) :
    parseTree style (render style d f) = some (norm f) :=
  roundtrip_flags style 0xff 0xff d hd f ha (forestFits_all f)

/-- the full statement as written down in `roundtrip_statement` -/
theorem roundtrip_holds : roundtrip_statement := fun style d f hd ha => roundtrip style d hd f ha

/-- **Decoration is insignificant**: adding or removing blank lines, comment lines, indentation,
    blanks around the assignment character, trailing blanks and trailing comments never changes what
    is read (every style). -/
theorem decor_invariant (style : Style) (d : Decor) (hd : d.ok) (f : Forest) (ha : admissible style f = true) :
    parseTree style (render style d f) = parseTree style (render style noDecor f) := by
  rw [roundtrip style d hd f ha, roundtrip style noDecor (by intro k; rfl) f ha]

/-- the full statement as written down in `decor_invariant_statement` -/
theorem decor_invariant_holds : decor_invariant_statement :=
  fun style d f hd ha => decor_invariant style d hd f ha


/-- format family and configuration `mpt::config_parser` uses for a style with the name restriction words
    it was constructed with -/
def styleCfg (sect opt : Nat) : Style → Kind × Cfg
  | .brace => (.pre, cfgB sect opt)
  | .sep => (.sep, cfgS sect opt)
  | .bar => (.enc, cfgBar sect opt)
  | .enc => (.enc, cfgE sect opt)

/-- **Every read from the start of a text delivers the forest**: `parser::read` on the text of an
    admissible forest (any style, any valid decoration) succeeds and leaves exactly the normal form in
    the target — whatever the previous run left in the parser context (`curr`) and whatever the target
    held before.  (open/read, reset/read, … on one parser object.) -/
theorem roundtrip_reread (style : Style) (sect opt : Nat) (d : Decor) (hd : d.ok) (f : Forest)
    (ha : admissible style f = true) (hfit : forestFits sect opt f = true)
    (curr : Nat) (target : Forest) :
    (parserRead (styleCfg sect opt style).1 (styleCfg sect opt style).2 curr target (render style d f)).1.code = 0
    ∧ (parserRead (styleCfg sect opt style).1 (styleCfg sect opt style).2 curr target (render style d f)).2 = norm f := by
  have hcfg : styleCfg sect opt style = (styleKind style, styleConf sect opt style) := by cases style <;> rfl
  obtain ⟨hc, hf⟩ := loop_render style sect opt d hd f ha hfit { curr := curr } ⟨rfl, rfl, rfl⟩ rfl
  rw [hcfg]
  unfold parserRead
  simp [hc, hf]


/-- a description `{*} = # q` with ONE escape character `q` makes `q` the only quote character: the
    default `"` and `'` are ordinary value characters then -/
theorem format_one_escape (q : UInt8) (hq : Parse.isspace q = false) :
    (parseFormat (some (str "{*} = # " ++ [q]))).1.esc = [q, 0, 0]
    ∧ ∀ c, (parseFormat (some (str "{*} = # " ++ [q]))).1.isEscape c = (c != 0 && c == q) := by
  have h : (parseFormat (some (str "{*} = # " ++ [q]))).1.esc = [q, 0, 0] := by
    have : str "{*} = # " ++ [q] = [123, 42, 125, 32, 61, 32, 35, 32, q] := by
      have : str "{*} = # " = [123, 42, 125, 32, 61, 32, 35, 32] := by decide +kernel
      rw [this]; rfl
    rw [this]
    -- `q` is a variable, so `parseFormat` is evaluated by rewriting: the delimiter positions and the comment word
    -- `#` by the first `simp only`, the escape word (the white space in front of `q`, then `q` itself) by the second
    have hw : List.takeWhile (fun c => !Parse.isspace c) [q] = [q] := by
      simp [List.takeWhile, hq]
    have hsp : Parse.isspace 32 = true := by decide
    have h35 : Parse.isspace 35 = false := by decide
    simp only [parseFormat, takeWord, List.dropWhile, List.takeWhile, hsp, h35, Bool.not_true,
      Bool.not_false, List.length_cons, List.length_nil, List.take]
    have hd : List.dropWhile Parse.isspace [32, q] = [q] := by
      simp [List.dropWhile, hsp, hq]
    have hle : (0 + 1 ≤ 4) := by decide
    simp only [hle, ↓reduceIte, hd, hw]
    simp
  refine ⟨h, ?_⟩
  intro c
  unfold Format.isEscape
  rw [h]
  by_cases h0 : c = 0
  · subst h0; simp
  · have h00 : (c == 0) = false := by simp [h0]
    simp only [List.contains_cons, List.contains_nil, h00, Bool.or_false]


/-- `mpt_meta_new` keeps a value of every length byte for byte; up to 249 bytes in the basic metatype (text
    behind the object), from 250 bytes on in the buffer metatype.  (The limits of the REAL representations —
    8-bit size of the basic metatype, 16-bit fields — are not in M: that values of 249..257 and 65534..65537
    bytes survive in the real code is shown by the correspondence run, which also compares the chosen
    representation, op `p stat`.) -/
theorem value_any_length (v : List UInt8) :
    metaNew v = some v ∧ (metaRep v = .inline v ↔ v.length ≤ 249) ∧ (metaRep v = .buffer v ↔ 250 ≤ v.length) := by
  refine ⟨by simp [metaNew], ?_, ?_⟩
  · unfold metaRep
    constructor
    · intro h; split at h
      · omega
      · cases h
    · intro h; rw [if_pos (by omega)]
  · unfold metaRep
    constructor
    · intro h; split at h
      · cases h
      · omega
    · intro h; rw [if_neg (by omega)]

/-! ### known finding `dot-in-name`: outside `admissible`, inside the name flags -/

/-- **Counterexample** (known finding `c_ne_s:node:dot-in-name`): a name that contains the path
    separator `.` passes the name check with all flags set, but the text `a.b=1` is refused
    (`mpt_path_add` rejects the element), so this forest is not read back. -/
theorem roundtrip_dot_counterexample :
    ncheck (str "a.b") 0xff = none
    ∧ parseTree .brace (render .brace noDecor [.node (str "a.b") (some (str "1")) []]) = none := by
  decide +kernel

/-- `roundtrip` excludes that region through `admissible`: an admissible name never contains the separator -/
theorem admissible_name_no_dot (n : List UInt8) (h : nameOk n = true) : n.contains 46 = false :=
  nameOk_nosep n (nameOk_parts n h).2.1

/-! ### non-vacuity -/
section examples
/-- a forest with nesting, duplicate names, an empty section, an empty value, a value that needs quotes
    and one with an escaped quote -/
def sample : Forest :=
  [.node (str "d") (some (str "#h")) [],
   .node (str "a") none [.node (str "b") (some (str "1")) [], .node (str "b") (some (str "x \"y")) [],
                         .node (str "sub") none [.node (str "e") none []]],
   .node (str "a") none [.node (str "f") (some []) []]]

example : admissible .brace sample = true := by decide +kernel
example : (decorOf 2 0).ok = true ∧ (decorOf 2 1).ok = true ∧ (decorOf 2 2).ok = true := by decide +kernel
/-- the text really carries decoration and quoting -/
example : render .brace (decorOf 1) [.node (str "a") none [.node (str "b") (some (str "x \"y")) []]]
    = str "a {\n b = \"x \\\"y\"\n  }\n" := by decide +kernel
/-- the theorem's conclusion on the sample, evaluated by the kernel (all four styles) -/
example : (parseTree .brace (render .brace (decorOf 2) sample)).map (flat 0) = some (flat 0 (norm sample)) := by
  decide +kernel
example : (parseTree .sep (render .sep (decorOf 2) [.node (str "o") (some (str "1")) [],
      .node (str "s") none [.node (str "b") (some (str "x \"y")) []]])).map (flat 0)
    = some [(0, str "o", some (str "1")), (0, str "s", none), (1, str "b", some (str "x \"y"))] := by
  decide +kernel
example : (parseTree .bar (render .bar (decorOf 1) [.node (str "o") (some (str "1")) [],
      .node (str "s") none [.node (str "b") (some (str " v ")) []]])).map (flat 0)
    = some [(0, str "o", some (str "1")), (0, str "s", none), (1, str "b", some (str " v "))] := by
  decide +kernel
/-- a comment glued to the section name in the `|name` style -/
example : render .bar (decorOf 4) [.node (str "s") none [.node (str "b") (some (str "1")) []]]
    = str "|s# glued text\n\tb=1\n\t# t" := by decide +kernel
example : (parseTree .bar (render .bar (decorOf 4) [.node (str "s") none [.node (str "b") (some (str "1")) []],
      .node (str "t") none [.node (str "c") none []]])).map (flat 0)
    = some [(0, str "s", none), (1, str "b", some (str "1")), (0, str "t", none), (1, str "c", none)] := by
  decide +kernel
example : (parseTree .enc (render .enc (decorOf 3) [.node (str "o") (some (str "1")) [],
      .node (str "p") (some (str "#")) []])).map (flat 0)
    = some [(0, str "o", some (str "1")), (0, str "p", some (str "#"))] := by
  decide +kernel
/-- sections in the `{x}` format: `{name` … `}`, nested, comment glued to the name -/
example : render .enc (decorOf 4) [.node (str "s") none [.node (str "b") (some (str "1")) []]]
    = str "{s# glued text\n\tb=1\n}\t# t\n\t# glued text" := by decide +kernel
example : (parseTree .enc (render .enc (decorOf 4) [.node (str "s") none [.node (str "b") (some (str "1")) [],
      .node (str "t") none [.node (str "c") none []]], .node (str "o") (some (str "2")) []])).map (flat 0)
    = some [(0, str "s", none), (1, str "b", some (str "1")), (1, str "t", none), (2, str "c", none),
            (0, str "o", some (str "2"))] := by
  decide +kernel
/-- empty sections (`e`, `t`, and `q` inside `s`), CR LF line ends, form feed and vertical tab as blanks, text
    behind the last element, a last line without line feed -/
def sample2 : Forest :=
  [.node (str "o") (some (str "1")) [], .node (str "e") none [],
   .node (str "s") none [.node (str "b") (some (str "x y")) [], .node (str "q") (some []) []], .node (str "t") none []]
example : (List.range 12).all (fun k => (decorOf 5 k).ok && (decorOf 6 k).ok) = true := by decide +kernel
example : render .brace (decorOf 6) sample2
    = str "o=1\ne{ # end\n# empty\n\t}\n\ns{\nb=x y # end\nq{\n# empty\n\t}#\n\n} # end\nt=\n#x" := by
  decide +kernel
example : render .sep (decorOf 5) sample2
    = str "o\x0b=1\r\n\r\n# c\r\n\x0ce=\r \r\n\x0c[s]\r\nb=\r x y\r\n\x0cq\x0b=\r\n\r\n# c\r\n\x0c[t]\r\n\r" := by
  decide +kernel
example : (parseTree .brace (render .brace (decorOf 5) sample2)).map (flat 0) = some (flat 0 (norm sample2)) := by
  decide +kernel
example : (parseTree .brace (render .brace (decorOf 6) sample2)).map (flat 0) = some (flat 0 (norm sample2)) := by
  decide +kernel
example : (parseTree .sep (render .sep (decorOf 5) sample2)).map (flat 0) = some (flat 0 (norm sample2)) := by
  decide +kernel
example : (parseTree .bar (render .bar (decorOf 6) sample2)).map (flat 0) = some (flat 0 (norm sample2)) := by
  decide +kernel
example : (parseTree .enc (render .enc (decorOf 6) sample2)).map (flat 0) = some (flat 0 (norm sample2)) := by
  decide +kernel
/-- names beyond letters and digits: quotes, backslash, punctuation, control characters, high bytes -/
example : nameOk (str "\"a'\\+b~") = true ∧ nameOk [1, 0x80, 0xff, 127] = true := by decide +kernel
example : (parseTree .brace (render .brace (decorOf 2) [.node (str "\"a'\\+b~") (some (str "v")) [],
      .node [1, 0x80, 0xff, 127] none [.node (str "$") none []]])).map (flat 0)
    = some [(0, str "\"a'\\+b~", some (str "v")), (0, [1, 0x80, 0xff, 127], none), (1, str "$", none)] := by
  decide +kernel
/-- name restriction words: `s2` and `k-1` fit (digits behind the first character; specials in option names only) … -/
example : forestFits 0x2 0x6 [.node (str "s2") none [.node (str "k-1") (some (str "v")) []]] = true := by decide +kernel
example : (parseTreeF .brace 0x2 0x6 (render .brace (decorOf 2) [.node (str "s2") none [.node (str "k-1") (some (str "v")) []]])).map
    (flat 0) = some [(0, str "s2", none), (1, str "k-1", some (str "v"))] := by decide +kernel
/-- … a name the word does not permit makes the parse fail (so `forestFits` is needed) -/
example : forestFits 0x2 0x2 [.node (str "k-1") (some (str "v")) []] = false
    ∧ parseTreeF .brace 0x2 0x2 (render .brace noDecor [.node (str "k-1") (some (str "v")) []]) = none := by
  decide +kernel
end examples

end Mpt.C09
