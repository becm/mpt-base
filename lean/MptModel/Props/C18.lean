/-
  C18 — Visible line parts partition the data exactly.

  M = `Mpt.Linepart` (MptModel/Impl/Linepart.lean, mirrors mptplot/values/linepart_linear.c,
  linepart_code.c, linepart_join.c), S = `Mpt.Visible` (MptModel/Spec/Visible.lean).
  Values are exact rationals: every theorem holds for ALL value sequences and ALL ranges (also
  degenerate and inverted ones) over `Rat`; rounding of `double`, infinities and NaN are outside the model.
  `parts xs range` is the record sequence of the caller's loop (repeated calls advancing by `raw`).
  The C++ layer (mpt++/linepart.cpp `linepart::array::set/apply` with its merge path, the part view of
  mpt++/polyline.cpp) is modelled in Impl/LinepartArray.lean and tied to the code by the second driver part
  (harness/drvxx_linepart.cpp); for the way `polyline::set` uses it — parts for `n` points, then ONE dimension
  applied — the whole property is proved (`merge_partition`), for further dimensions it is checked per script by
  the model driver.  `polyline::set` / `apply_data` / `value_store` are not modelled.
-/
import MptModel.Lemmas.LinepartMerge

namespace Mpt.C18
open Mpt.Visible Mpt.Linepart

/-- **Progress**: on a non-empty window one call consumes at least one and at most
    `min len 65535` points (with or without a range). -/
theorem progress (xs : List Rat) (range : Option Range) (h : 0 < xs.length) :
    0 < (linepartLinear xs range).raw ∧ (linepartLinear xs range).raw ≤ min xs.length 65535 :=
  linear_progress xs range h

example : (linepartLinear [-1, -1, 1/2] (some ⟨0, 1⟩)).raw = 1 := by decide +kernel

/-- all four fields fit their 16-bit storage: the `uint16_t` increments of the C code never wrap -/
theorem fields_fit (xs : List Rat) (r : Range) :
    (linepartLinear xs (some r)).raw ≤ 65535 ∧ (linepartLinear xs (some r)).usr ≤ 65535 ∧
    (linepartLinear xs (some r)).cut ≤ 65535 ∧ (linepartLinear xs (some r)).trim ≤ 65535 := by
  have hraw : (linepartLinear xs (some r)).raw ≤ 65535 ∧ (linepartLinear xs (some r)).usr ≤ 65535 := by
    by_cases hne : 0 < xs.length
    · have ok := linear_ok r xs hne
      exact ⟨Nat.le_trans ok.raw_le (Nat.min_le_right _ _), Nat.le_trans ok.usr_le (Nat.min_le_right _ _)⟩
    · -- no points: the record is all zero
      have : xs = [] := List.eq_nil_of_length_eq_zero (by omega)
      subst this
      exact ⟨Nat.zero_le _, Nat.zero_le _⟩
  exact ⟨hraw.1, hraw.2, core_fields r _⟩

/-- **Partition**: the records of the repeated calls consume every input point exactly once — the `raw`
    counts add up to the number of points — and every record consumes at least one point.
    For all sequences and all ranges (and for the NULL range). -/
theorem partition (xs : List Rat) (range : Option Range) :
    ((parts xs range).map (·.raw)).sum = xs.length ∧ ∀ p ∈ parts xs range, 0 < p.raw := by
  exact parts_ind range xs (motive := fun c ps => (ps.map (·.raw)).sum + c = xs.length ∧ ∀ p ∈ ps, 0 < p.raw)
    ⟨Nat.zero_add _, fun _ h => nomatch h⟩
    (fun c rest _ h1 ih => ⟨by rw [List.map_cons, List.sum_cons]; omega,
      fun p hp => (List.mem_cons.1 hp).elim (fun e => e ▸ h1) (ih.2 p)⟩)

example : parts [-1, 1/2, 1/2, 2, 2, 1/2] (some ⟨0, 1⟩)
    = [{ raw := 4, usr := 4, cut := 43690, trim := 43690 }, { raw := 2, usr := 2, cut := 43690, trim := 0 }] := by
  decide +kernel

/-- **Visible once**: every visible point (at-min and at-max included) lies in the drawn portion
    `[start, start+usr)` of exactly one part. -/
theorem visible_once (xs : List Rat) (r : Range) (i : Nat) (h : insideAt r xs i) :
    drawnCount (parts xs (some r)) 0 i = 1 :=
  (parts_good xs r).drawn i h ▸ if_pos (insideAt_lt h)

example : insideAt ⟨0, 1⟩ [-1, 1/2, 1/2, 2, 2, 1/2] 5 := by decide +kernel

/-- **No hidden interior point is drawn**: every point strictly between the first and the last drawn point
    of a part is visible (only the first point of a part with a cut and the last point of a part with a trim
    lie outside the range). -/
theorem interior_visible (xs : List Rat) (r : Range) :
    InteriorVisible r xs (parts xs (some r)) 0 :=
  (parts_good xs r).interior

/-- **Fraction accuracy**: decoding the 16-bit code of a fraction `0 ≤ f ≤ 1` gives `f` up to one unit of the
    encoding: `|real (code f) − f| ≤ 1/65536`; the code fits 16 bits, and a non-zero fraction never gets the
    code 0 (which the consumers read as "nothing cut"). -/
theorem fraction_accuracy (f : Rat) (h0 : 0 ≤ f) (h1 : f ≤ 1) :
    real (code f) - f ≤ 1 / 65536 ∧ f - real (code f) ≤ 1 / 65536 ∧ 0 ≤ code f ∧ code f ≤ 65535 ∧
    (0 < f → 1 ≤ code f) :=
  ⟨(code_accuracy f h0 h1).1, (code_accuracy f h0 h1).2, (code_bounds f h0 h1).1, (code_bounds f h0 h1).2,
   fun hp => code_pos f hp h1⟩

example : code (2/3) = 43690 ∧ real 43690 = 21845/32768 ∧ code (1/131072) = 1 := by decide +kernel

/-- **The stored cut is the code of the exact crossing fraction**: when a part draws at least two points and
    its first point `x0` is invisible, the second point `x1` is visible, the stored `cut` is the code of the
    fraction `t` with `x0 + t·(x1 − x0) = bound` (`bound` = the range limit next to `x0`), and `0 < t ≤ 1`; the stored code is not 0. -/
theorem cut_is_crossing (xs : List Rat) (r : Range) (x0 x1 : Rat)
    (h0 : xs[0]? = some x0) (h1 : xs[1]? = some x1) (ho : ¬ insideAt r xs 0)
    (hu : 2 ≤ (linepartLinear xs (some r)).usr) :
    r.has x1 = true ∧ 0 < (linepartLinear xs (some r)).cut ∧
    (linepartLinear xs (some r)).cut = (code (crossing x0 x1 (nearBound r x0))).toNat ∧
    0 < crossing x0 x1 (nearBound r x0) ∧ crossing x0 x1 (nearBound r x0) ≤ 1 ∧
    x0 + crossing x0 x1 (nearBound r x0) * (x1 - x0) = nearBound r x0 := by
  obtain ⟨y0, y1, e0, e1, s⟩ :=
    (call_stored xs r 0 (List.getElem?_eq_some_iff.1 h0).1).cut (Nat.lt_of_lt_of_le Nat.zero_lt_two hu) ho
  cases h0.symm.trans e0; cases h1.symm.trans e1
  exact ⟨s.visible, s.pos, s.code_eq, s.frac_pos, s.frac_le, s.meets⟩

example : (linepartLinear [-1, 1/2, 1/2] (some ⟨0, 1⟩)).cut = 43690 ∧ crossing (-1) (1/2) 0 = 2/3 := by decide +kernel

/-- **The stored trim is the code of the exact crossing fraction**: when the last drawn point `x` of a part
    with at least two drawn points is invisible, its predecessor `prev` is visible and the stored `trim` is
    the code of the fraction `t` (measured from `x`) with `x + t·(prev − x) = bound`, `0 < t ≤ 1`. -/
theorem trim_is_crossing (xs : List Rat) (r : Range) (prev x : Rat)
    (hu : 2 ≤ (linepartLinear xs (some r)).usr)
    (hp : xs[(linepartLinear xs (some r)).usr - 2]? = some prev)
    (hx : xs[(linepartLinear xs (some r)).usr - 1]? = some x)
    (ho : ¬ insideAt r xs ((linepartLinear xs (some r)).usr - 1)) :
    r.has prev = true ∧ 0 < (linepartLinear xs (some r)).trim ∧
    (linepartLinear xs (some r)).trim = (code (crossing x prev (nearBound r x))).toNat ∧
    0 < crossing x prev (nearBound r x) ∧ crossing x prev (nearBound r x) ≤ 1 ∧
    x + crossing x prev (nearBound r x) * (prev - x) = nearBound r x := by
  have h := (call_stored xs r 0 (Nat.zero_lt_of_lt (List.getElem?_eq_some_iff.1 hx).1)).trim
  rw [Nat.zero_add] at h
  obtain ⟨p', x', ep, ex, s⟩ := h (Nat.lt_of_lt_of_le Nat.zero_lt_two hu) ho
  cases hp.symm.trans ep; cases hx.symm.trans ex
  exact ⟨s.visible, s.pos, s.code_eq, s.frac_pos, s.frac_le, s.meets⟩

example : (linepartLinear [1/2, 1/2, 2] (some ⟨0, 1⟩)).usr = 3 ∧
    (linepartLinear [1/2, 1/2, 2] (some ⟨0, 1⟩)).trim = 43690 := by decide +kernel

/-- **Crossings are marked**: in the records of the repeated calls every drawn end point that lies outside
    the range — the first point of a part that starts with a cut, the last point of a part that ends with a
    trim — carries a non-zero fraction code, so a consumer that takes code 0 as "nothing cut"
    (`polyline::part::points`) never reports an out-of-range point as drawn. -/
theorem crossings_flagged (xs : List Rat) (r : Range) : Flagged r xs (parts xs (some r)) 0 :=
  (parts_good xs r).flagged

example : (parts [131071/131072, 4, 2] (some ⟨1, 4⟩)) = [{ raw := 3, usr := 3, cut := 1, trim := 0 }] := by
  decide +kernel

/-- **Join keeps the totals**: a successful join yields one record whose `raw` and `usr` are the sums of the
    two records (so the sums over a record list are unchanged), keeps the cut of the first and the trim of
    the second record, fits the 16-bit fields when its inputs do, and happens only when the first record has
    no hidden tail (`usr = raw`, no trim) and the second no cut — i.e. the joined record denotes the same
    drawn points.  A refused join changes nothing (`none`). -/
theorem join_total (to post j : Part) (h : linepartJoin to post = some j) :
    j.raw = to.raw + post.raw ∧ j.usr = to.usr + post.usr ∧ j.cut = to.cut ∧ j.trim = post.trim ∧
    (to.raw ≤ 65535 → to.usr ≤ 65535 → j.raw ≤ 65535 ∧ j.usr ≤ 65535) ∧
    to.usr = to.raw ∧ to.trim = 0 ∧ post.cut = 0 :=
  linepartJoin_some to post j h

example : linepartJoin ⟨3, 3, 7, 0⟩ ⟨2, 2, 0, 9⟩ = some ⟨5, 5, 7, 9⟩ := by decide +kernel

/-- **Joining keeps every point's drawn count**: replacing two adjacent records by their join changes for no
    point the number of parts that draw it (and the records behind them start where they started). -/
theorem join_keeps_drawn (to post j : Part) (rest : List Part) (start i : Nat) (h : linepartJoin to post = some j) :
    drawnCount (j :: rest) start i = drawnCount (to :: post :: rest) start i :=
  drawnCount_join to post j rest start i h

/-- **A lone out-of-range point is consumed, not drawn** (the one-point remainders behind a full part of
    65535 or 65533 points). -/
theorem single_point (x : Rat) (r : Range) (h : r.has x = false) :
    linepartLinear [x] (some r) = { raw := 1, usr := 0, cut := 0, trim := 0 } := by
  have ho : out r x = true := by
    rw [has_eq_not_out] at h; simpa using h
  exact linearCore_single r x ho

/-- without a range every point is drawn and a call takes `min len 65535` points: the default
    `transform::part()` makes progress for every length (65536 included) -/
theorem no_range_part (xs : List Rat) :
    linepartLinear xs none = { raw := min 65535 xs.length, usr := min 65535 xs.length, cut := 0, trim := 0 } :=
  linear_none xs

/-- **Fractions of ALL records**: in the records of the repeated calls every stored cut / trim of a part
    that draws at least two points and starts / ends outside the range decodes to the crossing fraction of
    its first / last drawn segment with the range boundary up to one unit of the 16-bit encoding
    (`|real code − t| ≤ 1/65536`), and is not 0. -/
theorem fractions_all_records (xs : List Rat) (r : Range) :
    CrossingsCoded (fun c => real (c : Int)) r xs (parts xs (some r)) 0 := by
  refine parts_ind (some r) xs (motive := fun c ps => CrossingsCoded (fun c => real (c : Int)) r xs ps c)
    trivial (fun c rest hc _ ih => ⟨?_, ?_, ih⟩)
  · intro x0 x1 h0 h1 hu ho
    obtain ⟨y0, y1, e0, e1, s⟩ := (call_stored xs r c hc).cut (Nat.lt_of_lt_of_le Nat.zero_lt_two hu) ho
    cases h0.symm.trans e0; cases h1.symm.trans e1
    exact s.decoded
  · intro prev x hp hx hu ho
    obtain ⟨p', x', ep, ex, s⟩ := (call_stored xs r c hc).trim (Nat.lt_of_lt_of_le Nat.zero_lt_two hu) ho
    cases hp.symm.trans ep; cases hx.symm.trans ex
    exact s.decoded

example : (parts [1/2, 2, 2, -1, 1/2] (some ⟨0, 1⟩)).map (fun p => (p.cut, p.trim)) = [(0, 43690), (43690, 0)] := by
  decide +kernel

/-- **Stability of the code under a perturbed quotient** (what a `double` evaluation of the fraction can do):
    the code is monotone in the quotient, and a quotient that is off by `d` moves the decoded fraction by at
    most `d` plus two units of the encoding.  The `double` evaluation `(bound − x0)/(x1 − x0)` has a relative
    error of a few `2^-53` (two roundings), far below one unit `2^-16`: the stored code is the exact code or its
    neighbour (assumption on IEEE arithmetic, not proved here). -/
theorem code_monotone (f g : Rat) (h0 : 0 ≤ f) (hfg : f ≤ g) (h1 : g ≤ 1) :
    code f ≤ code g ∧ real (code g) - real (code f) ≤ (g - f) + 2 / 65536 := by
  have hm := code_mono f g h0 hfg h1
  refine ⟨hm, ?_⟩
  have a := code_accuracy f h0 (Rat.le_trans hfg h1)
  have b := code_accuracy g (Rat.le_trans h0 hfg) h1
  -- `real (code g) ≤ g + 1/65536` and `f − 1/65536 ≤ real (code f)`
  grind

/-- **The consumer reports visible points only**: for the records of the repeated calls the points
    `polyline::part::points()` hands out — the drawn points of a part without the first one when a cut is
    stored and without the last one when a trim is stored — are all visible; and (second part, for every record list)
    these are exactly the spans the model of the part view computes.  `polyParts` counts positions in the point array
    (a part starts `usr` behind its predecessor), `ReportedVisible` in the data (`raw` behind): the spans are compared
    relative to the start of their own part. -/
theorem consumer_points_visible (xs : List Rat) (r : Range) :
    ReportedVisible r xs (parts xs (some r)) 0 ∧
    ∀ (ps : List Part) (t : Nat),
      (polyParts ps t).map (fun e => ((e.1 : Int) - e.2.2.1, e.2.1, e.2.2.2)) =
        ps.map (fun p => (((if p.cut ≠ 0 then 1 else 0 : Nat) : Int),
          (p.usr : Int) - (if p.cut ≠ 0 then 1 else 0 : Nat) - (if p.trim ≠ 0 then 1 else 0 : Nat), p.usr)) :=
  ⟨reported_visible r xs _ 0 (interior_visible xs r) (crossings_flagged xs r), polyParts_spans⟩

example : polyParts (parts [-1, 1/2, 1/2, 2, 2, 1/2] (some ⟨0, 1⟩)) 0 = [(1, 2, 0, 4), (5, 1, 4, 2)] := by
  decide +kernel

/-- **Merge path**: `linepart::array::apply` on the parts `linepart::array::set` has made for the points (as
    `polyline::set` uses it: parts for `n` points first, then one dimension applied — chunks of 65533 points,
    each re-split by the calls and re-joined where nothing is hidden in between) yields records with the whole
    property: they consume every point exactly once, each at least one; every visible point is drawn by
    exactly one part; interiors are visible; crossings are marked; hence the consumer reports visible points
    only.  (Applying a FURTHER dimension to such records is checked per script by the model driver.) -/
theorem merge_partition (xs : List Rat) (r : Range) (ps : List Part)
    (h : arrayApply (arraySet xs.length) xs (some r) = some ps) :
    (ps.map (·.raw)).sum = xs.length ∧ (∀ p ∈ ps, 0 < p.raw) ∧
    (∀ i, insideAt r xs i → drawnCount ps 0 i = 1) ∧ InteriorVisible r xs ps 0 ∧ Flagged r xs ps 0 ∧
    ReportedVisible r xs ps 0 := by
  obtain ⟨g1, g2, g3, g4, g5⟩ := merge_good xs r ps h
  refine ⟨g1, g2, ?_, g4, g5, reported_visible r xs ps 0 g4 g5⟩
  intro i hin
  rw [g3 i hin, if_pos (insideAt_lt hin)]

example : arrayApply (arraySet 6) [-1, 1/2, 1/2, 2, 2, 1/2] (some ⟨0, 1⟩)
    = some [{ raw := 4, usr := 4, cut := 43690, trim := 43690 }, { raw := 2, usr := 2, cut := 43690, trim := 0 }] := by
  decide +kernel

example : arrayApply (arraySet 4) [1/2, 1/2, 1/2, 2] (some ⟨0, 1⟩) = some [{ raw := 4, usr := 4, cut := 0, trim := 43690 }] := by
  decide +kernel

end Mpt.C18
