/-
  C07 — scalar conversion is exact or refused.

  M = `conv` (Impl/Convert.lean) evaluates the converter tables that translate/cextract.py regenerates from
  mptcore/convert/data_convert_int.c, data_convert_float.c, data_converter.c on every run
  (Generated/ConvInt.lean); the text parsers `runParser`, `runFloatParser` evaluate the parser descriptions regenerated
  from convert_int.c, cfloat.c, cdouble.c, cldouble.c, convert_number.c (Generated/ConvText.lean) over hand models of
  `strtoimax/strtoumax` and, for the floating targets, an oracle or the decimal model `strtoDec`.  S = Spec/Scalar.lean
  (what a scalar object denotes, what a numeral denotes), Spec/Float.lean (correct rounding).

  The theorems are proved by *deciding a verified checker on the generated table* (`checkCase`, Lemmas/Convert.lean;
  `checkCaseF`, Lemmas/ConvFloat.lean; `checkParser`, Lemmas/ConvText.lean; `checkFloatParser`, `checkFloatSafe`,
  Lemmas/ConvDec.lean): a widened bound, a dropped `if (dest)`, a store of the wrong width, an unguarded `isgraph` or a
  dropped ERANGE test in the C source changes the table and makes the evaluation (`decide +kernel`) fail.

  Floating targets: the model's store *is* the correctly rounded value of Spec/Float.lean, so that conjunct of
  `float_no_saturation` holds by construction; what the theorem adds is that the call never faults, returns the
  target's size and never turns a finite number into an infinity.  That the hardware conversion instructions and
  `strtof/strtod/strtold` round this way is an assumption, checked differentially against the real code.
-/
import MptModel.Lemmas.ConvFloat
import MptModel.Lemmas.ConvDec
namespace Mpt.C07
open Mpt Mpt.Conv Mpt.Scalar Mpt.Flt

/-- Integer -> integer (all 9 x 9 pairs of c b y n q i u x t, every value of the source type, with and without
    destination): the conversion never has undefined behaviour; an accepted conversion returns the size of the
    target type; without destination nothing is stored; with destination the target object denotes exactly the
    source number — and a character target only ever receives a printable 7-bit character. -/
theorem int_exact (src tgt : Ty) (hs : src ∈ Ty.ints) (ht : tgt ∈ Ty.ints) (v : Int) (hv : inRange src v) (d : Bool) :
    verdict (conv src tgt (.int v) d) ≠ .broken ∧
    ∀ o n, conv src tgt (.int v) d = .ok (o, n) →
      n = tgt.size ∧ (d = false → o = none) ∧
      (d = true → ∃ bits, o = some (.int bits) ∧ denote tgt bits = v ∧ (tgt = .c → isGraph v = true)) := by
  apply notBroken_of_cases
  rcases conv_of_check (checkTable_mem (chk := checkCase) (by decide +kernel) hs ht) with ⟨e, he⟩ | ⟨c, hc, hconv⟩
  · exact .inl ⟨e, he _ d⟩
  · rw [hconv]
    exact checkCase_sound hc (srcIv_mem hv) d

/-- instances: uint32 65535 -> 'q' is stored exactly, 65536 is refused, int32 -8194 -> 'c' is refused; asking whether
    uint8 200 converts to 'u' stores nothing and returns the size 4 -/
example : conv .u .q (.int 65535) true = .ok (some (.int 65535), 2) := by decide +kernel
example : conv .u .q (.int 65536) true = .err .BadValue := by decide +kernel
example : conv .i .c (.int (-8194)) true = .err .BadValue := by decide +kernel
example : conv .y .u (.int 200) false = .ok (none, 4) := by decide +kernel

/-- Asking whether a conversion is possible (no destination) gives the same verdict as performing it:
    all 12 x 12 pairs, every integer or floating source value. -/
theorem query_same_verdict (src tgt : Ty) (s : Src) :
    verdict (conv src tgt s false) = verdict (conv src tgt s true) := by
  rw [query_of_check (checkTable_mem (srcs := Ty.all) (tgts := Ty.all) (by decide +kernel) (mem_all src) (mem_all tgt)) s,
    forget_verdict]

example : verdict (conv .q .e (.int 7) false) = .accepted := by decide +kernel

/-- representable source values: an integer of the source type, or a floating datum whose magnitude does not
    exceed the largest finite value of the source type -/
def srcOK (src : Ty) : Src → Prop
  | .int v => src.isFloat = false ∧ inRange src v
  | .flt x => src.isFloat = true ∧ x.absLe (tgtCTy src).fmt.maxInt

def srcVal : Src → FVal
  | .int v => ofInt v
  | .flt x => x

/-- Floating targets (all 12 sources x f d e, every representable source value): no undefined behaviour; an accepted
    conversion returns the target's size and stores the correctly rounded (nearest, ties to even) value of the
    source number (DESIGN §5.0) — and that value is finite whenever the source is: a finite number is never turned
    into an infinity or a NaN, it is refused instead. -/
theorem float_no_saturation (src tgt : Ty) (ht : tgt ∈ Ty.floats) (s : Src) (hs : srcOK src s) :
    verdict (conv src tgt s true) ≠ .broken ∧
    ∀ o n, conv src tgt s true = .ok (o, n) →
      n = tgt.size ∧ ∃ y, o = some (.flt y) ∧ y = round (tgtCTy tgt).fmt (srcVal s) ∧
        ((srcVal s).isFinite = true → y.isFinite = true) := by
  apply notBroken_of_cases
  rcases conv_of_check (checkTable_mem (chk := checkCaseF) (srcs := Ty.all) (by decide +kernel) (mem_all src) ht)
    with ⟨e, he⟩ | ⟨c, hc, hconv⟩
  · exact .inl ⟨e, he s true⟩
  · rw [hconv]
    refine checkCaseF_sound hc (s := s) ?_
    cases s with
    | int v => exact ⟨(tgtCTy_isFloat src).trans hs.1, srcIv_mem hs.2⟩
    | flt x => exact ⟨(tgtCTy_isFloat src).trans hs.1, hs.2⟩

/-- FLT_MAX converts from double, the next double above it is refused (not stored as infinity); 2^24+1 rounds to 2^24 -/
example : conv .d .f (.flt (.fin false 16777215 104)) true = .ok (some (.flt (.fin false 16777215 104)), 4) := by decide +kernel
example : conv .d .f (.flt (.fin false (16777215 * 2 ^ 29 + 1) 75)) true = .err .BadValue := by decide +kernel
example : conv .i .f (.int 16777217) true = .ok (some (.flt (.fin false 8388608 1)), 4) := by decide +kernel

/-- Integer -> floating point: a source value with fewer significant bits than the target's significand
    (24 / 53 / 64) is either refused or stored as exactly that number. -/
theorem int_to_float_exact (src tgt : Ty) (hs : src ∈ Ty.ints) (ht : tgt ∈ Ty.floats) (v : Int) (hv : inRange src v)
    (hsmall : v.natAbs < 2 ^ precision tgt) :
    verdict (conv src tgt (.int v) true) ≠ .broken ∧
    ∀ o n, conv src tgt (.int v) true = .ok (o, n) → ∃ y, o = some (.flt y) ∧ y.toInt? = some v := by
  obtain ⟨hnb, hex⟩ := float_no_saturation src tgt ht (.int v) ⟨ints_isFloat src hs, hv⟩
  refine ⟨hnb, fun o n h => ?_⟩
  obtain ⟨_, y, hy, hyr, _⟩ := hex o n h
  refine ⟨y, hy, ?_⟩
  rw [hyr, srcVal, round_ofInt_small tgt (floats_isFloat tgt ht) v hsmall]
  exact ofInt_toInt v

example : precision .f = 24 ∧ precision .d = 53 ∧ precision .e = 64 := by decide

/-- Text -> integer (`mpt_convert_number`, the `mpt_c[u]intN` wrapper and the `_mpt_convert_int/_uint` parser it
    reaches, as described by the generated `Generated/ConvText.lean`; targets b y n q i u x t): never undefined
    behaviour; an accepted conversion consumed a prefix of the text that is either blank (then nothing is stored) or
    a numeral — optional white space, optional sign, C integer literal — of a number in the target's range, and the
    stored object denotes exactly that number (never a saturated or wrapped one); the query mode reports the same
    verdict and the same consumed length.  Proved by deciding a verified checker on the generated parser tables:
    dropping the ERANGE test, the minus-sign test, a range test or the `if (val)` breaks it. -/
theorem text_int_exact (tgt : Ty) (ht : tgt ∈ textTargets) (s : List Nat) (d : Bool) :
    verdict (convertNumber tgt s d) ≠ .broken ∧
    (∀ o n, convertNumber tgt s d = .ok (o, n) → TextOK tgt s d o n) ∧
    convertNumber tgt s false = dropValue (convertNumber tgt s true) := by
  have htab : ∀ ty ∈ textTargets, checkTextTarget ty = true := by decide +kernel
  exact convertNumber_sound ht (htab tgt ht) s d

/-- the same for `mpt_convert_string` (skips leading white space itself; blank text is "no value", 0 consumed) -/
theorem text_string_exact (tgt : Ty) (ht : tgt ∈ textTargets) (s : List Nat) (d : Bool) :
    verdict (convertString tgt s d) ≠ .broken ∧
    (∀ o n, convertString tgt s d = .ok (o, n) → TextOK tgt s d o n) ∧
    convertString tgt s false = dropValue (convertString tgt s true) :=
  convertString_sound (fun s' d' => text_int_exact tgt ht s' d') s d

/-- " -129" is refused for int8, " -128x" is read as -128 from its first 5 characters; "-1" is refused for uint64;
    2^63 is refused for int64 -/
example : convertNumber .b [32, 45, 49, 50, 57] true = .err .BadValue := by decide +kernel
example : convertNumber .b [32, 45, 49, 50, 56, 120] true = .ok (some 128, 5) := by decide +kernel
example : convertNumber .t [45, 49] true = .err .BadValue := by decide +kernel
example : numeral [32, 45, 49, 50, 56] = some (-128) ∧ denote .b 128 = -128 := by decide +kernel

/-- Text -> character ('c' target of `mpt_convert_number` and `mpt_convert_string`): never undefined behaviour; an
    accepted conversion either found only blanks (nothing stored, nothing consumed) or consumed blanks and one
    printable 7-bit character, which is what is stored; the query mode reports the same verdict and length. -/
theorem text_char_exact (s : List Nat) (d : Bool) :
    verdict (convertNumber .c s d) ≠ .broken ∧ verdict (convertString .c s d) ≠ .broken ∧
    (∀ o n, convertNumber .c s d = .ok (o, n) → CharOK s d o n) ∧
    (∀ o n, convertString .c s d = .ok (o, n) → CharOK s d o n) ∧
    convertNumber .c s false = dropValue (convertNumber .c s true) ∧
    convertString .c s false = dropValue (convertString .c s true) := by
  have hn : ∀ s' d', convertNumber .c s' d' = convertChar s' d' := fun _ _ => if_pos rfl
  simp only [convertString_char, hn]
  exact ⟨convertChar_notBroken s d, convertChar_notBroken s d, convertChar_ok s d, convertChar_ok s d,
    convertChar_query s, convertChar_query s⟩

example : convertNumber .c [32, 9, 65, 66] true = .ok (some 65, 3) := by decide +kernel

/-- Text -> floating point (`mpt_cfloat`, `mpt_cdouble`, `mpt_cldouble` as described by the generated
    `Generated/ConvText.lean`; `strtof/strtod/strtold` themselves are an oracle `r` that satisfies the libc contract
    "a numeral whose correctly rounded value is not finite yields an infinity and ERANGE"): an accepted conversion
    consumed what `strto*` consumed and stores the value it returned, and the numeral did not overflow — a finite
    numeral is never stored as an infinity, it is refused.  Dropping the `errno` reset or the ERANGE test breaks it. -/
theorem text_float_no_saturation (p : TextParser)
    (hp : p ∈ [Generated.Text.mpt_cfloat, Generated.Text.mpt_cdouble, Generated.Text.mpt_cldouble])
    (r : StrToF) (hr : r.contract) (s : List Nat) (d : Bool) (o : Option FVal) (n : Nat)
    (h : runFloatParser p r s d = .ok (o, n)) (hn : n ≠ 0) :
    r.overflow = false ∧ n = r.consumed ∧ (d = true → o = some r.value) := by
  have hall : ∀ q ∈ [Generated.Text.mpt_cfloat, Generated.Text.mpt_cdouble, Generated.Text.mpt_cldouble],
      checkFloatParser q = true := by decide +kernel
  exact runFloatParser_no_overflow p (hall p hp) r hr s d o n h hn

/-- the parsers `mpt_convert_number` reaches for f, d, e pass both checkers -/
theorem floatTargets (tgt : Ty) (ht : tgt ∈ [Ty.f, Ty.d, Ty.e]) :
    ∃ p, numberFloatTarget tgt = some p ∧ checkFloatParser p = true ∧ checkFloatSafe p = true := by
  have h : ∀ ty ∈ [Ty.f, Ty.d, Ty.e],
      (numberFloatTarget ty).any (fun p => checkFloatParser p && checkFloatSafe p) = true := by decide +kernel
  obtain ⟨p, hp, hc⟩ := (Option.any_eq_true _ _).mp (h tgt ht)
  exact ⟨p, hp, Bool.and_eq_true_iff.mp hc⟩

/-- Text -> floating point, `mpt_convert_number` and `mpt_convert_string` for the targets f, d, e as described by the
    generated `Generated/ConvText.lean`, for *every* behaviour `strto` of `strtof/strtod/strtold`: the call never
    has undefined behaviour, and without destination it gives the verdict and the count of the storing call and
    stores nothing.  (An unguarded store, a test the temporary cannot be put to, or a second width case break it.) -/
theorem text_float_total (tgt : Ty) (ht : tgt ∈ [Ty.f, Ty.d, Ty.e]) (strto : List Nat → StrToF) (s : List Nat) :
    (∀ d, verdict (convertNumberF tgt strto s d) ≠ .broken) ∧
    convertNumberF tgt strto s false = dropF (convertNumberF tgt strto s true) ∧
    (∀ d, verdict (convertStringF tgt strto s d) ≠ .broken) ∧
    convertStringF tgt strto s false = dropF (convertStringF tgt strto s true) := by
  obtain ⟨p, hp, _, hsafe⟩ := floatTargets tgt ht
  obtain ⟨h1, h2⟩ := convertNumberF_safe hp hsafe strto s
  obtain ⟨h3, h4⟩ := convertStringF_safe hp hsafe strto s
  exact ⟨h1, h2, h3, h4⟩

/-- Text -> floating point over the decimal model `strtoDec` of `strtof/strtod/strtold` (Impl/Convert.lean; the driver
    runs it against the real libc for every decimal text): what an accepted `mpt_convert_string` call consumed is
    white space followed by a decimal floating-point numeral in the sense of Spec/Scalar.lean (`IsDecNumeral`:
    sign, digits with optional fraction, optional exponent) denoting `(-1)^neg * m * 10^e`; the correctly rounded
    value of that number in the target format is finite, and it is what the destination receives; without destination
    nothing is stored.  A numeral whose rounded value would be an infinity is refused.  Whether the rounded value
    equals the number is not claimed here: see `float_exact_counterexample`. -/
theorem text_float_decimal (tgt : Ty) (ht : tgt ∈ [Ty.f, Ty.d, Ty.e]) (s : List Nat) (d : Bool)
    (o : Option FVal) (n : Nat)
    (h : convertStringF tgt (strtoDec (tgtCTy tgt).fmt) s d = .ok (o, n)) (hn : n ≠ 0) :
    n ≤ s.length ∧ ∃ neg m e, IsDecNumeral (s.take n) neg m e ∧
      (∀ sg, roundDec (tgtCTy tgt).fmt neg m e ≠ .inf sg) ∧
      (d = true → o = some (roundDec (tgtCTy tgt).fmt neg m e)) ∧ (d = false → o = none) := by
  obtain ⟨p, hp, hck, _⟩ := floatTargets tgt ht
  exact convertStringF_decimal tgt p hp hck _ s d o n h hn

/-- " 0.1" is accepted as a float with the nearest binary32 value; "1e39" is refused, not stored as infinity -/
example : convertStringF .f (strtoDec binary32) [32, 48, 46, 49] true = .ok (some (.fin false 13421773 (-27)), 4) := by
  decide +kernel
example : convertStringF .f (strtoDec binary32) [49, 101, 51, 57] true = .err .BadValue := by decide +kernel
example : convertStringF .d (strtoDec binary64) [49, 101, 51, 57] false = .ok (none, 4) := by decide +kernel

/-- the parsers `mpt_convert_number` dispatches to for the target codes f, d, e -/
example : (Generated.Text.numberDispatch.filter (fun x => x.1 ∈ [102, 100, 101])).map (·.2.1) =
    ["mpt_cfloat", "mpt_cdouble", "mpt_cldouble"] := by decide +kernel

/-- the verdict of `fileToken` as a function of the conversion into the element's buffer -/
def tokVerdict : TextRes → Verdict
  | .ok (some _, _) => .accepted
  | .ok (none, _) => .refused
  | .err _ => .refused
  | _ => .broken

/-- A number read from a text file through the file iterator (`fileToken`: the element converts the token with
    `mpt_convert_number`), integer targets: never undefined; the verdict does not depend on the destination; an accepted
    read converted a prefix of the token that is a numeral of a number in the target's range, and the object handed
    out denotes exactly that number — never a wrapped or saturated one ("300" is no uint8, "-1" no unsigned). -/
theorem file_token_exact (tgt : Ty) (ht : tgt ∈ textTargets) (strto : List Nat → StrToF) (s : List Nat) (d : Bool) :
    verdict (fileToken tgt strto s d) ≠ .broken ∧
    verdict (fileToken tgt strto s false) = verdict (fileToken tgt strto s true) ∧
    ∀ o n, fileToken tgt strto s d = .ok (o, n) →
      (d = false → o = none) ∧
      (d = true → ∃ bits k v, o = some (.int bits) ∧ numeral (s.take k) = some v ∧ inRange tgt v ∧ denote tgt bits = v) := by
  obtain ⟨hnb, hok, _⟩ := text_int_exact tgt ht s true
  obtain ⟨hf, hc⟩ := (by decide : ∀ ty ∈ textTargets, ty.isFloat = false ∧ ¬ (ty = .c ∨ ty = .e)) tgt ht
  -- whatever the destination, the verdict is that of the conversion into the element's buffer
  have hv : ∀ d', verdict (fileToken tgt strto s d') = tokVerdict (convertNumber tgt s true) := fun d' => by
    simp only [fileToken, hc, hf, if_false, Bool.false_eq_true]
    cases convertNumber tgt s true with
    | ok r => obtain ⟨_ | _, _⟩ := r <;> rfl
    | err e => cases e <;> rfl
    | _ => rfl
  refine ⟨?_, by rw [hv, hv], fun o n h => ?_⟩
  · rw [hv]
    cases hcn : convertNumber tgt s true with
    | ok r => obtain ⟨_ | _, _⟩ := r <;> nofun
    | err e => nofun
    | _ => simp [hcn, verdict] at hnb
  · simp only [fileToken, hc, hf, if_false, Bool.false_eq_true] at h
    cases hcn : convertNumber tgt s true with
    | ok r =>
      obtain ⟨_ | bits, k⟩ := r <;> rw [hcn] at h <;> cases h
      rcases (hok _ _ hcn).2 with ⟨hnone, _⟩ | ⟨v, hnum, hrange, ⟨_, b, hb, hden⟩ | ⟨hd, _⟩⟩
      · cases hnone
      · cases hb
        exact ⟨by rintro rfl; rfl, by rintro rfl; exact ⟨_, k, v, rfl, hnum, hrange, hden⟩⟩
      · cases hd
    | err e => rw [hcn] at h; cases e <;> cases h
    | _ => rw [hcn] at h; cases h

example : fileToken .y (fun _ => ⟨.nan, 0, false, false⟩) [51, 48, 48] true = .err .BadType ∧
    fileToken .y (fun _ => ⟨.nan, 0, false, false⟩) [50, 48, 48] true = .ok (some (.int 200), 128) := by decide +kernel

/-- the target types of the `mpt_c*` integer wrappers: the fixed-width ones and the native `char`, `int`, `long`,
    `unsigned char`, `unsigned int`, `unsigned long` (LP64: sizes from the generated table) -/
def wrapperTys : List (String × Ty) :=
  [("mpt_cint8", .b), ("mpt_cint16", .n), ("mpt_cint32", .i), ("mpt_cint64", .x),
   ("mpt_cchar", .b), ("mpt_cint", .i), ("mpt_clong", .x),
   ("mpt_cuint8", .y), ("mpt_cuint16", .q), ("mpt_cuint32", .u), ("mpt_cuint64", .t),
   ("mpt_cuchar", .y), ("mpt_cuint", .u), ("mpt_culong", .t)]

/-- Text -> integer through the wrappers called directly (`mpt_cint8(val, src, 0, NULL)` ... `mpt_culong`), base 0:
    never undefined, an accepted call consumed a numeral of an in-range number which the stored object denotes, and
    the query has the verdict and count of the storing call. -/
theorem text_wrapper_exact (name : String) (tgt : Ty) (hw : (name, tgt) ∈ wrapperTys) (s : List Nat) (d : Bool) :
    verdict (runWrapper name s 0 d) ≠ .broken ∧
    (∀ o n, runWrapper name s 0 d = .ok (o, n) → TextOK tgt s d o n) ∧
    runWrapper name s 0 false = dropValue (runWrapper name s 0 true) := by
  have hall : ∀ w ∈ wrapperTys, (wrapperTarget w.1).any (fun ps => checkParser ps.1 ps.2 w.2) = true := by
    decide +kernel
  obtain ⟨⟨p, size⟩, hwt, hc⟩ := (Option.any_eq_true _ _).mp (hall (name, tgt) hw)
  simp only [runWrapper, hwt]
  exact runParser_sound hc s d

example : runWrapper "mpt_cchar" [45, 49, 50, 56] 0 true = .ok (some 128, 4) := by decide +kernel
example : runWrapper "mpt_cuchar" [50, 53, 54] 0 true = .err .BadValue := by decide +kernel

/-- The target code `'l'` (`long`): every integer converter rewrites it to `mpt_type_int(sizeof(long))` = `'x'` before
    its switch, and so does `mpt_convert_number` (its own `case 'l'` behind the rewrite is dead): a conversion to `'l'`
    is the conversion to `'x'`, to which `int_exact`, `float_to_int_refused` and `text_int_exact` apply. -/
theorem long_alias (src : Ty) (s : Src) (d : Bool) :
    convLong src s d = conv src .x s d ∧ Generated.Text.numberAlias = some (108, Ty.x.code) := by
  refine ⟨?_, by decide⟩
  -- per converter: 'l' (108) and 'x' (120) resolve to the same code, or neither has a case or a vector label and both
  -- calls fall to the converter's default
  have hall : ∀ ty ∈ Ty.all, ((fnOf ty).map fun f => decide (f.resolve 108 = f.resolve 120) ||
      ((f.lookup 108).isNone && (f.lookup 120).isNone && decide (f.resolve 108 ∉ f.vectors) &&
        decide (f.resolve 120 ∉ f.vectors))).getD true = true := by
    decide +kernel
  have hrun : ∀ (f : Fn) a b, f.resolve a = f.resolve b → f.run a s d = f.run b s d := by
    intro f a b h; simp only [Fn.run, Fn.lookup, h]
  have hs := hall src (mem_all src)
  simp only [convLong, conv]
  cases hf : fnOf src with
  | none => rfl
  | some f =>
    simp only [hf, Option.map, Option.getD, Bool.or_eq_true, Bool.and_eq_true, decide_eq_true_eq,
      Option.isNone_iff_eq_none] at hs
    rcases hs with hs | ⟨⟨⟨h1, h2⟩, h3⟩, h4⟩
    · simp only [hrun f 108 120 hs, show Ty.x.code = 120 from rfl]
    · simp only [show Ty.x.code = 120 from rfl, Fn.run, h1, h2, h3, h4, if_false]

/-- The full clause "the target denotes the same number" for floating targets (known finding `c_ne_s:rounded`): an
    accepted conversion stores a value that denotes the source number. -/
def float_exact_statement : Prop :=
  ∀ (src tgt : Ty) (s : Src) (y : FVal) (n : Nat), tgt ∈ Ty.floats → srcOK src s →
    conv src tgt s true = .ok (some (.flt y), n) → y.same (srcVal s) = true

/-- It does not hold for the C code as it is: int32 16777217 is accepted for a float target and 16777216 is stored
    (likewise 2^53+1 for double); the conversion rounds instead of refusing. -/
theorem float_exact_counterexample : ¬ float_exact_statement := by
  intro h
  have := h .i .f (.int 16777217) (.fin false 8388608 1) 4 (by decide) ⟨rfl, by decide⟩ (by decide +kernel)
  revert this
  decide

/-- What holds instead (with `float_no_saturation`: the stored value is the correctly rounded one, never an infinity for
    a finite source): a source number that the target format can hold is stored exactly. -/
theorem float_exact_partial (src tgt : Ty) (ht : tgt ∈ Ty.floats) (s : Src) (hs : srcOK src s)
    (hrep : (round (tgtCTy tgt).fmt (srcVal s)).same (srcVal s) = true) (o : Option Out) (n : Nat)
    (h : conv src tgt s true = .ok (o, n)) : ∃ y, o = some (.flt y) ∧ y.same (srcVal s) = true := by
  obtain ⟨y, hy, hyr, _⟩ := ((float_no_saturation src tgt ht s hs).2 o n h).2
  exact ⟨y, hy, by rw [hyr]; exact hrep⟩

example : (round binary32 (srcVal (.int 16777216))).same (srcVal (.int 16777216)) = true := by decide +kernel

/-- Floating source, integer target (27 pairs): the converters have no such case, every value is refused (BadType) in
    both modes — the property allows a refusal, it is never a fault. -/
theorem float_to_int_refused (src tgt : Ty) (hs : src ∈ Ty.floats) (ht : tgt ∈ Ty.ints) (s : Src) (d : Bool) :
    conv src tgt s d = .err .BadType := by
  simp only [Ty.floats, Ty.ints, List.mem_cons, List.mem_nil_iff, or_false] at hs ht
  rcases hs with rfl | rfl | rfl <;> rcases ht with rfl | rfl | rfl | rfl | rfl | rfl | rfl | rfl | rfl <;> rfl

/-- Values passed through a variadic call (`mpt_process_vararg` / `mpt_value_argv`, generated `argvTable`): every
    case fetches the promoted type of what it stores and reports its size, so an integer of any of the nine integer
    types arrives unchanged in the typed iterator (and is then converted under the theorems above). -/
theorem argv_faithful :
    (∀ r ∈ Generated.argvTable, r.2.2.2 = r.2.1.size ∧
      r.2.2.1 = (match r.2.1 with | .i8 | .i16 => CTy.i32 | .u8 | .u16 => CTy.u32 | .f32 => CTy.f64 | ty => ty)) ∧
    (∀ src ∈ Ty.ints, ∀ v, inRange src v → argvPass src (.int v) = .ok (.int v)) :=
  ⟨by decide, fun src hs _ hv => argvPass_int ((by decide : ∀ ty ∈ Ty.ints, checkArgv ty = true) src hs) hv⟩

example : argvPass .x (.int 5000000000) = .ok (.int 5000000000) := by decide +kernel

/-- `mpt_fpoint_set` (mptplot, a consumer of `mpt_iterator_consume`): both coordinates are consumed as 'f' straight
    into the float members, so what it stores is what the 'f' conversion delivers (`float_no_saturation`). -/
theorem fpoint_consumes_float : Generated.fpointConsume = [(Ty.code .f, true), (Ty.code .f, true)] := by decide

/-- `mpt_value_convert` (converter, else raw copy of an identical type), integer types: never a fault, same verdict in
    query mode, and an accepted conversion leaves an object that denotes exactly the source number. -/
theorem value_convert_exact (src tgt : Ty) (hs : src ∈ Ty.ints) (ht : tgt ∈ Ty.ints) (v : Int) (hv : inRange src v) (d : Bool) :
    verdict (valueConvert src tgt (.int v) d) ≠ .broken ∧
    verdict (valueConvert src tgt (.int v) false) = verdict (valueConvert src tgt (.int v) true) ∧
    ∀ o n, valueConvert src tgt (.int v) d = .ok (o, n) →
      (d = false → o = none) ∧ (d = true → ∃ bits, o = some (.int bits) ∧ denote tgt bits = v) := by
  obtain ⟨hnb, hex⟩ := int_exact src tgt hs ht v hv d
  have key := valueConvert_of_conv (s := .int v)
    (P := fun o => (d = false → o = none) ∧ (d = true → ∃ bits, o = some (.int bits) ∧ denote tgt bits = v))
    (by rintro rfl
        cases d
        · exact ⟨fun _ => rfl, nofun⟩
        · exact ⟨nofun, fun _ => ⟨_, rfl, denote_store src v (ints_isFloat src hs) hv.1 hv.2⟩⟩)
    ⟨hnb, fun o n h => let ⟨_, h1, h2⟩ := hex o n h; ⟨h1, fun hd => let ⟨b, hb, hden, _⟩ := h2 hd; ⟨b, hb, hden⟩⟩⟩
  refine ⟨key.1, ?_, key.2⟩
  rw [valueConvert_verdict, valueConvert_verdict, query_same_verdict]

/-- an accepted conversion of a missing source stored the number 0 (nothing in query mode) -/
def storesZero (d : Bool) : Res (Option Out × Nat) → Bool
  | .ok (some (.int b), _) => d && b == 0
  | .ok (some (.flt x), _) => d && x.same (.fin false 0 0)
  | .ok (none, _) => !d
  | _ => true

/-- A value without data (`_addr = NULL`; all 12 x 12 pairs) through the converter and through `mpt_value_convert`:
    never a fault, the query has the verdict of the storing call, and an accepted conversion stored the number 0 — the
    raw copy of an identical type is not attempted without a source (c -> c: 0 is not printable, so it is refused). -/
theorem value_convert_null (src tgt : Ty) (d : Bool) :
    verdict (convNull src tgt d) ≠ .broken ∧ verdict (valueConvertNull src tgt d) ≠ .broken ∧
    verdict (valueConvertNull src tgt false) = verdict (valueConvertNull src tgt true) ∧
    storesZero d (convNull src tgt d) = true ∧ storesZero d (valueConvertNull src tgt d) = true := by
  have h : ∀ ts ∈ Ty.all, ∀ tt ∈ Ty.all, ∀ b ∈ [true, false],
      verdict (convNull ts tt b) ≠ .broken ∧ storesZero b (convNull ts tt b) = true := by decide +kernel
  obtain ⟨h1, h4⟩ := h src (mem_all src) tgt (mem_all tgt) d (by cases d <;> decide)
  -- `mpt_value_convert` only changes the returned number and the error code
  have hz : storesZero d (valueConvertNull src tgt d) = storesZero d (convNull src tgt d) := by
    unfold valueConvertNull
    cases convNull src tgt d with
    | ok r => obtain ⟨_ | _ | _, _⟩ := r <;> rfl
    | err e => by_cases hst : src = tgt <;> simp [hst, storesZero]
    | _ => rfl
  refine ⟨h1, valueConvertNull_verdict src tgt d ▸ h1, ?_, h4, hz ▸ h4⟩
  rw [valueConvertNull_verdict, valueConvertNull_verdict]
  exact query_same_verdict src tgt _

example : valueConvertNull .c .c true = .err .MissingData ∧ valueConvertNull .i .x true = .ok (some (.int 0), 3) := by decide +kernel

/-- c -> c with a non-printable value: the converter refuses, `mpt_value_convert` copies the character -/
example : conv .c .c (.int 7) true = .err .BadValue ∧ valueConvert .c .c (.int 7) true = .ok (some (.int 7), 0) := by decide +kernel

/-- `mpt_iterator_consume` and the vararg path hand the same object on: they differ from `mpt_value_convert` only in
    the returned code, and the vararg path delivers the integer unchanged (`argv_faithful`). -/
theorem consume_exact (src tgt : Ty) (hs : src ∈ Ty.ints) (ht : tgt ∈ Ty.ints) (v : Int) (hv : inRange src v) (d : Bool) :
    argvConsume src tgt (.int v) d = consume src tgt (.int v) d ∧
    verdict (consume src tgt (.int v) d) ≠ .broken ∧
    ∀ o n, consume src tgt (.int v) d = .ok (o, n) →
      n = src.code ∧ (d = false → o = none) ∧ (d = true → ∃ bits, o = some (.int bits) ∧ denote tgt bits = v) := by
  obtain ⟨hnb, _, hex⟩ := value_convert_exact src tgt hs ht v hv d
  refine ⟨by simp [argvConsume, argv_faithful.2 src hs v hv], ?_⟩
  exact consume_of_valueConvert ⟨hnb, hex⟩

/-- the vararg path for floating values: a double arrives unchanged, a float that is a float arrives unchanged (it is
    promoted to double and narrowed again), a long double is refused (`mpt_value_argv` has no case for it) -/
theorem argv_float (x : FVal) :
    (round binary64 x = x → argvPass .d (.flt x) = .ok (.flt x)) ∧
    (round binary64 x = x → round binary32 x = x → argvPass .f (.flt x) = .ok (.flt x)) ∧
    argvPass .e (.flt x) = .err .BadType := by
  refine ⟨?_, ?_, by rfl⟩
  · intro h; simp [argvPass, argvRow, Generated.argvTable, Ty.code, tgtCTy, CTy.size, CTy.isFloat, CTy.fmt, h]
  · intro h1 h2; simp [argvPass, argvRow, Generated.argvTable, Ty.code, tgtCTy, CTy.size, CTy.isFloat, CTy.fmt, h1, h2]

example : round binary64 (.fin false 3 (-1)) = .fin false 3 (-1) ∧ round binary32 (.fin false 3 (-1)) = .fin false 3 (-1) := by decide +kernel

/-- `mpt_fpoint_set`: no fault; an accepted point holds, per coordinate, the correctly rounded float of the source
    number — never an infinity for a finite source (a finite value beyond the float range refuses the whole point). -/
theorem fpoint_no_saturation (src : Ty) (vals : List Src) (hv : ∀ s ∈ vals, srcOK src s) :
    verdict (fpointSet src vals) ≠ .broken ∧
    ∀ px py, fpointSet src vals = .ok (px, py) →
      ∃ a b, (vals = [a] ∨ vals = [a, b]) ∧ px = round binary32 (srcVal a) ∧
        py = round binary32 (srcVal (if vals.length = 1 then a else b)) ∧
        ((srcVal a).isFinite = true → px.isFinite = true) ∧
        ((srcVal (if vals.length = 1 then a else b)).isFinite = true → py.isFinite = true) := by
  have coord : ∀ k s, Generated.fpointConsume[k]? = some (Ty.code .f, true) → srcOK src s →
      (∃ e, fpointCoord k src s = .err e) ∨ ∃ z, fpointCoord k src s = .ok z ∧
        z = round binary32 (srcVal s) ∧ ((srcVal s).isFinite = true → z.isFinite = true) := fun k s hcode hs =>
    have hconv := float_no_saturation src .f (by decide) s hs
    -- the f -> f case of the generated table has no guard: `conv .f .f (.flt z) true` evaluates to `.ok` for a variable `z`
    fpointCoord_of_conv hcode (fun v hv => by subst hv; exact hs.1) (fun _ _ => nofun)
      ⟨hconv.1, fun o n h => (hconv.2 o n h).2⟩
  apply notBroken_of_cases
  match vals, hv with
  | [], _ => exact .inl ⟨_, rfl⟩
  | [a], hv =>
    rcases coord 0 a (congrArg (·[0]?) fpoint_consumes_float) (hv a (by simp)) with ⟨e, he⟩ | ⟨x, hx, h1, h2⟩
    · exact .inl ⟨e, by simp [fpointSet, he]⟩
    · exact .inr ⟨x, x, by simp [fpointSet, hx], a, a, .inl rfl, h1, h1, h2, h2⟩
  | [a, b], hv =>
    rcases coord 0 a (congrArg (·[0]?) fpoint_consumes_float) (hv a (by simp)) with ⟨e, he⟩ | ⟨x, hx, h1, h2⟩
    · exact .inl ⟨e, by simp [fpointSet, he]⟩
    · rcases coord 1 b (congrArg (·[1]?) fpoint_consumes_float) (hv b (by simp)) with ⟨e, he⟩ | ⟨y, hy, h3, h4⟩
      · exact .inl ⟨e, by simp [fpointSet, hx, he]⟩
      · exact .inr ⟨x, y, by simp [fpointSet, hx, hy], a, b, .inr rfl, h1, h3, h2, h4⟩
  | _ :: _ :: _ :: _, _ => exact .inl ⟨_, rfl⟩

end Mpt.C07
