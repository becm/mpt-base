/-
  C13 — Ring-buffer queue is a faithful byte deque.

  M = `Mpt.Ring` (MptModel/Impl/Ring.lean, mirrors mptcore/queue/*.c).  `Ring.content` is the abstraction function
  (the bytes `base[(off+i) % max]`, i < len, that the C struct denotes); `Ring.WF` (len ≤ max ∧ off ≤ max) is the
  representation invariant.  S comes twice: `stepS` below, a plain list with a capacity, for histories with data and a
  target (`Op`, `stepM`; `step_refines`, `deque_refinement`, `refusal_pure`, `in_bounds`), and `Deque.allowed`
  (Spec/Deque.lean), the outcomes allowed for every operation the drivers issue, incl. null data, null targets,
  find, prepare, load, save with short writes and message views (`stepX_sound`, `runX_sound`).

  Every theorem holds for ALL rings (any capacity, offset, fill, wrapped or not), all operands, all histories.
  Besides the two step theorems: `prepare_keeps_content`, `memrev_rotate` (the 1024-byte block rotation of
  mpt_memrev), `find_first_match`, `no_late_refusal`, `load_appends` / `load_full_refused` / `save_drains`
  (`mpt_queue_load/save`, the descriptor a byte source/sink), and the C++ `io::queue` wrappers `cxx_push_appends`,
  `cxx_unshift_prepends`, `cxx_pop`, `cxx_shift`, `cxx_write`, `cxx_read`, `cxx_read_null`, `cxx_peek`
  (`pipe<T>::elements()` is `peek` of everything: `cxx_peek_all`).
-/
import MptModel.Lemmas.RingFind
import MptModel.Lemmas.RingIO
import MptModel.Lemmas.RingCxx

namespace Mpt.C13
open Mpt Mpt.Ring

/-- operations of a history: every write carries its bytes and every read has a target to copy into (the calls with a
    NULL data pointer or without a target are among `Deque.XOp`, see `stepX_sound`) -/
inductive Op where
  | push (bs : List Byte)
  | unshift (bs : List Byte)
  | pop (n : Nat)
  | shift (n : Nat)
  | crop (pos n : Nat)
  | set (pos : Nat) (bs : List Byte)
  | get (pos n : Nat)
  | align (pos : Nat)
  | resize (n : Nat)
  | string
  deriving Repr

inductive Out where
  | ok (bytes : List Byte)      -- accepted; bytes returned to the caller (empty for writes)
  | refused                     -- refused, nothing changed
  | bad                         -- the model left the storage or faulted (never happens, see `step_refines`)
  deriving Repr, DecidableEq

/-- M: one operation on the ring model -/
def stepM (r : Ring) : Op → Ring × Out
  | .push bs => match r.qpush bs.length (some bs) with
    | .ok (r', _) => (r', .ok []) | .err _ => (r, .refused) | .null => (r, .refused) | _ => (r, .bad)
  | .unshift bs => match r.qunshift bs.length (some bs) with
    | .ok (r', _) => (r', .ok []) | .err _ => (r, .refused) | .null => (r, .refused) | _ => (r, .bad)
  | .pop n => match r.qpop n true with
    | .ok (r', out) => (r', .ok out) | .err _ => (r, .refused) | .null => (r, .refused) | _ => (r, .bad)
  | .shift n => match r.qshift n true with
    | .ok (r', out) => (r', .ok out) | .err _ => (r, .refused) | .null => (r, .refused) | _ => (r, .bad)
  | .crop pos n => match r.crop pos n with
    | .ok (r', _) => (r', .ok []) | .err _ => (r, .refused) | .null => (r, .refused) | _ => (r, .bad)
  | .set pos bs => match r.set pos bs.length (some bs) with
    | .ok (r', _) => (r', .ok []) | .err _ => (r, .refused) | .null => (r, .refused) | _ => (r, .bad)
  | .get pos n => match r.get pos n true with
    | .ok (_, out) => (r, .ok out) | .err _ => (r, .refused) | .null => (r, .refused) | _ => (r, .bad)
  | .align pos => match r.align pos with
    | .ok r' => (r', .ok []) | .err _ => (r, .refused) | .null => (r, .refused) | _ => (r, .bad)
  | .resize n => match r.resize n true with
    | .ok r' => (r', .ok []) | .err _ => (r, .refused) | .null => (r, .refused) | _ => (r, .bad)
  | .string => match r.string with
    | .ok (r', out) => (r', .ok out) | .err _ => (r, .refused) | .null => (r, .refused) | _ => (r, .bad)

/-- S: the same operation on a plain byte list with capacity `cap` (state = capacity and content).
    Requests for more than is stored or free are refused; a zero-length push onto a completely full queue
    is refused as well (the content is the same either way).  `resize` sets the capacity and keeps the
    newest `n` bytes (queue_resize.c: "remove data from queue start"); `string` needs one free byte for
    the terminator. -/
def stepS (cap : Nat) (d : List Byte) : Op → (Nat × List Byte) × Out
  | .push bs => if d.length < cap ∧ bs.length ≤ cap - d.length then ((cap, d ++ bs), .ok []) else ((cap, d), .refused)
  | .unshift bs => if d.length < cap ∧ bs.length ≤ cap - d.length then ((cap, bs ++ d), .ok []) else ((cap, d), .refused)
  | .pop n => if n ≤ d.length then ((cap, d.take (d.length - n)), .ok (d.drop (d.length - n))) else ((cap, d), .refused)
  | .shift n => if n ≤ d.length then ((cap, d.drop n), .ok (d.take n)) else ((cap, d), .refused)
  | .crop pos n => if pos + n ≤ d.length then ((cap, d.take pos ++ d.drop (pos + n)), .ok []) else ((cap, d), .refused)
  | .set pos bs =>
    if bs.length = 0 then ((cap, d), .ok [])
    else if pos + bs.length ≤ d.length then ((cap, d.take pos ++ bs ++ d.drop (pos + bs.length)), .ok [])
    else ((cap, d), .refused)
  | .get pos n =>
    if n = 0 then ((cap, d), .ok [])
    else if pos + n ≤ d.length then ((cap, d), .ok ((d.drop pos).take n)) else ((cap, d), .refused)
  | .align _ => ((cap, d), .ok [])
  | .resize n => ((n, d.drop (d.length - n)), .ok [])
  | .string => if d.length < cap then ((cap, d), .ok d) else ((cap, d), .refused)

theorem setSrc_some (bs : List Byte) : setSrc bs.length (some bs) = bs :=
  Ring.setSrc_some bs rfl

/-- **One step**: on every well-formed ring, every operation of the model (i) keeps the ring well-formed,
    (ii) changes capacity and denoted content exactly as the plain deque operation does, (iii) returns
    the deque's bytes / refuses exactly when the deque refuses, (iv) never leaves the storage (`Out.bad`
    is impossible because the deque never produces it). -/
theorem step_refines (r : Ring) (h : r.WF) (op : Op) :
    (stepM r op).1.WF ∧
    (((stepM r op).1.store.length, (stepM r op).1.content), (stepM r op).2) = stepS r.store.length r.content op := by
  have H := h.holds
  have hl := H.len
  -- every case: split on the deque's guard, quote the function's lemma over `Holds`; the ring it returns (or `r`
  -- itself after a refusal) holds the deque's state, which `Holds.state_eq` turns into the pair compared here
  cases op with
  | push bs =>
    simp only [stepM, stepS]
    by_cases hc : r.content.length < r.store.length ∧ bs.length ≤ r.store.length - r.content.length
    · obtain ⟨r', c, he, H'⟩ := qpush_ok H bs.length (some bs) hc
      rw [setSrc_some] at H'
      rw [he, if_pos hc]
      exact H'.state_eq _
    · rw [qpush_refused H bs.length (some bs) hc, if_neg hc]
      exact H.state_eq _
  | unshift bs =>
    simp only [stepM, stepS]
    by_cases hc : r.content.length < r.store.length ∧ bs.length ≤ r.store.length - r.content.length
    · obtain ⟨r', c, he, H'⟩ := qunshift_ok H bs.length (some bs) hc
      rw [setSrc_some] at H'
      rw [he, if_pos hc]
      exact H'.state_eq _
    · rw [qunshift_refused H bs.length (some bs) hc, if_neg hc]
      exact H.state_eq _
  | pop n =>
    simp only [stepM, stepS]
    by_cases hc : n ≤ r.content.length
    · obtain ⟨r', he, H'⟩ := qpop_ok H n hc
      rw [he, if_pos hc]
      exact H'.state_eq _
    · rw [qpop_refused H n true hc, if_neg hc]
      exact H.state_eq _
  | shift n =>
    simp only [stepM, stepS]
    by_cases hc : n ≤ r.content.length
    · obtain ⟨r', he, H'⟩ := qshift_ok H n hc
      rw [he, if_pos hc]
      exact H'.state_eq _
    · rw [qshift_refused H n true hc, if_neg hc]
      exact H.state_eq _
  | crop pos n =>
    simp only [stepM, stepS]
    by_cases hc : pos + n ≤ r.content.length
    · obtain ⟨r', c, he, H'⟩ := crop_ok H pos n hc
      rw [he, if_pos hc]
      exact H'.state_eq _
    · rw [crop_refused H pos n hc, if_neg hc]
      exact H.state_eq _
  | set pos bs =>
    simp only [stepM, stepS]
    by_cases h0 : bs.length = 0
    · rw [if_pos h0, h0, set_zero]
      exact H.state_eq _
    · rw [if_neg h0]
      by_cases hc : pos + bs.length ≤ r.content.length
      · obtain ⟨r', c, he, H', _⟩ := set_ok H pos bs.length (some bs) h0 hc
        rw [setSrc_some] at H'
        rw [he, if_pos hc]
        exact H'.state_eq _
      · rw [if_neg hc]
        rcases set_refused H pos bs.length (some bs) h0 hc with he | he <;> rw [he] <;> exact H.state_eq _
  | get pos n =>
    simp only [stepM, stepS]
    by_cases h0 : n = 0
    · rw [if_pos h0, h0, get_zero]
      exact H.state_eq _
    · rw [if_neg h0]
      by_cases hc : pos + n ≤ r.content.length
      · obtain ⟨c, he⟩ := get_ok r h pos n (by omega) (by omega)
        rw [he, if_pos hc]
        exact H.state_eq _
      · rw [get_refused r h pos n true (by omega) (by omega), if_neg hc]
        exact H.state_eq _
  | align pos =>
    obtain ⟨r', he, H', _⟩ := align_spec H pos
    simp only [stepM, stepS, he]
    exact H'.state_eq _
  | resize n =>
    -- `r.resize n true` of `stepM` is `r.resize n`: `allocOk` defaults to `true`
    obtain ⟨r', he, H'⟩ := resize_spec H n
    simp only [stepM, stepS, he]
    exact H'.state_eq _
  | string =>
    simp only [stepM, stepS]
    by_cases hc : r.content.length < r.store.length
    · obtain ⟨r', he, H'⟩ := string_spec H hc
      rw [he, if_pos hc]
      exact H'.state_eq _
    · rw [string_refused H hc, if_neg hc]
      exact H.state_eq _

def runM (r : Ring) : List Op → Ring × List Out
  | [] => (r, [])
  | op :: ops => let (r1, o) := stepM r op; let (r2, os) := runM r1 ops; (r2, o :: os)

def runS (cap : Nat) (d : List Byte) : List Op → (Nat × List Byte) × List Out
  | [] => ((cap, d), [])
  | op :: ops => let (cd, o) := stepS cap d op; let (cd2, os) := runS cd.1 cd.2 ops; (cd2, o :: os)

/-- **Deque refinement for all histories**: from any well-formed ring (any capacity, offset, fill —
    wrapped or not) and for any finite sequence of operations (push/unshift/pop/shift/crop/set/get/
    align/resize/string with any operands), the model ends with exactly the capacity and content the
    plain byte deque holds after the same operations, and every operation returned exactly the deque's
    bytes / verdicts (in particular no `Out.bad`: no access left the storage). -/
theorem deque_refinement (ops : List Op) (r : Ring) (h : r.WF) :
    (runM r ops).1.WF ∧
    (((runM r ops).1.store.length, (runM r ops).1.content), (runM r ops).2) = runS r.store.length r.content ops := by
  induction ops generalizing r with
  | nil => exact ⟨h, rfl⟩
  | cons op ops ih =>
    obtain ⟨hw, he⟩ := step_refines r h op
    obtain ⟨hw2, he2⟩ := ih (stepM r op).1 hw
    unfold runM runS
    simp only []
    rw [← he]
    rw [← he2]
    exact ⟨hw2, rfl⟩

/-- refused operations leave the content unchanged (corollary, stated on its own because the property
    names it) -/
theorem refusal_pure (r : Ring) (h : r.WF) (op : Op) (hr : (stepM r op).2 = .refused) :
    (stepM r op).1.content = r.content := by
  have he := (step_refines r h op).2
  -- a step of the deque accepts, or refuses and returns the state it was given
  have hS : (∃ out, (stepS r.store.length r.content op).2 = .ok out) ∨
      stepS r.store.length r.content op = ((r.store.length, r.content), .refused) := by
    cases op <;> simp only [stepS] <;> (repeat' split) <;> first | exact .inr rfl | exact .inl ⟨_, rfl⟩
  rcases hS with ⟨out, ho⟩ | hs
  · rw [← he, hr] at ho; cases ho
  · rw [hs] at he; exact congrArg (·.1.2) he

theorem runS_no_bad (ops : List Op) (cap : Nat) (d : List Byte) : Out.bad ∉ (runS cap d ops).2 := by
  induction ops generalizing cap d with
  | nil => simp [runS]
  | cons op ops ih =>
    unfold runS
    simp only [List.mem_cons, not_or]
    refine ⟨?_, ih _ _⟩
    -- no branch of `stepS` answers `.bad`
    cases op <;> simp only [stepS] <;> (repeat' split) <;> simp

/-- no access of the model leaves the storage, for any history -/
theorem in_bounds (ops : List Op) (r : Ring) (h : r.WF) : Out.bad ∉ (runM r ops).2 := by
  have e2 : (runS r.store.length r.content ops).2 = (runM r ops).2 := by
    rw [← (deque_refinement ops r h).2]
  rw [← e2]
  exact runS_no_bad ops _ _

/-- `mpt_queue_prepare(n)`: afterwards at least `n` bytes are free and the content is unchanged -/
theorem prepare_keeps_content (r : Ring) (h : r.WF) (n : Nat) :
    ∃ r' left, r.prepare n = .ok (r', left) ∧ r'.WF ∧ r'.content = r.content ∧
      left = r'.store.length - r'.len ∧ n ≤ left :=
  let ⟨r', left, _, he, H', hl, hn⟩ := prepare_spec h.holds n
  ⟨r', left, he, H'.wf, H'.content, by rw [H'.cap, H'.len]; exact hl, hn⟩

/-- `mpt_memrev` (block swaps until one side fits the 1024-byte temporary) is a rotation, for all sizes -/
theorem memrev_rotate (s : List Byte) (pos pre len : Nat) (hp : pre ≤ len) (h : pos + len ≤ s.length) :
    ∃ s', Ring.memrev s pos pre len = .ok s' ∧ s'.length = s.length ∧
      ∀ i, s'[i]? = if pos ≤ i ∧ i < pos + (len - pre) then s[i + pre]?
                   else if pos + (len - pre) ≤ i ∧ i < pos + (len - pre) + pre then s[i - (len - pre)]? else s[i]? :=
  ⟨_, memrev_eq s pos pre len hp h, Mem.rotate_length s pos pre (len - pre) (by omega),
    fun i => Mem.getElem?_rotate s pos pre (len - pre) i (by omega)⟩

/-- C++ `io::queue::push` (storage grows on demand): the bytes are appended; only an empty push onto a
    queue without a free byte reports failure, and then nothing changed -/
theorem cxx_push_appends (r : Ring) (h : r.WF) (bytes : List Byte) :
    ∃ r' b, r.xpush bytes = .ok (r', b) ∧ r'.WF ∧
      (b = true → r'.content = r.content ++ bytes) ∧ (b = false → r'.content = r.content ∧ bytes = []) := by
  obtain ⟨r1, left, cap1, he, H1, hl, hn⟩ := prepare_spec h.holds bytes.length
  unfold xpush
  rw [he]
  simp only []
  by_cases hfull : r.content.length < cap1
  · obtain ⟨r2, c, he2, H2⟩ := qpush_ok H1 bytes.length (some bytes) ⟨hfull, by omega⟩
    rw [setSrc_some] at H2
    rw [he2]
    exact ⟨r2, true, rfl, H2.wf, fun _ => H2.content, fun hf => Bool.noConfusion hf⟩
  · rw [qpush_refused H1 bytes.length (some bytes) (fun hc => hfull hc.1)]
    exact ⟨r1, false, rfl, H1.wf, fun hf => Bool.noConfusion hf,
      fun _ => ⟨H1.content, List.eq_nil_of_length_eq_zero (by omega)⟩⟩

/-- C++ `io::queue::unshift` -/
theorem cxx_unshift_prepends (r : Ring) (h : r.WF) (bytes : List Byte) :
    ∃ r' b, r.xunshift bytes = .ok (r', b) ∧ r'.WF ∧
      (b = true → r'.content = bytes ++ r.content) ∧ (b = false → r'.content = r.content ∧ bytes = []) := by
  obtain ⟨r1, left, cap1, he, H1, hl, hn⟩ := prepare_spec h.holds bytes.length
  unfold xunshift
  rw [he]
  simp only []
  by_cases hfull : r.content.length < cap1
  · obtain ⟨r2, c, he2, H2⟩ := qunshift_ok H1 bytes.length (some bytes) ⟨hfull, by omega⟩
    rw [setSrc_some] at H2
    rw [he2]
    exact ⟨r2, true, rfl, H2.wf, fun _ => H2.content, fun hf => Bool.noConfusion hf⟩
  · rw [qunshift_refused H1 bytes.length (some bytes) (fun hc => hfull hc.1)]
    exact ⟨r1, false, rfl, H1.wf, fun hf => Bool.noConfusion hf,
      fun _ => ⟨H1.content, List.eq_nil_of_length_eq_zero (by omega)⟩⟩

-- non-vacuity: a wrapped ring (capacity 4, offset 3, content "abc" = 1 byte at the end + 2 at the start)
example : (Ring.make 4 3 [97, 98, 99]).WF ∧ (Ring.make 4 3 [97, 98, 99]).content = [97, 98, 99]
    ∧ (Ring.make 4 3 [97, 98, 99]).store = [98, 99, 0, 97] := by
  refine ⟨⟨by decide, by decide⟩, by decide, by decide⟩
example : (runM (Ring.make 4 3 [97, 98, 99]) [.crop 1 1, .push [100, 101], .pop 3]).2
    = [.ok [], .ok [], .ok [99, 100, 101]] := by decide

/-- `mpt_queue_find` (comparison = "element equals needle"): the result is the FIRST element-aligned
    occurrence of the needle in the content (returned as the physical position of that logical index),
    `none` only if no element matches, and NULL only in the two documented cases (fewer bytes than one
    element; an element would straddle the storage wrap).  Never out of bounds. -/
theorem find_first_match (r : Ring) (h : r.WF) (needle : List Byte) (hn : needle ≠ []) :
    match r.find needle with
    | .ok (some a) => ∃ k, (k + 1) * needle.length ≤ r.len ∧ a = physIdx r.store.length r.off (k * needle.length) ∧
        elemAt r.content needle.length k = needle ∧ ∀ j, j < k → elemAt r.content needle.length j ≠ needle
    | .ok none => ∀ k, (k + 1) * needle.length ≤ r.len → elemAt r.content needle.length k ≠ needle
    | .null => r.len < needle.length ∨ (r.frag = true ∧ (r.store.length - r.off) % needle.length ≠ 0)
    | _ => False := by
  rcases find_cases r h needle hn with ⟨k, hk, he, hr⟩ | ⟨he, hno⟩ | ⟨he, hc⟩ <;> rw [he]
  · exact ⟨k, hk, rfl, hr⟩
  · exact hno
  · exact hc

/-- C++ `io::queue::pop` (with or without a target): `true` = the last `n` bytes were removed (and
    returned), `false` = content unchanged; a non-empty request within the content always succeeds -/
theorem cxx_pop (r : Ring) (h : r.WF) (n : Nat) (dst : Bool) :
    ∃ r' b out, r.xpop n dst = .ok (r', b, out) ∧ r'.WF ∧
      (b = false → r'.content = r.content ∧ r'.store.length = r.store.length) ∧
      (b = true → n ≤ r.len ∧ r'.content = r.content.take (r.len - n) ∧ r'.store.length = r.store.length ∧
        (dst = true → out = r.content.drop (r.len - n))) ∧
      (n ≤ r.len → 0 < n → r.store.length ≠ 0 → b = true) := by
  have H := h.holds
  have hl := H.len
  unfold xpop
  cases dst with
  | true =>
    simp only [↓reduceIte]
    by_cases hc : n ≤ r.content.length
    · obtain ⟨r', he, H'⟩ := qpop_ok H n hc
      rw [he]
      simp only [Ring.max]
      refine ⟨_, _, _, rfl, H'.wf, ?_, ?_, ?_⟩
      -- `false` after a successful `mpt_qpop` is the NULL pointer of a queue without storage: then `n = 0`
      · intro hb
        have hz : r.store.length = 0 := by simpa using hb
        have := H.le
        have hn0 : n = 0 := by omega
        subst hn0
        exact ⟨by rw [H'.content, Nat.sub_zero, List.take_length], H'.cap⟩
      · intro _
        exact ⟨by omega, by rw [H'.content, hl], H'.cap, fun _ => by rw [hl]⟩
      · intro _ _ hm; simpa using hm
    · rw [qpop_refused H n true hc]
      exact ⟨r, false, [], rfl, h, fun _ => ⟨rfl, rfl⟩, fun hb => Bool.noConfusion hb, fun hle => by omega⟩
  | false =>
    simp only [Bool.false_eq_true, ↓reduceIte]
    by_cases hc : r.len < n
    · rw [if_pos hc]
      exact ⟨r, false, [], rfl, h, fun _ => ⟨rfl, rfl⟩, fun hb => Bool.noConfusion hb, fun hle => by omega⟩
    · rw [if_neg hc]
      obtain ⟨r', c, he, H'⟩ := crop_ok H (r.len - n) n (by omega)
      rw [he]
      refine ⟨r', true, [], rfl, H'.wf, fun hb => Bool.noConfusion hb,
        fun _ => ⟨by omega, ?_, H'.cap, fun hd => absurd hd (by simp)⟩, fun _ _ _ => rfl⟩
      rw [H'.content, show r.len - n + n = r.content.length by omega, List.drop_length, List.append_nil]

/-- C++ `io::queue::shift` -/
theorem cxx_shift (r : Ring) (h : r.WF) (n : Nat) (dst : Bool) :
    ∃ r' b out, r.xshift n dst = .ok (r', b, out) ∧ r'.WF ∧
      (b = false → r'.content = r.content ∧ r'.store.length = r.store.length) ∧
      (b = true → n ≤ r.len ∧ r'.content = r.content.drop n ∧ r'.store.length = r.store.length ∧
        (dst = true → out = r.content.take n)) ∧
      (n ≤ r.len → 0 < n → r.store.length ≠ 0 → b = true) := by
  have H := h.holds
  have hl := H.len
  unfold xshift
  cases dst with
  | true =>
    simp only [↓reduceIte]
    by_cases hc : n ≤ r.content.length
    · obtain ⟨r', he, H'⟩ := qshift_ok H n hc
      rw [he]
      simp only [Ring.max]
      refine ⟨_, _, _, rfl, H'.wf, ?_, ?_, ?_⟩
      · intro hb
        have hz : r.store.length = 0 := by simpa using hb
        have := H.le
        have hn0 : n = 0 := by omega
        subst hn0
        exact ⟨by rw [H'.content, List.drop_zero], H'.cap⟩
      · intro _
        exact ⟨by omega, H'.content, H'.cap, fun _ => rfl⟩
      · intro _ _ hm; simpa using hm
    · rw [qshift_refused H n true hc]
      exact ⟨r, false, [], rfl, h, fun _ => ⟨rfl, rfl⟩, fun hb => Bool.noConfusion hb, fun hle => by omega⟩
  | false =>
    simp only [Bool.false_eq_true, ↓reduceIte]
    by_cases hc : n ≤ r.content.length
    · obtain ⟨r', c, he, H', _⟩ := crop_front H n hc
      rw [he]
      exact ⟨r', true, [], rfl, H'.wf, fun hb => Bool.noConfusion hb,
        fun _ => ⟨by omega, H'.content, H'.cap, fun hd => absurd hd (by simp)⟩, fun _ _ _ => rfl⟩
    · rw [crop_refused H 0 n (by omega)]
      exact ⟨r, false, [], rfl, h, fun _ => ⟨rfl, rfl⟩, fun hb => Bool.noConfusion hb, fun hle => by omega⟩

/-- C++ `io::queue::write(len, data, part)`: all `len` elements are appended and `len` is returned -/
theorem cxx_write (r : Ring) (h : r.WF) (part : Nat) (hp : 0 < part) (elems : List (List Byte))
    (he : ∀ e ∈ elems, e.length = part) :
    ∃ r', r.xwrite part elems = .ok (r', elems.length) ∧ r'.WF ∧ r'.content = r.content ++ elems.flatten := by
  obtain ⟨r1, left, cap1, hprep, H1, hl, hn⟩ := prepare_spec h.holds (part * elems.length)
  unfold xwrite
  rw [hprep]
  obtain ⟨r', hr, H'⟩ := xwriteLoop_spec part hp elems he H1 0 (by omega)
  rw [Nat.zero_add] at hr
  exact ⟨r', hr, H'.wf, H'.content⟩

example : (Ring.make 8 6 [1, 2, 3, 4]).find [3, 4] = .ok (some 0) := by decide

/-! ### `mpt_queue_load` / `mpt_queue_save` (descriptor side modelled as "these bytes are ready, then end of
    file" and "accepts everything"; a descriptor that takes only part of the data is `Ring.saveN`, the `.save accept`
    step of `stepX_sound`; short reads of the OS are not modelled) -/

/-- `mpt_queue_load(len)` appends the first `min avail cap` bytes the descriptor offers (cap = free space,
    or `len` when `0 < len < free`), in order, for every ring state (wrapped or not) -/
theorem load_appends (r : Ring) (len : Nat) (bytes : List Byte) (h : r.WF) (hfree : r.len < r.store.length) :
    let cap := if len = 0 ∨ len ≥ r.store.length - r.len then r.store.length - r.len else len
    ∃ r', r.load len bytes = .ok (r', min bytes.length cap) ∧ r'.WF ∧
      r'.content = r.content ++ bytes.take (min bytes.length cap) := by
  intro cap
  obtain ⟨r', he, H'⟩ := load_spec h.holds len bytes (by rw [← h.holds.len]; exact hfree)
  rw [← h.holds.len] at he H'
  exact ⟨r', he, H'.wf, H'.content⟩

/-- a full queue refuses `mpt_queue_load`: the C function returns the literal `-2`, for which `Ring.load` answers
    `.err .BadValue` (like every refusal of the model it carries no ring: nothing was written) -/
theorem load_full_refused (r : Ring) (len : Nat) (bytes : List Byte) (hfull : r.store.length ≤ r.len) :
    r.load len bytes = .err .BadValue := by
  unfold Ring.load
  rw [empty_none r hfull]

/-- `mpt_queue_save` writes the whole content in order and leaves the queue empty -/
theorem save_drains (r : Ring) (h : r.WF) :
    ∃ r', r.save = .ok (r', r.content) ∧ r'.WF ∧ r'.content = [] := by
  obtain ⟨r', he, H'⟩ := saveN_spec h.holds r.len
  rw [Nat.min_eq_left (Nat.le_of_eq h.holds.len.symm)] at he H'
  rw [List.take_length] at he
  rw [List.drop_length] at H'
  exact ⟨r', by rw [save_eq_saveN r h r.len (Nat.le_refl _), he], H'.wf, H'.content⟩

example : ((Ring.make 8 6 [1, 2, 3, 4]).load 3 [9, 8, 7, 6, 5]).bind (fun p => .ok (p.1.content, p.2))
    = .ok ([1, 2, 3, 4, 9, 8, 7], 3) := by decide
example : (Ring.make 8 6 [1, 2, 3, 4]).save.bind (fun p => .ok (p.1.content, p.2))
    = .ok ([], [1, 2, 3, 4]) := by decide

/-- `io::queue::read(len, data, part)`: the elements are taken off the END of the content, last element first;
    what is left, followed by the elements in their original order, is the old content; all `len` elements
    are delivered whenever `len * part` bytes are there, and the loop stops early ONLY when what is left is
    shorter than one element (so for `part ≠ 0` the count is `min len (stored / part)`) -/
theorem cxx_read (r : Ring) (h : r.WF) (part k : Nat) :
    ∃ r' outs, r.xread part k = .ok (r', outs) ∧ r'.WF ∧ r'.store.length = r.store.length ∧
      r'.content ++ outs.reverse.flatten = r.content ∧ (∀ o ∈ outs, o.length = part) ∧
      outs.length ≤ k ∧ (k * part ≤ r.len → outs.length = k) ∧ (outs.length < k → r'.len < part) := by
  obtain ⟨r', outs, d', he, H', hc, hl, hk, hf, hst⟩ := xread_spec h.holds part k
  rw [← h.holds.len] at hf
  rw [← H'.len] at hst
  exact ⟨r', outs, he, H'.wf, H'.cap, by rw [H'.content, hc], hl, hk, hf, hst⟩

/-- `io::queue::read(len, 0, part)` (no target): `n ≤ len` whole elements are removed from the end, nothing else
    changes (the loop may stop early at an element stored in two pieces: `mpt_qpop` has no pointer to return) -/
theorem cxx_read_null (r : Ring) (h : r.WF) (part k : Nat) :
    ∃ r' n, r.xreadNull part k = .ok (r', n) ∧ r'.WF ∧ r'.store.length = r.store.length ∧ n ≤ k ∧
      n * part ≤ r.len ∧ r'.content = r.content.take (r.len - n * part) := by
  obtain ⟨r', n, he, hk, hn, H'⟩ := xreadNull_spec h.holds part k
  rw [← h.holds.len] at hn H'
  exact ⟨r', n, he, H'.wf, H'.cap, hk, hn, H'.content⟩

/-- Two-phase operations never refuse late: once `mpt_qpost` / `mpt_qpre` have accepted the length (and moved
    `len`/`off`), the write through `mpt_queue_set` cannot fail — for data and for zero fill.  (Refusals of the
    model carry no ring at all: `Res.err`/`Res.null`; that the C functions likewise return before their first
    write is tied by the differential run, which prints the content after every refused op.) -/
theorem no_late_refusal (r : Ring) (h : r.WF) (n : Nat) (data : Option (List Byte)) :
    (∀ r1 k, r.qpost n = .ok (r1, k) → ∃ r' c, r.qpush n data = .ok (r', c)) ∧
    (∀ r1 k, r.qpre n = .ok (r1, k) → ∃ r' c, r.qunshift n data = .ok (r', c)) := by
  have H := h.holds
  by_cases hc : r.content.length < r.store.length ∧ n ≤ r.store.length - r.content.length
  · obtain ⟨r', c, he, _⟩ := qpush_ok H n data hc
    obtain ⟨r'', c', he', _⟩ := qunshift_ok H n data hc
    exact ⟨fun _ _ _ => ⟨r', c, he⟩, fun _ _ _ => ⟨r'', c', he'⟩⟩
  · refine ⟨fun r1 k hp => ?_, fun r1 k hp => ?_⟩
    · rw [qpost_refused H n hc] at hp; cases hp
    · rw [qpre_refused H n hc] at hp; cases hp

/-- `io::queue::peek(len)` (0 = everything): never changes the content (it may re-align the storage), the
    span it returns is a prefix of the content, and it covers the request whenever the request can be met -/
theorem cxx_peek (r : Ring) (h : r.WF) (n : Nat) :
    ∃ r' out, r.xpeek n = .ok (r', out) ∧ r'.WF ∧ r'.content = r.content ∧
      ∃ m, out = r.content.take m ∧ m ≤ r.len ∧
        ((if n = 0 then r.len else n) ≤ r.len → (if n = 0 then r.len else n) ≤ m) := by
  have h1 := h.1
  have hcl := content_length r h1
  obtain ⟨hl1, hl2, _⟩ := low_spec r h
  unfold xpeek
  generalize (if n = 0 then r.len else n) = n'
  -- the first part suffices; else a wrapped content is aligned to offset 0 first; else the content is in one piece
  by_cases hc1 : n' ≤ r.low
  · rw [if_pos hc1, Mem.rd_ok _ _ _ hl2]
    refine ⟨r, _, rfl, h, rfl, r.low, ?_, hl1, fun _ => hc1⟩
    rw [← read_content_head r _ hl1, read_unroll_upper _ _ _ _ (by omega), Nat.add_zero]
  · rw [if_neg hc1]
    by_cases hf : r.frag = true
    · simp only [hf, Bool.not_true, Bool.false_eq_true, ↓reduceIte]
      obtain ⟨r1, he, H1, ho1⟩ := align_spec h.holds 0
      rw [he]
      simp only []
      have ho := ho1 rfl
      have hw1 := H1.wf
      have hl1 : r1.len = r.len := by rw [H1.len, h.holds.len]
      rw [Mem.rd_ok _ _ _ (by have := hw1.1; omega)]
      refine ⟨r1, _, rfl, hw1, H1.content, r.len, ?_, Nat.le_refl _, fun hh => hh⟩
      rw [← H1.content, ← ho, ← content_contig r1.store r1.len r1.off (by have := hw1.1; omega),
        List.take_of_length_le (by rw [content_length r1 hw1.1]; omega)]
    · have hnf : r.off + r.len ≤ r.store.length := by
        unfold frag at hf; simp only [Ring.max, decide_eq_true_eq] at hf; omega
      simp only [hf, Bool.not_false, ↓reduceIte]
      rw [Mem.rd_ok _ _ _ hnf]
      refine ⟨r, _, rfl, h, rfl, r.len, ?_, Nat.le_refl _, fun hh => hh⟩
      rw [← content_contig r.store r.len r.off hnf, List.take_of_length_le (by omega)]

/-- `pipe<T>::elements()` = `peek()` of everything: the span is the whole content, in order (the template
    then cuts it to a multiple of `sizeof(T)`) -/
theorem cxx_peek_all (r : Ring) (h : r.WF) :
    ∃ r', r.xpeek 0 = .ok (r', r.content) ∧ r'.WF ∧ r'.content = r.content := by
  obtain ⟨r', out, he, hw, hc, m, ho, hm, hreq⟩ := cxx_peek r h 0
  have hm' : m = r.len := by
    have := hreq (by simp)
    simp only [↓reduceIte] at this
    omega
  have hcl := content_length r h.1
  refine ⟨r', ?_, hw, hc⟩
  rw [he, ho, hm', List.take_of_length_le (by omega)]

-- peek of a wrapped ring returns the first part when that suffices; read takes the last two 2-byte elements
-- off a wrapped ring (the re-aligning case of peek runs the well-founded block rotation, not evaluated here)
example : ((Ring.make 4 3 [97, 98, 99]).xpeek 1).bind (fun p => .ok (p.1.content, p.2))
    = .ok ([97, 98, 99], [97]) := by decide
example : ((Ring.make 8 6 [1, 2, 3, 4, 5]).xread 2 2).bind (fun p => .ok (p.1.content, p.2))
    = .ok ([1], [[4, 5], [2, 3]]) := by decide

/-! ### The step the drivers run, against the outcomes the property allows (`Deque.allowed`)

`Ring.stepX` (Impl/RingOps.lean) is the function the model driver executes for every op line, incl. the NULL-data
variants, `find`, `prepare`, `load`, `save` with a short write, and `mpt_message_get` views; `Deque.allowed` is
what the driver prints as the `S` column and what the real code's answer is judged against.  `stepX_sound`
says the model's answer is always one of the allowed ones and the ring stays well-formed — for every ring, op
and operand; `runX_sound` lifts it to every history.  The find needle must be non-empty (the C function
divides by the element size; both drivers reject an empty needle). -/

open Mpt.Deque (XOp XOut allowed)

def validOp : XOp → Prop
  | .find needle => needle ≠ []
  | _ => True

/-- **One step of the driver's machine**: on a well-formed ring every operation of `Deque.XOp` (with a non-empty
    needle for `find`) leaves a well-formed ring, and the answer of `Ring.stepX` with the content afterwards is one
    of the pairs `Deque.allowed` lists for the capacity, layout (`frag`) and content before.  Per operation: split on
    the deque's guard, quote the function's lemma over `Ring.Holds` for the accepted and for the refused case. -/
theorem stepX_sound (r : Ring) (h : r.WF) (op : XOp) (hv : validOp op) :
    (r.stepX op).1.WF ∧
      ((r.stepX op).2.1, (r.stepX op).1.content) ∈ allowed r.store.length r.frag r.content op := by
  have H := h.holds
  have hl := H.len
  cases op with
  | push n data =>
    by_cases hc : r.content.length < r.store.length ∧ n ≤ r.store.length - r.content.length
    · obtain ⟨r', c, he, H'⟩ := qpush_ok H n data hc
      simp only [stepX, he, allowed, Deque.push, H'.content, setSrc_eq_srcBytes]
      exact ⟨H'.wf, mem_allowedGrow_ok _ _ _ _ hc fun h0 => by rw [h0, srcBytes_zero, List.append_nil]⟩
    · simp only [stepX, qpush_refused H n data hc, failX, allowed]
      exact ⟨h, mem_allowedGrow_refused _ _ _ _ hc⟩
  | unshift n data =>
    by_cases hc : r.content.length < r.store.length ∧ n ≤ r.store.length - r.content.length
    · obtain ⟨r', c, he, H'⟩ := qunshift_ok H n data hc
      simp only [stepX, he, allowed, Deque.unshift, H'.content, setSrc_eq_srcBytes]
      exact ⟨H'.wf, mem_allowedGrow_ok _ _ _ _ hc fun h0 => by rw [h0, srcBytes_zero, List.nil_append]⟩
    · simp only [stepX, qunshift_refused H n data hc, failX, allowed]
      exact ⟨h, mem_allowedGrow_refused _ _ _ _ hc⟩
  | pop n dst =>
    simp only [allowed, Deque.allowedTake, Deque.pop]
    by_cases hc : n ≤ r.content.length
    · rw [if_pos hc]
      rcases (qpop_spec H n dst).1 hc with ⟨r', he, H'⟩ | ⟨rfl, he⟩
      · simp only [stepX, he, H'.content]
        exact ⟨H'.wf, by simp⟩
      · simp only [stepX, he, failX]
        exact ⟨h, by simp⟩
    · rw [if_neg hc]
      simp only [stepX, qpop_refused H n dst hc, failX]
      exact ⟨h, by simp⟩
  | shift n dst =>
    simp only [allowed, Deque.allowedTake, Deque.shift]
    by_cases hc : n ≤ r.content.length
    · rw [if_pos hc]
      rcases (qshift_spec H n dst).1 hc with ⟨r', he, H'⟩ | ⟨rfl, he⟩
      · simp only [stepX, he, H'.content]
        exact ⟨H'.wf, by simp⟩
      · simp only [stepX, he, failX]
        exact ⟨h, by simp⟩
    · rw [if_neg hc]
      simp only [stepX, qshift_refused H n dst hc, failX]
      exact ⟨h, by simp⟩
  | crop pos n =>
    simp only [allowed, Deque.allowedAt, Deque.crop]
    by_cases hc : pos + n ≤ r.content.length
    · rw [if_pos hc]
      obtain ⟨r', c, he, H'⟩ := crop_ok H pos n hc
      simp only [stepX, he, H'.content]
      exact ⟨H'.wf, by simp⟩
    · rw [if_neg hc]
      simp only [stepX, crop_refused H pos n hc, failX]
      exact ⟨h, by simp⟩
  | set pos n data =>
    simp only [allowed, Deque.allowedAt, Deque.set, srcBytes_length]
    by_cases hn : n = 0
    · subst hn
      simp only [stepX, set_zero, srcBytes_zero]
      refine ⟨h, ?_⟩
      by_cases hc : pos + 0 ≤ r.content.length
      · rw [if_pos hc]; simp
      · rw [if_neg hc]; simp
    · by_cases hc : pos + n ≤ r.content.length
      · rw [if_pos hc]
        obtain ⟨r', c, he, H', _⟩ := set_ok H pos n data hn hc
        simp only [stepX, he, H'.content, setSrc_eq_srcBytes]
        exact ⟨H'.wf, by simp⟩
      · rw [if_neg hc]
        rcases set_refused H pos n data hn hc with he | he <;>
        · simp only [stepX, he, failX]
          exact ⟨h, by simp⟩
  | get pos n dst =>
    simp only [allowed, Deque.allowedAt, Deque.get]
    by_cases hn : n = 0
    · subst hn
      simp only [stepX, get_zero]
      refine ⟨h, ?_⟩
      by_cases hc : pos + 0 ≤ r.content.length
      · rw [if_pos hc]; cases dst <;> simp
      · rw [if_neg hc]; simp
    · by_cases hc : pos + n ≤ r.content.length
      · rw [if_pos hc]
        cases dst with
        | true =>
          obtain ⟨c, he⟩ := get_ok r h pos n (by omega) (by omega)
          simp only [stepX, he]
          exact ⟨h, by simp⟩
        | false =>
          obtain ⟨c, he⟩ := get_nodst r h pos n (by omega) (by omega)
          simp only [stepX, he]
          exact ⟨h, by simp⟩
      · rw [if_neg hc]
        simp only [stepX, get_refused r h pos n dst (by omega) (by omega), failX]
        exact ⟨h, by simp⟩
  | align pos =>
    obtain ⟨r', he, H', _⟩ := align_spec H pos
    simp only [stepX, he, H'.content, allowed]
    exact ⟨H'.wf, by simp⟩
  | resize n =>
    obtain ⟨r', he, H'⟩ := resize_spec H n
    simp only [stepX, he, H'.content, allowed]
    refine ⟨H'.wf, ?_⟩
    by_cases hc : n < r.content.length
    · rw [if_pos hc]; simp
    · rw [if_neg hc, show r.content.length - n = 0 by omega]; simp
  | prepare n =>
    obtain ⟨r', left, cap', he, H', hov, hno⟩ := prepareC_spec H n
    simp only [allowed]
    by_cases hc : n > r.store.length - r.content.length ∧
        n - (r.store.length - r.content.length) > Deque.sizeMax - 8 - r.store.length
    · have hz := hov hc
      subst hz
      rw [if_pos hc]
      simp only [stepX, he]
      rw [if_neg (by omega)]
      exact ⟨H'.wf, by simp [H'.content]⟩
    · have hn := hno hc
      rw [if_neg hc]
      simp only [stepX, he]
      rw [if_pos hn]
      exact ⟨H'.wf, by simp [H'.content]⟩
  | find needle =>
    have h1 := h.1
    have hne : needle ≠ [] := hv
    have hpos : 0 < needle.length := List.length_pos_iff.mpr hne
    simp only [allowed, ← hl]
    rcases find_cases r h needle hne with ⟨k, hk, he, hm, hfirst⟩ | ⟨he, hno⟩ | ⟨he, hc⟩
    · have hkl : k * needle.length < r.store.length := by
        have : (k + 1) * needle.length = k * needle.length + needle.length := Nat.succ_mul _ _
        omega
      have hkd : k < r.len + 1 := by
        have : k + 1 ≤ (k + 1) * needle.length := Nat.le_mul_of_pos_right _ hpos
        omega
      simp only [stepX, he]
      -- `Deque.allowed` searches with fuel `d.length + 1` from element 0
      rw [logicalPos_physIdx r _ hkl,
        findAt_some r.content needle k (by rw [← hl]; exact hk) hm hfirst (r.len + 1) 0 (by omega) (by omega)]
      exact ⟨h, by simp⟩
    · simp only [stepX, he]
      rw [findAt_none r.content needle (r.len + 1) 0 (fun k _ hk => hno k (by rw [hl]; exact hk))]
      exact ⟨h, by simp⟩
    · simp only [stepX, he, failX]
      rw [if_pos (hc.imp_right And.left)]
      exact ⟨h, by simp⟩
  | string =>
    simp only [allowed]
    by_cases hc : r.content.length < r.store.length
    · obtain ⟨r', he, H'⟩ := string_spec H hc
      rw [if_pos hc]
      simp only [stepX, he, H'.content]
      exact ⟨H'.wf, by simp⟩
    · rw [if_neg hc]
      simp only [stepX, string_refused H hc, failX]
      exact ⟨h, by simp⟩
  | load len avail =>
    simp only [allowed]
    by_cases hc : r.content.length < r.store.length
    · obtain ⟨r', he, H'⟩ := load_spec H len avail hc
      rw [if_neg (by omega)]
      simp only [stepX, he, H'.content]
      exact ⟨H'.wf, by simp [Nat.min_def]⟩
    · rw [if_pos (by omega)]
      simp only [stepX, load_full_refused r len avail (by omega), failX]
      exact ⟨h, by simp⟩
  | save accept =>
    obtain ⟨r', he, H'⟩ := saveN_spec H accept
    have hlen : (r.content.take (min r.content.length accept)).length = min r.content.length accept := by
      rw [List.length_take]; omega
    simp only [allowed, stepX, he, H'.content, hlen]
    exact ⟨H'.wf, by simp⟩
  | mget off take vec =>
    obtain ⟨hin, hout⟩ := mget_spec H off take vec
    simp only [allowed]
    by_cases hc : off + take ≤ r.content.length
    · rw [if_pos hc]
      rcases hin hc with ⟨a, b, he, hab⟩ | ⟨rfl, he⟩
      · simp only [stepX, he, hab]
        exact ⟨h, by simp⟩
      · simp only [stepX, he, failX]
        exact ⟨h, by simp⟩
    · rw [if_neg hc]
      obtain ⟨e, he⟩ := hout hc
      simp only [stepX, he, failX]
      exact ⟨h, by simp⟩

def runX (r : Ring) : List XOp → Ring × List (XOut × List Byte)
  | [] => (r, [])
  | op :: ops =>
    let r' := (r.stepX op).1
    let rest := runX r' ops
    (rest.1, ((r.stepX op).2.1, r'.content) :: rest.2)

/-- the model's answers along a history are allowed answers, each judged at the state the history reached -/
def AllowedRun : Ring → List XOp → Prop
  | _, [] => True
  | r, op :: ops =>
    ((r.stepX op).2.1, (r.stepX op).1.content) ∈ allowed r.store.length r.frag r.content op ∧
      AllowedRun (r.stepX op).1 ops

/-- **Every history** of driver ops (push/unshift/pop/shift with or without data, crop, set, get, align, resize,
    prepare, find, string, load, save with short writes, message views): the ring stays well-formed and every
    answer of the model is one the property allows at that point.  Together with the differential run (the real
    code's answer is checked against the same `allowed` list and against the model's answer) this is the tie
    "code ⊑ spec" for the `S` column the driver prints. -/
theorem runX_sound (r : Ring) (h : r.WF) (ops : List XOp) (hv : ∀ op ∈ ops, validOp op) :
    (runX r ops).1.WF ∧ AllowedRun r ops := by
  induction ops generalizing r with
  | nil => exact ⟨h, trivial⟩
  | cons op ops ih =>
    obtain ⟨hw, hm⟩ := stepX_sound r h op (hv op (List.mem_cons_self))
    obtain ⟨hw', hr⟩ := ih (r.stepX op).1 hw (fun o ho => hv o (List.mem_cons_of_mem _ ho))
    exact ⟨hw', hm, hr⟩

example : ((Ring.make 4 3 [97, 98, 99]).stepX (.mget 1 2 true)).2.1 = .ok [98, 99] := by decide
example : ((Ring.make 4 3 [97, 98, 99]).stepX (.save 2)).2.1 = .okN 2 [97, 98]
    ∧ ((Ring.make 4 3 [97, 98, 99]).stepX (.save 2)).1.content = [99] := by decide
example : ((Ring.make 4 3 [97, 98, 99]).stepX (.pop 3 false)).2.1 = .refused := by decide

end Mpt.C13
