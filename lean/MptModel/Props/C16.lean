/-
  C16 — Names are stored and compared faithfully at every length.

  Objects (Impl/Ident.lean): an identifier `id : Ident` is the header fields plus the cell list of the storage from
  `_val` on, in which the pointer `_base` overlays the inline bytes; `h : Heap` is the allocation log.
  `Wf id h k` (Lemmas/Ident.lean): the identifier is a consistent `struct identifier` of slot `k` in storage of at
  least 16 bytes — inline content readable, or `_base` a live block of the right length owned by `k`;
  `Own id h k`: every live block of owner `k` is the one `id` points to (nothing leaked);
  `Holds id h k cs d`: both, and the identifier reads back (through `mpt_identifier_data` and `_len`) as the bytes
  `d` with charset `cs`.  A text `name` is stored as `name ++ [0]` (the length field counts the terminator).
  The theorems hold for every storage size (>= 16 bytes; 16..256 are instances), every previous content and
  placement (inline or allocated), every new length up to the 16-bit limit.
  Value level (Spec/Ident.lean): `Val` = (charset, bytes); `Denotes id h k v` (Lemmas/Ident.lean): `id` holds
  `v.stored`, the bytes of `v` followed by a terminator if `v` is text.  Systems (Impl/Ident.lean `Sys`, `Op`):
  `SysInv s` (Lemmas/IdentRefine.lean, as the next two): every live identifier is `Wf` and every live block is
  referenced by its owner; `Op.valid`: what the caller owes (storage >= 16 bytes, buffers as long as announced);
  `Agree s sp`: slot by slot the identifiers of `s` denote the values of the collection `sp`.
-/
import MptModel.Lemmas.IdentRefine
import MptModel.Lemmas.IdentCompare
namespace Mpt.C16
open Mpt.Ident

/-! ### clause `readback` -/

/-- **readback**: setting a well-formed identifier — whatever it held, inline or allocated — to a text of up to
    65534 bytes succeeds, and the identifier then reads back as exactly that text (followed by its terminator)
    with length `name.length + 1`, charset UTF8; storage size and capacity are unchanged, blocks of other
    identifiers are untouched. -/
theorem readback {id : Ident} {h : Heap} {k : Nat} (hw : Wf id h k) (ho : Own id h k) (name : List Byte)
    (hn : name.length ≤ 65534) :
    ∃ id' h', set id h k (some (name ++ [0])) name.length = .ok (id', h', true) ∧
      view id' h' = .ok (utf8, name ++ [0]) ∧ id'.len = name.length + 1 ∧
      Wf id' h' k ∧ Own id' h' k ∧ Frame h h' k ∧ id'.max = id.max ∧ id'.area.length = id.area.length := by
  obtain ⟨id', h', hs, hh, hf, hm, ha⟩ := set_stores hw ho (some name) name.length (fun _ hb => by cases hb; exact Int.le_refl _)
    (v := ⟨utf8, name⟩) (by rw [nameOf_whole, Option.bind_some, setVal_text, if_pos hn])
  have hh : Holds id' h' k utf8 (name ++ [0]) := hh
  exact ⟨id', h', hs, hh.view, by rw [hh.len]; simp, hh.wf, hh.own, hf, hm, ha⟩

/-- the documented limit: a text of 65535 bytes or more is refused and nothing changes -/
theorem readback_limit (id : Ident) (h : Heap) (k : Nat) (name : List Byte) (hn : 65535 ≤ name.length) :
    set id h k (some (name ++ [0])) name.length = .ok (id, h, false) :=
  set_refused id h k (some name) name.length (fun _ hb => by cases hb; exact Int.le_refl _)
    (by rw [nameOf_whole, Option.bind_some, setVal_text, if_neg (by omega)])

/-- zero name pointer: `n ≤ 65535` cleared bytes of non-printable content (charset 0); `n = 0` unsets -/
theorem readback_null {id : Ident} {h : Heap} {k : Nat} (hw : Wf id h k) (ho : Own id h k) (n : Nat) (hn : n ≤ 65535) :
    ∃ id' h', set id h k none n = .ok (id', h', true) ∧ view id' h' = .ok (0, List.replicate n 0) ∧ id'.len = n ∧
      Wf id' h' k ∧ Own id' h' k ∧ Frame h h' k := by
  obtain ⟨id', h', hs, hh, hf, _⟩ := set_stores hw ho none n nofun (v := ⟨0, List.replicate n 0⟩)
    (by rw [nameOf, if_neg (by omega), Int.toNat_natCast]; exact if_pos hn)
  have hh : Holds id' h' k 0 (List.replicate n 0) := hh
  exact ⟨id', h', hs, hh.view, by rw [hh.len]; simp, hh.wf, hh.own, hf⟩

/-- `len = -1` reads the text as a C string -/
theorem readback_cstr (id : Ident) (h : Heap) (k : Nat) (buf : List Byte) :
    set id h k (some buf) (-1) = set id h k (some buf) (strlen buf) := set_cstr id h k buf (-1) (by omega)

/-- **every (storage size, previous length, new length) triple**: a new identifier in storage of `size >= 16`
    bytes, set to `old`, then set to `new`, reads back as `new` — for all sizes and all lengths up to 65534,
    across the inline capacity in either direction. -/
theorem readback_triple (size : Nat) (hs : 16 ≤ size) (old new : List Byte) (ho : old.length ≤ 65534) (hn : new.length ≤ 65534) :
    ∃ id0 id1 h1 id2 h2, create size = .ok id0 ∧
      set id0 ⟨[]⟩ 0 (some (old ++ [0])) old.length = .ok (id1, h1, true) ∧
      set id1 h1 0 (some (new ++ [0])) new.length = .ok (id2, h2, true) ∧
      view id2 h2 = .ok (utf8, new ++ [0]) ∧ id2.len = new.length + 1 := by
  obtain ⟨id0, hc, hh0, _⟩ := create_spec size hs ⟨[]⟩ 0 (by intro t b hb; simp at hb)
  obtain ⟨id1, h1, hs1, _, _, hw1, ho1, _⟩ := readback hh0.wf hh0.own old ho
  obtain ⟨id2, h2, hs2, hv2, hl2, _⟩ := readback hw1 ho1 new hn
  exact ⟨id0, id1, h1, id2, h2, hc, hs1, hs2, hv2, hl2⟩

/-- 16 bytes of storage hold 11 bytes of text inline; the 12th moves the content to a block and back -/
example : (do
    let id0 ← create 16
    let (id1, h1, _) ← set id0 ⟨[]⟩ 0 (some ([1,2,3,4,5,6,7,8,9,10,11,12] ++ [0])) 12
    let (id2, h2, _) ← set id1 h1 0 (some ([7,7,7,7,7,7] ++ [0])) 6
    pure (id1.len, id1.max, id2.len, h2.blocks.map Block.live)).toOption =
    some (13, 12, 7, [false]) := by decide +kernel
example : (do
    let id0 ← create 16
    let (id1, h1, _) ← set id0 ⟨[]⟩ 0 (some ([1,2,3,4,5,6,7,8,9,10,11,12] ++ [0])) 12
    let (id2, h2, _) ← set id1 h1 0 (some ([7,7,7,7,7,7] ++ [0])) 6
    pure (id2.len, h2.blocks.map Block.live, (view id2 h2).toOption)).toOption =
    some (7, [false], some (1, [7,7,7,7,7,7,0])) := by decide +kernel

/-! ### clause `copy_equal_source_untouched` -/

/-- **copy**: copying a source that holds `(cs, d)` into a different well-formed identifier — of any storage
    size, whatever it held — succeeds; the target then reads back as `(cs, d)`, and the source still reads back as
    `(cs, d)` in the new heap (it stays well-formed and keeps its block). -/
theorem copy_equal_source_untouched {dst src : Ident} {h : Heap} {k j cs : Nat} {d : List Byte}
    (hw : Wf dst h k) (ho : Own dst h k) (hs : Holds src h j cs d) (hjk : j ≠ k) :
    ∃ dst' h', copy dst (some src) false h k = .ok (dst', h', true) ∧
      view dst' h' = .ok (cs, d) ∧ view src h' = .ok (cs, d) ∧
      Holds dst' h' k cs d ∧ Holds src h' j cs d := by
  obtain ⟨dst', h', hc, hh, hf, _⟩ := copy_spec hw ho hs
  have hs' := hs.frame hf hjk
  exact ⟨dst', h', hc, hh.view, hs'.view, hh, hs'⟩

/-- **copy into a container item** (`item_group::append(const identifier *, metatype *)`: a new `item<T>`, whose
    identifier has 24 bytes of storage, gets `*it = *id`): the stored identifier reads back as the source's charset
    and bytes — zero bytes inside or at the end of the name and non-text content included — whatever storage the
    source has, and the source is untouched. -/
theorem item_append_copy {src : Ident} {h : Heap} {j k cs : Nat} {d : List Byte}
    (hs : Holds src h j cs d) (hjk : j ≠ k)
    (hfresh : ∀ (t : Nat) (b : Block), h.blocks[t]? = some b → b.owner = k → b.live = false) :
    ∃ it it' h', create 24 = .ok it ∧ it.max = 20 ∧ copy it (some src) false h k = .ok (it', h', true) ∧
      view it' h' = .ok (cs, d) ∧ view src h' = .ok (cs, d) ∧ Holds it' h' k cs d ∧ Holds src h' j cs d := by
  obtain ⟨it, hc, hh, hm⟩ := create_spec 24 (by omega) h k hfresh
  obtain ⟨it', h', hcp, hv1, hv2, hh1, hh2⟩ := copy_equal_source_untouched hh.wf hh.own hs hjk
  exact ⟨it, it', h', hc, by rw [hm]; decide, hcp, hv1, hv2, hh1, hh2⟩

/-- a name with a zero byte inside, copied from a 16-byte identifier into an item -/
example : (do
    let a ← create 16
    let (a1, h1, _) ← set a ⟨[]⟩ 0 (some ([0x61, 0x62, 0, 0x63, 0x64] ++ [0])) 5
    let it ← create 24
    let (it1, h2, _) ← copy it (some a1) false h1 1
    pure ((view it1 h2).toOption, it1.max)).toOption = some (some (1, [0x61, 0x62, 0, 0x63, 0x64, 0]), 20) := by decide +kernel

/-- copy onto itself -/
theorem copy_self_unchanged {id : Ident} {h : Heap} {k : Nat} (hw : Wf id h k) :
    copy id (some id) true h k = .ok (id, h, true) := copy_self hw

/-- copy from the zero pointer unsets the target -/
theorem copy_null_unsets {dst : Ident} {h : Heap} {k : Nat} (hw : Wf dst h k) (ho : Own dst h k) :
    ∃ dst' h', copy dst none false h k = .ok (dst', h', true) ∧ view dst' h' = .ok (0, []) ∧ Holds dst' h' k 0 [] := by
  obtain ⟨dst', h', hc, hh, _⟩ := copy_null hw ho
  exact ⟨dst', h', hc, hh.view, hh⟩

/-- inline content copied into a target that holds a block (defect 18 in DESIGN.md: the inline copy must not overwrite
    the overlaid `_base` before the block is freed): the target holds 20 allocated bytes, the source 8 inline bytes; the
    block ends freed -/
example : (do
    let a ← create 16
    let b ← create 16
    let (a1, h1, _) ← set a ⟨[]⟩ 0 (some (List.replicate 20 0x61 ++ [0])) 20
    let (b1, h2, _) ← set b h1 1 (some (List.replicate 8 0x62 ++ [0])) 8
    let (a2, h3, _) ← copy a1 (some b1) false h2 0
    pure ((view a2 h3).toOption, (view b1 h3).toOption, h3.blocks.map Block.live)).toOption =
    some (some (1, List.replicate 8 0x62 ++ [0]), some (1, List.replicate 8 0x62 ++ [0]), [false]) := by decide +kernel

/-! ### clause `compare_iff_equal` -/

/-- **compare, every operand shape**: for an identifier that denotes the value `v` (text or not), the comparison with
    `len` bytes of a buffer that may be longer, or with the C string in it (`len < 0`), is zero exactly when `v` is
    that text. -/
theorem compare_iff_equal_value {id : Ident} {h : Heap} {k : Nat} {v : Val} (hd : Denotes id h k v) (b : List Byte) (len : Int)
    (hl : len ≤ b.length) :
    ∃ r, compare id h (some (b ++ [0])) len = .ok r ∧
      (r = 0 ↔ cmpEq v (if len < 0 then cstr b else b.take len.toNat) = true) :=
  compare_denotes hd b len hl

example : (do
    let a ← create 16
    let (a1, h1, _) ← set a ⟨[]⟩ 0 (some ([0x61, 0x62] ++ [0])) 2
    pure ((compare a1 h1 (some ([0x61, 0x62, 0x63, 0x64] ++ [0])) 2).toOption, (compare a1 h1 (some ([0x61, 0x62, 0, 0x64] ++ [0])) (-1)).toOption,
          (compare a1 h1 (some ([0x61, 0x62, 0x63] ++ [0])) (-1)).toOption)).toOption = some (some 0, some 0, some (-16)) := by decide +kernel

/-- **text comparison**: for an identifier that holds the text `c`, `mpt_identifier_compare(id, b, len b)` is zero
    exactly when `b = c` -/
theorem compare_iff_equal {id : Ident} {h : Heap} {k : Nat} {c : List Byte} (hh : Holds id h k utf8 (c ++ [0])) (b : List Byte) :
    ∃ r, compare id h (some (b ++ [0])) b.length = .ok r ∧ (r = 0 ↔ b = c) := by
  obtain ⟨r, hr, hiff⟩ := compare_iff_equal_value (v := ⟨utf8, c⟩) hh b b.length (Int.le_refl _)
  exact ⟨r, hr, by rw [hiff, if_neg (by omega), Int.toNat_natCast, List.take_length, cmpEq_text rfl, decide_eq_true_eq]⟩

/-- an identifier that holds no text (unset, or non-printable content) equals no text -/
theorem compare_nontext_differs {id : Ident} {h : Heap} (hc : id.charset ≠ utf8) (b : List Byte) (n : Int) :
    compare id h (some b) n = .ok Err.BadType.code ∧ Err.BadType.code ≠ 0 :=
  ⟨compare_nontext hc b n, by decide⟩

/-- **identifier comparison**: `mpt_identifier_inequal` is zero exactly for the same charset and the same bytes,
    whatever the storage sizes and placements of the two identifiers -/
theorem inequal_iff_equal {a b : Ident} {h : Heap} {ka kb ca cb : Nat} {da db : List Byte}
    (ha : Holds a h ka ca da) (hb : Holds b h kb cb db) :
    ∃ r, inequal a b h = .ok r ∧ (r = 0 ↔ ca = cb ∧ da = db) := by
  unfold inequal
  rw [ha.cs, hb.cs]
  by_cases hcs : ca ≠ cb
  · rw [if_pos hcs]
    exact ⟨_, rfl, iff_of_false (fun hc => hcs (by omega)) fun hc => hcs hc.1⟩
  rw [if_neg hcs]
  by_cases hl : a.len ≠ b.len
  · rw [if_pos hl]
    exact ⟨_, rfl, iff_of_false (fun hc => hl (by omega)) fun hc => hl (by rw [ha.len, hb.len, hc.2])⟩
  have hl' : a.len = b.len := by simpa using hl
  rw [if_neg hl]
  simp only [bind, Except.bind, ha.read, show readData b h a.len = .ok db from hl' ▸ hb.read]
  have hla : da.length = a.len := ha.len.symm
  have hlb : db.length = a.len := hl' ▸ hb.len.symm
  cases hfd : firstDiff da db a.len with
  | some i =>
    obtain ⟨hi, hne⟩ := firstDiff_some hfd
    have hia : i < da.length := by omega
    have hib : i < db.length := by omega
    rw [List.getElem?_eq_getElem hia, List.getElem?_eq_getElem hib] at hne
    refine ⟨_, rfl, iff_of_false (fun hc => hne ?_) fun hc => hne (by simp [hc.2])⟩
    simp only [List.getElem?_eq_getElem hia, List.getElem?_eq_getElem hib, Option.getD_some] at hc
    -- the code returns the difference of the two bytes as numbers: it is zero only for equal bytes
    exact congrArg some (UInt8.toNat_inj.mp (by omega))
  | none =>
    have := firstDiff_none.1 hfd
    rw [List.take_of_length_le (by omega), List.take_of_length_le (by omega)] at this
    exact ⟨_, rfl, iff_of_true rfl ⟨by simpa using hcs, this⟩⟩

example : (do
    let a ← create 16
    let (a1, h1, _) ← set a ⟨[]⟩ 0 (some ([0x61, 0x62, 0x63] ++ [0])) 3
    pure ((compare a1 h1 (some ([0x61, 0x62, 0x63] ++ [0])) 3).toOption, (compare a1 h1 (some ([0x61, 0x62, 0x64] ++ [0])) 3).toOption,
          (compare a1 h1 (some ([0x61, 0x62] ++ [0])) 2).toOption)).toOption =
    some (some 0, some 3, some (-16)) := by decide +kernel

/-- **node names** (`node_locate.c`): for an identifier that denotes the value `v`, the name test of
    `mpt_node_locate` (default identifier type) answers exactly "`v` is the text `t`" — for names of any length,
    stored inline or in a block -/
theorem locate_match_iff_equal {id : Ident} {h : Heap} {k : Nat} {v : Val} (hd : Denotes id h k v) (t : List Byte) :
    locateMatch id h t = .ok (cmpEq v t) :=
  locateMatch_spec hd t

/-- `mpt_node_locate` over a node list (position forms `pos > 0`, `pos < 0`, `pos = 0`) finds exactly the node the
    search over the denoted values finds -/
theorem locate_finds_equal_names {nodes : List (Ident × Nat × Val)} {h : Heap}
    (hd : ∀ n, n ∈ nodes → Denotes n.1 h n.2.1 n.2.2) (start : Nat) (pos : Int) (t : List Byte) :
    locate (nodes.map (·.1)) h start pos t = .ok (locateS (nodes.map (·.2.2)) start pos t) := by
  unfold locate locateS
  simp only [List.length_map]
  by_cases hs : start ≥ nodes.length
  · simp [hs, pure, Except.pure]
  · simp only [hs, if_false]
    by_cases hp : pos > 0
    · simp only [hp, if_true, ← List.map_drop]
      exact locateWalk_spec (fun n hn => hd n (List.mem_of_mem_drop hn)) t 1 _ _
    · simp only [hp, if_false]
      by_cases h0 : pos = 0
      · simp only [h0, if_true, List.getElem?_map]
        cases hl : nodes[nodes.length - 1]? with
        | none => rfl
        | some n =>
          have hn : n ∈ nodes := List.mem_of_getElem? hl
          simp only [Option.map_some, bind, Except.bind, locateMatch_spec (hd n hn) t]
          cases cmpEq n.2.2 t
          · simp only [Bool.false_eq_true, if_false, ← List.map_take, ← List.map_reverse]
            exact locateWalk_spec (fun m hm => hd m (List.mem_of_mem_take (List.mem_reverse.mp hm))) t (-1) _ _
          · rfl
      · simp only [h0, if_false, ← List.map_take, ← List.map_reverse]
        exact locateWalk_spec (fun m hm => hd m (List.mem_of_mem_take (List.mem_reverse.mp hm))) t (-1) _ _

/-- the name test of `mpt_node_next` for every C string operand: it answers "`v` is the text of that C string" -/
theorem next_match_value {id : Ident} {h : Heap} {k : Nat} {v : Val} (hd : Denotes id h k v) (b : List Byte) :
    nextMatch id h (some (b ++ [0])) = .ok (cmpEq v (cstr b)) := by
  by_cases hc : v.charset = utf8
  · have hh := hd.text hc
    rw [nextMatch_cstr, nextMatch_text hh (cstr b) (cstr_zero_free b), cmpEq_text hc]
  · have hcs : id.charset ≠ 1 := by rw [hd.cs]; exact hc  -- `utf8` is the literal 1 the model tests against
    rw [cmpEq_nontext hc]
    unfold nextMatch
    simp [hcs, pure, Except.pure]

/-- `mpt_node_next` over a node list: the node found is the first one from the current node on whose name is the C string
    in the buffer -/
theorem next_finds_equal_name {nodes : List (Ident × Nat × Val)} {h : Heap}
    (hd : ∀ n, n ∈ nodes → Denotes n.1 h n.2.1 n.2.2) (b : List Byte) (i : Nat) :
    ∃ r, nodeNext h (some (b ++ [0])) (nodes.map (·.1)) i = .ok r ∧
      walkS (cstr b) 1 (nodes.map (·.2.2)) 1 (i : Int) = r.map Int.ofNat := by
  induction nodes generalizing i with
  | nil => exact ⟨none, rfl, rfl⟩
  | cons n rest ih =>
    have hhead := hd n (by simp)
    have htail : ∀ m, m ∈ rest → Denotes m.1 h m.2.1 m.2.2 := fun m hm => hd m (by simp [hm])
    simp only [List.map_cons, nodeNext, walkS, bind, Except.bind, next_match_value hhead b]
    cases cmpEq n.2.2 (cstr b)
    · simp only [Bool.false_eq_true, if_false]
      obtain ⟨r, hr, hw⟩ := ih htail (i + 1)
      refine ⟨r, hr, ?_⟩
      rw [← hw]; congr 1
    · simp only [if_true, Nat.le_refl]
      exact ⟨some i, rfl, rfl⟩

example : (do
    let a ← create 24
    let (a1, h1, _) ← set a ⟨[]⟩ 0 (some ([0x61] ++ [0])) 1
    let b ← create 24
    let (b1, h2, _) ← set b h1 1 (some ([0x62] ++ [0])) 1
    nodeNext h2 (some ([0x62, 0, 0x63] ++ [0])) [a1, b1, a1] 0).toOption = some (some 1) := by decide +kernel

/-- the name test of `mpt_node_next` (C string argument) on an identifier holding the text `c` -/
theorem next_match_iff_equal {id : Ident} {h : Heap} {k : Nat} {c : List Byte} (hh : Holds id h k utf8 (c ++ [0])) (b : List Byte)
    (hb : ∀ x, x ∈ b → x ≠ 0) :
    nextMatch id h (some (b ++ [0])) = .ok (decide (b = c)) :=
  nextMatch_text hh b hb

example : (do
    let a ← create 24
    let (a1, h1, _) ← set a ⟨[]⟩ 0 (some (List.replicate 30 0x61 ++ [0])) 30
    let b ← create 24
    let (b1, h2, _) ← set b h1 1 (some ([0x61] ++ [0])) 1
    locate [a1, b1, a1] h2 0 2 (List.replicate 30 0x61)).toOption = some (some 2) := by decide +kernel

/-! ### refinement of the value-level collection (Spec/Ident.lean: `Vals`, `setVal`, `nameOf`; `cmpEq` above) — the spec
    column of the driver is computed with these very functions -/

theorem denotes_view {id : Ident} {h : Heap} {k : Nat} {v : Val} (hd : Denotes id h k v) :
    view id h = .ok (v.charset, v.stored) :=
  Holds.view hd

/-- **set, every operand shape**: `len` bytes of a buffer that may be longer (a slice), the C string in the buffer
    (`len = -1`), or `len` cleared bytes (zero pointer): the identifier then reads back as the value `setVal` gives
    for that operand, or — exactly when `setVal` refuses (length limit, negative length without a name) — the call is
    refused and nothing changes. -/
theorem set_stores_value {id : Ident} {h : Heap} {k : Nat} (hw : Wf id h k) (ho : Own id h k) (name : Option (List Byte))
    (len : Int) (hv : ∀ b, name = some b → len ≤ b.length) :
    match (nameOf name len).bind setVal with
    | some v => ∃ id' h', set id h k (name.map (· ++ [0])) len = .ok (id', h', true) ∧
        view id' h' = .ok (v.charset, v.stored) ∧ Wf id' h' k ∧ Own id' h' k ∧ Frame h h' k
    | none => set id h k (name.map (· ++ [0])) len = .ok (id, h, false) := by
  cases hb : (nameOf name len).bind setVal with
  | none => exact set_refused id h k name len hv hb
  | some v =>
    obtain ⟨id', h', hs, hd, hf, _⟩ := set_stores hw ho name len hv hb
    exact ⟨id', h', hs, denotes_view hd, hd.wf, hd.own, hf⟩

/-- a slice of a longer buffer, and a C string with text behind its terminator -/
example : (do
    let a ← create 16
    let (a1, h1, _) ← set a ⟨[]⟩ 0 (some ([0x61, 0x62, 0x63, 0x64, 0x65] ++ [0])) 3
    let (a2, h2, _) ← set a1 h1 0 (some ([0x61, 0x62, 0, 0x64, 0x65] ++ [0])) (-1)
    pure ((view a1 h1).toOption, (view a2 h2).toOption)).toOption =
    some (some (1, [0x61, 0x62, 0x63, 0]), some (1, [0x61, 0x62, 0])) := by decide +kernel

/-- **set while the allocator fails** (true by the construction of `setNoMem`, which mirrors the early `return 0` of the
    code; tied to the code by the correspondence run with injected malloc failure): either the request is refused and
    identifier and heap are exactly what they were — charset, length and bytes — or no allocation was needed and the
    call is the ordinary `set`. -/
theorem set_without_memory (id : Ident) (h : Heap) (k : Nat) (name : Option (List Byte)) (len : Int) :
    setNoMem id h k name len = .ok (id, h, false) ∨ setNoMem id h k name len = set id h k name len := by
  unfold setNoMem
  exact (Decidable.em _).elim (fun hc => Or.inl (if_pos hc)) (fun hc => Or.inr (if_neg hc))

example : (do
    let a ← create 16
    let (a1, h1, _) ← set a ⟨[]⟩ 0 (some ([0x61, 0x62] ++ [0])) 2
    let (a2, h2, ok) ← setNoMem a1 h1 0 none 40
    pure (ok, (view a2 h2).toOption)).toOption = some (false, some (1, [0x61, 0x62, 0])) := by decide +kernel

/-- **one step refines the value level**: from a system that satisfies the invariant and agrees with a value-level
    collection `sp` (every identifier denotes the value `sp` holds for its slot, ended slots are ended), every
    operation runs without fault and the system agrees with `sp.step` afterwards. -/
theorem step_refines_values {s : Sys} {sp : Vals} (hi : SysInv s) (ha : Agree s sp) (op : Op) (hv : op.valid) :
    ∃ s' r, s.step op = .ok (s', r) ∧ SysInv s' ∧ Agree s' (sp.step op.abs) :=
  step_refines hi ha op hv

/-- **histories refine the value level**: after every history of set / copy / end-of-life / construct operations
    (any storage sizes >= 16, any operand shapes, in any order, switching between inline and allocated content in
    either direction) every identifier reads back exactly the value the property assigns to its slot — the value last
    set or copied into it — and the slots that ended are ended. -/
theorem history_refines_values (ops : List Op) (hv : ∀ op, op ∈ ops → op.valid) :
    ∃ s, Sys.empty.run ops = .ok s ∧ SysInv s ∧ s.ids.length = (Vals.run [] (ops.map Op.abs)).length ∧
      ∀ k, (s.get k = none ∧ Vals.slot (Vals.run [] (ops.map Op.abs)) k = none) ∨
        ∃ id v, s.get k = some id ∧ Vals.slot (Vals.run [] (ops.map Op.abs)) k = some v ∧
          view id s.heap = .ok (v.charset, v.stored) := by
  obtain ⟨s, hr, hi, ha⟩ := run_refines SysInv.empty Agree.empty ops hv
  refine ⟨s, hr, hi, ha.len, ?_⟩
  intro k
  rcases ha.slot k with h1 | ⟨id, v, h1, h2, h3⟩
  · exact Or.inl h1
  · exact Or.inr ⟨id, v, h1, h2, denotes_view h3⟩

/-- long -> short by copy, then the source is overwritten and ended: the copy keeps the value -/
example : Vals.run [] ([Op.new 16, .new 32, .set 0 (some (List.replicate 30 0x61)) 30, .set 1 (some [0x62, 0x62, 0x63]) 2,
      .copy 0 (some 1), .set 1 none 3, .free 1].map Op.abs) = [some ⟨1, [0x62, 0x62]⟩, none] := by decide +kernel
example : (do
    let s ← Sys.empty.run [.new 16, .new 32, .set 0 (some (List.replicate 30 0x61)) 30, .set 1 (some [0x62, 0x62, 0x63]) 2,
      .copy 0 (some 1), .set 1 none 3, .free 1]
    pure ((s.get 0).map fun id => (view id s.heap).toOption)).toOption = some (some (some (1, [0x62, 0x62, 0]))) := by decide +kernel

/-! ### clause `heap_discipline` -/

/-- **heap discipline, one operation**: in a system of identifiers that satisfies the invariant (every identifier
    well-formed; every live block referenced by the live identifier that owns it) no operation — new, set, copy,
    end of life by `set(0,0)`, traits init/fini — faults: in the model a fault is a free of a wild, already freed
    or foreign block, a read through a clobbered or stale pointer, of a freed block or of non-data bytes, or an
    access outside the storage.  The invariant is kept, and an identifier that ends leaves no block behind. -/
theorem heap_discipline_step {s : Sys} (hi : SysInv s) (op : Op) (hv : op.valid) :
    ∃ s' r, s.step op = .ok (s', r) ∧ SysInv s' ∧ (∀ n, r = .ended n → n = 0) :=
  step_inv hi op hv

/-- **heap discipline, all histories**: every history of operations (storage >= 16 bytes, buffers as long as
    announced) from the empty system runs without a fault and ends in a system where every live block is the
    content of exactly the identifier that owns it. -/
theorem heap_discipline (ops : List Op) (hv : ∀ op, op ∈ ops → op.valid) :
    ∃ s, Sys.empty.run ops = .ok s ∧ SysInv s :=
  let ⟨s, hr, hi, _⟩ := history_refines_values ops hv
  ⟨s, hr, hi⟩

/-- when all identifiers have ended, no block is live -/
theorem no_leak_at_end {s : Sys} (hi : SysInv s) (hall : ∀ k, s.get k = none) :
    ∀ (t : Nat) (b : Block), s.heap.blocks[t]? = some b → b.live = false := by
  intro t b hb
  exact hi.released (hall b.owner) t b hb rfl

example : (do
    let s ← Sys.empty.run [.new 16, .new 32, .set 0 (some (List.replicate 99 0x61)) 99, .set 1 (some [0x62, 0x62]) 2,
      .copy 0 (some 1), .copy 1 (some 0), .tinit (some 0), .set 0 none 40, .free 0, .tfini 2, .free 1]
    pure (s.heap.blocks.map Block.live, s.ids)).toOption = some ([false, false], [none, none, none]) := by decide +kernel

end Mpt.C16
