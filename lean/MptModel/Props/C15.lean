/-
  C15 — Reference counts track handles exactly.  The property theorems, the example states they are tried on, and
  the history machine of the C++ handle class (`XOp`, `xstep`, `xrun`: M's handle operations followed by the cascade).

  M = `Mpt.Refcount` (MptModel/Impl/Refcount.lean): `raise/lower` = `mpt_refcount_raise/lower` on naturals with
  the explicit 2^64 wrap, the vtable pair `addref/unref` (destroy at 0) shared by the harness objects, the
  library heap buffer and rawdata, and the generic operations on handles (`take/copy` = traits init, `drop` =
  traits fini, `assignMeta` = `_mpt_metatype_wrap`, `assignArr` = `mpt_array_clone`, external references).
  S = `Mpt.Refs` (MptModel/Spec/Refs.lean): no counters, the reference total is derived from the handles.

  States, objects and handles are arbitrary (any number); where a theorem needs the invariant it says so.
  The history machine of the generic operations (`Op`, `St.valid`, `St.exec`, `step`, `run`) is part of M
  (Impl/Refcount.lean) and is what the driver part `r` executes; `Refs.alts` is what it prints as the S column.
  The C++ machine `XOp`/`xstep`/`xrun` below is the alphabet of the theorems only: Driver/Refcount.lean composes
  `assignRef`/`moveRef`/`drop`/`extUnref` with `cascade` itself (also in sequences that are no single `XOp`).
  `refines`/`run_refines` prove that M's outcome is one of S's for every operation of `Op` and every history.
  Not proved against S: the C++ handle
  part (`XOp`, `Refs.xassign/xmove/settle`), `unique_array`, reply contexts, notifier, `output_local` — there the
  invariant theorems hold for M and S is compared by the correspondence run only.
-/
import MptModel.Lemmas.RefcountCxx
import MptModel.Lemmas.RefcountRefine

namespace Mpt.C15
open Mpt Mpt.Refcount

/-- example state: two harness metatypes with one external reference each, three empty handles -/
def exTwo : St :=
  { objs := [{ kind := .hmeta, count := 1, alive := true, ext := 1 }, { kind := .hmeta, count := 1, alive := true, ext := 1 }],
    hnd := [none, none, none], ev := [{}, {}] }

/-- example state: object 0 with its counter at the maximum, handle 0 names object 1 -/
def exMax : St :=
  { objs := [{ kind := .hmeta, count := MAXV, alive := true, ext := MAXV }, { kind := .hmeta, count := 2, alive := true, ext := 1 }],
    hnd := [some 1, none, none], ev := [{}, {}] }

/-- example state: a library heap buffer with ten elements, held by its creator -/
def exBuf : St :=
  { objs := [{ kind := .rbuf, count := 1, alive := true, ext := 1, elems := [10, 11, 12, 13, 14, 15, 16, 17, 18, 19], cap := 192 }],
    hnd := [none, none, none], ev := [{}] }


/-- **raise**: at 0 and at the largest value it fails (returns 0) WITHOUT changing the counter — it does not
    wrap; everywhere else it returns the incremented value -/
theorem raise_spec (v : Nat) (h : v ≤ MAXV) :
    raise v = if v = 0 ∨ v = MAXV then (v, 0) else (v + 1, v + 1) := raise_eq v h

/-- **lower**: returns the remaining count; on 0 it reports UINTPTR_MAX and leaves the counter at 0 -/
theorem lower_spec (v : Nat) (h : v ≤ MAXV) :
    lower v = if v = 0 then (0, MAXV) else (v - 1, v - 1) := lower_eq v h

/-- raise then lower gives the count back whenever raise succeeded -/
theorem raise_lower (v : Nat) (h : v ≤ MAXV) (hr : (raise v).2 ≠ 0) : (lower (raise v).1).1 = v := by
  rw [raise_eq v h] at hr ⊢
  by_cases hc : v = 0 ∨ v = MAXV
  · simp [hc] at hr
  · simp only [hc, ↓reduceIte]
    rw [lower_eq _ (by simp only [MAXV] at *; omega)]
    simp

example : raise MAXV = (MAXV, 0) ∧ raise 0 = (0, 0) ∧ raise (MAXV - 1) = (MAXV, MAXV) ∧ lower 0 = (0, MAXV) := by decide

/-! ### exact: count = number of references, over all histories -/

/-- the invariant holds when objects are created: counter = preset = external references, no handles -/
theorem inv_init (objs : List RObj) (h : ∀ o ∈ objs, o.count = o.ext ∧ o.count ≤ MAXV ∧ (o.alive = false → o.count = 0))
    (n : Nat) : Inv { objs := objs, hnd := List.replicate n none } := by
  intro o
  have hz : hrefs (List.replicate n none) o = 0 := by
    unfold hrefs
    rw [List.length_eq_zero_iff, List.filter_eq_nil_iff]
    intro a ha
    rw [List.mem_replicate] at ha
    simp [ha.2]
  simp only [St.obj, hz]
  rcases Nat.lt_or_ge o objs.length with hl | hl
  · have hm : objs.getD o default ∈ objs := by
      rw [List.getD_eq_getElem?_getD, List.getElem?_eq_getElem hl]; simp
    obtain ⟨a, b, c⟩ := h _ hm
    exact ⟨by omega, b, c⟩
  · rw [List.getD_eq_getElem?_getD, List.getElem?_eq_none hl]
    exact ⟨by decide, by decide, fun _ => by decide⟩

/-- one operation of a history, accepted or refused, keeps the invariant (the step of `exact`) -/
theorem step_inv (s : St) (op : Op) (hI : Inv s) : Inv (step s op) := by
  unfold step St.exec
  cases hv : s.valid op with
  | false => exact hI
  | true =>
    simp only [Bool.not_true, Bool.false_eq_true, ↓reduceIte]
    cases op <;> simp only [St.valid, decide_eq_true_eq] at hv <;> simp only []
    case create k n els => exact create_inv s _ _ hI ⟨rfl, hv, rfl⟩
    case take h o => exact take_inv s h o hI hv.1 hv.2.1
    case copy h g => exact copy_inv s h g hI hv.1 hv.2.1
    case drop h => exact drop_inv s h hI hv
    case assignMeta h src => exact assignMeta_inv s h src hI hv.1
    case assignArr h src => exact assignArr_inv s h src hI hv.1
    case extAdd o => exact extAdd_inv s o hI
    case extUnref o => exact extUnref_inv s o hI hv
    case detach h len => exact detach_inv s h len hI hv
    case reserve h len => exact reserve_inv s h len hI hv

/-- **exact** — for every history of take/copy/drop/assign (both forms)/external addref and unref/detach from a state
    where it holds, after every operation and for every object: the counter equals the number of references
    to the object (external ones plus the handles naming it), it never passes the largest value (no wrap),
    and a destroyed object has no reference left -/
theorem exact (ops : List Op) (s : St) (hI : Inv s) : Inv (run s ops) := by
  induction ops generalizing s with
  | nil => exact hI
  | cons op ops ih => exact ih _ (step_inv s op hI)

/-- `exact` spelled out for one object: counter = external references + handles naming it, and no wrap -/
theorem exact_count (ops : List Op) (s : St) (hI : Inv s) (o : Nat) :
    ((run s ops).obj o).count = ((run s ops).obj o).ext + hrefs (run s ops).hnd o ∧
    ((run s ops).obj o).count ≤ MAXV := by
  have h := (exact ops s hI) o
  simp only [Int.add_zero] at h
  exact ⟨by omega, h.2.1⟩

-- the hypotheses are satisfiable: the two objects of `exTwo` with three empty handles satisfy the invariant, and so
-- does every state a history leads to
example : Inv { objs := exTwo.objs, hnd := List.replicate 3 none } := inv_init exTwo.objs (by decide) 3
example : Inv (run { objs := exTwo.objs, hnd := List.replicate 3 none } [.create .hmeta 1 [], .take 0 2, .copy 1 0, .drop 0]) :=
  exact _ _ (inv_init exTwo.objs (by decide) 3)

/-- **never earlier**: an object a handle names is alive (for external references: `referenced_alive_ext`) -/
theorem referenced_alive (ops : List Op) (s : St) (hI : Inv s) (h o : Nat)
    (hn : (run s ops).hnd.getD h none = some o) : ((run s ops).obj o).alive = true :=
  inv_referenced_alive _ (exact ops s hI) h o hn

/-- **never earlier, external references**: an object its creator (or anyone outside the handles) still holds a
    reference to is alive -/
theorem referenced_alive_ext (ops : List Op) (s : St) (hI : Inv s) (o : Nat)
    (he : 1 ≤ ((run s ops).obj o).ext) : ((run s ops).obj o).alive = true := by
  have := (exact_count ops s hI o).1
  exact alive_of_count (exact ops s hI) o (by omega)

/-- **exactly at the last drop**, one `unref` call: releasing a reference of a living object destroys it iff it was the
    last one (`count = 1`); with `exact_count`, `count = 1` means exactly one reference exists.  The history form is
    `never_later`/`alive_iff_referenced`. -/
theorem destroy_at_last (s : St) (o : Nat) (hc : (s.obj o).count ≤ MAXV) (ha : (s.obj o).alive = true) :
    ((s.unref o).obj o).alive = false ↔ (s.obj o).count = 1 := by
  rw [unref_obj]
  simp only [ha, and_self, ↓reduceIte]
  rw [lower_eq _ hc]
  by_cases h0 : (s.obj o).count = 0
  · simp only [h0, ↓reduceIte]; simp [MAXV]
  · simp only [h0, ↓reduceIte]
    constructor
    · intro h; simp at h; omega
    · intro h; simp; omega

/-- **never later, over histories**: an object that had a reference (a positive counter) and has none left after
    any history (counter 0 — by `exact_count`: no external reference and no handle) IS destroyed, and a destroyed
    object stays destroyed.  Every operation of `Op`, accepted or not, any start state. -/
theorem never_later (ops : List Op) (s : St) (o : Nat) (ho : o < s.objs.length) :
    ((s.obj o).alive = false → ((run s ops).obj o).alive = false) ∧
    (0 < (s.obj o).count → ((run s ops).obj o).count = 0 → ((run s ops).obj o).alive = false) :=
  (run_mono ops s).2 o ho

/-- the two directions together: after any history an object that was referenced at the start is alive IF AND ONLY
    IF a reference to it is left (external or a handle) -/
theorem alive_iff_referenced (ops : List Op) (s : St) (hI : Inv s) (o : Nat) (ho : o < s.objs.length)
    (hp : 0 < (s.obj o).count) :
    ((run s ops).obj o).alive = true ↔ 0 < ((run s ops).obj o).ext + hrefs (run s ops).hnd o := by
  have hc := (exact_count ops s hI o).1
  constructor
  · intro ha
    rcases Nat.eq_zero_or_pos (((run s ops).obj o).ext + hrefs (run s ops).hnd o) with hz | hz
    · have := (never_later ops s o ho).2 hp (by omega)
      rw [ha] at this; cases this
    · exact hz
  · intro hr
    exact alive_of_count (exact ops s hI) o (by omega)

-- hypotheses satisfiable: o0 of `exTwo` is referenced, the history drops everything: destroyed at that point
example : let s := run exTwo [.take 0 0, .extUnref 0, .drop 0]
    0 < (exTwo.obj 0).count ∧ (s.obj 0).count = 0 ∧ (s.obj 0).alive = false := by decide

/-! ### M refines S: the outcome of the model is one of the outcomes the spec allows -/

/-- **one operation**: for every state satisfying the invariant and every request the drivers accept, the result of
    M (`St.exec`: state and accepted/refused) is — after forgetting the counters (`abs`) — one of the alternatives
    `Refs.alts` lists for the S state `abs s`.  S has no counters: it derives the reference totals from the handles
    and destroys at total 0. -/
theorem refines (s : St) (op : Op) (hI : Inv s) (hv : s.valid op = true) :
    ∃ a ∈ Refs.alts (abs s) op, a.ok = (s.exec op).2 ∧ a.st = abs (s.exec op).1 := by
  unfold St.exec
  simp only [hv, Bool.not_true, Bool.false_eq_true, ↓reduceIte]
  cases op <;> simp only [St.valid, decide_eq_true_eq] at hv <;> unfold Refs.alts <;> simp only []
  case create k n els =>
    exact ⟨_, List.mem_singleton.mpr rfl, rfl, (create_refines s k n els _ _).symm⟩
  case take h o => exact take_refines s h o hI hv.1 hv.2.1 hv.2.2
  case copy h g => exact copy_refines s h g hI hv.1 hv.2.1
  case drop h => exact drop_refines s h hI hv
  case assignMeta h src => exact assignMeta_refines s h src hI hv.1 hv.2
  case assignArr h src => exact assignArr_refines s h src hI hv.1 hv.2
  case extAdd o => exact extAdd_refines s o hI hv
  case extUnref o => exact extUnref_refines s o hI hv
  case detach h len => exact detach_refines s h len hI
  case reserve h len => exact reserve_refines s h len hI

/-- **every history**: after any history from a state satisfying the invariant, the next operation's result is
    again one of S's alternatives for the abstracted state — M ⊑ S along the whole run -/
theorem run_refines (ops : List Op) (s : St) (hI : Inv s) (op : Op) (hv : (run s ops).valid op = true) :
    ∃ a ∈ Refs.alts (abs (run s ops)) op, a.ok = ((run s ops).exec op).2 ∧ a.st = abs ((run s ops).exec op).1 :=
  refines (run s ops) op (exact ops s hI) hv

-- non-vacuous: the drop of the last handle is accepted and S's only alternative has the object dead
example : let s := run exTwo [.take 0 0, .extUnref 0]
    s.valid (.drop 0) = true ∧ (Refs.alts (abs s) (.drop 0)).map (fun a => (a.ok, (a.st.objs.getD 0 default).dead)) = [(true, true)] := by
  decide

-- two objects, three handles: o0 is shared by two handles, dropped twice, destroyed at the second drop
example : let s := run exTwo [.take 0 0, .copy 1 0, .extUnref 0, .drop 0]
    (s.obj 0).count = 1 ∧ (s.obj 0).alive = true ∧ ((run s [.drop 1]).obj 0).alive = false := by decide

/-- **refused detach** (the private copy of a shared heap buffer cannot take the content): nothing changes —
    in particular the caller's reference to the shared buffer is still counted, so dropping the OTHER holders
    cannot destroy the buffer under it (`referenced_alive` applies to the unchanged state) -/
theorem detach_refused_pure (s : St) (h len : Nat) (hr : (s.detach h len).2 = false) : (s.detach h len).1 = s := by
  unfold St.detach at hr ⊢
  cases ho : s.hnd.getD h none with
  | none => rfl
  | some o =>
    simp only [ho] at hr ⊢
    -- the one path that answers `false` returns `s` itself; all others answer `true`
    by_cases h2 : (s.obj o).count < 2
    · by_cases hc : len * 8 ≤ (s.obj o).cap <;> simp [h2, hc] at hr
    · by_cases hf : (s.obj o).elems.length * 8 > capOf (len * 8)
      · simp [h2, hf]
      · simp [h2, hf] at hr

-- a library buffer with 10 elements shared by two handles (and the creator): detach to 1 element is refused
-- and nothing changes; detach to 10 elements hands out a private copy, the shared buffer keeps 2 references
example : let s := run exBuf [.take 0 0, .copy 1 0]
    (s.obj 0).count = 3 ∧ s.detach 0 1 = (s, false) ∧
    ((s.detach 0 10).1.obj 0).count = 2 ∧ (s.detach 0 10).1.hnd = [some 1, some 0, none] ∧
    ((s.detach 0 10).1.obj 1).count = 1 := by decide


/-- **assignment through conversion** (`_mpt_metatype_wrap`, TypeMetaRef): on success the handle names the new
    referent, the new referent has exactly one reference more and the replaced one exactly one less (both at
    once for a self-assignment: unchanged), every other object keeps its count; when the new referent cannot
    be retained (counter at 0 or at the maximum, or destroyed) nothing changes at all -/
theorem assign_balanced (s : St) (h : Nat) (src : Option Nat) (hI : Inv s) (hh : h < s.hnd.length) :
    ((s.assignMeta h src).2 = .ok 8 →
        (s.assignMeta h src).1.hnd = s.hnd.set h src ∧
        ∀ x, (((s.assignMeta h src).1.obj x).count : Int) = (s.obj x).count + ind src x - ind (s.hnd.getD h none) x) ∧
    ((s.assignMeta h src).2 ≠ .ok 8 →
        (s.assignMeta h src).1.hnd = s.hnd ∧ ∀ x, ((s.assignMeta h src).1.obj x).count = (s.obj x).count) := by
  rw [assignMeta_eq]
  cases hr : (s.retain src).2
  all_goals simp only [Bool.not_false, Bool.not_true, Bool.false_eq_true, ↓reduceIte]
  · exact ⟨fun hok => (nomatch hok), fun _ => ⟨retain_hnd s src, retain_fail_count s src hI hr⟩⟩
  · exact ⟨fun _ => ⟨rfl, assignCore_count s h src src hI hh (by rw [hr]; rfl)⟩, fun hno => absurd rfl hno⟩

/-- the same for `mpt_array_clone` (array handles): accepted ⇒ the handle names the new referent (for the same referent
    nothing happens), the new referent has one reference more, the replaced one one less; refused (different content
    types, or the new referent cannot be retained) ⇒ the handles and every counter are what they were -/
theorem assign_balanced_array (s : St) (h : Nat) (src : Option Nat) (hI : Inv s) (hh : h < s.hnd.length) :
    ((s.assignArr h src).2.isOk = true →
        (s.assignArr h src).1.hnd = s.hnd.set h src ∧
        ∀ x, (((s.assignArr h src).1.obj x).count : Int) = (s.obj x).count + ind src x - ind (s.hnd.getD h none) x) ∧
    ((s.assignArr h src).2.isOk = false →
        (s.assignArr h src).1.hnd = s.hnd ∧ ∀ x, ((s.assignArr h src).1.obj x).count = (s.obj x).count) := by
  obtain ⟨e, he⟩ | he | ⟨hr, he⟩ | ⟨hr, n, he⟩ := assignArr_cases s h src <;> rw [he]
  · subst e
    exact ⟨fun _ => ⟨(set_getD_self _ _ _).symm, fun x => by show ((s.obj x).count : Int) = _; omega⟩,
           fun hno => (Bool.false_ne_true hno.symm).elim⟩
  · exact ⟨fun hok => (Bool.false_ne_true hok).elim, fun _ => ⟨rfl, fun _ => rfl⟩⟩
  · exact ⟨fun hok => (Bool.false_ne_true hok).elim, fun _ => ⟨retain_hnd s src, retain_fail_count s src hI hr⟩⟩
  · exact ⟨fun _ => ⟨rfl, assignCore_count s h src src hI hh (by rw [hr]; rfl)⟩,
           fun hno => (Bool.false_ne_true hno.symm).elim⟩

/-- **once … once, as call counts** (`_mpt_metatype_wrap` replacing the referent `o` of handle `h` by another
    object `n`, event counters cleared before): on success the new referent's `addref` was called exactly once and
    nothing else on it, the old referent's `unref` exactly once (and it was destroyed iff that was its last
    reference), no other object was touched -/
theorem assign_calls (s : St) (h n o : Nat) (hI : Inv s) (hev : s.ev = s.objs.map (fun _ => {}))
    (hold : s.hnd.getD h none = some o) (hno : n ≠ o)
    (hok : (s.assignMeta h (some n)).2 = .ok 8) :
    (s.assignMeta h (some n)).1.evOf n = { add := 1 } ∧
    (s.assignMeta h (some n)).1.evOf o = { unref := 1, destroyed := decide ((s.obj o).count = 1) } ∧
    ∀ x, x ≠ n → x ≠ o → (s.assignMeta h (some n)).1.evOf x = {} := by
  have hclean : ∀ x, s.evOf x = {} := by
    intro x; unfold St.evOf; rw [hev]
    simp only [List.getD_eq_getElem?_getD, List.getElem?_map]
    cases s.objs[x]? <;> rfl
  have hevl : s.ev.length = s.objs.length := by rw [hev]; simp
  rw [assignMeta_eq] at hok ⊢
  cases hr : (s.retain (some n)).2 with
  | false => simp [hr] at hok
  | true =>
    simp only [Bool.not_true, Bool.false_eq_true, ↓reduceIte]
    have han : (s.obj n).alive = true := by
      have hadd : (s.addref n).2 ≠ 0 := by simpa [St.retain] using hr
      rw [addref_ret] at hadd
      cases ha : (s.obj n).alive with
      | true => rfl
      | false => simp [ha] at hadd
    have hevs := fun x => assignCore_ev s h n o x hold hno han (inv_referenced_alive s hI h o hold) hevl
    have hp := hrefs_pos s.hnd h o hold
    have hc := count_of_inv s hI o
    refine ⟨?_, ?_, ?_⟩
    · rw [hevs, if_neg hno, if_pos rfl, hclean]
    · rw [hevs, if_pos rfl, hclean, lower_eq _ (hI o).2.1]
      have h0 : ¬ (s.obj o).count = 0 := by omega
      simp only [h0, ↓reduceIte, Bool.false_or]
      congr 1
      by_cases h1 : (s.obj o).count = 1
      · simp [h1]
      · have : ¬ (s.obj o).count - 1 = 0 := by omega
        simp [h1, this]
    · intro x hxn hxo
      rw [hevs, if_neg hxo, if_neg hxn, hclean]

-- h0 holds o0: assigning o1 calls addref(o1) once and unref(o0) once, and nothing else
example : let s := (run exTwo [.take 0 0]).clearEv
    (s.assignMeta 0 (some 1)).2 = .ok 8 ∧ (s.assignMeta 0 (some 1)).1.ev = [{ unref := 1 }, { add := 1 }] := by decide

-- h0 holds o0, h1 holds o1 (one external reference each): assigning h1 to h0 moves one reference
example : let s := run exTwo [.take 0 0, .take 1 1]
    ((s.obj 0).count, (s.obj 1).count) = (2, 2) ∧
    (((s.assignMeta 0 (some 1)).1.obj 0).count, ((s.assignMeta 0 (some 1)).1.obj 1).count) = (1, 3) ∧
    -- self-assignment: unchanged
    (((s.assignMeta 0 (some 0)).1.obj 0).count) = 2 := by decide

-- a referent whose counter is at the maximum cannot be retained: refused, nothing changes
example : let s := exMax
    (s.assignMeta 0 (some 0)).2 = .err .BadOperation ∧ (s.assignMeta 0 (some 0)).1.objs = s.objs ∧
    (s.assignMeta 0 (some 0)).1.hnd = s.hnd := by decide

/-! ### the C++ handle class `mpt::reference<T>` with objects that own handles -/

/-- operations on handle slots; slot `nroot + o` is the handle object `o` owns, so `assign h (nroot + o)` is the
    assignment FROM an owned handle (`it = it->next`) and `assign (nroot + o) g` the assignment TO one -/
inductive XOp where
  | assign (h g : Nat)        -- copy assignment / copy construction into an empty slot
  | move (h g : Nat)          -- move assignment
  | drop (h : Nat)            -- `set_instance(0)`, destructor
  | detach (h : Nat)          -- the reference leaves the handle
  | extUnref (o : Nat)        -- an outside reference is given back
  deriving Repr

/-- one operation, followed by the destruction of the handles of every object it destroyed -/
def xstep (nroot fuel : Nat) (s : St) : XOp → St
  | .assign h g => if h < s.hnd.length then (s.assignRef h (s.hnd.getD g none)).cascade nroot fuel else s
  | .move h g => if h < s.hnd.length ∧ g < s.hnd.length then (s.moveRef h g).cascade nroot fuel else s
  | .drop h => if h < s.hnd.length then (s.drop h).cascade nroot fuel else s
  | .detach h => if h < s.hnd.length then s.detachRef h else s
  | .extUnref o => if 1 ≤ (s.obj o).ext then (s.extUnref o).cascade nroot fuel else s

def xrun (nroot fuel : Nat) (s : St) : List XOp → St
  | [] => s
  | op :: ops => xrun nroot fuel (xstep nroot fuel s op) ops

/-- one C++ operation with its cascade keeps the invariant, and every object keeps its owned slot (the step of `exact_cxx`) -/
theorem xstep_inv (nroot fuel : Nat) (s : St) (op : XOp) (hI : Inv s) (hs : Slots s nroot) :
    Inv (xstep nroot fuel s op) ∧ Slots (xstep nroot fuel s op) nroot := by
  cases op <;> simp only [xstep] <;> split
  case assign.isTrue h g hc => exact cascade_inv _ nroot fuel (assignRef_inv s h _ hI hc) (slots_of_shape s _ nroot (assignRef_shape s h _) hs)
  case move.isTrue h g hc => exact cascade_inv _ nroot fuel (moveRef_inv s h g hI hc.1 hc.2) (slots_of_shape s _ nroot (moveRef_shape s h g) hs)
  case drop.isTrue h hc => exact cascade_inv _ nroot fuel (drop_inv s h hI hc) (slots_of_shape s _ nroot (drop_shape s h) hs)
  case detach.isTrue h hc => exact ⟨detachRef_inv s h hI hc, slots_of_shape s _ nroot (detachRef_shape s h) hs⟩
  case extUnref.isTrue o hc => exact cascade_inv _ nroot fuel (extUnref_inv s o hI hc) (slots_of_shape s _ nroot (extUnref_shape s o) hs)
  all_goals exact ⟨hI, hs⟩

/-- **exact, C++ handles**: for every history of copy/move assignment (from and to handles owned by objects),
    drop, detach and outside release — each followed by the destruction of the handles of destroyed objects —
    the counter of every object equals the number of references to it: outside ones, free-standing handles and
    handles owned by other objects -/
theorem exact_cxx (nroot fuel : Nat) (ops : List XOp) (s : St) (hI : Inv s) (hs : Slots s nroot) :
    Inv (xrun nroot fuel s ops) := by
  induction ops generalizing s with
  | nil => exact hI
  | cons op ops ih =>
    obtain ⟨a, b⟩ := xstep_inv nroot fuel s op hI hs
    exact ih _ a b

/-- **never earlier, C++ handles** — in particular for `it = it->next` where `it` holds the last reference to
    the owner of `next`: whatever a handle (free-standing or owned) names after any history is alive -/
theorem referenced_alive_cxx (nroot fuel : Nat) (ops : List XOp) (s : St) (hI : Inv s) (hs : Slots s nroot) (h o : Nat)
    (hn : (xrun nroot fuel s ops).hnd.getD h none = some o) : ((xrun nroot fuel s ops).obj o).alive = true :=
  inv_referenced_alive _ (exact_cxx nroot fuel ops s hI hs) h o hn

/-- **assign_balanced, C++ handle**: `operator=` on slot `h` with a source naming `src` (possibly a handle
    owned by the old referent): nothing for the same referent; otherwise the slot names the new referent — or
    nothing when it could not be retained — the new referent has one reference more and the replaced one one
    less (before the handles of destroyed objects are destroyed in turn) -/
theorem assign_balanced_cxx (s : St) (h : Nat) (src : Option Nat) (hI : Inv s) (hh : h < s.hnd.length) :
    ∃ src', (src' = src ∨ src' = none) ∧ (s.assignRef h src).hnd = s.hnd.set h src' ∧
      ∀ x, (((s.assignRef h src).obj x).count : Int) = (s.obj x).count + ind src' x - ind (s.hnd.getD h none) x := by
  rw [assignRef_eq]
  split
  · rename_i e
    subst e
    exact ⟨_, Or.inl rfl, (set_getD_self _ _ _).symm, fun x => by omega⟩
  · exact ⟨_, by split <;> simp, rfl, assignCore_count s h src _ hI hh rfl⟩

/-- one C++ operation with its cascade respects `Mono`; no invariant needed (the step of `never_later_cxx`) -/
theorem xstep_mono (nroot fuel : Nat) (s : St) (op : XOp) : Mono s (xstep nroot fuel s op) := by
  cases op <;> simp only [xstep] <;> split
  case assign.isTrue => exact (assignRef_mono s _ _).trans (cascade_mono _ _ _)
  case move.isTrue => exact (moveRef_mono s _ _).trans (cascade_mono _ _ _)
  case drop.isTrue => exact (drop_mono s _).trans (cascade_mono _ _ _)
  case detach.isTrue => exact detachRef_mono s _
  case extUnref.isTrue => exact (extUnref_mono s _).trans (cascade_mono _ _ _)
  all_goals exact Mono.refl s

theorem xrun_mono (nroot fuel : Nat) (ops : List XOp) (s : St) : Mono s (xrun nroot fuel s ops) := by
  induction ops generalizing s with
  | nil => exact Mono.refl s
  | cons op ops ih => exact (xstep_mono nroot fuel s op).trans (ih _)

/-- **never later, C++ handles**: after any history an object that had a reference and has none left is destroyed
    (any fuel) … -/
theorem never_later_cxx (nroot fuel : Nat) (ops : List XOp) (s : St) (o : Nat) (ho : o < s.objs.length)
    (hp : 0 < (s.obj o).count) (hz : ((xrun nroot fuel s ops).obj o).count = 0) :
    ((xrun nroot fuel s ops).obj o).alive = false :=
  ((xrun_mono nroot fuel ops s).2 o ho).2 hp hz

/-- … and **the cascade finishes**: with fuel for every object (the driver passes `objs.length + 1`), after every
    operation no destroyed object still owns a handle that refers to something — so no object is kept alive by the
    handle of a dead owner (`it = it->next` chains of any length are released completely).  The cascade itself needs no
    settled start; `hp` serves `detach`, which runs no cascade, and the requests that are not accepted -/
theorem cascade_settles (nroot fuel : Nat) (s : St) (op : XOp) (hf : s.objs.length ≤ fuel)
    (hp : s.pendingOwner nroot = none) : (xstep nroot fuel s op).pendingOwner nroot = none := by
  cases op <;> simp only [xstep] <;> split
  case assign.isTrue => exact cascade_settles_of_shape s _ nroot fuel hf (assignRef_shape s _ _)
  case move.isTrue => exact cascade_settles_of_shape s _ nroot fuel hf (moveRef_shape s _ _)
  case drop.isTrue => exact cascade_settles_of_shape s _ nroot fuel hf (drop_shape s _)
  case detach.isTrue => exact detachRef_pending s nroot _ hp
  case extUnref.isTrue => exact cascade_settles_of_shape s _ nroot fuel hf (extUnref_shape s _)
  all_goals exact hp

/-- no C++ operation creates an object or a slot: the fuel that sufficed before suffices after -/
theorem xstep_shape (nroot fuel : Nat) (s : St) (op : XOp) : (xstep nroot fuel s op).shape = s.shape := by
  cases op <;> simp only [xstep] <;> split
  case assign.isTrue => rw [cascade_shape, assignRef_shape]
  case move.isTrue => rw [cascade_shape, moveRef_shape]
  case drop.isTrue => rw [cascade_shape, drop_shape]
  case detach.isTrue => exact detachRef_shape _ _
  case extUnref.isTrue => rw [cascade_shape, extUnref_shape]
  all_goals rfl

/-- `cascade_settles` along every C++ history -/
theorem xrun_settles (nroot fuel : Nat) (ops : List XOp) (s : St) (hf : s.objs.length ≤ fuel)
    (hp : s.pendingOwner nroot = none) : (xrun nroot fuel s ops).pendingOwner nroot = none := by
  induction ops generalizing s with
  | nil => exact hp
  | cons op ops ih =>
    have hsh := shape_objs (xstep_shape nroot fuel s op)
    exact ih _ (by rw [hsh]; exact hf) (cascade_settles nroot fuel s op hf hp)

/-- example state: o0 -> o1 through the handle o0 owns (slot 3), only handle 0 holds o0 -/
def exChain : St :=
  { objs := [{ kind := .hmeta, count := 1, alive := true, ext := 0 }, { kind := .hmeta, count := 1, alive := true, ext := 0 }],
    hnd := [some 0, none, none, some 1, none], ev := [{}, {}] }

-- `it = it->next`: o0 is destroyed (and with it the handle it owns), o1 lives on with exactly one reference
example : let s := xstep 3 3 exChain (.assign 0 3)
    s.hnd = [some 1, none, none, none, none] ∧ (s.obj 0).alive = false ∧ (s.obj 1).alive = true ∧ (s.obj 1).count = 1 := by
  decide

-- a chain o0 -> o1 -> o2 held by handle 0 only: dropping the handle destroys all three (fuel 3 = number of objects);
-- with too little fuel (1) o2 would be kept alive by the handle of the dead o1 — excluded by `cascade_settles`
example : let s : St := { objs := [{ kind := .hmeta, count := 1, alive := true, ext := 0 }, { kind := .hmeta, count := 1, alive := true, ext := 0 },
                                     { kind := .hmeta, count := 1, alive := true, ext := 0 }],
                          hnd := [some 0, none, none, some 1, some 2, none], ev := [{}, {}, {}] }
    ((xstep 3 3 s (.drop 0)).objs.map (·.alive)) = [false, false, false] ∧ (xstep 3 3 s (.drop 0)).pendingOwner 3 = none ∧
    ((xstep 3 1 s (.drop 0)).objs.map (·.alive)) = [false, false, true] := by decide

/-! ### `unique_array<T>::reserve()` on shared buffers that refuse a private copy -/

/-- **insert/resize through a unique_array handle** keep the invariant, and a refused one (the buffer is shared
    and holds elements: BufferNoCopy) changes NOTHING — the handle still names the shared buffer and is still
    counted, so the buffer is destroyed when, and only when, the last handle goes -/
theorem unique_array_reserve (s : St) (a n : Nat) (hI : Inv s) (hh : a < s.hnd.length) :
    Inv (s.uaInsert a).1 ∧ Inv (s.uaResize a n).1 ∧
    ((s.uaInsert a).2 = false → (s.uaInsert a).1 = s) ∧ ((s.uaResize a n).2 = false → (s.uaResize a n).1 = s) := by
  have hp := uaPrivate_inv s a hI hh
  unfold St.uaInsert St.uaResize
  -- both are `uaPrivate` followed, when it succeeded, by a change of the element count
  cases hr : (s.uaPrivate a).2
  · simp only [Bool.false_eq_true, ↓reduceIte]
    exact ⟨hp, hp, fun _ => uaPrivate_refused s a hr, fun _ => uaPrivate_refused s a hr⟩
  · simp only [↓reduceIte]
    exact ⟨uaSetLen_inv _ _ _ hp, uaSetLen_inv _ _ _ hp, nofun, nofun⟩

end Mpt.C15
