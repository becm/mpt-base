/-
  C02 — Message stream integrity under arbitrary segmentation.   Property theorems (and `Res.toOption'` for the
  examples); helper lemmas: Lemmas/Stream.lean, Lemmas/CodedQueue*.lean, Lemmas/DecodeView.lean.

  Part 1 needs no implementation model: S = Spec/Stream.lean (`wire`, the reference receiver that splits at
  the delimiter, schedules of `write i | flush | deliver k | receive` events).
  Part 2 is about M = Impl/CodedQueue.lean (`queuePush`, `queueRecv`, `queueShift` … on the C13 ring model with
  the C01/C03 codec models): representation invariants of both queues for every reachable state, refinement
  of the flat encoder by `queuePush` on every ring state, what a sender history puts on the wire, refinement of the
  reference receiver by `queueRecv` and what a receiver history delivers, `queuePeek`, and liveness (a complete
  frame in the queue is answered with a delivery or a request for space; a reader that gives space drains it).
-/
import MptModel.Lemmas.CodedQueueHist
import MptModel.Lemmas.CodedQueueRun
namespace Mpt.C02
open Mpt Mpt.Cobs Mpt.Stream Mpt.Codec Mpt.CQ

/-- the value of a model call, for the examples -/
def _root_.Mpt.Res.toOption' {α} : Res α → Option α
  | .ok v => some v
  | _ => none

/-- Frames are uniquely recoverable: if every frame is zero-terminated and zero-free otherwise, splitting
    the concatenation at the delimiter gives back exactly the frames (same count, order, bytes) and
    nothing is left over. -/
theorem frames_unique (fs : List (List Byte)) (h : ∀ f ∈ fs, IsFrame f) : splitFrames fs.flatten = (fs, []) :=
  splitAux_frames fs h

example : splitFrames ([[2, 7, 0], [1, 0], [3, 1, 1, 0]] : List (List Byte)).flatten = ([[2, 7, 0], [1, 0], [3, 1, 1, 0]], []) := by
  decide

/-- the frames the reference encoder produces meet the hypothesis of `frames_unique`, all four framings -/
theorem wire_frames (v : Variant) (ms : List Msg) :
    splitFrames (wire v ms) = (ms.map (enc v), []) := by
  unfold wire
  exact frames_unique _ (by intro f hf; obtain ⟨m, _, rfl⟩ := List.mem_map.mp hf; exact enc_isFrame v m)

/-- **Stream integrity**: for every message list and every way of cutting its wire byte stream into
    segments (any number of segments, any lengths, empty ones included: `segs.flatten = wire v ms` is the
    only hypothesis), the reference receiver obtains exactly the sent messages — same count, same order,
    same bytes, nothing lost, duplicated or merged — and no byte is left pending.  All four framings. -/
theorem stream_integrity (v : Variant) (ms : List Msg) (segs : List (List Byte)) (h : segs.flatten = wire v ms) :
    (recvAll v segs).out = ms ∧ (recvAll v segs).pending = [] :=
  recvAll_frames v _ ms segs (carries_enc v ms) h

example : (recvAll .zpe [[0xe1], [7, 2, 9], [], [0, 1], [0]]).out = [[7, 0, 0, 9], []]
    ∧ [[0xe1], [7, 2, 9], [], [0, 1], [0]].flatten = wire .zpe [[7, 0, 0, 9], []] := by decide

/-- the same for any frames that carry the messages — in particular the frames of messages handed to the
    encoder in pieces (`encChunks`; for zero pair elimination the frame depends on where the pieces end) -/
theorem stream_integrity_frames (v : Variant) (fs : List (List Byte)) (ms : List Msg) (segs : List (List Byte))
    (hc : Carries v fs ms) (h : segs.flatten = fs.flatten) :
    (recvAll v segs).out = ms ∧ (recvAll v segs).pending = [] :=
  recvAll_frames v fs ms segs hc h

/-- messages handed over in pieces -/
theorem stream_integrity_chunks (v : Variant) (cms : List (List (List Byte))) (segs : List (List Byte))
    (h : segs.flatten = (cms.map (encChunks v)).flatten) :
    (recvAll v segs).out = cms.map List.flatten := by
  exact (stream_integrity_frames v _ _ segs (carries_encChunks v cms) h).1

/-- **No stall**: once the delivered bytes contain `k` complete frames — the delivered prefix is the wire
    of the first `k` messages followed by anything (the beginning of the next frame, or nothing) — the
    first `k` messages are available at the receiver, whatever the segmentation. -/
theorem no_stall (v : Variant) (ms : List Msg) (k : Nat) (segs : List (List Byte)) (rest : List Byte)
    (h : segs.flatten = wire v (ms.take k) ++ rest) :
    ∃ more, (recvAll v segs).out = ms.take k ++ more := by
  rw [recvAll_flatten, h, segment_append]
  have h1 := segment_frames v _ (ms.take k) (carries_enc v (ms.take k)) {} rfl
  unfold wire
  rw [h1]
  obtain ⟨more, hm⟩ := segment_out_mono v rest { pending := [], out := ([] : List Msg) ++ ms.take k }
  exact ⟨more, by rw [hm]; simp⟩

example : (recvAll .cobs [[2], [7, 0, 3], [1]]).out = [[7]] := by decide

/-- nothing is invented ahead of time: whatever prefix of the wire has been delivered, in whatever
    segments, the messages obtained are a prefix of the sent ones -/
theorem prefix_only (v : Variant) (ms : List Msg) (segs : List (List Byte)) (rest : List Byte)
    (h : segs.flatten ++ rest = wire v ms) :
    ∃ later, (recvAll v segs).out ++ later = ms := by
  have hall := (stream_integrity v ms (segs ++ [rest]) (by simp [h])).1
  rw [recvAll_flatten] at hall ⊢
  rw [List.flatten_append, segment_append] at hall
  obtain ⟨more, hm⟩ := segment_out_mono v [rest].flatten (Recv.segment v {} segs.flatten)
  exact ⟨more, by rw [← hall, hm]⟩

/-- **Schedules**: for every interleaving of `write i | flush | deliver k | receive` events (any order,
    any `k`, writes of any indices of `ms`), the messages the receiver has obtained are at every moment a
    prefix of the messages written so far; once everything written has been flushed, delivered and looked
    at, they are exactly the written messages. -/
theorem schedule_integrity (v : Variant) (ms : List Msg) (evs : List Event) :
    (∃ later, (run v ms evs).rx.out ++ later = (run v ms evs).sent) ∧
    ((run v ms evs).txbuf = [] → (run v ms evs).chan = [] → (run v ms evs).rxbuf = [] →
      (run v ms evs).rx.out = (run v ms evs).sent ∧ (run v ms evs).rx.pending = []) := by
  obtain ⟨c, h1, h2⟩ := run_inv v ms evs {} (init_inv v)
  unfold run
  generalize List.foldl (step v ms) {} evs = s at h1 h2
  constructor
  · have := prefix_only v s.sent [c] (s.rxbuf ++ s.chan ++ s.txbuf) (by simp [← h2])
    rw [recvAll_flatten] at this
    simpa [h1] using this
  · intro e1 e2 e3
    rw [e1, e2, e3] at h2
    have := stream_integrity v s.sent [c] (by simpa using h2)
    rw [recvAll_flatten] at this
    simpa [h1] using this

example : (run .cobsR [[5, 6], [], [9]] [.write 0, .write 2, .flush, .deliver 2, .receive, .write 1, .deliver 9, .flush,
    .receive, .deliver 1, .deliver 5, .receive]).rx.out = [[5, 6], [9], []] := by decide

/-! ### Part 2: the implementation model -/

/-- **`mpt_queue_push` without encoder (raw byte queue)**, any ring state with `done + scratch = data.len`:
    a data call appends the first `min free len` bytes to the content and counts them as open data, a full
    queue refuses with `MissingBuffer` and stays as it is; the terminating call declares all data finished
    (`done = data.len`, `scratch = 0`) without touching the ring. -/
theorem queue_push_raw (q : EncodeQueue) (hc : q.codec = none) (hwf : q.ring.WF) (hl : q.st.done + q.st.scratch = q.ring.len) :
    (∃ out, queuePush q none = .ok out ∧ out.ret = (q.ring.len : Nat) ∧ out.q.ring = q.ring ∧
        out.q.st.done = q.ring.len ∧ out.q.st.scratch = 0) ∧
    (∀ bytes, ∃ out, queuePush q (some bytes) = .ok out ∧
      ((q.ring.len = q.ring.store.length ∧ out.ret = Err.MissingBuffer.code ∧ out.q = q) ∨
       (q.ring.len < q.ring.store.length ∧ out.ret = ((min (q.ring.store.length - q.ring.len) bytes.length : Nat) : Int) ∧
          out.q.ring.WF ∧ out.q.ring.store.length = q.ring.store.length ∧
          out.q.ring.content = q.ring.content ++ bytes.take (min (q.ring.store.length - q.ring.len) bytes.length) ∧
          out.q.st.done = q.st.done ∧
          out.q.st.scratch = q.st.scratch + min (q.ring.store.length - q.ring.len) bytes.length))) := by
  constructor
  · unfold queuePush pushRaw
    rw [hc]
    exact ⟨_, rfl, rfl, rfl, rfl, rfl⟩
  · intro bytes
    unfold queuePush pushRaw
    rw [hc]
    simp only [Ring.max]
    rw [if_neg (by omega)]
    by_cases hfull : q.ring.store.length - q.ring.len = 0
    · rw [if_pos hfull]
      exact ⟨_, rfl, Or.inl ⟨by have := hwf.1; omega, rfl, rfl⟩⟩
    · rw [if_neg hfull]
      have htl : (bytes.take (min (q.ring.store.length - q.ring.len) bytes.length)).length
          = min (q.ring.store.length - q.ring.len) bytes.length := by
        rw [List.length_take]; omega
      have hql := hwf.holds.len
      obtain ⟨r', c, he, H'⟩ := Ring.qpush_ok hwf.holds (min (q.ring.store.length - q.ring.len) bytes.length)
        (some (bytes.take (min (q.ring.store.length - q.ring.len) bytes.length))) ⟨by omega, by omega⟩
      rw [he]
      rw [Ring.setSrc_some _ htl] at H'
      exact ⟨_, rfl, Or.inr ⟨by omega, rfl, H'.wf, H'.cap, H'.content, rfl, rfl⟩⟩

/-- **`mpt_queue_peek` is invisible to the stream** (one call, any queue state inside a valid frame stream,
    with or without destination buffer, any `max`): the call is total (`queue_peek_safe`; `DInv` kept for arbitrary
    data: capacity, data length and offset unchanged), and inside a valid stream the receiver keeps its place
    (`Phase`: same number of finished frames, same bytes accepted — the decoder only decodes more data bytes of
    the open block in place, inside the first contiguous part of the ring), the work area invariant that the
    liveness proof needs (`SlackOk`) is kept, no message appears or disappears, and a delivered message that
    waits for `mpt_message_get` is left exactly as it is (state and content unchanged).  Since `queue_refines_recv`
    holds for every `Phase` state, what a later `mpt_queue_recv` delivers is the message of the same frame
    `k` as without the peek. -/
theorem peek_invisible (v : Variant) (frames : List (List Byte)) (ms : List Msg) (hcar : Carries v frames ms)
    (q : DecodeQueue) (hc : q.codec = some v) (fed future : List Byte) (hfut : fed ++ future = frames.flatten) (k : Nat)
    (h : DInv q) (hph : Phase v frames q.st q.ring.content fed k) (mx : Nat) (dst : Bool) :
    ∃ q' r out, queuePeek q mx dst = .ok (q', r, out) ∧
    DInv q' ∧ q'.codec = some v ∧ q'.ring.store.length = q.ring.store.length ∧ q'.ring.len = q.ring.len ∧
    Phase v frames q'.st q'.ring.content fed k ∧ (SlackOk v q.st → SlackOk v q'.st) ∧ q'.st.msg = q.st.msg ∧
    (q.st.msg.isSome → q'.st = q.st ∧ q'.ring.content = q.ring.content) := by
  obtain ⟨q', r, out, he, K, hl, _, hp⟩ := queuePeek_spec v q hc h mx dst
  exact ⟨q', r, out, he, K.inv, K.codec.trans hc, K.cap, hl, hp frames fed k hph⟩

/-- `mpt_queue_peek` is total on every state that satisfies the invariant (any data, not only valid streams,
    with or without destination buffer, any `max`): no access outside the storage — the decoder stays inside the
    piece it is given, the copy to the destination stays inside the decoded bytes —, invariant and capacity
    kept.  So the peeks in the histories of `queue_inv_decode`, `receiver_history` and `no_stall_model` are
    real steps, never the "model refused" no-op. -/
theorem queue_peek_safe (v : Variant) (q : DecodeQueue) (hc : q.codec = some v) (h : DInv q) (mx : Nat) (dst : Bool) :
    ∃ q' r out, queuePeek q mx dst = .ok (q', r, out) ∧ DInv q' ∧ q'.ring.store.length = q.ring.store.length := by
  obtain ⟨q', r, out, he, K, _⟩ := queuePeek_spec v q hc h mx dst
  exact ⟨q', r, out, he, K.inv, K.cap⟩

-- non-vacuity: a peek without destination on a wrapped ring with an open block
example :
    let q0 : DecodeQueue := { ring := { store := List.replicate 8 0, len := 0, off := 6 }, codec := some .cobs, base := 3 }
    ((queueFeed q0 [5, 0x61, 0x62]).toOption'.bind fun q1 => (queueRecv q1.1).toOption'.bind fun q2 =>
      (queuePeek q2.1 16 false).toOption'.map fun x => x.2.1) = some 2 := by decide

-- non-vacuity: COBS frame `05 61 62 63 64 00` arrives in a wrapped ring; after the first receive the decoder
-- stands inside the block; a peek decodes two more bytes in place; the next receive delivers the message
example :
    let r : List DOp := [.feed [5, 0x61], .recv, .feed [0x62, 0x63], .peek 16 true, .feed [0x64, 0], .peek 16 false, .recv]
    let s := r.foldl rstep { q := { ring := { store := List.replicate 8 0, len := 0, off := 6 }, codec := some .cobs, base := 3 } }
    s.got = [[0x61, 0x62, 0x63, 0x64]] := by decide

/-- **`queuePush` refines the flat encoder on the ring's content** — every ring state (any capacity, wrap
    offset, fill; data contiguous, wrapped, or with the open block across the storage end), every framing,
    data or termination.  `EInv v q vis fin ms` says: the ring is well-formed, `data.len = done + scratch`,
    and the content is the finished bytes `vis` followed by the open block of the reference encoding of the
    consumed message bytes `ms` (`fin` = its finished blocks).  Then `mpt_queue_push`
    * never leaves the storage and never aborts (the result is `.ok`, not `.oob`/`.fault`), keeps the capacity,
    * is either refused (negative return) with the invariant — hence content and message state — unchanged, or
    * consumes `ret ≤ len` bytes and continues the content by the reference encoding of exactly these bytes
      (`Progress`, data), resp. completes the frame: `fin ++ tail` is the reference frame of the message and
      `tail` is appended to the finished bytes (`Progress`, termination). -/
theorem queue_refines_push (v : Variant) (q : EncodeQueue) (vis fin : List Byte) (ms : List (Byte × Bool))
    (src : Option (List Byte)) (h : EInv v q vis fin ms) :
    ∃ out, queuePush q src = .ok out ∧ out.q.ring.store.length = q.ring.store.length ∧
      ((out.ret < 0 ∧ EInv v out.q vis fin ms) ∨
       (∃ (vis' fin' : List Byte) (ms' : List (Byte × Bool)) (ret : Nat), out.ret = (ret : Int) ∧
          Progress v src vis fin ms vis' fin' ms' ret ∧ EInv v out.q vis' fin' ms')) :=
  queuePush_refines v q vis fin ms src h

-- non-vacuity: capacity 12, data at offset 8 with the open block `07 01..06` across the storage end (the
-- out-of-band path), then 8 zero bytes: 5 are taken, the content is the reference encoding so far
example :
    let q0 : EncodeQueue := { ring := Ring.make 12 8 [7, 1, 2, 3, 4, 5, 6], st := { scratch := 7 }, codec := some (.cobs .cobs) }
    (queuePush q0 (some [0, 0, 0, 0, 0, 0, 0, 0])).toOption'.map
        (fun o => (o.ret, o.q.ring.content, o.q.ring.off, o.q.st.done, o.q.st.scratch))
      = some (5, [7, 1, 2, 3, 4, 5, 6, 1, 1, 1, 1, 1], 8, 11, 1) := by decide

/-- **Representation invariant of the encode queue, every reachable state**: from a fresh queue of any
    capacity and wrap offset, after any sequence of pushes (any pieces), terminations, takes (flushes of any
    size), growths and re-alignments, `done + scratch = data.len ≤ max` and `off ≤ max`. -/
theorem queue_inv_encode (v : Variant) (store : List Byte) (off : Nat) (hoff : off ≤ store.length) (ops : List EOp) :
    let s := erun { q := { ring := { store := store, len := 0, off := off }, codec := some (.cobs v) } } ops
    s.q.st.done + s.q.st.scratch = s.q.ring.len ∧ s.q.ring.len ≤ s.q.ring.max ∧ s.q.ring.off ≤ s.q.ring.max := by
  obtain ⟨_, _, _, _, hinv, _⟩ := erun_hist v ops _ (fresh_hist v store off hoff)
  exact ⟨hinv.len.symm, hinv.wf.1, hinv.wf.2⟩

/-- **What a sender history puts on the wire**: after any sequence of operations on a fresh queue, the bytes
    taken from the queue so far are a prefix of the frame stream of the terminated messages and the message
    in progress; each frame is zero-terminated, zero-free otherwise and decodes (reference decoder) to its
    message — nothing is lost, duplicated, reordered or overwritten, whatever the ring did in between. -/
theorem sender_history (v : Variant) (store : List Byte) (off : Nat) (hoff : off ≤ store.length) (ops : List EOp) :
    let s := erun { q := { ring := { store := store, len := 0, off := off }, codec := some (.cobs v) } } ops
    ∃ (frames : List (List Byte)) (inQueue partial_ : List Byte),
      Carries v frames s.msgs ∧ s.wire ++ inQueue = frames.flatten ++ partial_ ∧
      (s.q.ring.len = 0 → inQueue = [] ∧ partial_ = []) := by
  obtain ⟨frames, vis, fin, ms, hinv, hcar, hsum, _⟩ := erun_hist v ops _ (fresh_hist v store off hoff)
  refine ⟨frames, vis, fin, hcar, hsum, ?_⟩
  exact hinv.empty

/-- **Sender to reference receiver**: when everything written has been terminated and taken (the queue is
    empty), the wire is exactly the frame stream, so — by `stream_integrity_frames` — a receiver that gets
    it in any segmentation obtains exactly the messages that were written, in order. -/
theorem sender_to_receiver (v : Variant) (store : List Byte) (off : Nat) (hoff : off ≤ store.length) (ops : List EOp)
    (segs : List (List Byte)) :
    let s := erun { q := { ring := { store := store, len := 0, off := off }, codec := some (.cobs v) } } ops
    s.q.ring.len = 0 → segs.flatten = s.wire → (recvAll v segs).out = s.msgs := by
  intro s h0 hseg
  obtain ⟨frames, hcar, hsum⟩ := erun_rest v store off hoff ops h0
  exact (stream_integrity_frames v frames _ segs hcar (by rw [hseg]; exact hsum)).1

example :
    (erun { q := { ring := { store := List.replicate 8 0, len := 0, off := 5 }, codec := some (.cobs .zpe) } }
      [.push [7, 0], .push [0, 9], .term, .take 3, .push [1, 2, 3], .term, .take 100]).wire
      = [2, 7, 1, 2, 9, 0, 4, 1, 2, 3, 0] := by decide

/-- **Representation invariant of the decode queue, every reachable state**: from a fresh queue (any
    capacity, wrap offset, storage alignment, framing) after any sequence of arrivals of arbitrary bytes,
    receives, shifts, growths and peeks (`mpt_queue_peek`, any `max`, with or without destination):
    `pos + len ≤ curr ≤ data.len ≤ max` — the decoded bytes `[pos, pos+len)` lie in front of the input position
    `curr`, the undecoded ones behind it — and a waiting message is exactly the decoded data. -/
theorem queue_inv_decode (v : Variant) (store : List Byte) (off base : Nat) (hoff : off ≤ store.length) (ops : List DOp) :
    let q := ops.foldl dstep { ring := { store := store, len := 0, off := off }, codec := some v, base := base }
    q.st.pos + q.st.len ≤ q.st.curr ∧ q.st.curr ≤ q.ring.len ∧ q.ring.len ≤ q.ring.max ∧
    (∀ m, q.st.msg = some m → m = q.st.len) := by
  obtain ⟨hi, _⟩ := drun_inv v ops _ (DInv.fresh store off hoff (some v) base) rfl
  exact ⟨hi.bnd.le, hi.bnd.tot, hi.wf.1, hi.bnd.msg⟩

/-- `mpt_queue_recv` is total on every state that satisfies the invariant: no access outside the storage,
    no store at or behind the decoder's read position, invariant and capacity kept -/
theorem queue_recv_safe (v : Variant) (q : DecodeQueue) (hc : q.codec = some v) (h : DInv q) :
    ∃ q' r, queueRecv q = .ok (q', r) ∧ DInv q' ∧ q'.ring.store.length = q.ring.store.length :=
  let ⟨q', r, he, K, _⟩ := queueRecv_spec v q hc h
  ⟨q', r, he, K.inv, K.cap⟩

-- non-vacuity: the frame `e1 61 02 62 00` (61 00 00 62, zero pair elimination) arrives in a wrapped
-- ring with odd storage address; the zero pair needs the `MissingBuffer` recovery; the message is delivered
example :
    let q0 : DecodeQueue := { ring := { store := List.replicate 8 0, len := 0, off := 6 }, codec := some .zpe, base := 3 }
    ((queueFeed q0 [0xe1, 0x61, 0x02, 0x62, 0x00]).toOption'.bind fun q1 =>
      (queueRecv q1.1).toOption'.map fun q2 => (q2.2, (currentMessage q2.1).map Res.toOption'))
      = some (1, some (some (0, [0x61, 0, 0, 0x62]))) := by decide

/-- **`mpt_queue_recv` refines the reference receiver, one call, any queue state**: a receiver that stands at a
    definite place of a valid frame stream (`Phase`: `k` frames finished; between two frames, or inside frame
    `k` after its first byte and some consumed bytes; any capacity, wrap offset, storage alignment, any split
    of the data into the two ring parts) either does not deliver and keeps its place, or delivers — readable
    through `mpt_message_get(data.pos, data.msg)` — exactly the message of frame `k` and stands behind that
    frame.  The call is total; the `MissingBuffer` recovery (space prepended, decoded data moved back, retry)
    is covered. -/
theorem queue_refines_recv (v : Variant) (frames : List (List Byte)) (ms : List Msg) (hcar : Carries v frames ms)
    (q : DecodeQueue) (hc : q.codec = some v) (fed future : List Byte) (hfut : fed ++ future = frames.flatten) (k : Nat)
    (h : DInv q) (hph : Phase v frames q.st q.ring.content fed k) :
    ∃ q' r, queueRecv q = .ok (q', r) ∧ q'.codec = some v ∧ q'.ring.store.length = q.ring.store.length ∧
      RecvOut v frames ms fed k q' r :=
  let ⟨q', r, he, K, S⟩ := queueRecv_spec v q hc h
  ⟨q', r, he, K.codec.trans hc, K.cap, (S frames ms hcar fed future hfut k hph).out⟩

/-- **Receiver history, all schedules**: a fresh decode queue (any capacity, wrap offset, storage alignment,
    framing) is fed a valid frame stream — frames that carry the messages `ms` — in arbitrary pieces (a
    prefix of the stream may have arrived so far), with receives, shifts, growths and peeks in any order.  Then the
    messages delivered so far, each read through `mpt_message_get` after the delivering `mpt_queue_recv`, are
    exactly the first messages of `ms`: same order, same bytes, nothing duplicated, merged or invented —
    whatever the ring did (wrap-around, `mpt_qpre` recovery, cropping). -/
theorem receiver_history (v : Variant) (frames : List (List Byte)) (ms : List Msg) (hcar : Carries v frames ms)
    (store : List Byte) (off base : Nat) (hoff : off ≤ store.length) (ops : List DOp) (future : List Byte) :
    let s := ops.foldl rstep { q := { ring := { store := store, len := 0, off := off }, codec := some v, base := base } }
    s.fed ++ future = frames.flatten → ∃ k, s.got = ms.take k ∧ k ≤ ms.length := by
  intro s hfut
  have h : RInv v frames ms s := rrun_fresh v frames ms hcar store off base hoff ops future hfut
  exact ⟨_, h.got, h.le⟩

/-- **queue_inv** (both queues, every reachable state): `EncodeQueue`: `done + scratch = data.len ≤ max`;
    `DecodeQueue`: `pos + len ≤ curr ≤ data.len ≤ max` (decoded bytes in front of undecoded ones) -/
theorem queue_inv (v : Variant) (store : List Byte) (off base : Nat) (hoff : off ≤ store.length) (eops : List EOp) (dops : List DOp) :
    (let s := erun { q := { ring := { store := store, len := 0, off := off }, codec := some (.cobs v) } } eops
     s.q.st.done + s.q.st.scratch = s.q.ring.len ∧ s.q.ring.len ≤ s.q.ring.max) ∧
    (let q := dops.foldl dstep { ring := { store := store, len := 0, off := off }, codec := some v, base := base }
     q.st.pos + q.st.len ≤ q.st.curr ∧ q.st.curr ≤ q.ring.len ∧ q.ring.len ≤ q.ring.max) :=
  ⟨let h := queue_inv_encode v store off hoff eops; ⟨h.1, h.2.1⟩,
   let h := queue_inv_decode v store off base hoff dops; ⟨h.1, h.2.1, h.2.2.1⟩⟩

/-- **queue_refines** (push and recv on any ring state equal the flat encoder / the reference receiver on the
    ring's content): the conjunction of `queue_refines_push` and `queue_refines_recv` -/
theorem queue_refines (v : Variant) :
    (∀ (q : EncodeQueue) (vis fin : List Byte) (ms : List (Byte × Bool)) (src : Option (List Byte)), EInv v q vis fin ms →
      ∃ out, queuePush q src = .ok out ∧ out.q.ring.store.length = q.ring.store.length ∧
        ((out.ret < 0 ∧ EInv v out.q vis fin ms) ∨
         (∃ (vis' fin' : List Byte) (ms' : List (Byte × Bool)) (ret : Nat), out.ret = (ret : Int) ∧
            Progress v src vis fin ms vis' fin' ms' ret ∧ EInv v out.q vis' fin' ms'))) ∧
    (∀ (frames : List (List Byte)) (ms : List Msg), Carries v frames ms →
      ∀ (q : DecodeQueue), q.codec = some v → ∀ (fed future : List Byte), fed ++ future = frames.flatten → ∀ (k : Nat),
        DInv q → Phase v frames q.st q.ring.content fed k →
        ∃ q' r, queueRecv q = .ok (q', r) ∧ q'.codec = some v ∧ q'.ring.store.length = q.ring.store.length ∧
          RecvOut v frames ms fed k q' r) :=
  ⟨fun q vis fin ms src h => queue_refines_push v q vis fin ms src h,
   fun frames ms hcar q hc fed future hfut k h hph => queue_refines_recv v frames ms hcar q hc fed future hfut k h hph⟩

/-- **No stall (model)**: from every reachable receiver state inside a valid stream — any history of arrivals
    in arbitrary pieces, receives, shifts, growths and peeks on a queue of any capacity, wrap offset and storage
    alignment — a draining reader that gives the queue `B` bytes of storage more and calls `mpt_queue_recv`
    (`drainStep`) obtains one message per round: after `c − got` rounds, where `c` is the number of complete
    frames among the bytes accepted so far, exactly the first `c` messages have been delivered.  `B` = the
    number of bytes accepted so far plus two is enough for any work area the decoder may ask for
    (`MissingBuffer`, zero pair elimination).  This reader is an idealised policy (storage enlarged before every
    receive, by an amount that always suffices); `recv_or_grow_delivers` is the variant that enlarges only
    after a refusal, `recv_never_waits` the per-call fact (a complete frame in the queue is answered with 1 or
    `MissingBuffer`, never with "need more data"): in no reachable state has a shift cropped the work area of an
    open block, a re-alignment moved the block, or a recovery left the work area as small as it was.
    That repeated enlargements by 64 bytes (what the library readers do) add up is not proved. -/
theorem no_stall_model (v : Variant) (frames : List (List Byte)) (ms : List Msg) (hcar : Carries v frames ms)
    (store : List Byte) (off base : Nat) (hoff : off ≤ store.length) (ops : List DOp) (future : List Byte) :
    let s := ops.foldl rstep { q := { ring := { store := store, len := 0, off := off }, codec := some v, base := base } }
    s.fed ++ future = frames.flatten →
    s.got.length ≤ frameCount s.fed ∧
    (drainN (s.fed.length + 2) (frameCount s.fed - s.got.length) s).got = ms.take (frameCount s.fed) := by
  intro s hfut
  have hI : RInv v frames ms s := rrun_fresh v frames ms hcar store off base hoff ops future hfut
  -- the delivered messages belong to complete frames
  have hle : s.got.length ≤ frameCount s.fed := by
    have := phase_count hcar hI.le hI.phase
    omega
  refine ⟨hle, ?_⟩
  obtain ⟨a, _⟩ := drain_all v frames ms hcar (s.fed.length + 2) (frameCount s.fed - s.got.length) s future hfut hI
    (Nat.le_refl _) (by omega)
  rw [a]; congr 1; omega

-- non-vacuity: the zero pair frame `e1 07 02 09 00` arrives in three pieces in a ring of 5 bytes, which it
-- fills: a state `no_stall_model` speaks of (one complete frame accepted, nothing delivered yet)
example :
    let s := ([.feed [0xe1], .recv, .feed [7], .recv, .feed [2, 9, 0], .shift] : List DOp).foldl rstep
      { q := { ring := { store := List.replicate 5 0, len := 0, off := 3 }, codec := some .zpe, base := 3 } }
    s.fed = [0xe1, 7, 2, 9, 0] ∧ s.got = [] ∧ frameCount s.fed = 1 := by decide

/-- **What a sender history puts on the wire, any state of the sender** (message in progress, finished bytes
    not taken, finished blocks of the open message already taken): the bytes taken so far are a prefix of a
    valid frame stream that carries the terminated messages followed by the message in progress as it would be
    terminated now.  In particular the bytes taken beyond the complete frames are finished blocks of the
    reference encoding of the message in progress (no delimiter among them). -/
theorem sender_wire_prefix (v : Variant) (store : List Byte) (off : Nat) (hoff : off ≤ store.length) (ops : List EOp) :
    let s := erun { q := { ring := { store := store, len := 0, off := off }, codec := some (.cobs v) } } ops
    ∃ (frames : List (List Byte)) (last rest : List Byte),
      Carries v frames s.msgs ∧ IsFrame last ∧ dec v last = some s.cur ∧ rest ≠ [] ∧ rest.getLast? = some 0 ∧
      s.wire ++ rest = (frames ++ [last]).flatten := by
  obtain ⟨frames, vis, fin, ms, hinv, hcar, hsum, hcur⟩ := erun_hist v ops _ (fresh_hist v store off hoff)
  obtain ⟨tail, hf⟩ := hinv.frame_rest
  refine ⟨frames, encB v [] false ms ++ [0], vis ++ (tail ++ [0]), hcar,
    IsFrame.mk _ (encB_nz v ms [] false (Inv.nil v)), by rw [dec_body_frame v ms, hcur], by simp, by simp, ?_⟩
  rw [List.flatten_append, ← List.append_assoc, hsum, hf]
  simp

/-- **Sender queue to receiver queue, no condition on the sender** (model, end to end, safety, every point of
    every interleaving): whatever the sender has done so far — a message may be in progress, finished bytes may
    wait in its queue, blocks of the open message may be on the wire already — and whatever part of the wire
    has reached the receiver in whatever pieces with receives, shifts, growths and peeks in between: the
    messages delivered are a prefix of the messages the sender has terminated.  The message in progress is
    never delivered, complete or in part. -/
theorem queue_to_queue_any (v : Variant) (estore : List Byte) (eoff : Nat) (heoff : eoff ≤ estore.length) (eops : List EOp)
    (dstore : List Byte) (doff base : Nat) (hdoff : doff ≤ dstore.length) (dops : List DOp) (future : List Byte) :
    let s := erun { q := { ring := { store := estore, len := 0, off := eoff }, codec := some (.cobs v) } } eops
    let r := dops.foldl rstep { q := { ring := { store := dstore, len := 0, off := doff }, codec := some v, base := base } }
    r.fed ++ future = s.wire → ∃ k, r.got = s.msgs.take k ∧ k ≤ s.msgs.length := by
  intro s r hfed
  obtain ⟨frames, last, rest, hcar, hlf, hld, _, hrl, hsum⟩ := sender_wire_prefix v estore eoff heoff eops
  -- the same with the `let` of `sender_wire_prefix` read as `s`
  have hsum : s.wire ++ rest = (frames ++ [last]).flatten := hsum
  have hcar' : Carries v (frames ++ [last]) (s.msgs ++ [s.cur]) := Carries.snoc hcar ⟨hlf, hld⟩
  have hI : RInv v (frames ++ [last]) (s.msgs ++ [s.cur]) r :=
    rrun_fresh v _ _ hcar' dstore doff base hdoff dops (future ++ rest) (by rw [← List.append_assoc]; exact hfed ▸ hsum)
  -- the delimiter of the last frame has not been taken: fewer delimiters on the wire than frames
  have hcount := phase_count hcar' hI.le hI.phase
  have hrz : 0 < rest.count 0 := List.count_pos_iff.mpr (List.mem_of_getLast? hrl)
  have h1 := congrArg (List.count 0) hsum
  have h2 : (r.fed ++ future).count 0 = s.wire.count 0 := congrArg (List.count 0) hfed
  have hall := carries_count hcar'
  unfold frameCount at hcount hall
  rw [List.count_append, hall, List.length_append, List.length_singleton] at h1
  rw [List.count_append] at h2
  have hkm : r.got.length ≤ s.msgs.length := by omega
  exact ⟨_, hI.got.trans (List.take_append_of_le_length hkm), hkm⟩

-- non-vacuity: the sender has an open message and one block of it on the wire; the receiver has all of the wire
example :
    let s := erun { q := { ring := { store := List.replicate 8 0, len := 0, off := 5 }, codec := some (.cobs .cobs) } }
      [.push [7], .term, .push [1, 0, 2], .take 100]
    let r := ([.feed [2, 7, 0, 2], .recv, .feed [1], .recv, .recv] : List DOp).foldl rstep
      { q := { ring := { store := List.replicate 12 0, len := 0, off := 10 }, codec := some .cobs, base := 3 } }
    s.wire = [2, 7, 0, 2, 1] ∧ s.q.ring.len ≠ 0 ∧ r.fed = s.wire ∧ r.got = [[7]] ∧ s.msgs = [[7]] := by decide

/-- **Sender queue to receiver queue (model, end to end, safety)**: messages written through an encode queue
    by any sender history, its wire taken in any pieces and fed in arbitrary pieces to a decode queue with any
    receiver history: what the receiver has delivered is a prefix of what the sender has terminated.  (The
    special case of `queue_to_queue_any` with the sender at rest.) -/
theorem queue_to_queue (v : Variant) (estore : List Byte) (eoff : Nat) (heoff : eoff ≤ estore.length) (eops : List EOp)
    (dstore : List Byte) (doff base : Nat) (hdoff : doff ≤ dstore.length) (dops : List DOp) (future : List Byte) :
    let s := erun { q := { ring := { store := estore, len := 0, off := eoff }, codec := some (.cobs v) } } eops
    let r := dops.foldl rstep { q := { ring := { store := dstore, len := 0, off := doff }, codec := some v, base := base } }
    s.q.ring.len = 0 → r.fed ++ future = s.wire → ∃ k, r.got = s.msgs.take k ∧ k ≤ s.msgs.length :=
  fun _ => queue_to_queue_any v estore eoff heoff eops dstore doff base hdoff dops future

-- non-vacuity: two messages through a wrapped sender ring (capacity 8, offset 5) and a wrapped receiver ring
-- (capacity 12, offset 10, odd storage address), piecewise delivery with a shift in between, COBS/R
example :
    let s := erun { q := { ring := { store := List.replicate 8 0, len := 0, off := 5 }, codec := some (.cobs .cobsR) } }
      [.push [7, 0, 0, 9], .term, .take 2, .push [1, 2], .term, .take 100]
    let r := ([.feed [2], .recv, .feed [7], .recv, .feed [1, 9], .shift, .recv, .feed [0, 3], .recv, .feed [1, 2, 0], .recv] : List DOp).foldl rstep
      { q := { ring := { store := List.replicate 12 0, len := 0, off := 10 }, codec := some .cobsR, base := 3 } }
    s.wire = [2, 7, 1, 9, 0, 3, 1, 2, 0] ∧ r.fed = s.wire ∧ r.got = [[7, 0, 0, 9], [1, 2]] ∧ s.msgs = r.got := by decide

/-- **`mpt_queue_recv` never waits for data that is there** (one call, any queue state inside a valid stream
    that satisfies the invariants of a receiver history — `DInv`, `Phase`, `SlackOk` hold in every reachable
    state, `RInv` of Lemmas/CodedQueueRun.lean): when the unread data contains the delimiter of the frame being
    received, the call returns 1 (message delivered) or `MissingBuffer` (the decoder asks for work area); it never
    returns 0 or `MissingData`.  With `pre.length + 2` bytes of free storage at this call (`pre` = the bytes in front
    of the delimiter) it returns 1; an earlier receive's `MissingBuffer` recovery may have turned free storage into
    work area, so storage that sufficed at the start of a history need not be free here.  This is the fact the
    correspondence run judges every `dq recv` by. -/
theorem recv_never_waits (v : Variant) (frames : List (List Byte)) (ms : List Msg) (hcar : Carries v frames ms)
    (q : DecodeQueue) (hc : q.codec = some v) (fed future : List Byte) (hfut : fed ++ future = frames.flatten) (k : Nat)
    (h : DInv q) (hs : SlackOk v q.st) (hph : Phase v frames q.st q.ring.content fed k)
    (pre junk : List Byte) (hun : q.ring.content.drop q.st.curr = pre ++ 0 :: junk) (hnz : ∀ x ∈ pre, x ≠ 0) :
    (∃ q' r, queueRecv q = .ok (q', r) ∧ (r = 1 ∨ r = Err.MissingBuffer.code)) ∧
    (pre.length + 2 ≤ q.ring.store.length - q.ring.len → ∃ q', queueRecv q = .ok (q', 1)) := by
  obtain ⟨q', r, he, _, S⟩ := queueRecv_spec v q hc h
  have ha := (S frames ms hcar fed future hfut k hph).answers hs pre junk hun hnz
  refine ⟨⟨q', r, he, ha.imp_right And.left⟩, fun hfree => ?_⟩
  rcases ha with rfl | ⟨_, hlt⟩
  · exact ⟨q', he⟩
  · omega

/-- **Growth only on request** (model): from every reachable receiver state with a complete frame pending, a
    reader that calls `mpt_queue_recv` and — only if that did not deliver — gives the queue `B ≥ fed + 2` bytes
    more and calls again, has the next message.  (The readers of the library and of the drivers enlarge by 64
    bytes per refusal and repeat; that the repeated small steps add up is not proved.) -/
theorem recv_or_grow_delivers (v : Variant) (frames : List (List Byte)) (ms : List Msg) (hcar : Carries v frames ms)
    (store : List Byte) (off base : Nat) (hoff : off ≤ store.length) (ops : List DOp) (future : List Byte) (B : Nat) :
    let s := ops.foldl rstep { q := { ring := { store := store, len := 0, off := off }, codec := some v, base := base } }
    s.fed ++ future = frames.flatten → s.fed.length + 2 ≤ B → s.got.length < frameCount s.fed →
    (rstep s .recv).got = ms.take (s.got.length + 1) ∨
    ((rstep s .recv).got = s.got ∧ (drainStep B (rstep s .recv)).got = ms.take (s.got.length + 1)) := by
  intro s hfut hB hc
  have hI : RInv v frames ms s := rrun_fresh v frames ms hcar store off base hoff ops future hfut
  have hsame := rstep_recv_fed s
  have hI1 := rstep_inv v frames ms hcar s .recv future (by rw [hsame]; exact hfut) hI
  have hlen1 : (rstep s .recv).got.length = s.got.length ∨ (rstep s .recv).got.length = s.got.length + 1 := by
    simp only [rstep]
    split
    · split
      · right; simp
      · left; rfl
    · left; rfl
  rcases hlen1 with hl | hl
  · right
    refine ⟨by rw [hI1.got, hl]; exact hI.got.symm, ?_⟩
    have := (drainStep_delivers v frames ms hcar (rstep s .recv) future (by rw [hsame]; exact hfut) hI1 B
      (by rw [hsame]; exact hB) (by rw [hsame, hl]; exact hc)).2.2.1
    rw [this, hl]
  · left
    rw [hI1.got, hl]

/-- **End to end, exactly the messages written** (model): the sender has terminated and handed out everything
    (empty queue), all of the wire has reached the receiver (any pieces, any receiver history): draining
    delivers exactly the messages that were written, in order. -/
theorem end_to_end_exact (v : Variant) (estore : List Byte) (eoff : Nat) (heoff : eoff ≤ estore.length) (eops : List EOp)
    (dstore : List Byte) (doff base : Nat) (hdoff : doff ≤ dstore.length) (dops : List DOp) :
    let s := erun { q := { ring := { store := estore, len := 0, off := eoff }, codec := some (.cobs v) } } eops
    let r := dops.foldl rstep { q := { ring := { store := dstore, len := 0, off := doff }, codec := some v, base := base } }
    s.q.ring.len = 0 → r.fed = s.wire →
    (drainN (r.fed.length + 2) (s.msgs.length - r.got.length) r).got = s.msgs := by
  intro s r h0 hfed
  obtain ⟨frames, hcar, hsum⟩ := erun_rest v estore eoff heoff eops h0
  have hfut : r.fed ++ [] = frames.flatten := by rw [List.append_nil, hfed]; exact hsum
  obtain ⟨_, hd⟩ := no_stall_model v frames _ hcar dstore doff base hdoff dops [] hfut
  have hfc : frameCount r.fed = s.msgs.length := by rw [hfed, hsum, carries_count hcar]
  rw [hfc] at hd
  rw [hd, List.take_length]

end Mpt.C02
