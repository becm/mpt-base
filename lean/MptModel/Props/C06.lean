/-
  C06 — type registry: unique, stable, correctly described types.

  M = Impl/Registry.lean (registry of mptcore/types/type_traits.c over the constants, built-in tables and range
  tests that translate/cextract.py regenerates into Generated/TypeIds.lean and Generated/TypeTables.lean on every
  run).  S = Spec/Registry.lean (id ranges of types.h, C types behind the built-in ids, LP64 sizes).
  `runOps ops` is the registry after the history `ops` of registration requests, starting from the initial state.
-/
import MptModel.Lemmas.RegistryId
import MptModel.Lemmas.ListFacts
namespace Mpt.C06
open Mpt Mpt.Generated Mpt.Registry Mpt.RegSpec

/-- are the ranges `(lo, hi)` of the list pairwise disjoint? -/
def disjointList : List (Nat × Nat) → Bool
  | [] => true
  | (lo, hi) :: rest => rest.all (fun (l, h) => decide (hi < l ∨ h < lo)) && disjointList rest

/-- The id ranges are disjoint: (1) the registration ranges of the four kinds (types.h) are pairwise disjoint and
    contain no built-in id; (2) the range tests `mpt_type_traits` performs (generated from the code, the null id
    aside: the `core` row is taken from 1, since it shares the id 0 with the `null` row, which the code tests first) are
    pairwise disjoint, and the generic range starts above all of them. -/
theorem ranges_disjoint :
    (∀ k1 k2 : Kind, k1 ≠ k2 → k1.hi < k2.lo ∨ k2.hi < k1.lo) ∧
    (∀ k : Kind, ∀ b ∈ builtins, ¬ (k.lo ≤ b.1 ∧ b.1 ≤ k.hi)) ∧
    disjointList ((TypeTab.dispatch.filter (·.1 ≠ "null")).map (fun x => (if x.1 = "core" then 1 else x.2.1, x.2.2))) = true ∧
    (∀ x ∈ TypeTab.dispatch, x.2.2 < TypeTab.dispatchGenericBase) := by
  refine ⟨?_, ?_, by decide, by decide⟩
  · intro k1 k2 h; cases k1 <;> cases k2 <;> first | exact absurd rfl h | decide
  · intro k; cases k <;> decide

/-- Every id handed out lies in the range reserved for its kind (after any history). -/
theorem id_in_range (ops : List Op) (op : Op) (id : Nat) (h : (op.run (runOps ops)).2 = some id) :
    op.kind.lo ≤ id ∧ id ≤ op.kind.hi :=
  let ⟨_, _, hrange⟩ := issued_id (inv_runOps ops) h
  hrange

/-- the first metatype registered ("abcd"), after an interface and a basic type: the id behind the built-in metatype -/
example : (Op.run (runOps [.iface none, .basic 3]) (.mtype (some [97, 98, 99, 100]))).2 = some 257 := by decide +kernel

/-- Ids are unique for the life of the process: two accepted registrations of one history never return the
    same id (of whatever kinds). -/
theorem unique_ids (a b : List Op) (op1 op2 : Op) (id1 id2 : Nat)
    (h1 : (op1.run (runOps a)).2 = some id1)
    (h2 : (op2.run (runOps (a ++ op1 :: b))).2 = some id2) : id1 ≠ id2 := by
  have r1 := id_in_range a op1 id1 h1
  have r2 := id_in_range (a ++ op1 :: b) op2 id2 h2
  by_cases hk : op1.kind = op2.kind
  · -- same table: it has grown in between
    obtain ⟨hb1, hgrow, _⟩ := issued_id (inv_runOps a) h1
    obtain ⟨hb2, _⟩ := issued_id (inv_runOps (a ++ op1 :: b)) h2
    have := tableLen_mono (runOps_ext_step a b op1) op1.kind
    rw [hk] at hb1 hgrow this
    omega
  · have hd := ranges_disjoint.1 op1.kind op2.kind hk
    omega

/-- Stability: whatever an id resolves to — description, interface entry, metatype entry (with its name) — it
    resolves to the same thing after any further history. -/
theorem stable (a b : List Op) (id : Nat) :
    (∀ t, traits (runOps a) id = some t → traits (runOps (a ++ b)) id = some t) ∧
    (∀ e, interfaceTraits (runOps a) id = some e → interfaceTraits (runOps (a ++ b)) id = some e) ∧
    (∀ e, metatypeTraits (runOps a) id = some e → metatypeTraits (runOps (a ++ b)) id = some e) :=
  ⟨fun _ h => traits_ext (runOps_ext a b) h, fun _ h => interfaceTraits_ext (runOps_ext a b) h,
   fun _ h => metatypeTraits_ext (runOps_ext a b) h⟩

/-- Lookup by name is sound and complete in every reachable state.  Whole string (`len < 0`): the result is an entry
    whose name is the text after short-name expansion.  Length-limited: the result is an entry whose name is *exactly*
    the first `len` characters of the text — so a registered name is found in every text it starts (with its own
    length), never with a shorter or longer limit, and a name that is a proper prefix of another registered name does
    not shadow it.  If no entry carries the key, nothing is found. -/
theorem lookup_by_name (ops : List Op) :
    (∀ e ∈ allNamed (runOps ops), ∀ n, e.name = some n →
      namedTraits (runOps ops) n (-1) = some e ∧ ∀ suffix, namedTraits (runOps ops) (n ++ suffix) n.length = some e) ∧
    (∀ text e, namedTraits (runOps ops) text (-1) = some e →
      e ∈ allNamed (runOps ops) ∧ e.name = some (resolveShort text)) ∧
    (∀ text (len : Nat) e, namedTraits (runOps ops) text len = some e →
      len ≠ 0 ∧ len ≤ text.length ∧ e ∈ allNamed (runOps ops) ∧ e.name = some (text.take len)) ∧
    (∀ text (len : Nat) e n, namedTraits (runOps ops) text len = some e → e.name = some n → n.length = len) ∧
    (∀ text, (∀ e ∈ allNamed (runOps ops), e.name ≠ some (resolveShort text)) → namedTraits (runOps ops) text (-1) = none) ∧
    (∀ text (len : Nat), (∀ e ∈ allNamed (runOps ops), e.name ≠ some (text.take len)) →
      namedTraits (runOps ops) text len = none) := by
  have hinv := inv_runOps ops
  exact ⟨fun e he n hn => ⟨named_whole hinv he hn, named_prefix hinv he hn⟩,
    fun _ _ h => named_whole_sound h, fun _ _ _ h => named_len_sound h,
    fun _ _ _ _ h hn => named_len_exact h hn, fun _ => named_whole_none, fun _ _ => named_len_none⟩

/-- "abcd" and "abcde" registered: the text "abcde" with limit 4 finds "abcd", with limit 5 "abcde", with limit 3
    nothing -/
example :
    let r := runOps [.mtype (some [97, 98, 99, 100, 101]), .mtype (some [97, 98, 99, 100])]
    (namedTraits r [97, 98, 99, 100, 101] 4).map (·.id) = some 258 ∧
    (namedTraits r [97, 98, 99, 100, 101] 5).map (·.id) = some 257 ∧
    namedTraits r [97, 98, 99, 100, 101] 3 = none := by decide +kernel

/-- Name <-> id: in every reachable state a named entry (built-in or registered, interface or metatype) is what
    its name resolves to — by whole-string lookup and by length-limited lookup with its exact length — and what
    its id resolves to; and this stays so after any further history. -/
theorem unique_stable (a b : List Op) (e : Named) (n : Name) (he : e ∈ allNamed (runOps a)) (hn : e.name = some n) :
    namedTraits (runOps (a ++ b)) n (-1) = some e ∧
    namedTraits (runOps (a ++ b)) n n.length = some e ∧
    (e ∈ (runOps a).metas → metatypeTraits (runOps (a ++ b)) e.id = some e) ∧
    (some e ∈ (runOps a).ifaces → interfaceTraits (runOps (a ++ b)) e.id = some e) := by
  have hinv := inv_runOps (a ++ b)
  have hext := runOps_ext a b
  obtain ⟨hwhole, hprefix⟩ := (lookup_by_name (a ++ b)).1 e (allNamed_mono hext e he) n hn
  exact ⟨hwhole, by simpa using hprefix [],
    fun hm => (metatypeTraits_eq_some hinv).2 ⟨hext.metas.subset hm, rfl⟩,
    fun hi => (interfaceTraits_eq_some hinv).2 ⟨hext.ifaces.subset hi, rfl⟩⟩

/-- "abcd" registered: the first 4 characters of the text "abcd:x" find it -/
example : namedTraits (runOps [.mtype (some [97, 98, 99, 100])]) [97, 98, 99, 100, 58, 120] 4 =
    some { name := some [97, 98, 99, 100], id := 257, traits := .known { size := 8, init := false, fini := false } } := by decide +kernel

/-- An id that was handed out resolves, from then on, to exactly what was registered: `mpt_type_traits` gives the
    requested description (`Op.desc`: the basic size — a pointer for size 0 —, the generic traits record, a pointer for
    interfaces and metatypes); `mpt_interface_traits` / `mpt_metatype_traits` give the entry with the requested name and
    this id; and a name that was given is found by whole-string lookup and by length-limited lookup in any text that
    starts with it.  `b` is any later history. -/
theorem issued_resolves (a b : List Op) (op : Op) (id : Nat) (h : (op.run (runOps a)).2 = some id) :
    traits (runOps (a ++ op :: b)) id = some (.known op.desc) ∧
    (∀ n, op = .iface n →
      interfaceTraits (runOps (a ++ op :: b)) id = some { name := n, id := id, traits := .known ptrDesc }) ∧
    (∀ n, op = .mtype n →
      metatypeTraits (runOps (a ++ op :: b)) id = some { name := n, id := id, traits := .known ptrDesc }) ∧
    (∀ n, op.name = some n →
      namedTraits (runOps (a ++ op :: b)) n (-1) = some { name := some n, id := id, traits := .known ptrDesc } ∧
      ∀ suffix, namedTraits (runOps (a ++ op :: b)) (n ++ suffix) n.length =
        some { name := some n, id := id, traits := .known ptrDesc }) := by
  have hext := runOps_ext_step a b op
  have hinv := inv_runOps (a ++ op :: b)
  obtain ⟨ht, hi, hm⟩ := issued_step (inv_runOps a) h
  refine ⟨traits_ext hext ht, fun n hn => interfaceTraits_ext hext (hi n hn).1,
    fun n hn => metatypeTraits_ext hext (hm n hn).1, ?_⟩
  intro n hn
  have hmem : ({ name := some n, id := id, traits := .known ptrDesc } : Named) ∈ allNamed (runOps (a ++ op :: b)) := by
    rw [mem_allNamed]
    cases op with
    | basic size => simp [Op.name] at hn
    | generic d => simp [Op.name] at hn
    | iface nm => simp only [Op.name] at hn; subst hn; exact Or.inr (hext.ifaces.subset (hi _ rfl).2)
    | mtype nm => simp only [Op.name] at hn; subst hn; exact Or.inl (hext.metas.subset (hm _ rfl).2)
  exact ⟨named_whole hinv hmem rfl, fun suffix => named_prefix hinv hmem rfl suffix⟩

/-- the first generic type gets the first id of the generic range whatever else was registered; "abcd" as before -/
example : (Op.run (runOps [.basic 0]) (.generic { size := 7, init := true, fini := false })).2 = some 2304 ∧
    (Op.run (runOps []) (.mtype (some [97, 98, 99, 100]))).2 = some 257 := by decide +kernel

/-- `mpt_alias_typeid(desc, &end)` in every reachable state.  (1) A registered name without `:` resolves to its id,
    `end` at the end of the text.  (2) `name ws* : ws* symbol` (the name has no `:` and does not end in white space)
    resolves to the id of that name, `end` at the symbol.  (3) Whatever is accepted is the id of the entry named by the
    name part: the whole text after short-name expansion, or the text in front of the first `:` without its trailing
    white space (never empty). -/
theorem alias_lookup (ops : List Op) :
    (∀ e ∈ allNamed (runOps ops), ∀ n, e.name = some n → 58 ∉ n → aliasTypeid (runOps ops) n = .ok (e.id, n.length)) ∧
    (∀ e ∈ allNamed (runOps ops), ∀ n, e.name = some n → 58 ∉ n → (∀ c, n.getLast? = some c → isSpaceC c = false) →
      ∀ ws ws2 sym : Name, (∀ c ∈ ws, isSpaceC c = true) → (∀ c ∈ ws2, isSpaceC c = true) →
        (∀ c, sym.head? = some c → isSpaceC c = false) →
        aliasTypeid (runOps ops) (n ++ ws ++ 58 :: (ws2 ++ sym)) = .ok (e.id, n.length + ws.length + 1 + ws2.length)) ∧
    (∀ desc id off, aliasTypeid (runOps ops) desc = .ok (id, off) →
      ∃ e ∈ allNamed (runOps ops), e.id = id ∧
        ((58 ∉ desc ∧ e.name = some (resolveShort desc)) ∨
         (∃ k, desc.findIdx? (· = 58) = some k ∧ aliasKey desc k ≠ [] ∧
            e.name = some (desc.take (aliasKey desc k).length)))) := by
  have hinv := inv_runOps ops
  refine ⟨?_, ?_, fun _ _ _ h => alias_sound h⟩
  · intro e he n hn hc
    rw [alias_plain _ _ hc, named_whole hinv he hn]
  · intro e he n hn hc hl ws ws2 sym h1 h2 h3
    exact alias_described hinv he hn ws ws2 sym hc hl h1 h2 h3

/-- The documented short forms (`log`, `iter`, `out`, `meta`; Spec `shortNames`) given as a description without `:`
    resolve, in every reachable state, to the id of the built-in type they stand for — the alias lookup agrees with
    the whole-string lookup of the registry. -/
theorem alias_short_forms (ops : List Op) :
    ∀ sf ∈ shortNames, ∃ e ∈ allNamed init, e.name = some sf.2 ∧
      namedTraits (runOps ops) sf.1 (-1) = some e ∧ aliasTypeid (runOps ops) sf.1 = .ok (e.id, sf.1.length) := by
  have hinv := inv_runOps ops
  intro sf hsf
  obtain ⟨hres, hne, hcolon, e, he, hn⟩ := shortNames_builtin sf hsf
  have he' := allNamed_mono hinv.ext e he
  have hnt := named_resolved hinv he' hn hne hres
  exact ⟨e, he, hn, hnt, by rw [alias_plain _ _ hcolon, hnt]⟩

/-- "my.type" registered: `my.type : lib.so` gives its id and the offset of `lib.so`; `my.typ:x` and `:x` are refused -/
example :
    let r := runOps [.mtype (some [109, 121, 46, 116, 121, 112, 101])]
    aliasTypeid r [109, 121, 46, 116, 121, 112, 101, 32, 58, 32, 108, 105, 98] = .ok (257, 10) ∧
    aliasTypeid r [109, 121, 46, 116, 121, 112, 58, 120] = .err .BadValue ∧
    aliasTypeid r [58, 120] = .err .BadValue ∧
    aliasTypeid r [108, 111, 103] = .ok (129, 3) := by decide +kernel

/-- `mpt_type_int` / `mpt_type_uint`: the integer type code of a byte size (b n i x / y q u t), 0 for every other
    size (the first two clauses tabulate the sizes below 64, any bound above 8 would do: the third covers the rest) -/
theorem type_int_sizes :
    (∀ k ∈ List.range 64, typeInt k = (match k with | 1 => 98 | 2 => 110 | 4 => 105 | 8 => 120 | _ => 0)) ∧
    (∀ k ∈ List.range 64, typeUint k = (match k with | 1 => 121 | 2 => 113 | 4 => 117 | 8 => 116 | _ => 0)) ∧
    (∀ k, 8 < k → typeInt k = 0 ∧ typeUint k = 0) := by
  refine ⟨by decide +kernel, by decide +kernel, fun k hk => ?_⟩
  unfold typeInt typeUint
  rw [find?_key_none (m := 8) (by decide) hk, find?_key_none (m := 8) (by decide) hk]
  exact ⟨rfl, rfl⟩

/-- Refusals leave the registry unchanged: too short a name; a name that is already registered (in either table,
    built-ins included); an exhausted range. -/
theorem refusals (ops : List Op) :
    let r := runOps ops
    (∀ n : Name, n.length < 4 → ifaceAdd r (some n) = (r, none) ∧ metaAdd r (some n) = (r, none)) ∧
    (∀ e ∈ allNamed r, ∀ n, e.name = some n → ifaceAdd r (some n) = (r, none) ∧ metaAdd r (some n) = (r, none)) ∧
    (∀ name, r.ifaces.length ≥ 64 → ifaceAdd r name = (r, none)) ∧
    (∀ name, r.metas.length ≥ 1792 → metaAdd r name = (r, none)) ∧
    (∀ size, r.dyn.length ≥ 64 → basicAdd r size = (r, .err .MissingBuffer)) ∧
    (∀ d, r.generics.length ≥ 1792 → ∃ e, genericAdd r d = (r, .err e)) := by
  intro r
  have hinv : Inv r := inv_runOps ops
  have hadd : ∀ name, nameRefused TypeTab.minNameLenIface TypeTab.dupLookupIface (ownIface r) r name = true →
      nameRefused TypeTab.minNameLenMeta TypeTab.dupLookupMeta (ownMeta r) r name = true →
      ifaceAdd r name = (r, none) ∧ metaAdd r name = (r, none) := by
    intro name h1 h2
    simp only [ifaceAdd, metaAdd, h1, h2, if_true]
    -- what is left of `ifaceAdd` is its capacity test, with `(r, none)` in both branches
    split <;> simp
  refine ⟨?_, ?_, ?_, ?_, ?_, ?_⟩
  · intro n hn
    exact hadd _ (nameRefused_short _ _ _ hn) (nameRefused_short _ _ _ hn)
  · intro e he n hn
    have hfound : (namedTraits r n (-1)).isSome = true := by rw [named_whole hinv he hn]; rfl
    exact hadd _ (tests_in_place.dupIface ▸ nameRefused_dup _ hfound) (tests_in_place.dupMeta ▸ nameRefused_dup _ hfound)
  · intro name h
    have : r.ifaces.length ≥ TypeTab.interfaceCap := h
    simp [ifaceAdd, this]
  · intro name h
    have : rangeRefused TypeTab.metaBase TypeTab.metaChunk r.metas.length TypeTab.metaLoopMax TypeTab.metaFinalMax = true := by
      rw [tests_in_place.metaFinal]; apply rangeRefused_over
      simp only [TypeTab.metaBase, TypeTab.metaMax]; omega
    simp only [metaAdd, this, if_true]
    split <;> simp
  · intro size h
    have : ¬ r.dyn.length < TypeTab.dynamicCap := by simp only [TypeTab.dynamicCap]; omega
    simp [basicAdd, this]
  · intro d h
    have : rangeRefused TypeTab.genericBase TypeTab.genericChunk r.generics.length TypeTab.genericLoopMax TypeTab.genericFinalMax = true := by
      rw [tests_in_place.genericFinal]; apply rangeRefused_over
      simp only [TypeTab.genericBase, TypeTab.genericMax]; omega
    simp only [genericAdd, this, if_true]
    split
    · exact ⟨_, rfl⟩
    · exact ⟨_, rfl⟩

/-- the exhausted states of `refusals` are reachable: 48 interface registrations fill the 64 slots and the 49th is
    refused; 64 basic registrations fill the dynamic range (the metatype and generic ranges are filled by the `cap:`
    scripts of the differential run) -/
example : (runOps (List.replicate 48 (.iface none))).ifaces.length = 64 ∧
    (Op.run (runOps (List.replicate 48 (.iface none))) (.iface none)).2 = none ∧
    (runOps (List.replicate 64 (.basic 3))).dyn.length = 64 := by decide +kernel

/-- the capacities in `refusals` are exactly those of the id ranges: after the built-in entries
    (16 interface slots, 1 metatype) the tables hold 48 / 1791 / 64 / 1792 registrations -/
example : Kind.capacity .iface = 64 - 16 ∧ Kind.capacity .mtype = 1792 - 1 ∧ Kind.capacity .basic = 64 ∧ Kind.capacity .generic = 1792 := by
  decide

/-- The fresh registry, every id: `mpt_type_traits` describes exactly the built-in ids, each the way S does (size of its
    C type — the number clang computed, `Generated.TypeTab.sizeofC`, against the LP64 table of S — and init/fini only for the
    managed types), and no other id resolves.  With `stable`, `issued_resolves` and `id_in_range` this determines
    `mpt_type_traits` on every id that is built in or was handed out. -/
theorem fresh_registry (id : Nat) : traits init id = (builtinDesc id).map .known := by
  by_cases h : id ∈ builtins.map (·.1)
  · exact (by decide +kernel : ∀ i ∈ builtins.map (·.1), traits init i = (builtinDesc i).map .known) id h
  · rw [traits_init_none h, builtinDesc_none h]; rfl

/-- Every built-in type — the system, pointer and value types of `core_sizes` (buffer pointer included), every
    scalar of `scalar_sizes`, its vector and the generic vector, the built-in interfaces, the metatype pointer and
    the static managed types — reports, in every reachable state, exactly the description S gives: the LP64 size of
    the C type it stands for; init/fini only for the managed types. -/
theorem builtin_sizes (ops : List Op) (id : Nat) (d : Desc) (hd : builtinDesc id = some d) :
    traits (runOps ops) id = some (.known d) :=
  traits_ext (inv_runOps ops).ext (by rw [fresh_registry, hd]; rfl)

/-- the buffer pointer and the generic vector in S's table -/
example : builtinDesc TypeId.TypeBufferPtr = some { size := 8, init := false, fini := false } ∧
    builtinDesc TypeId.TypeVector = some { size := 16, init := false, fini := false } := by decide +kernel

/-- the generated built-in tables are covered: none of their ids is one of the two excluded ones -/
example : ∀ x ∈ TypeTab.coreSizes ++ TypeTab.scalarSizes, (builtinDesc x.1).isSome := by
  decide +kernel

/-- Wire format codes of the scalar types (message/msgvalfmt.c): every numeric scalar type (`b n i x y q u t f d e`) has a code; the code
    is the one message.h describes (size - 1, kind bits, native byte order); it is mapped back to the same type id
    and encodes the size of the C type; and no other format byte is mapped to a type. -/
theorem msgfmt_consistent :
    (∀ t ∈ [98, 110, 105, 120, 121, 113, 117, 116, 102, 100, 101], msgCode t = specMsgCode t ∧ (msgCode t).isSome = true) ∧
    (∀ x ∈ TypeTab.msgCodes, msgTypeid x.2 = .ok x.1 ∧
        some (msgSize x.2) = ((scalarCTypes.find? (·.1 = x.1)).bind fun y => abiSize y.2)) ∧
    (∀ fmt ∈ List.range 256, (match msgTypeid fmt with | .ok t => some t | _ => none) = specMsgType fmt) := by
  have h1 : ∀ t ∈ [98, 110, 105, 120, 121, 113, 117, 116, 102, 100, 101], msgCode t = specMsgCode t ∧ (msgCode t).isSome = true := by
    decide +kernel
  refine ⟨h1, by decide +kernel, fun fmt hf => ?_⟩
  -- S searches the types for one whose code is `fmt`; on them S and M agree on the code, and M's codes are a table:
  -- the bytes of the table are swept against the search, for all other bytes nothing may be found
  unfold specMsgType
  rw [find?_congr_mem (q := fun t => msgCode t = some fmt) fun t ht => by rw [(h1 t ht).1]]
  by_cases hc : fmt ∈ TypeTab.msgCodes.map (·.2)
  · exact (by decide +kernel : ∀ c ∈ TypeTab.msgCodes.map (·.2), (match msgTypeid c with | .ok t => some t | _ => none) =
      [98, 110, 105, 120, 121, 113, 117, 116, 102, 100, 101].find? fun t => msgCode t = some c) fmt hc
  · rw [(by decide +kernel : ∀ b ∈ List.range 256, b ∉ TypeTab.msgCodes.map (·.2) →
      (match msgTypeid b with | .ok t => some t | _ => none) = none) fmt hf hc]
    exact (List.find?_eq_none.2 fun t _ ht => hc (msgCode_mem (of_decide_eq_true ht))).symm

end Mpt.C06
