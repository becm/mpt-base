/-
  C01 — message framing round trip for every codec: the property theorems with their test vectors and the two
  definitions their statements need (`specFraming`, `variantNameCodes`).  Proved here on the unfolded model, for
  want of other users: message deletion (`delete_restores`, `delete_frame` on `encodeCobsDel`), the C++ wrapper
  (`wrapper_shift`), `null_window_refuses`, `cmd_encoder_refuses`.  Lemmas:
  Lemmas/Cobs.lean (reference framings); Lemmas/Encode.lean → EncodeLoop → EncodeWin (one encoder call against the
  reference); Lemmas/EncodeSched.lean → ArrayPush (the caller loops against the encoder contract) with the instances
  Lemmas/EncodeCobs.lean and Lemmas/EncodeCommand.lean; from the decoder side Lemmas/DecodeCommand.lean and
  Lemmas/DecodeDeliver.lean for `cmd_decoder_refines` and `model_roundtrip`.
-/
import MptModel.Lemmas.EncodeCobs
import MptModel.Lemmas.EncodeCommand
import MptModel.Impl.CodecTable
import MptModel.Lemmas.DecodeCommand
import MptModel.Lemmas.DecodeDeliver
namespace Mpt.C01
open Mpt.Cobs Mpt.Codec

/-- decode ∘ encode = id for COBS, COBS/R, COBS/ZPE, COBS/ZPE+R and every message -/
theorem roundtrip (v : Variant) (m : List Byte) : dec v (enc v m) = some m :=
  enc_roundtrip v m

example : dec .zpeR (enc .zpeR [7, 0, 0, 0, 9]) = some [7, 0, 0, 0, 9] := by decide +kernel

/-- the same when the message is handed over in pieces (zero pair elimination cannot look past the
    end of a piece, so the frame may differ from `enc v m` — it still decodes to the message) -/
theorem roundtrip_chunks (v : Variant) (chunks : List (List Byte)) :
    dec v (encChunks v chunks) = some chunks.flatten :=
  encChunks_roundtrip v chunks

example : encChunks .zpe [[7, 0], [0, 9]] ≠ enc .zpe [7, 0, 0, 9]
    ∧ dec .zpe (encChunks .zpe [[7, 0], [0, 9]]) = some [7, 0, 0, 9] := by decide +kernel

/-- a finished frame contains no zero byte except its single terminating delimiter -/
theorem frame_zero_free (v : Variant) (chunks : List (List Byte)) :
    (∀ b ∈ (encChunks v chunks).dropLast, b ≠ 0) ∧ (encChunks v chunks).getLast? = some 0 :=
  frame_nz v (mark chunks)

/-- the same for a message handed over in one piece -/
theorem frame_zero_free_enc (v : Variant) (m : List Byte) :
    (∀ b ∈ (enc v m).dropLast, b ≠ 0) ∧ (enc v m).getLast? = some 0 :=
  frame_nz v (m.map fun b => (b, false))

example : enc .cobs [0, 0] = [1, 1, 1, 0] := by decide +kernel

/-- command text: messages without a zero byte round-trip (the decoder prepends its 2-byte header) -/
theorem cmd_roundtrip (m : List Byte) (h : (0 : Byte) ∉ m) :
    ∃ f, encStr m = some f ∧ decCmd f = some (cmdHeader ++ m) := by
  refine ⟨m ++ [0], by simp [encStr, h], ?_⟩
  simp [decCmd, h]

/-- command text admits exactly the messages without a zero byte -/
theorem cmd_refuses (m : List Byte) (h : (0 : Byte) ∈ m) : encStr m = none := by
  simp [encStr, h]

example : encStr [0x68, 0x69] = some [0x68, 0x69, 0] ∧ encStr [0x68, 0, 0x69] = none := by decide +kernel

/-- the Python client encoder (`encode_cobs` of mpt.py as it stands in /repo) produces the reference COBS frame … -/
theorem py_refines (m : List Byte) : pyEnc m = enc .cobs m := by
  rw [pyEnc_eq]
  exact congrArg (· ++ [0]) (py_fold m [] 1 [] (by simp) (fun _ => rfl))

/-- … hence its frames decode to the message -/
theorem py_roundtrip (m : List Byte) : dec .cobs (pyEnc m) = some m := by
  rw [py_refines]; exact roundtrip .cobs m

example : pyEnc [1, 0, 2] = [2, 1, 2, 2, 0] := by decide +kernel

/-- the Python client's `encode_command` (mpt.py as it stands in /repo): `pyCmd` is a transcription of its two
    statements and coincides with the reference `encStr` by definition — this theorem records that and nothing
    more; what ties mpt.py itself to the reference is the `pycmd` op of the run (python3 executes encode_command,
    the C decoder decodes its output) -/
theorem py_cmd_refines (m : List Byte) : pyCmd m = encStr m := rfl

example : pyCmd [0x68, 0, 0x69] = none ∧ pyCmd [0x68, 0x69] = some [0x68, 0x69, 0] := by decide +kernel

/-- The model encoder refines the reference encoder, all four framings: whatever the pieces in which the
    message is pushed and however the window is granted (`caps` = arbitrary growth schedule; calls that take
    only part of their input or ask for space are retried), a finished frame decodes to the message, ends
    in its only zero byte, and is the reference encoding of the message for *some* marking of its bytes (the
    lemma behind it, `Contract.sched_sound` for `cobsContract`, builds the marking that cuts where the encoder
    calls ended; the statement here does not determine it — the implementation-independent content is the first
    conjunct). -/
theorem encoder_refines (v : Variant) (fill : Byte) (fuel : Nat) (win : List Byte) (chunks : List (List Byte))
    (caps : List Nat) (o : EncOut) (h : encodeSched (.cobs v) fill fuel {} win chunks caps = .ok o) :
    dec v (o.win.take o.st.done) = some chunks.flatten ∧
    (∀ b ∈ (o.win.take o.st.done).dropLast, b ≠ 0) ∧ (o.win.take o.st.done).getLast? = some 0 ∧
    ∃ ms, ms.map Prod.fst = chunks.flatten ∧ o.win.take o.st.done = encB v [] false ms ++ [0] := by
  obtain ⟨ms, e1, e4⟩ := cobs_sched_frame v fill fuel {} win [] chunks caps o rfl rfl (by simp) h
  rw [List.nil_append] at e4
  rw [e4]
  exact ⟨by rw [dec_body_frame v ms, e1], (frame_nz v ms).1, (frame_nz v ms).2, ms, e1, rfl⟩

example : (encodeSched (.cobs .zpe) 0xEE 20 {} [] [[7, 0], [0, 9]] [2, 2, 2, 2]).toOption.map
    (fun o => o.win.take o.st.done) = some (encChunks .zpe [[7, 0], [0, 9]]) := by decide +kernel

/-- COBS and COBS/R: for every split of the message into push calls and every capacity growth schedule
    (including calls that consume only part of their input or ask for space) the model encoder's finished
    data is exactly the reference frame `enc v m` (for the ZPE framings the frame depends on where the calls
    end, see `encoder_refines`). -/
theorem encoder_refines_exact (v : Variant) (hz : v.isZpe = false) (fill : Byte) (fuel : Nat) (win : List Byte)
    (chunks : List (List Byte)) (caps : List Nat) (o : EncOut)
    (h : encodeSched (.cobs v) fill fuel {} win chunks caps = .ok o) :
    o.win.take o.st.done = enc v chunks.flatten ∧ dec v (o.win.take o.st.done) = some chunks.flatten := by
  obtain ⟨hd, _, _, ms, e1, e4⟩ := encoder_refines v fill fuel win chunks caps o h
  exact ⟨by rw [e4, enc_of_marks v hz, e1], hd⟩

example : (encodeSched (.cobs .cobsR) 0xEE 20 {} [] [[1, 2], [0, 9]] [1, 1, 2, 1, 1, 1, 1, 1]).toOption.map
    (fun o => o.win.take o.st.done) = some (enc .cobsR [1, 2, 0, 9]) := by decide +kernel

/-- frames are appended: finished data in front of the message (`pre`) is kept, whatever happens during
    the encoding of the next message -/
theorem encoder_appends (v : Variant) (hz : v.isZpe = false) (fill : Byte) (fuel : Nat) (st : EncState)
    (win pre : List Byte) (chunks : List (List Byte)) (caps : List Nat) (o : EncOut)
    (hs : st.scratch = 0) (hd : st.done = pre.length) (hw : win.take st.done = pre) (hl : st.done ≤ win.length)
    (h : encodeSched (.cobs v) fill fuel st win chunks caps = .ok o) :
    o.win.take o.st.done = pre ++ enc v chunks.flatten := by
  obtain ⟨ms, e1, e4⟩ := cobs_sched_frame v fill fuel st win pre chunks caps o hs hd hw h
  rw [e4, enc_of_marks v hz, e1]

/-- with enough room (two bytes per message byte, one per piece, two for the end) the encoder takes
    every piece completely and the termination succeeds: no retry, no growth -/
theorem encoder_total (v : Variant) (hz : v.isZpe = false) (fill : Byte) (win : List Byte) (chunks : List (List Byte))
    (hne : ∀ c ∈ chunks, c ≠ []) (hsp : 2 * chunks.flatten.length + chunks.length + 2 ≤ win.length) :
    ∃ o, encodeSched (.cobs v) fill (chunks.length + 1) {} win chunks [] = .ok o ∧
      o.win.take o.st.done = enc v chunks.flatten := by
  obtain ⟨o, ho⟩ := cobs_sched_total v fill _ win chunks [] hne (Nat.le_refl _) (by simp only [List.sum_nil]; omega)
  exact ⟨o, ho, (encoder_refines_exact v hz fill _ win chunks [] o ho).1⟩

/-- the same for all four framings (the frame then decodes to the message) -/
theorem encoder_total_all (v : Variant) (fill : Byte) (win : List Byte) (chunks : List (List Byte))
    (hne : ∀ c ∈ chunks, c ≠ []) (hsp : 2 * chunks.flatten.length + chunks.length + 2 ≤ win.length) :
    ∃ o, encodeSched (.cobs v) fill (chunks.length + 1) {} win chunks [] = .ok o ∧
      dec v (o.win.take o.st.done) = some chunks.flatten := by
  obtain ⟨o, ho⟩ := cobs_sched_total v fill _ win chunks [] hne (Nat.le_refl _) (by simp only [List.sum_nil]; omega)
  exact ⟨o, ho, (encoder_refines v fill _ win chunks [] o ho).1⟩

/-- No schedule makes the encoder fault, all four framings: started behind finished data `pre`, whatever the
    pieces, the window and the growth schedule, the caller loop never stores outside the window (`.oob`) and
    never leaves the modelled states; the only refusals are MissingBuffer (space or calls ran out) and
    BadValue (an empty piece). -/
theorem encoder_no_fault (v : Variant) (fill : Byte) (fuel : Nat) (st : EncState) (win pre : List Byte)
    (chunks : List (List Byte)) (caps : List Nat)
    (hs : st.scratch = 0) (hd : st.done = pre.length) (hw : win.take st.done = pre) (hl : st.done ≤ win.length) :
    encodeSched (.cobs v) fill fuel st win chunks caps ≠ .oob ∧
    encodeSched (.cobs v) fill fuel st win chunks caps ≠ .unmodelled ∧
    ∀ e, encodeSched (.cobs v) fill fuel st win chunks caps = .err e → e = .MissingBuffer ∨ e = .BadValue :=
  ((cobsContract v pre).sched_sound fill fuel st win chunks caps [] (EncInvM.start v st win pre hs hd hw)).safe

/-- "However the output space is granted" with success, all four framings: for every growth schedule `caps`
    (portions of any size, zero and one byte included, granted only when the encoder took less than offered or
    asked for space) the loop finishes with a frame that decodes to the message, as soon as the space granted
    in total reaches two bytes per message byte plus three and one call per piece and per portion is allowed. -/
theorem encoder_total_caps (v : Variant) (fill : Byte) (fuel : Nat) (win : List Byte) (chunks : List (List Byte))
    (caps : List Nat) (hne : ∀ c ∈ chunks, c ≠ []) (hf : chunks.length + caps.length + 1 ≤ fuel)
    (hsp : 2 * chunks.flatten.length + 3 ≤ win.length + caps.sum) :
    ∃ o, encodeSched (.cobs v) fill fuel {} win chunks caps = .ok o ∧
      dec v (o.win.take o.st.done) = some chunks.flatten := by
  obtain ⟨o, ho⟩ := cobs_sched_total v fill fuel win chunks caps hne hf (by omega)
  exact ⟨o, ho, (encoder_refines v fill _ win chunks caps o ho).1⟩

example : (encodeSched (.cobs .zpeR) 0xEE 12 {} [] [[7, 0, 0, 9]] [1, 0, 1, 1, 1, 1, 1, 1, 1, 1, 1]).toOption.map
    (fun o => dec .zpeR (o.win.take o.st.done)) = some (some [7, 0, 0, 9]) := by decide +kernel

/-- `mpt_array_push` with data always returns (the retry loop needs at most `2·len + 1` encoder calls: a call
    that takes nothing — MissingBuffer or the zero return at a full block — is followed by a growth of 64
    bytes, after which data is taken; the bound `2·len + 8` that `arrayPush` hands to its loop is above that),
    takes the whole piece, and keeps the array well-formed. -/
theorem array_push_total (v : Variant) (fill : Byte) (a : EncArray) (pre : List Byte) (ms : List (Byte × Bool))
    (bytes : List Byte) (h : ArrInv v a pre ms) (hne : bytes ≠ []) :
    ∃ a' cons ms', arrayPush (.cobs v) fill a (some bytes) = .ok (a', (bytes.length : Int), cons) ∧
      ArrInv v a' pre ms' ∧ ms'.map Prod.fst = ms.map Prod.fst ++ bytes := by
  obtain ⟨a', cons, ms', e, ha, hm⟩ := (cobsContract v pre).arrayPush_data fill a ms bytes (arrInv_iff_arr.mp h) hne
  exact ⟨a', cons, ms', e, arrInv_iff_arr.mpr ha, hm⟩

/-- a message handed to `mpt_array_push` in any pieces and terminated, starting from the empty array or
    behind earlier frames `pre`: every call returns, the finished data is `pre` followed by a frame that
    decodes to the message -/
theorem array_push_refines (v : Variant) (fill : Byte) (a : EncArray) (pre : List Byte) (chunks : List (List Byte))
    (h : ArrInv v a pre []) (hne : ∀ c ∈ chunks, c ≠ []) :
    ∃ a' buf' frame, arrayMessage (.cobs v) fill a chunks = .ok a' ∧ a'.buf = some buf' ∧
      buf'.take a'.st.done = pre ++ frame ∧ dec v frame = some chunks.flatten ∧ ArrInv v a' (pre ++ frame) [] := by
  obtain ⟨o, ms', e, hm, h2, h4, h6⟩ := (cobsContract v pre).arrayMessage_spec fill chunks a [] (arrInv_iff_arr.mp h) hne
  refine ⟨_, o.win, encB v [] false ms' ++ [0], e, rfl, h6, ?_,
    Or.inr ⟨o.win, rfl, rfl, EncInvM.start v o.st o.win _ h2 h4 h6⟩⟩
  rw [dec_body_frame v ms', show ms'.map Prod.fst = chunks.flatten from hm]

set_option maxRecDepth 8000 in
example : (arrayMessage (.cobs .zpeR) 0xBE {} [[7, 0], [0, 9]]).toOption.map
    (fun a => (a.buf.getD []).take a.st.done) = some (encChunks .zpeR [[7, 0], [0, 9]]) := by decide +kernel

/-! ### the C++ wrapper `mpt::encode_array` -/

/-- `data()` hands out the finished frames `pre`, followed only by zero-free bytes (blocks of the message in
    progress that are already final): cut at the last delimiter it is exactly the finished frames, whatever
    block of the next message is open behind them -/
theorem wrapper_data (v : Variant) (a : EncArray) (pre : List Byte) (ms : List (Byte × Bool)) (h : ArrInv v a pre ms) :
    ∃ fin, xaData a = pre ++ fin ∧ ∀ x ∈ fin, x ≠ 0 := by
  rcases h with ⟨h1, h2, h3, h4, h5⟩ | ⟨buf, h1, h2, h3⟩
  · exact ⟨[], by simp [xaData, h1, h4], by simp⟩
  · obtain ⟨fin, e1, e2, e3⟩ := h3.fin_nz
    refine ⟨fin, ?_, e3⟩
    simp only [xaData, h1, h2]
    rw [show a.st.done + a.st.scratch - a.st.done - a.st.scratch = 0 by omega]
    simpa using e2

/-- `shift(n)` removes exactly the first `n` bytes from what `data()` hands out -/
theorem wrapper_shift (a a' : EncArray) (n : Nat) (hn : n ≠ 0) (hu : a.st.done + a.st.scratch ≤ a.used)
    (h : xaShift a n = some a') : xaData a' = (xaData a).drop n := by
  unfold xaShift at h
  rw [if_neg hn] at h
  split at h
  · simp at h
  · rename_i hle
    simp only [Option.some.injEq] at h
    subst h
    unfold xaData
    cases a.buf with
    | none => simp
    | some b =>
      simp only
      rw [show a.used - (a.st.done - n) - a.st.scratch = (a.used - a.st.done - a.st.scratch) + n by omega]
      rw [← List.drop_drop, List.drop_take]

example : xaData { st := { done := 4, scratch := 3, ctx := 3 }, buf := some [3, 0x61, 0x61, 0, 3, 0x62, 0x62, 0xBE], used := 7 }
    = [3, 0x61, 0x61, 0] := by decide +kernel

/-! ### message deletion and the uninitialized window -/

/-- Deleting the message in progress (`base->iov_base == NULL`, one message) restores the encoder state in
    front of it, whatever has been pushed of it in whatever pieces — including blocks of it that were already
    counted as finished data: `done` is back at the end of the finished frames `pre`, no block is open, the
    window is untouched and ready for the next message. -/
theorem delete_restores (v : Variant) (st : EncState) (win pre : List Byte) (ms : List (Byte × Bool))
    (h : EncInvM v st win pre ms) (hctx : st.ctx ≠ 0) (hpre : pre = [] ∨ pre.getLast? = some 0) :
    encodeCobsDel st win 1 = .ok ⟨{ ctx := 0, done := pre.length, scratch := 0 }, win, pre.length⟩ ∧
    EncInvM v { ctx := 0, done := pre.length, scratch := 0 } win pre [] := by
  obtain ⟨fin, h1, h2, h3⟩ := h.fin_nz
  have h4 := h.le
  have h5 := h.scratch_lt
  have hb : backToDelim win 0 st.done = pre.length := by
    rw [h1]; exact backToDelim_spec win pre hpre fin h3 (by rw [← h1]; exact h2)
  constructor
  · unfold encodeCobsDel
    have hsc : st.scratch % 256 = st.scratch := by omega
    simp only [hsc]
    rw [if_neg (by omega), if_neg (by omega)]
    simp only [Nat.one_ne_zero, if_false, hctx, ne_eq, not_false_eq_true, if_true, Nat.sub_self, dropFrames, hb]
  · exact EncInvM.start v _ win pre rfl rfl (take_of_take_append h2)

example : (encodeCobsDel { ctx := 4, done := 7, scratch := 2 } [3, 0x61, 0x61, 0, 3, 0x62, 0x62, 2, 0x63] 1).toOption.map
    (fun o => o.st.done) = some 4 := by decide +kernel

/-- deleting a finished frame (no message in progress) restores the state in front of that frame -/
theorem delete_frame (st : EncState) (win pre body : List Byte) (hs : st.scratch = 0) (hc : st.ctx = 0)
    (hd : st.done = (pre ++ body ++ [0]).length) (hw : win.take st.done = pre ++ body ++ [0])
    (hl : st.done ≤ win.length) (hnz : ∀ x ∈ body, x ≠ 0) (hpre : pre = [] ∨ pre.getLast? = some 0) :
    encodeCobsDel st win 1 = .ok ⟨{ ctx := 0, done := pre.length, scratch := 0 }, win, pre.length⟩ := by
  have hlen : st.done = pre.length + body.length + 1 := by rw [hd]; simp; omega
  have hw' : win.take (pre.length + body.length) = pre ++ body := by
    rw [← List.length_append]; exact take_of_take_append hw
  have hb := backToDelim_spec win pre hpre body hnz hw'
  unfold encodeCobsDel
  simp only [hs, hc, Nat.zero_mod]
  rw [if_neg (by omega), if_neg (by omega)]
  simp only [Nat.one_ne_zero, if_false, ne_eq, not_true_eq_false, dropFrames]
  rw [if_neg (by omega)]
  have : st.done - 1 = pre.length + body.length := by omega
  rw [this, hb]

example : (encodeCobsDel { done := 8 } [3, 0x61, 0x61, 0, 3, 0x62, 0x62, 0] 1).toOption.map (fun o => o.st.done) = some 4 := by decide +kernel

/-- with an uninitialized window (NULL base, length 0) every encoder refuses and stores nothing.  `encodeNull`
    has no successful branch, so this holds by construction of the model; that the C encoders behave like
    `encodeNull` (which refusal, no store through the NULL pointer) is established by the `enc nullwin` op of
    the run under ASan -/
theorem null_window_refuses (c : Codec) (st : EncState) (src : Option (List Byte)) (o : EncOut) :
    encodeNull c st src ≠ .ok o := by
  unfold encodeNull
  cases c with
  | cobs v => simp only; split <;> simp
  | command =>
    simp only
    split
    · simp
    · split
      · simp
      · cases src with
        | none => simp
        | some b => simp only; split <;> simp

/-! ### the coding number -> function pairing (encoder.c, decoder.c) and the name table (encoding.c) -/

/-- the framing a coding number stands for (convert.h) -/
def specFraming (code : Nat) : Option Codec :=
  if code = 1 then some .command else (Variant.ofCoding code).map .cobs

/-- For every coding number the encoder and the decoder the library hands out implement the same framing,
    namely the one the number stands for (the tables are regenerated from encoder.c / decoder.c on every
    run: a swapped or missing `case` breaks this theorem).  128: decoder.c masks the number with `& 0x7f`
    (`decoderMask`), encoder.c does not (`encoderMask = 0`), so beyond it the two lookups differ by construction. -/
theorem pairing_consistent : ∀ code, code < 128 →
    encoderOf code = specFraming code ∧ decoderOf code = specFraming code := by decide +kernel

/-- character codes of the name a framing has in the op lines and in the library's name table -/
def variantNameCodes : Variant → List Nat
  | .cobs => [99, 111, 98, 115]                                   -- "cobs"
  | .cobsR => [99, 111, 98, 115, 47, 114]                         -- "cobs/r"
  | .zpe => [99, 111, 98, 115, 47, 122, 112, 101]                 -- "cobs/zpe"
  | .zpeR => [99, 111, 98, 115, 47, 122, 112, 101, 43, 114]       -- "cobs/zpe+r"

/-- the name table: every framing is found under its name (without regard to letter case) and its coding
    number is reported under a name that stands for the same number; unknown names are refused (the literal
    lists: "command", "COBS/R", and the unknown name "cobs/x") -/
theorem names_consistent :
    (∀ v : Variant, encodingValue (variantNameCodes v) = v.coding ∧
      (encodingType v.coding).map encodingValue = some (v.coding : Int)) ∧
    encodingValue [99, 111, 109, 109, 97, 110, 100] = 1 ∧ (encodingType 1).map encodingValue = some 1 ∧
    encodingValue [67, 79, 66, 83, 47, 82] = 3 ∧ encodingValue [99, 111, 98, 115, 47, 120] = -2 := by
  refine ⟨?_, by decide, by decide, by decide, by decide⟩
  intro v
  cases v <;> exact ⟨by decide, by decide⟩

example : Variant.cobsR.name.toList.map Char.toNat = variantNameCodes .cobsR := by decide +kernel

/-! ### command text: `mpt_encode_string`, `mpt_decode_command` -/

/-- the model of `mpt_encode_string` produces the reference frame `m ++ [0]` (one push and the termination
    on a window with room) … -/
theorem cmd_encoder_refines (win m : List Byte) (hm : m ≠ []) (hz : (0 : Byte) ∉ m) (hw : m.length + 1 ≤ win.length) :
    ∃ o1 o2, encodeString {} win (some m) = .ok o1 ∧ o1.ret = m.length ∧
      encodeString o1.st o1.win none = .ok o2 ∧ o2.win.take o2.st.done = m ++ [0] ∧ some (m ++ [0]) = encStr m := by
  have hd : ({} : EncState).done = 0 := rfl
  rcases cmd_push {} win [] [] m ⟨rfl, rfl, by simp, by simp, by simp⟩ with
    ⟨h, _⟩ | ⟨h, _⟩ | ⟨h, _⟩ | ⟨o1, e1, hret, hlen, hdone, hinv⟩
  · exact absurd h hm
  · rw [hd] at h; omega
  · exact absurd (List.mem_of_mem_take h) hz
  · rw [hd] at hret hdone
    have hr : o1.ret = m.length := by omega
    rw [hr, List.take_length] at hinv
    rcases cmd_term o1.st o1.win [] _ hinv with ⟨h, _⟩ | ⟨o2, e2, _, _, _, _, ht, _⟩
    · omega
    · exact ⟨o1, o2, e1, hr, e2, by simpa using ht, by simp [encStr, hz]⟩

/-- … and refuses a zero byte in the part it would copy -/
theorem cmd_encoder_refuses (st : EncState) (win m : List Byte) (hs : st.scratch = 0 ∧ st.ctx = 0)
    (hz : (0 : Byte) ∈ m.take (min m.length (win.length - st.done))) (hd : st.done < win.length) (hm : m ≠ []) :
    encodeString st win (some m) = .err .BadEncoding := by
  have hl : 0 < m.length := List.length_pos_iff.mpr hm
  unfold encodeString
  simp only [hs, ne_eq, not_true_eq_false, or_self, if_false]
  rw [if_neg (by omega), if_neg (by omega), if_neg (by omega), if_pos hz]

/-- Command text under every split into push calls and every growth schedule, behind finished data `pre`: a
    finished run has appended exactly the reference frame (the bytes handed over and the delimiter, which is
    `encStr` of the message and decodes to header ++ message), and no zero byte got in. -/
theorem cmd_encoder_sched_refines (fill : Byte) (fuel : Nat) (st : EncState) (win pre : List Byte)
    (chunks : List (List Byte)) (caps : List Nat) (o : EncOut)
    (hs : st.scratch = 0 ∧ st.ctx = 0) (hw : win.take st.done = pre) (hl : st.done ≤ win.length)
    (h : encodeSched .command fill fuel st win chunks caps = .ok o) :
    o.win.take o.st.done = pre ++ (chunks.flatten ++ [0]) ∧ encStr chunks.flatten = some (chunks.flatten ++ [0]) ∧
    decCmd (chunks.flatten ++ [0]) = some (cmdHeader ++ chunks.flatten) ∧ o.st.scratch = 0 ∧ o.st.ctx = 0 := by
  have hinv : CmdInv st win pre [] := ⟨hs.1, hs.2, hl, by simpa using hw, by simp⟩
  have hs := (cmdContract pre).sched_sound fill fuel st win chunks caps [] hinv
  rw [h] at hs
  obtain ⟨p, e1, a, b, _, d, e⟩ := hs
  obtain rfl : p = chunks.flatten := e1
  exact ⟨d, by simp [encStr, e], by simp [decCmd, e], a, b⟩

/-- Command text: no schedule makes the encoder fault, and it finishes as soon as the space granted in total
    (start window and all portions, of whatever size) holds the message and the delimiter. -/
theorem cmd_encoder_sched_total (fill : Byte) (fuel : Nat) (st : EncState) (win pre : List Byte)
    (chunks : List (List Byte)) (caps : List Nat)
    (hs : st.scratch = 0 ∧ st.ctx = 0) (hw : win.take st.done = pre) (hl : st.done ≤ win.length) :
    encodeSched .command fill fuel st win chunks caps ≠ .oob ∧
    encodeSched .command fill fuel st win chunks caps ≠ .unmodelled ∧
    ((∀ c ∈ chunks, c ≠ []) → (0 : Byte) ∉ chunks.flatten → chunks.length + caps.length + 1 ≤ fuel →
      st.done + chunks.flatten.length + 1 ≤ win.length + caps.sum →
      ∃ o, encodeSched .command fill fuel st win chunks caps = .ok o) := by
  have hinv : CmdInv st win pre [] := ⟨hs.1, hs.2, hl, by simpa using hw, by simp⟩
  obtain ⟨a, b, _⟩ := ((cmdContract pre).sched_sound fill fuel st win chunks caps [] hinv).safe
  exact ⟨a, b, fun h1 h2 h3 h4 => (cmdContract pre).sched_total fill fuel st win chunks caps [] hinv
    (fun c hc => ⟨h1 c hc, fun h0 => h2 (List.mem_flatten.mpr ⟨c, hc, h0⟩)⟩) h3 h4⟩

example : (encodeSched .command 0xEE 9 {} [] [[0x68, 0x69], [0x21]] [1, 0, 1, 1, 1]).toOption.map
    (fun o => o.win.take o.st.done) = some [0x68, 0x69, 0x21, 0] := by decide +kernel

/-- Command text through `mpt_array_push` (retry loop, +64 growth), behind earlier frames `pre`: every call
    returns, every piece is taken completely, and the finished data is `pre`, the message and the delimiter. -/
theorem cmd_array_push_refines (fill : Byte) (a : EncArray) (pre : List Byte) (chunks : List (List Byte))
    (h : CmdArrInv a pre []) (hne : ∀ c ∈ chunks, c ≠ []) (hz : (0 : Byte) ∉ chunks.flatten) :
    ∃ a' buf', arrayMessage .command fill a chunks = .ok a' ∧ a'.buf = some buf' ∧
      buf'.take a'.st.done = pre ++ (chunks.flatten ++ [0]) ∧ encStr chunks.flatten = some (chunks.flatten ++ [0]) ∧
      CmdArrInv a' (pre ++ (chunks.flatten ++ [0])) [] := by
  obtain ⟨o, p, e, hm, h1, h2, h3, h4, _⟩ := (cmdContract pre).arrayMessage_spec fill chunks a [] (cmdArrInv_iff_arr.mp h)
    (fun c hc => ⟨hne c hc, fun h0 => hz (List.mem_flatten.mpr ⟨c, hc, h0⟩)⟩)
  obtain rfl : p = chunks.flatten := hm
  exact ⟨_, o.win, e, rfl, h4, by simp [encStr, hz], Or.inr ⟨o.win, rfl, rfl, h1, h2, h3, by simpa using h4, by simp⟩⟩

set_option maxRecDepth 8000 in
example : (arrayMessage .command 0xBE {} [[0x68], [0x69, 0x21]]).toOption.map
    (fun a => (a.buf.getD []).take a.st.done) = some [0x68, 0x69, 0x21, 0] := by decide +kernel

/-- The separator-pattern mode of `mpt_encode_string` (`scratch != 0`) and other delimiters (`_ctx != 0`) are
    not reachable through the library: reset clears both fields and no call of the encoder sets them, so from
    the reset state every successful call is the zero-delimiter mode the model covers. -/
theorem cmd_encoder_closed (st : EncState) (win : List Byte) (src : Option (List Byte)) (o : EncOut)
    (h : encodeString st win src = .ok o) :
    st.scratch = 0 ∧ st.ctx = 0 ∧ o.st.scratch = 0 ∧ o.st.ctx = 0 := by
  by_cases hs : st.scratch ≠ 0 ∨ st.ctx ≠ 0
  · simp [encodeString, hs] at h
  have h0 : st.scratch = 0 ∧ st.ctx = 0 := by
    constructor <;> (apply Classical.byContradiction; intro hc; exact hs (by simp [hc]))
  by_cases hd : st.done > win.length
  · simp [encodeString, h0, hd] at h
  -- between two calls the encoder is in the state of `CmdInv`, whose lemmas list the results
  have hinv : CmdInv st win (win.take st.done) [] := ⟨h0.1, h0.2, by omega, by simp, by simp⟩
  have he : encodeString st win src = encode .command st win src := rfl
  rw [he] at h
  cases src with
  | none =>
    rcases cmd_term st win _ [] hinv with ⟨_, e⟩ | ⟨o', e, _, hi⟩
    · rw [e] at h; cases h
    · rw [e] at h; cases h; exact ⟨h0.1, h0.2, hi.1, hi.2.1⟩
  | some b =>
    rcases cmd_push st win _ [] b hinv with ⟨_, e⟩ | ⟨_, e⟩ | ⟨_, e⟩ | ⟨o', e, _, _, _, hi⟩
    · rw [e] at h; cases h
    · rw [e] at h; cases h
    · rw [e] at h; cases h
    · rw [e] at h; cases h; exact ⟨h0.1, h0.2, hi.1, hi.2.1⟩

/-- the model of `mpt_decode_command`, on a state between two messages with the two bytes of head room the
    header needs and a complete frame `body ++ [0]` at the input position: it delivers (return 1) exactly
    the reference decoding (header ++ text), consumes the frame, and its two stores lie in front of the input
    position -/
theorem cmd_decoder_refines (st : DecState) (segs : List Seg) (body junk : List Byte)
    (hlen : st.len - st.msg.getD 0 = 0) (hpos : 2 ≤ st.curr)
    (hin : (flat segs).drop st.curr = body ++ 0 :: junk) (hnz : ∀ x ∈ body, x ≠ 0) :
    (decodeCommand st segs false).ret = .val 1 ∧
    decCmd (body ++ [0]) = some (decodeCommand st segs false).region ∧
    (decodeCommand st segs false).st.curr = st.curr + body.length + 1 ∧
    (∀ x ∈ (decodeCommand st segs false).writes, x.1 < x.2 ∧ x.2 ≤ (flat segs).length) :=
  decodeCommand_honest st segs body junk hlen hpos hin hnz

example : (decodeCommand { curr := 2 } [(0, [0xdd, 0xdd, 0x68, 0x69, 0, 7])] false).region = [0x04, 0x20, 0x68, 0x69] := by decide +kernel

/-! ### round trip between the encoder and decoder models -/

/-- Round trip between the two implementation models, all four COBS framings: whatever the pieces and the
    growth schedule the encoder model was driven with, its finished frame — placed behind the input position
    of a decoder between two messages, in any segments, followed by anything — makes the decoder model
    (`mpt_decode_cobs*`) deliver exactly the message, given head room of the frame length plus the alignment
    margin; without that head room the only other answer is the request for work area (never "wait", never
    "broken", never another message).  The margin 14: at most 15 bytes of the head room go to the alignment of
    the message start and a block implies at most two zeros behind its data, while of the frame neither the
    first code byte nor the delimiter is stored and the place of the code byte is work area: 15 + 2 − 1 − 2. -/
theorem model_roundtrip (v : Variant) (fill : Byte) (fuel : Nat) (win : List Byte) (chunks : List (List Byte))
    (caps : List Nat) (o : EncOut) (h : encodeSched (.cobs v) fill fuel {} win chunks caps = .ok o)
    (st : DecState) (segs : List Seg) (junk : List Byte) (hb : Bnd (flat segs).length st) (hf : Fresh st)
    (hin : (flat segs).drop st.curr = o.win.take o.st.done ++ junk) :
    (((decodeV v st segs false).ret = .val 1 ∧ (decodeV v st segs false).region = chunks.flatten) ∨
      (decodeV v st segs false).ret = .err .MissingBuffer) ∧
    (st.pos + st.len + (o.win.take o.st.done).length + 14 ≤ st.curr →
      (decodeV v st segs false).ret = .val 1 ∧ (decodeV v st segs false).region = chunks.flatten) := by
  obtain ⟨hd, _, _, ms, _, e4⟩ := encoder_refines v fill fuel win chunks caps o h
  have hnz : ∀ x ∈ encB v [] false ms, x ≠ 0 := encB_nz v ms [] false (Inv.nil v)
  rw [e4] at hd hin ⊢
  have hin' : (flat segs).drop st.curr = encB v [] false ms ++ 0 :: junk := by simpa using hin
  have hfr := decodeV_frame v st segs _ junk _ hb hf hin' hnz hd
  refine ⟨hfr.1, fun hroom => hfr.2 ?_⟩
  simp only [List.length_append, List.length_cons, List.length_nil] at hroom
  omega

example : (decodeV .zpe { curr := 32 } [(0, List.replicate 32 0xdd ++ enc .zpe [7, 0, 0, 9] ++ [5])] false).region = [7, 0, 0, 9] := by
  decide +kernel

/-- the same for command text: the frame of the encoder model, whatever the schedule, makes the model of
    `mpt_decode_command` deliver header ++ message -/
theorem cmd_model_roundtrip (fill : Byte) (fuel : Nat) (win : List Byte) (chunks : List (List Byte)) (caps : List Nat)
    (o : EncOut) (h : encodeSched .command fill fuel {} win chunks caps = .ok o)
    (st : DecState) (segs : List Seg) (junk : List Byte)
    (hlen : st.len - st.msg.getD 0 = 0) (hpos : 2 ≤ st.curr)
    (hin : (flat segs).drop st.curr = o.win.take o.st.done ++ junk) :
    (decodeCommand st segs false).ret = .val 1 ∧ (decodeCommand st segs false).region = cmdHeader ++ chunks.flatten := by
  obtain ⟨e, e2, e3, _, _⟩ := cmd_encoder_sched_refines fill fuel {} win [] chunks caps o ⟨rfl, rfl⟩ (by simp) (by simp) h
  have z : (0 : Byte) ∉ chunks.flatten := fun h0 => by simp [encStr, h0] at e2
  rw [e] at hin
  have hin' : (flat segs).drop st.curr = chunks.flatten ++ 0 :: junk := by simpa using hin
  obtain ⟨r1, r2, _, _⟩ := cmd_decoder_refines st segs chunks.flatten junk hlen hpos hin' (fun x hx h0 => z (h0 ▸ hx))
  rw [e3] at r2
  exact ⟨r1, (Option.some.inj r2).symm⟩

end Mpt.C01
