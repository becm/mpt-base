/-
  C04 — copy-on-write arrays behave as independent values.

  Theorems about the implementation model `Impl/Heap.lean` (tied to mptcore/array/*.c by the
  correspondence harness) and the vector spec `Spec/Vec.lean`.  All statements are for every state that
  satisfies the heap invariant, every handle, every operand value and every history; nothing is bounded.

  Scope: buffers without element callbacks (raw data and plain-old-data element types); the operations of
  `Heap.Op`: append, insert, set, slice, cut, buffer-set, clone, drop, detach, reduce, reserve, with the conditions under
  which they may not be refused (`success`, `must_succeed`); format-print (`printf`), slice-write (`slice_write`) and
  `mpt_values_prepare` (`values_prepare`); the C++ wrappers `mpt::array` (`cxx_value_semantics`) and `unique_array<T>` /
  `typed_array<T>` with plain element types (`cxx_typed`, `cxx_refusal`).
-/
import MptModel.Lemmas.HeapHist
import MptModel.Lemmas.HeapXX
import MptModel.Lemmas.HeapPrintf
import MptModel.Lemmas.HeapSlice
import MptModel.Lemmas.HeapSuccess
namespace Mpt.C04
open Mpt Mpt.Heap

theorem inv_init (n : Nat) : Inv { hs := List.replicate n none, wins := List.replicate n none } := by
  have hn : ∀ h b, ({ hs := List.replicate n none, wins := List.replicate n none } : State).handle h ≠ some b := by
    intro h b e
    have := State.handle_eq_some.mp e
    simp [List.getElem?_replicate] at this
  have bn : ∀ b x, ({ hs := List.replicate n none, wins := List.replicate n none } : State).buf? b ≠ some x := by
    intro b x e
    simp [State.buf?] at e
  exact ⟨fun h b e => absurd e (hn h b), fun b x e => absurd e (bn b x), fun b x e => absurd e (bn b x),
    fun b x e => absurd e (bn b x), fun b x e => absurd e (bn b x)⟩

example : Inv { hs := List.replicate 3 none, wins := List.replicate 3 none } := inv_init 3

/-- `Inv` (reference count = number of handles naming the buffer, no unreachable buffer, `used ≤ size`,
    whole elements) is preserved by every operation, whether it succeeds or refuses, and no operation
    leaves the buffer memory or touches a freed buffer (`fault`) -/
theorem inv {s : State} (hinv : Inv s) (op : Op) (wf : op.wf s.hs.length) :
    (∀ w, exec s op ≠ .fault w) ∧
    (∀ s' v, exec s op = .ok s' v → Inv s' ∧ s'.hs.length = s.hs.length) ∧
    (∀ s' e, exec s op = .fail s' e → Inv s' ∧ s'.hs.length = s.hs.length) := by
  have sem := exec_sem hinv op wf
  refine ⟨?_, ?_, ?_⟩
  · intro w e; rw [e] at sem; exact sem
  · intro s' v e; rw [e] at sem; exact ⟨sem.kept.1.inv, sem.kept.1.len⟩
  · intro s' e' e; rw [e] at sem; obtain ⟨i, l, _⟩ := sem; exact ⟨i, l⟩

/-- value semantics: a successful operation through handle `h` makes `h` read exactly what the vector
    spec says and leaves what every other handle reads unchanged — whatever buffers are shared -/
theorem value_semantics {s s' : State} (hinv : Inv s) (op : Op) (wf : op.wf s.hs.length) (v : Unit)
    (e : exec s op = .ok s' v) :
    specRel s op (s.abs op.handle) (s'.abs op.handle) ∧ ∀ h', h' ≠ op.handle → s'.abs h' = s.abs h' := by
  have sem := exec_sem hinv op wf
  rw [e] at sem
  exact ⟨sem.kept.2, sem.kept.1.others⟩

/-- the relation proved above is the S column of the correspondence run: the model driver prints, for every
    operation of this alphabet, exactly the alternatives `specAlts` (Spec/ArrayOps.lean) plus "refused, nothing
    changed" (left out where `mustSucceed` holds, see `must_succeed`), and the real code is judged against that list -/
theorem spec_alternatives (s : State) (op : Op) (v v' : Vec.Vec) : specRel s op v v' ↔ v' ∈ specAlts s op v :=
  specRel_iff_alts s op v v'

/-- `reserve` and `detach` keep the value: no truncation, no emptying (state without typed or immutable buffers) -/
example : ¬ specRel {} (.reserve 0 0 none) [1, 2, 3] [] ∧ ¬ specRel {} (.reserve 0 0 none) [1, 2, 3] [1] ∧
    ¬ specRel {} (.detach 0 1) [1, 2, 3] [1] ∧ specRel {} (.reserve 0 0 none) [1, 2, 3] [1, 2, 3] := by
  simp [specRel, typeDiffers, ownerImmutable, State.handle]

/-- success: `Sem` alone would be satisfied by a model that refuses everything.  On a handle that is empty or owns a
    private, mutable buffer of the matching kind (`Free`), append and insert (raw data, any position) and set (plain
    element type, whole elements, position not in front of the data) are NOT refused: they succeed with exactly the
    value of the vector spec.  (Slice: `arraySlice_post`; on shared buffers success additionally needs a copyable
    buffer.) -/
theorem success {s : State} (hinv : Inv s) {h : Nat} (hlt : h < s.hs.length) :
    (∀ bytes, Free s h none → ∃ s' v, arrayAppend s h bytes = .ok s' v ∧ s'.abs h = Vec.append (s.abs h) bytes) ∧
    (∀ pos bytes, Free s h none → ∃ s' v, insertOp s h pos bytes = .ok s' v ∧ s'.abs h = Vec.insert (s.abs h) pos bytes) ∧
    (∀ t bytes hasSrc off, PlainT (some t) → Free s h (some t) → bytes.length % t.size = 0 →
      Vec.setAt (s.abs h) t.size off bytes ≠ none →
      ∃ s' v, arraySet s h (some t) bytes hasSrc off = .ok s' v ∧ Vec.setAt (s.abs h) t.size off bytes = some (s'.abs h)) := by
  exact ⟨fun bytes fr => append_succeeds hinv hlt fr bytes, fun pos bytes fr => insert_succeeds hinv hlt fr pos bytes,
    fun t bytes hasSrc off pt fr whole inr => set_succeeds hinv hlt t pt fr bytes hasSrc off whole inr⟩

/-- the operations the run treats as "may not be refused" (`mustSucceed`, Spec/ArrayOps.lean: the decidable form of
    the conditions of `success`, plus a cut inside the data of an own, writable, untyped buffer) are not refused by the
    model; for these the S column of the run has no "refused" alternative -/
theorem must_succeed {s : State} (hinv : Inv s) (op : Op) (wf : op.wf s.hs.length)
    (m : mustSucceed s op (s.abs op.handle) = true) : ∃ s', exec s op = .ok s' () := by
  cases op with
  | append h bytes =>
    have hlt : h < s.hs.length := Op.handle_lt wf
    change freeB s h none = true at m
    obtain ⟨s', v, e, _⟩ := append_succeeds hinv hlt (freeB_free m) bytes
    exact ⟨s', by simp only [exec, e, Out.mapv]⟩
  | insert h pos bytes =>
    have hlt : h < s.hs.length := Op.handle_lt wf
    change freeB s h none = true at m
    obtain ⟨s', v, e, _⟩ := insert_succeeds hinv hlt (freeB_free m) pos bytes
    exact ⟨s', by simp only [exec, e, Out.mapv]⟩
  | set h t off bytes hasSrc =>
    have hlt : h < s.hs.length := Op.handle_lt wf
    simp only [mustSucceed, Op.handle, Bool.and_eq_true, Bool.not_eq_true', decide_eq_true_eq, Option.isNone_iff_eq_none] at m
    obtain ⟨⟨⟨⟨⟨ti, tf⟩, tz⟩, fr⟩, whole⟩, inr⟩ := m
    have pt : PlainT (some t) := by
      intro y hy; cases hy; exact ⟨ti, tf, tz⟩
    obtain ⟨s', v, e, _⟩ := set_succeeds hinv hlt t pt (freeB_free fr) bytes hasSrc off whole
      (by intro c; rw [c] at inr; simp at inr)
    exact ⟨s', by simp only [exec, e, Out.mapv]⟩
  | cut h off len =>
    simp only [mustSucceed, Op.handle, Bool.and_eq_true] at m
    obtain ⟨b, x, o, xt⟩ := ownsB_own m.1
    obtain ⟨s', v, e, _⟩ := cut_succeeds hinv o xt off len
      (by intro c; have := m.2; rw [c] at this; simp at this)
    exact ⟨s', by simp only [exec, e, Out.mapv]⟩
  | slice h off len => simp [mustSucceed] at m
  | bset h pos bytes hasSrc => simp [mustSucceed] at m
  | clone d src => simp [mustSucceed] at m
  | drop h => simp [mustSucceed] at m
  | detach h n => simp [mustSucceed] at m
  | reduce h => simp [mustSucceed] at m
  | reserve h n t => simp [mustSucceed] at m

example : mustSucceed { hs := [none], wins := [none] } (.append 0 [1, 2]) [] = true := by decide

example : Free { hs := [none], wins := [none] } 0 none := Or.inl rfl

/-- refusal: a refused operation changes what no handle reads; and when the arguments fall outside the data
    (the spec relates the current value to no result) the operation is refused -/
theorem refusal {s : State} (hinv : Inv s) (op : Op) (wf : op.wf s.hs.length) :
    (∀ s' e, exec s op = .fail s' e → ∀ h', s'.abs h' = s.abs h') ∧
    ((∀ v', ¬ specRel s op (s.abs op.handle) v') → ∃ s' e, exec s op = .fail s' e) := by
  have sem := exec_sem hinv op wf
  refine ⟨?_, ?_⟩
  · intro s' e' e; rw [e] at sem; obtain ⟨_, _, same⟩ := sem; exact same
  · intro outside
    cases e : exec s op with
    | fault w => rw [e] at sem; exact absurd sem id
    | fail s' e' => exact ⟨s', e', rfl⟩
    | ok s' v => rw [e] at sem; exact absurd sem.kept.2 (outside _)

/-- a cut beyond the data and an assignment before the start are such out-of-range arguments -/
theorem refusal_cut_set {s : State} (hinv : Inv s) :
    (∀ h off len, h < s.hs.length → (s.abs h).length < off + len → ∃ s' e, exec s (.cut h off len) = .fail s' e) ∧
    (∀ h t off bytes hasSrc, h < s.hs.length → PlainT (some t) →
      Int.ofNat (s.abs h).length + off * Int.ofNat t.size < 0 → ∃ s' e, exec s (.set h t off bytes hasSrc) = .fail s' e) := by
  refine ⟨?_, ?_⟩
  · intro h off len hlt big
    apply (refusal hinv (.cut h off len) hlt).2
    intro v' hv
    have hv' : Vec.cut (s.abs h) off len = some v' := hv
    unfold Vec.cut at hv'
    by_cases l0 : len = 0
    · subst l0
      rw [if_pos rfl, if_neg (by omega)] at hv'
      cases hv'
    · rw [if_neg l0, if_neg (by omega)] at hv'
      cases hv'
  · intro h t off bytes hasSrc hlt pt neg
    apply (refusal hinv (.set h t off bytes hasSrc) ⟨hlt, pt⟩).2
    intro v' hv
    have hv' : Vec.setAt (s.abs h) t.size off bytes = some v' := hv
    unfold Vec.setAt at hv'
    have offneg : off < 0 := by
      rcases Int.lt_or_le off 0 with l | g
      · exact l
      · have : 0 ≤ off * Int.ofNat t.size := Int.mul_nonneg g (Int.natCast_nonneg _)
        have : (0 : Int) ≤ Int.ofNat (s.abs h).length := Int.natCast_nonneg _
        omega
    simp only [offneg, if_true] at hv'
    rw [if_pos neg] at hv'
    cases hv'

/-- every history of operations over any number of handles: no fault, the invariant holds at the end, and
    the values read through the handles evolve step by step as the vector spec allows (each operation
    either changes nothing — refusal — or rewrites the value of its own handle only) -/
theorem history {s : State} (hinv : Inv s) (ops : List Op) (wf : ∀ op ∈ ops, op.wf s.hs.length) :
    ∃ s', run s ops = some s' ∧ Inv s' ∧ s'.hs.length = s.hs.length ∧ Explained s ops s' := by
  induction ops generalizing s with
  | nil => exact ⟨s, rfl, hinv, rfl, .nil s⟩
  | cons op rest ih =>
    have wop := wf op (List.mem_cons_self)
    have sem := exec_sem hinv op wop
    have hlt := Op.handle_lt wop
    -- whatever the step does, the rest runs from a state with the invariant and as many handles
    have rest_ok : ∀ s1 : State, Heap.Inv s1 → s1.hs.length = s.hs.length → specStep s op (absAll s) (absAll s1) →
        ∃ s', run s1 rest = some s' ∧ Heap.Inv s' ∧ s'.hs.length = s.hs.length ∧ Explained s (op :: rest) s' := by
      intro s1 i1 l1 st
      obtain ⟨s2, r2, i2, l2, x2⟩ := ih i1 (by intro o ho; rw [l1]; exact wf o (List.mem_cons_of_mem _ ho))
      exact ⟨s2, r2, i2, by rw [l2, l1], .cons st x2⟩
    unfold run
    cases e : exec s op with
    | fault w => rw [e] at sem; exact absurd sem id
    | fail s1 e1 =>
      rw [e] at sem
      obtain ⟨i1, l1, same⟩ := sem
      exact rest_ok s1 i1 l1 (Or.inl (absAll_same l1 same))
    | ok s1 v1 =>
      rw [e] at sem
      obtain ⟨k, rel⟩ := sem.kept
      refine rest_ok s1 k.inv k.len (Or.inr ⟨s1.abs op.handle, ?_, absAll_set op.handle k.len hlt k.others⟩)
      rw [absAll_getD s op.handle hlt]
      exact rel

/-- instance: `b = a; append(a, "de")` on shared data — `a` reads the appended value, `b` the old one -/
example : ∃ s', run { hs := [none, none], wins := [none, none] }
      [.append 0 [0x61, 0x62, 0x63], .clone 1 0, .append 0 [0x64, 0x65]] = some s' ∧
    s'.abs 0 = [0x61, 0x62, 0x63, 0x64, 0x65] ∧ s'.abs 1 = [0x61, 0x62, 0x63] := by
  refine ⟨_, rfl, ?_, ?_⟩ <;> decide

/-! ### `mpt_printf`, `mpt_slice_write` and `mpt_values_prepare`

  `arrayPrintf` runs one or two `arraySlice` calls with lengths computed from the free space, `vsnprintf` into the
  region and an adjustment of the used size; `sliceWrite` has three paths (in place, move to front, fresh buffer) on a
  window of the buffer. -/

/-- format-print (`"%s"`, character buffers): the text is appended, lengths exact; every other handle keeps its
    value; a buffer of another type is refused without a change; nothing faults.  (The second slice can not fail
    once the first one succeeded: the handle then owns a private buffer.) -/
theorem printf (s : State) (h : Nat) (ct : Traits) (text : List Byte) (inv : Inv s) (hlt : h < s.hs.length)
    (pt : PlainT (some ct)) (c1 : ct.size = 1) :
    Sem s h (fun v v' => v' = Vec.append v text) (arrayPrintf s h ct text) := by
  unfold arrayPrintf
  cases hh : s.handle h with
  | none =>
    simp only
    obtain ⟨d, same⟩ := attach inv hlt hh 64 0 (some ct) pt (fresh_mutable _ _)
    exact Sem.after d.kept same
      (printfTail_sem d.kept.inv (by rw [d.kept.len]; exact hlt) ct c1 0 (allocSize 64) text
        (by rw [d.own.hh]; simp [d.own.hb, State.fresh]) (by rw [same, State.abs_none hh]; rfl))
  | some b =>
    simp only
    obtain ⟨x, hb⟩ := inv.live h b hh
    rw [hb]
    simp only
    split
    · exact Sem.fail_same inv _ _ _
    · rename_i same
      have xt : x.traits = some ct := by simpa using same
      exact printfTail_sem inv hlt ct c1 x.used _ text (by rw [hh]; simp [hb, xt])
        (by rw [State.abs_of hh hb, content_length x (inv.used b x hb)])

/-- slice-write: whole blocks are appended to the window of the slice handle — `k ≤ nblk` of them, at least one when
    blocks were offered (all of them when a new buffer is needed).  Every array handle other than the slice's own keeps
    its value; a refused call (typed buffer) changes no handle at all; nothing faults.
    The window is `s.wins[h]` on the buffer of `h`; what `h` reads as an array is that whole buffer.  The last
    disjunction is about the bytes the array holds behind the window (scratch space): none are left (move to front and
    new buffer cut the array down to the window), or the old ones minus the `k * esz` bytes that were written over.
    Windows inside the data only (`wfit`); element size 0 ("prepare") is not modelled. -/
theorem slice_write (s : State) (h nblk esz : Nat) (bytes : List Byte) (w : Win) (inv : Inv s) (hlt : h < s.hs.length)
    (e0 : esz ≠ 0) (bl : bytes.length = nblk * esz) (hw : s.win h = some w) (wfit : w.off + w.len ≤ (s.abs h).length) :
    match sliceWrite s h nblk esz bytes with
    | .fault _ => False
    | .fail s' _ => Inv s' ∧ ∀ h', s'.abs h' = s.abs h'
    | .ok s' k => Inv s' ∧ k ≤ nblk ∧ (nblk ≠ 0 → 1 ≤ k) ∧ (∀ h', h' ≠ h → s'.abs h' = s.abs h') ∧
        ∃ w', s'.win h = some w' ∧
          Vec.sub (s'.abs h) w'.off w'.len = Vec.sub (s.abs h) w.off w.len ++ Vec.blocks bytes k esz ∧
          ((s'.abs h).length - (w'.off + w'.len) = 0 ∨
            (s'.abs h).length - (w'.off + w'.len) = (s.abs h).length - (w.off + w.len) - k * esz) := by
  -- the conclusion is `SliceWritePost` (Lemmas/HeapSlice.lean), written out
  show SliceWritePost s h nblk esz bytes w (sliceWrite s h nblk esz bytes)
  have hwl := State.win_lt hw
  have slow : ∀ bx, bx = (s.handle h).bind s.buf? →
      SliceWritePost s h nblk esz bytes w (sliceSlow s h w bx nblk esz bytes) :=
    fun bx hbx => sliceSlow_post inv hlt hwl w bx hbx nblk esz bytes bl wfit
  unfold sliceWrite
  simp only [hw, Option.getD_some]
  -- the window lies inside the data, so its repair changes nothing and storing it back leaves the state as it is
  cases hh : s.handle h with
  | none =>
    simp only
    have a0 : s.abs h = [] := State.abs_none hh
    rw [a0] at wfit
    simp only [List.length_nil] at wfit
    rw [winRepair_ok w 0 wfit, State.setWin_self hw]
    exact slow none (by rw [hh]; rfl)
  | some b =>
    simp only
    obtain ⟨x, hb⟩ := inv.live h b hh
    rw [hb]
    simp only
    by_cases typed : x.traits.isSome = true
    · rw [if_pos typed]; exact ⟨inv, fun _ => rfl⟩
    · rw [if_neg typed]
      have xt : x.traits = none := by cases ht : x.traits with
        | none => rfl
        | some t => rw [ht] at typed; simp at typed
      have xu := inv.used b x hb
      have absx : s.abs h = x.content := State.abs_of hh hb
      have wf' : w.off + w.len ≤ x.used := by rw [absx, content_length x xu] at wfit; exact wfit
      rw [winRepair_ok w x.used wf', State.setWin_self hw]
      have slowx := slow (some x) (by rw [hh]; simp [hb])
      by_cases priv : ¬ (x.immutable = true ∨ x.shared = true)
      · rw [if_pos priv]
        simp only [not_or, Bool.not_eq_true] at priv
        have r1 : x.ref = 1 := by
          have := (inv.ref b x hb).2
          have ns := priv.2
          simp only [Buf.shared, decide_eq_false_iff_not] at ns
          omega
        have o : Own s h b x := ⟨hh, hb, r1, priv.1⟩
        by_cases n0 : nblk = 0
        · rw [if_pos n0]
          refine ⟨inv, by omega, fun c => absurd n0 c, fun _ _ => rfl, w, hw, ?_, Or.inr ?_⟩
          · simp [Vec.blocks]
          · show (s.abs h).length - (w.off + w.len) = (s.abs h).length - (w.off + w.len) - 0 * esz
            omega
        · rw [if_neg n0]
          by_cases fast : x.size - (w.off + w.len) ≥ esz
          · -- in place
            rw [if_pos fast]
            obtain ⟨s', k, q, kn, k1, st, win', sub', len'⟩ := fastAppend_own inv o xt w wf' nblk esz bytes bl hwl
            rw [q]
            exact ⟨st.inv, kn, fun c => k1 c e0 fast, st.others, _, win', by rw [sub', absx],
              Or.inr (by rw [len', absx, content_length x xu])⟩
          · rw [if_neg fast]
            by_cases front : w.off ≠ 0 ∧ x.size - (w.off + w.len) + w.off ≥ esz
            · -- move to front
              rw [if_pos front]
              obtain ⟨s', k, q, kn, k1, st, win', sub', len'⟩ := frontAppend_own inv o xt w wf' nblk esz bytes bl hwl
              rw [q]
              exact ⟨st.inv, kn, fun c => k1 c e0 front.2, st.others, _, win', by rw [sub', absx], Or.inl len'⟩
            · rw [if_neg front]; exact slowx
      · rw [if_neg priv]; exact slowx

/-- `mpt_values_prepare` (mptplot/values, a caller of the buffer's detach): `len ≥ 0` appends `len` zeroed doubles,
    `len < 0` appends a copy of the last `-len` doubles and is refused without a change when the array holds fewer;
    whatever is shared, every other handle keeps its value; an array of another element type is refused -/
theorem values_prepare (s : State) (h : Nat) (dt : Traits) (len : Int) (inv : Inv s) (hlt : h < s.hs.length)
    (pt : PlainT (some dt)) (d8 : dt.size = 8) :
    Sem s h (fun v v' => v' = if len < 0 then v ++ v.drop (v.length - len.natAbs * 8) else v ++ zeros (len.natAbs * 8))
      (valuesPrepare s h dt len) := by
  unfold valuesPrepare
  simp only
  have ea : (len.natAbs * 8) % esize (some dt) = 0 := by simp only [esize, d8]; omega
  cases hh : s.handle h with
  | none =>
    simp only
    by_cases neg : len < 0
    · rw [if_pos neg]; exact Sem.fail_same inv _ _ _
    · rw [if_neg neg]
      obtain ⟨d, same⟩ := attach inv hlt hh (len.natAbs * 8) 0 (some dt) pt (fresh_mutable _ _)
      simp only [d.own.hb]
      obtain ⟨st, ab⟩ := d.own.append d.kept.inv (zeros (len.natAbs * 8))
        (by rw [fresh_used, zeros_length, Nat.zero_add]; exact d.size) (by rw [zeros_length]; exact ea)
      rw [zeros_length, fresh_used, Nat.zero_add] at st ab
      exact (d.kept.trans st).sem_ok (by rw [ab, same, if_neg neg]) _
  | some b =>
    obtain ⟨x, hb⟩ := inv.live h b hh
    simp only [hb]
    by_cases tm : x.traits ≠ some dt
    · rw [if_pos tm]; exact Sem.fail_same inv _ _ _
    · rw [if_neg tm]
      have xt : x.traits = some dt := by simpa using tm
      by_cases short : len < 0 ∧ x.used < len.natAbs * 8
      · rw [if_pos short]; exact Sem.fail_same inv _ _ _
      · rw [if_neg short]
        refine ensure_then inv hh hb true _ (by intro c; cases c) (Nat.le_add_right _ _) (f := fun _ _ => .null)
          fun s1 nb z inv1 o zs zt zu => ?_
        simp only [o.hb]
        rw [if_neg (Nat.not_lt.mpr zs), ← zu]
        rw [← zu] at short zs
        -- the bytes that are appended: zeros, or the last `-len` doubles of the content
        generalize hsrc : (if len < 0 then (z.data.drop (z.used - len.natAbs * 8)).take (len.natAbs * 8) else zeros (len.natAbs * 8)) = src
        have zu' := inv1.used nb z o.hb
        have cl := content_length z zu'
        have sl : src.length = len.natAbs * 8 := by
          rw [← hsrc]
          split
          · rename_i neg
            simp only [Buf.size] at zu'
            rw [List.length_take, List.length_drop]; omega
          · exact zeros_length _
        obtain ⟨st, ab⟩ := o.append inv1 src (by rw [sl]; exact zs) (by rw [sl, zt, xt]; exact ea)
        rw [sl] at st ab
        refine st.sem_ok ?_ _
        rw [ab, State.abs_of o.hh o.hb, ← hsrc, cl]
        split
        · rename_i neg
          rw [Buf.content, List.drop_take, show z.used - (z.used - len.natAbs * 8) = len.natAbs * 8 by omega]
        · rfl

/-! ### C++ layer (mpt++/array.cpp, templates of mptcore/array.h; model `Impl/HeapXX.lean`) -/

/-- operations of `mpt::array` covered by a theorem -/
inductive XOp where
  | set (h : Nat) (bytes : List Byte)                 -- array::set(len, data)
  | insert (h off : Nat) (bytes : List Byte)          -- array::insert(off, len, data)
  | append (h : Nat) (bytes : List Byte)              -- array::append(len, data)
  | assign (dst src : Nat)                            -- operator= / copy construction
  | drop (h : Nat)                                    -- destruction

def XOp.handle : XOp → Nat
  | .set h _ | .insert h _ _ | .append h _ | .assign h _ | .drop h => h

def xexec (s : State) : XOp → Out Unit
  | .set h bytes => Out.mapv (fun _ => ()) (arraySetX s h bytes)
  | .insert h off bytes => Out.mapv (fun _ => ()) (arrayInsertX s h off bytes)
  | .append h bytes => Out.mapv (fun _ => ()) (arrayAppendX s h bytes)
  | .assign d src => refAssign s d src
  | .drop h => refDrop s h

def xspecRel (s : State) : XOp → Vec.Vec → Vec.Vec → Prop
  | .set _ bytes, _, v' => v' = bytes
  | .insert _ off bytes, v, v' => v' = Vec.insert v off bytes
  | .append _ bytes, v, v' => v' = Vec.append v bytes
  | .assign _ src, _, v' => v' = s.abs src
  | .drop _, _, v' => v' = []

/-- value semantics of the C++ array wrapper: `set`, `insert`, `append`, assignment/copy and destruction
    through one handle never change what another handle reads — whatever is shared —, the handle itself reads
    what the vector spec says, refusals change nothing, the invariant is kept and nothing faults -/
theorem cxx_value_semantics {s : State} (hinv : Inv s) (op : XOp) (hlt : op.handle < s.hs.length) :
    Sem s op.handle (xspecRel s op) (xexec s op) := by
  cases op with
  | set h bytes => exact (arraySetX_sem hinv hlt bytes).mapv _
  | insert h off bytes => exact (arrayInsertX_sem hinv hlt off bytes).mapv _
  | append h bytes => exact (arrayAppendX_sem hinv hlt bytes).mapv _
  | assign d src => exact refAssign_sem hinv hlt src
  | drop h => exact refDrop_sem hinv hlt

/-- instance: `b = a; b.set("X")` on shared data with a shorter value — `b` reads `X`, `a` the old bytes -/
example :
    (match arraySetX { hs := [none, none], wins := [none, none] } 0 [0x61, 0x62, 0x63] with
     | .ok s1 _ => (match refAssign s1 1 0 with
       | .ok s2 _ => (match arraySetX s2 1 [0x58] with
         | .ok s3 _ => (s3.abs 0, s3.abs 1)
         | _ => ([], []))
       | _ => ([], []))
     | _ => ([], [])) = ([0x61, 0x62, 0x63], [0x58]) := by decide

/-- typed wrappers (`unique_array<T>` / `typed_array<T>` with plain element types; `k.t` is the element type of the
    buffer of the handle): `insert(pos, val)` inserts one element (negative positions count from the end, a position
    behind the end zero-fills the gap), `resize(n)` leaves exactly `n` elements (new ones zero), `reserve(n)` keeps
    the content (an immutable private buffer is replaced by one that holds at least `n` elements of it), `detach()`
    keeps it; other handles never change, refusals change nothing, nothing faults -/
theorem cxx_typed (s : State) (h : Nat) (k : XKind) (pos : Int) (val : List Byte) (n : Nat) (inv : Inv s) (hlt : h < s.hs.length)
    (pt : PlainT (some k.t)) (vl : val.length = k.t.size)
    (hk : ∀ b x, s.handle h = some b → s.buf? b = some x → x.traits = some k.t) :
    Sem s h (fun v v' => ∃ p need, insertPos (v.length / k.t.size) pos = some (p, need) ∧
        v' = Vec.insert v (p * k.t.size) val) (uInsert s h k pos (some val) none) ∧
    Sem s h (fun v v' => v' = if n * k.t.size ≤ v.length then v.take (n * k.t.size) else Vec.padTo v (n * k.t.size))
      (uResize s h k n) ∧
    Sem s h (fun v v' => ∃ m, n * k.t.size ≤ m ∧ v' = v.take m) (uReserve s h k n) ∧
    Sem s h (fun v v' => v' = v) (uDetach s h k) :=
  ⟨uInsert_sem inv hlt k pt hk pos val vl, uResize_sem inv hlt k pt hk n, uReserve_sem inv hlt k pt hk n,
    uDetach_sem inv hlt k pt hk⟩

/-- out-of-range arguments of the typed C++ wrappers are refused without any change: `pointer_array::swap` with an
    index outside the elements, `typed_array::set(pos, v)` with a position outside `[-length, length)` -/
theorem cxx_refusal (s : State) (h : Nat) (k : XKind) :
    (∀ p1 p2 : Int, (p1 < 0 ∨ p2 < 0 ∨ p1.toNat ≥ xLength s h k ∨ p2.toNat ≥ xLength s h k) →
      swapX s h k p1 p2 = .fail s .null) ∧
    (∀ (pos : Int) (val : List Byte), (pos + Int.ofNat (xLength s h k) < 0 ∨ pos ≥ Int.ofNat (xLength s h k)) →
      uSet s h k pos val = .fail s .null) := by
  refine ⟨fun p1 p2 c => ?_, fun pos val c => ?_⟩
  · unfold swapX
    simp only
    rw [if_pos c]
  · unfold uSet
    simp only
    have nn : (0 : Int) ≤ Int.ofNat (xLength s h k) := Int.natCast_nonneg _
    by_cases neg : pos < 0
    · rcases c with c | c
      · rw [if_pos neg, if_pos c]
      · omega
    · rcases c with c | c
      · omega
      · rw [if_neg neg, if_pos c]

end Mpt.C04
