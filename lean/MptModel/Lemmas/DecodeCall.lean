/-
  One decoder call in front of or inside a frame (for C03 and C02).  Between two messages (`Fresh`) the call is decided
  by the byte at the input position; inside a frame the state stands for a machine run over the bytes consumed so far
  (`Hist`) and a call continues it; a delivery is the reference decoding of the frame (`Delivered`).  `CallV` is the one
  record about a call of any of the four decoders, read off the run of the block loop (`Ran.callV`).
-/
import MptModel.Lemmas.DecodeSafe
import MptModel.Lemmas.DecodeSpec
namespace Mpt.Codec
open Mpt.Cobs

/-- between two messages: no open block, nothing decoded that has not been delivered -/
structure Fresh (st : DecState) : Prop where
  ctx : st.ctx = 0
  hnone : st.msg = none → st.len = 0
  hsome : ∀ m, st.msg = some m → m = st.len

theorem Fresh.init : Fresh {} := ⟨rfl, fun _ => rfl, fun _ h => nomatch h⟩

/-- the state a delivery leaves behind -/
theorem Fresh.ofMsg {st : DecState} (hctx : st.ctx = 0) (hmsg : st.msg = some st.len) : Fresh st :=
  ⟨hctx, fun hn => (by rw [hmsg] at hn; cases hn), fun m hm => (by rw [hmsg] at hm; exact (Option.some.inj hm).symm)⟩

/-- what `decPrep` hands to the loop from a state between two messages: an empty message at the input
    position, no open block; the work area is the head room less the alignment offset -/
structure FreshEntry (st : DecState) (store : List Byte) (st' : DecState) (l : Loc) : Prop where
  fresh : Fresh st'
  curr : st'.curr = st.curr
  msg : st'.msg = none
  done : st'.pos = l.done
  hstore : l.store = store
  r : l.r = st.curr
  code : l.code = 0
  pos : l.pos = 0
  mlen : l.mlen = 0
  -- 15: the largest alignment offset (`alignPost_bound`)
  room : st.curr - (st.pos + st.len) ≤ l.proc + 15

theorem decPrep_fresh {st : DecState} {segs : List Seg} {store : List Byte} {st' : DecState} {l : Loc} (hf : Fresh st)
    (h : decPrep st segs store false = .inr (st', l)) : FreshEntry st store st' l := by
  have he := (decPrep_inr st segs store false st' l hf.hsome h).1
  have hml : l.mlen = 0 := by
    cases hm : st.msg with
    | none => rw [he.mlen_none hm]; exact hf.hnone hm
    | some m => exact he.mlen_some (by simp [hm])
  have hst := he.hst
  refine ⟨?_, by rw [hst], by rw [hst], by rw [hst], he.hstore, he.r, by rw [he.code, hf.ctx],
    by rw [he.pos, hf.ctx], hml, ?_⟩
  · rw [hst, hml]; exact ⟨hf.ctx, fun _ => rfl, fun m hm => nomatch hm⟩
  · have := he.r; have := he.margin; simp only [Loc.r, Loc.w] at *; omega

/-- a call of the regular decoder between two messages, by what it finds at the input position: nothing, a
    delimiter, or the first code byte of a frame -/
structure FreshCall (v : Variant) (st : DecState) (segs : List Seg) (st' : DecState) (l : Loc) : Prop where
  nil : (flat segs).drop st.curr = [] → decodeCobs v st segs false = { ret := .val 0, st := st', store := flat segs }
  zero : ∀ tl, (flat segs).drop st.curr = 0 :: tl → decodeCobs v st segs false =
    { ret := .err .BadValue, st := { st' with curr := st.curr + 1 }, store := flat segs, reads := [st.curr] }
  first : ∀ c U, (flat segs).drop st.curr = c :: U → c ≠ 0 → decodeCobs v st segs false =
    decLoop v st' false ((flat segs).length - (st.curr + 1)) (l.first c)

theorem decodeCobs_fresh (v : Variant) {st : DecState} {segs : List Seg} {st' : DecState} {l : Loc} (hf : Fresh st)
    (h : decPrep st segs (flat segs) false = .inr (st', l)) : FreshCall v st segs st' l := by
  have he := decPrep_fresh hf h
  have hget : l.store[l.r]? = ((flat segs).drop st.curr)[0]? := by rw [he.hstore, he.r]; simp
  -- the call is `decStart` on the byte at the input position
  have hcall : decodeCobs v st segs false = match (((flat segs).drop st.curr)[0]? : Option Byte) with
      | none => { ret := .val 0, st := st', store := flat segs }
      | some c =>
        if c = 0 then { ret := .err .BadValue, st := { st' with curr := st.curr + 1 }, store := flat segs, reads := [st.curr] }
        else decLoop v st' false ((flat segs).length - (st.curr + 1)) { l with store := flat segs, proc := l.proc + 1, code := c.toNat, reads := [st.curr] } := by
    unfold decodeCobs
    simp only [Bool.false_eq_true, if_false, h]
    unfold decStart
    rw [if_pos he.code, hget, he.hstore, he.r]
    rfl
  refine ⟨fun h => by rw [hcall, h]; rfl, fun tl h => by rw [hcall, h]; rfl, fun c U h hc => ?_⟩
  rw [hcall, h, Loc.first, he.r]
  simp [hc, he.hstore]

/-- the decoder state stands for a machine run that has consumed `c0 :: U` up to the unread bytes -/
structure Hist (v : Variant) (c0 : Nat) (U : List Byte) (st : DecState) (store : List Byte) : Prop where
  msg : st.msg = none
  curr : st.curr ≤ store.length
  ex : ∃ c p, st.ctx = p * 256 + c ∧ 0 < c ∧ c < 256 ∧ p < 256 ∧
    ∀ more, mach v c0 0 (U ++ more) = (mach v c p (store.drop st.curr ++ more)).pre ((store.drop st.pos).take st.len)

/-- what a call that entered the block loop inside the frame `c0 :: U` means for the machine run on `U`, in both
    modes: suspended (`Hist` again), delivered, or stuck on an inline zero.  `T` is the part of the data behind the
    storage the loop works on (a peek call sees a window of the data; `[]` for a call on all of it) -/
theorem Ran.call {v : Variant} {st' : DecState} {peek : Bool} {l : Loc} {o : DecOut} (hran : Ran v st' peek l o)
    {c0 : Nat} {U T : List Byte}
    (hrel : ∀ more, mach v c0 0 (U ++ more) = (mach v l.code l.pos (l.store.drop l.r ++ (T ++ more))).pre l.acc)
    (hpos : st'.pos = l.done) (hmsg : st'.msg = none) (hc0 : 0 < l.code) (hc : l.code < 256) (hp : l.pos < 256) :
    (o.ret ≠ .val 1 → Hist v c0 U o.st (o.store ++ T)) ∧
    (o.ret = .val 1 → mach v c0 0 U = .done o.region ∧ o.st.msg = some o.st.len ∧ o.st.ctx = 0) ∧
    (o.ret = .err .MissingData → ∃ code pos, mach v c0 0 U = .zeroIn o.region code pos ∧ o.st.ctx % 256 = code ∧ o.st.ctx ≠ 0) := by
  obtain ⟨k, out, lf, hrun, hfin⟩ := hran
  have hreg : (lf.store.drop st'.pos).take lf.mlen = l.acc ++ out := by
    have := hrun.acc; rwa [Loc.acc, hrun.done, ← hpos] at this
  have hrel0 := hrel []
  rw [List.append_nil, List.append_nil] at hrel0
  rcases hfin with ⟨ret, hs, _, e⟩ | ⟨_, h0, hm, e⟩ <;> rw [e]
  · have hle : lf.r ≤ lf.store.length := hs.le
    refine ⟨fun _ => ⟨hmsg, by show lf.r ≤ (lf.store ++ T).length; rw [List.length_append]; omega, lf.code, lf.pos, rfl, hrun.code_pos hc0,
      hrun.code_lt hc, hrun.pos_lt hc hp, fun more => ?_⟩, fun h => absurd h hs.ne_one.1, fun hmd => ?_⟩
    · show _ = (mach v lf.code lf.pos ((lf.store ++ T).drop lf.r ++ more)).pre (((lf.store ++ T).drop st'.pos).take lf.mlen)
      rw [List.drop_append_of_le_length hle, take_drop_append_le _ _ _ _ (by rw [hpos, ← hrun.done]; simp only [Loc.r] at hle; omega),
        hrel, hrun.mach, MRes.pre_pre, hrun.unread, hreg, List.append_assoc]
    · subst hmd
      obtain ⟨hd, hz⟩ := hs.md
      have hm := hrun.mach T
      rw [← hrun.unread, drop_eq_cons_of_getElem? hz] at hm
      refine ⟨lf.code, lf.pos, ?_, ?_, ?_⟩
      · rw [hrel0, hm]; simp only [List.cons_append, mach, hd, if_true, MRes.pre, List.append_nil, DecOut.region, Loc.save]; rw [hreg]
      · show (lf.pos * 256 + lf.code) % 256 = _; have := hrun.code_lt hc; omega
      · show lf.pos * 256 + lf.code ≠ 0; have := hrun.code_pos hc0; omega
  · refine ⟨fun h => absurd rfl h, fun _ => ⟨?_, rfl, rfl⟩, fun h => nomatch h⟩
    rw [hrel0, hm T]
    show _ = MRes.done ((lf.store.drop lf.done).take lf.mlen)
    rw [hrun.done, ← hpos, hreg]; rfl

/-- what `decPrep` hands to the loop inside a frame (open block `c`, `p` of its bytes consumed): the loop
    continues at the input position behind the decoded bytes of the state -/
structure MidEntry (st : DecState) (store : List Byte) (c p : Nat) (st' : DecState) (l : Loc) : Prop where
  hstore : l.store = store
  code : l.code = c
  pos : l.pos = p
  mlen : l.mlen = st.len
  r : l.r = st.curr
  done : st'.pos = l.done
  msg : st'.msg = none
  le : st.curr ≤ store.length
  bnd : st.pos + st.len ≤ st.curr
  w : l.done + l.mlen = st.pos + st.len
  base : st.len ≠ 0 → l.done = st.pos

theorem MidEntry.jl {v : Variant} {st : DecState} {store : List Byte} {c p : Nat} {st' : DecState} {l : Loc}
    (he : MidEntry st store c p st' l) (hctx : st.ctx = p * 256 + c) (hc : c < 256) (hp : p < 256) (hs : SlackOk v st) :
    JL v l := by
  refine ⟨by rw [he.code]; exact hc, by rw [he.pos]; exact hp, fun hlt => ?_⟩
  rw [he.code, he.pos] at hlt
  have e1 : st.ctx / 256 = p := by omega
  have e2 : st.ctx % 256 = c := by omega
  have := hs.2 (by rw [e1, e2]; exact hlt)
  have := he.r; have := he.w
  simp only [Loc.r] at *; omega

theorem decodeCobs_mid (v : Variant) (peek : Bool) {st : DecState} {segs sg : List Seg} {st' : DecState} {l : Loc} {c p : Nat}
    (hsg : sg = if peek then segs.take 1 else segs)
    (hmsg : st.msg = none) (hctx : st.ctx = p * 256 + c) (hc0 : 0 < c) (hc : c < 256) (hp : p < 256)
    (h : decPrep st sg (flat sg) peek = .inr (st', l)) :
    MidEntry st (flat sg) c p st' l ∧ decodeCobs v st segs peek = decLoop v st' peek (l.store.length - l.r) l ∧
      (peek = true → st.len ≠ 0 ∧ st' = st) := by
  obtain ⟨he, hpk⟩ := decPrep_inr st sg _ peek st' l (fun m hm => by rw [hmsg] at hm; cases hm) h
  have hcode : l.code = c := by rw [he.code, hctx]; omega
  have hmlen := he.mlen_none hmsg
  have hw := he.opened (by rw [hctx]; omega)
  have hr := he.r
  refine ⟨⟨he.hstore, hcode, by rw [he.pos, hctx]; omega, hmlen, hr, by rw [he.hst], by rw [he.hst],
    he.le, ?_, hw, fun hl => he.done (by rw [hmlen]; exact hl)⟩, ?_, fun hp => ?_⟩
  · simp only [Loc.r, Loc.w] at hr hw; omega
  · unfold decodeCobs
    simp only [← hsg, h]
    unfold decStart
    rw [if_neg (by omega)]
  · have hl := (hpk hp).2
    exact ⟨by rw [← hmlen]; exact hl, by rw [he.hst, he.done hl, hmlen, ← hmsg]⟩

theorem Hist.enter {v : Variant} {c0 : Nat} {U : List Byte} {st : DecState} {store piece : List Byte} {c p : Nat} {st' : DecState}
    {l : Loc} (hcurr : st.curr ≤ store.length)
    (hrel : ∀ more, mach v c0 0 (U ++ more) = (mach v c p (store.drop st.curr ++ more)).pre ((store.drop st.pos).take st.len))
    (he : MidEntry st (store ++ piece) c p st' l) :
    ∀ more, mach v c0 0 ((U ++ piece) ++ more) = (mach v l.code l.pos (l.store.drop l.r ++ more)).pre l.acc := by
  have hacc : l.acc = (store.drop st.pos).take st.len := by
    simp only [Loc.acc, he.hstore, he.mlen]
    by_cases hl : st.len = 0
    · simp [hl]
    · rw [he.base hl]; exact take_drop_append_le _ _ _ _ (by have := he.bnd; omega)
  intro more
  rw [he.code, he.pos, he.r, he.hstore, hacc, List.append_assoc, hrel, List.drop_append_of_le_length hcurr, List.append_assoc]

/-- a delivered message in terms of the machine run on the bytes behind the first code byte -/
def Delivered (v : Variant) (c0 : Nat) (U : List Byte) (region : List Byte) : Prop :=
  mach v c0 0 U = .done region ∨
  (v.tail = true ∧ ∃ out code pos, mach v c0 0 U = .zeroIn out code pos ∧ region = out ++ [UInt8.ofNat code])

/-- a delivery is the reference decoding once the machine input is extended to the whole frame -/
theorem Delivered.dec {v : Variant} {c0 : Byte} {U rest body junk region : List Byte} (h : Delivered v c0.toNat U region)
    (hc0 : c0 ≠ 0) (hU : U ++ rest = body ++ 0 :: junk) (hnz : ∀ x ∈ body, x ≠ 0) :
    dec v (c0 :: body ++ [0]) = some region := by
  rcases h with h | ⟨ht, out, code, pos, h, hr⟩ <;> have hms := mach_dec v hc0 hnz hU (by rw [h]; simp) <;> rw [h] at hms
  · exact hms
  · simpa only [MRes.agrees, ht, if_true, hr] using hms

theorem Delivered.frame {v : Variant} {c0 : Byte} {U' rest pre junk region : List Byte} (hc0 : c0 ≠ 0)
    (hd : Delivered v c0.toNat U' region) (he : c0 :: U' ++ rest = pre ++ 0 :: junk) (hnz : ∀ x ∈ pre, x ≠ 0) :
    Cobs.dec v (pre ++ [0]) = some region := by
  cases pre with
  | nil => exact absurd (List.cons.inj he).1 hc0
  | cons c body =>
    simp only [List.cons_append, List.cons.injEq] at he
    obtain ⟨rfl, he⟩ := he
    exact hd.dec hc0 he (fun x hx => hnz x (by simp [hx]))

/-- where one decoder call inside the frame `c0 :: U` leaves the receiver: the new `Hist` or the delivery, and the
    `Scan` position on the storage `s` read from index `c` on -/
structure CallOut (v : Variant) (c0 : Nat) (U : List Byte) (s : List Byte) (c : Nat) (o : DecOut) : Prop where
  hist : o.ret ≠ .val 1 → Hist v c0 U o.st o.store
  one : o.ret = .val 1 → Delivered v c0 U o.region ∧ o.st.ctx = 0 ∧ o.st.msg = some o.st.len
  scan : Scan s c o

/-- all a caller learns from one call `o` of a decoder selected by the variant, from the state `st`, inside the frame
    `c0 :: U`: besides `CallOut`, an inline zero is answered with MissingData by the plain framings only, the work
    area invariant is kept, and with the delimiter in the unread input `s.drop c` the call does not wait for data,
    nor ask for work area when it has `room` for the bytes in front of the delimiter and two more (`Ran.live`) -/
structure CallV (v : Variant) (st : DecState) (c0 : Nat) (U s : List Byte) (c room : Nat) (o : DecOut) : Prop
    extends CallOut v c0 U s c o where
  md : o.ret = .err .MissingData → v.tail = false ∧ ∃ code pos, mach v c0 0 U = .zeroIn o.region code pos
  slack : SlackOk v st → SlackOk v o.st
  live : SlackOk v st → ∀ pre junk, s.drop c = pre ++ 0 :: junk → (∀ x ∈ pre, x ≠ 0) →
    (o.ret = .val 1 ∨ o.ret = .err .MissingBuffer ∨ o.ret = .err .MissingData) ∧
    (pre.length + 2 ≤ room → o.ret ≠ .err .MissingBuffer)

/-- a call that enters the block loop at `l` inside the frame `c0 :: U` (`o0`: what the regular decoder returns):
    everything is read off the one run of the loop; the tail-inline fix-up turns the stop on an inline zero into a
    delivery and changes nothing else (`decodeV_cases`) -/
theorem Ran.callV {v : Variant} {st : DecState} {segs : List Seg} (hwf : st.WF)
    {st' : DecState} {l : Loc} {o0 : DecOut} (heq : decodeCobs v st segs false = o0) (hran : Ran v st' false l o0)
    {c0 : Nat} {U : List Byte}
    (hrel : ∀ more, mach v c0 0 (U ++ more) = (mach v l.code l.pos (l.store.drop l.r ++ more)).pre l.acc)
    (hpos : st'.pos = l.done) (hmsg : st'.msg = none) (hc0 : 0 < l.code) (hc : l.code < 256) (hp : l.pos < 256)
    (hj : SlackOk v st → JL v l) {room : Nat} (hroom : room ≤ l.proc) :
    CallV v st c0 U l.store l.r room (decodeV v st segs false) := by
  obtain ⟨hhist, hone, hmd0⟩ := hran.call (T := []) hrel hpos hmsg hc0 hc hp
  rw [List.append_nil] at hhist
  have hsc : Scan l.store l.r o0 := hran.scan rfl rfl (Nat.le_refl _) (fun _ a b => absurd b (Nat.not_lt.mpr a))
  have hlive := fun hs => hran.live (hj hs) hpos
  rcases decodeV_cases v st segs false hwf heq with ⟨e, hor⟩ | ⟨ht, hmd, _, ⟨hpk, _⟩ | ⟨_, hlt, hle, e⟩⟩
  · rw [e]
    exact {
      hist := hhist
      one := fun h1 => ⟨Or.inl (hone h1).1, (hone h1).2.2, (hone h1).2.1⟩
      scan := hsc
      md := fun a => by
        obtain ⟨code, pos, e1, _, e3⟩ := hmd0 a
        exact ⟨(hor a).resolve_right e3, code, pos, e1⟩
      slack := fun hs => (hlive hs).1
      live := fun hs pre junk hun _ => by
        obtain ⟨a, b⟩ := (hlive hs).2 rfl pre junk hun
        exact ⟨a.imp_right Or.symm, fun h => b (Nat.le_trans h hroom)⟩ }
  · cases hpk
  · rw [e]
    obtain ⟨code, pos, e1, e2, _⟩ := hmd0 hmd
    have hz := hsc.md hmd
    have hge := hsc.ge
    have hcl : o0.st.curr < l.store.length := (List.getElem?_eq_some_iff.mp hz).1
    exact {
      hist := fun hne => absurd rfl hne
      one := fun _ => ⟨Or.inr ⟨ht, _, code, pos, e1, by simp only [DecOut.region, tailFix]; rw [region_snoc _ _ _ _ hlt, e2]⟩, rfl, rfl⟩
      -- the fix-up stores behind the decoded bytes and steps over the zero the regular decoder stands on
      scan := by
        refine ⟨?_, by simp only [tailFix, List.length_set]; exact hsc.len, by simp only [tailFix]; omega,
          by simp only [tailFix]; omega, ?_, ?_, fun h1 => (nomatch h1)⟩
        · simp only [tailFix]
          rw [List.drop_set_of_lt (by omega)]
          exact drop_ge_of_drop hsc.unread (by omega)
        · intro i a b
          have hb' : i < o0.st.curr := by simpa [tailFix] using b
          exact hsc.nz i a (by rw [hmd]; simpa using hb')
        · intro _
          simp only [tailFix, Nat.add_sub_cancel]
          exact ⟨by omega, hz⟩
      md := fun h => nomatch h
      slack := fun _ => slackOk_ctx0 v _ rfl
      live := fun _ _ _ _ _ => ⟨Or.inl rfl, fun _ h => nomatch h⟩ }

theorem mid_entry (v : Variant) (segs : List Seg) (st : DecState) (store piece : List Byte) (c0 : Nat) (U : List Byte)
    (hflat : flat segs = store ++ piece) {st' : DecState} {l : Loc}
    (hprep : decPrep st segs (flat segs) false = .inr (st', l)) (h : Hist v c0 U st store) :
    CallV v st c0 (U ++ piece) (store ++ piece) st.curr (st.curr - (st.pos + st.len)) (decodeV v st segs false) := by
  obtain ⟨hmsg, hcurr, c, p, hctx, hc0, hc, hp, hrel⟩ := h
  obtain ⟨he, heq, _⟩ := decodeCobs_mid v false (sg := segs) rfl hmsg hctx hc0 hc hp hprep
  rw [hflat] at he
  have hran := decLoop_run v st' false _ l (Nat.add_sub_cancel' (by rw [he.hstore, he.r]; exact he.le))
  have hcode := he.code
  have hproc : st.curr - (st.pos + st.len) ≤ l.proc := by have := he.r; have := he.w; simp only [Loc.r] at *; omega
  have := hran.callV (fun m hm => by rw [hmsg] at hm; cases hm) heq (Hist.enter hcurr hrel he) he.done he.msg (by omega) (by omega)
    (by rw [he.pos]; exact hp) (he.jl hctx hc hp) hproc
  rwa [he.hstore, he.r] at this

/-- 14: up to 15 bytes of the head room go to the alignment offset (`FreshEntry.room`), the code byte adds one to the
    work area -/
theorem fresh_entry (v : Variant) (segs : List Seg) (st : DecState) {st' : DecState} {l : Loc}
    (hprep : decPrep st segs (flat segs) false = .inr (st', l)) (hf : Fresh st) (c0 : Byte) (U : List Byte)
    (hU : (flat segs).drop st.curr = c0 :: U) (hc0 : c0 ≠ 0) :
    CallV v st c0.toNat U (flat segs) (st.curr + 1) (st.curr - (st.pos + st.len) - 14) (decodeV v st segs false) := by
  have he := decPrep_fresh hf hprep
  have hlt : st.curr < (flat segs).length := by
    rcases Nat.lt_or_ge st.curr (flat segs).length with h | h
    · exact h
    · rw [List.drop_eq_nil_of_le h] at hU; cases hU
  -- the loop variables behind the code byte: read index, unread input `U`, empty message
  have hs : (l.first c0).store = flat segs := he.hstore
  have hr : (l.first c0).r = st.curr + 1 := by have := he.r; simp only [Loc.first, Loc.r] at *; omega
  have hun : (l.first c0).store.drop (l.first c0).r = U := by
    have := congrArg (List.drop 1) hU
    rw [hs, hr]; simpa [List.drop_drop, Nat.add_comm] using this
  have hacc : (l.first c0).acc = [] := by show (l.store.drop l.done).take l.mlen = []; rw [he.mlen]; rfl
  have hpos : (l.first c0).pos = 0 := he.pos
  have hroom := he.room
  have hran := decLoop_run v st' false ((flat segs).length - (st.curr + 1)) (l.first c0) (by rw [hs, hr]; omega)
  have hclt : (l.first c0).code < 256 := UInt8.toNat_lt c0
  have := hran.callV hf.hsome ((decodeCobs_fresh v hf hprep).first c0 U hU hc0) (c0 := c0.toNat) (U := U)
    (by intro more; rw [hun, hacc, hpos, MRes.pre_nil]; rfl) he.done he.msg
    (Nat.pos_of_ne_zero ((toNat_ne_zero c0).mpr hc0)) hclt (by rw [hpos]; decide)
    (fun _ => ⟨hclt, by rw [hpos]; decide, fun _ => Nat.succ_pos _⟩)
    (room := st.curr - (st.pos + st.len) - 14) (by show _ ≤ l.proc + 1; omega)
  rwa [hs, hr] at this

/-- the first call on a fresh state when nothing has arrived, or a delimiter stands where a frame should start -/
structure StartCall (v : Variant) (st : DecState) (segs : List Seg) : Prop where
  nil : (flat segs).drop st.curr = [] → (decodeCobs v st segs false).ret ≠ .val 1 ∧
    (decodeCobs v st segs false).ret ≠ .err .MissingData ∧
    ((decodeCobs v st segs false).ret = .val 0 →
      Fresh (decodeCobs v st segs false).st ∧ (decodeCobs v st segs false).st.curr = st.curr ∧
      (decodeCobs v st segs false).store = flat segs)
  zero : ∀ tl, (flat segs).drop st.curr = 0 :: tl → (decodeCobs v st segs false).ret ≠ .val 1 ∧
    (decodeCobs v st segs false).ret ≠ .val 0 ∧ (decodeCobs v st segs false).ret ≠ .err .MissingData

theorem start_call (v : Variant) (segs : List Seg) (st : DecState) (hf : Fresh st) : StartCall v st segs := by
  cases hprep : decPrep st segs (flat segs) false with
  | inl es =>
    have he := decPrep_err _ _ _ _ _ _ hprep
    have hcall := decodeCobs_err v false (sg := segs) rfl hprep
    exact ⟨fun _ => by rw [hcall]; exact ⟨by simp, by simp [he], by simp⟩,
      fun _ _ => by rw [hcall]; exact ⟨by simp, by simp, by simp [he]⟩⟩
  | inr sl =>
    have he := decPrep_fresh hf hprep
    obtain ⟨hnil, hzero, _⟩ := decodeCobs_fresh v hf hprep
    refine ⟨fun h => ?_, fun tl h => ?_⟩
    · rw [hnil h]; exact ⟨by simp, by simp, fun _ => ⟨he.fresh, he.curr, rfl⟩⟩
    · rw [hzero tl h]; simp

theorem mid_call (v : Variant) (segs : List Seg) (st : DecState) (store : List Byte) (c0 : Nat) (U : List Byte)
    (hflat : flat segs = store) (hb : Bnd store.length st) (h : Hist v c0 U st store) :
    CallV v st c0 U store st.curr (st.curr - (st.pos + st.len)) (decodeV v st segs false) := by
  obtain ⟨st', l, hprep⟩ := decPrep_noerr st segs (flat segs) (hflat ▸ hb)
  simpa using mid_entry v segs st store [] c0 U (by simpa using hflat) hprep h

/-- with sixteen bytes of head room more than the bytes `U` in front of the delimiter (fifteen more than the frame with
    its code byte, as `decodeV_frame` counts) the call does not ask for work area (`CallV.live` with the room of
    `fresh_entry`) -/
theorem fresh_call (v : Variant) (segs : List Seg) (st : DecState) (store : List Byte) (hflat : flat segs = store)
    (hb : Bnd store.length st) (hf : Fresh st) (c0 : Byte) (U : List Byte) (hU : store.drop st.curr = c0 :: U) (hc0 : c0 ≠ 0) :
    CallV v st c0.toNat U store (st.curr + 1) (st.curr - (st.pos + st.len) - 14) (decodeV v st segs false) := by
  subst hflat
  obtain ⟨st', l, hprep⟩ := decPrep_noerr st segs _ hb
  exact fresh_entry v segs st hprep hf c0 U hU hc0

theorem fresh_call_nil (v : Variant) (segs : List Seg) (st : DecState) (store : List Byte) (hflat : flat segs = store)
    (hb : Bnd store.length st) (hf : Fresh st) (hnil : store.drop st.curr = []) :
    (decodeV v st segs false).ret = .val 0 ∧ Fresh (decodeV v st segs false).st ∧
      (decodeV v st segs false).st.curr = st.curr ∧ (decodeV v st segs false).store = store ∧
      (decodeV v st segs false).st.msg = none := by
  subst hflat
  obtain ⟨st', l, hprep⟩ := decPrep_noerr st segs _ hb
  have he := decPrep_fresh hf hprep
  have hc := (decodeCobs_fresh v hf hprep).nil hnil
  rw [decodeV_of_ret v st segs false (by rw [hc]; simp), hc]
  exact ⟨rfl, he.fresh, he.curr, rfl, he.msg⟩

end Mpt.Codec
