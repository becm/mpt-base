/-
  node_clear / node_destroy: every node below the argument is released exactly once (post-order),
  nothing else is touched.
-/
import MptModel.Lemmas.NodesReal
namespace Mpt.Nodes
open Mpt Mpt.Forest

/-- order in which the nodes are released -/
def post : Forest → List Nat
  | [] => []
  | (.node i _ _ cs) :: ts => post cs ++ i :: post ts

theorem post_perm (l : Forest) : (post l).Perm (ids l) := by
  induction l using forest_induct with
  | nil => simp [post]
  | cons i n v cs ts h1 h2 =>
    simp only [post, ids_cons]
    exact List.perm_middle.trans (List.Perm.cons _ (List.Perm.append h1 h2))

/-- fuel the release of a forest consumes: per node one step each of `clearLoop`, `destroy` and `clear` -/
def cost : Forest → Nat
  | [] => 0
  | (.node _ _ _ cs) :: ts => 3 + cost cs + cost ts

theorem cost_eq (l : Forest) : cost l = 3 * (ids l).length := by
  induction l using forest_induct with
  | nil => simp [cost]
  | cons i n v cs ts h1 h2 => simp [cost, h1, h2]; omega

/-- what `mpt_node_clear` / `mpt_node_destroy` leave of the realised forest `l`: its nodes are dead and logged in
    post-order, no other record is written -/
structure Released (s s' : Store) (l : Forest) : Prop where
  freed : s'.freed = s.freed ++ post l
  length : s'.nodes.length = s.nodes.length
  other : ∀ i, i ∉ ids l → s'.nodes[i]? = s.nodes[i]?
  dead : ∀ i ∈ ids l, ∃ n, s'.nodes[i]? = some n ∧ n.alive = false

/-- The statement of `clearLoop_spec` for the list `l`.  `mpt_node_clear`, `mpt_node_destroy` and the loop call each
    other; `clear_spec` and `destroy_spec` take this for the children as a hypothesis, so that the loop's step can quote
    them with its induction hypothesis. -/
def ClearsList (l : Forest) : Prop := ∀ (s : Store) (fuel : Nat) {par prev : Option Nat},
  Real s par prev l → (ids l).Nodup → cost l ≤ fuel →
  ∃ s', s.clearLoop fuel (headId l) = .ok s' ∧ Released s s' l

/-- `mpt_node_clear(x)` at record level -/
theorem clear_spec {s : Store} {x : Nat} {xn : Node} {cs : Forest} {fuel : Nat} {par prev : Option Nat}
    (hloop : ClearsList cs)
    (hx : s.Live x xn) (hc : xn.children = headId cs) (hD : Real s par prev cs) (hnd : (ids cs).Nodup) (hxcs : x ∉ ids cs)
    (hf : cost cs + 1 ≤ fuel) :
    ∃ s', s.clear fuel x = .ok s' ∧ s'.freed = s.freed ++ post cs ∧ s'.nodes.length = s.nodes.length ∧
      s'.nodes[x]? = some { xn with children := none } ∧
      (∀ i, i ≠ x → i ∉ ids cs → s'.nodes[i]? = s.nodes[i]?) ∧
      (∀ i ∈ ids cs, ∃ n, s'.nodes[i]? = some n ∧ n.alive = false) := by
  obtain ⟨f, rfl⟩ : ∃ f, fuel = f + 1 := ⟨fuel - 1, by omega⟩
  obtain ⟨s1, e1, r1⟩ := hloop s f hD hnd (by omega)
  have hl1 : s1.Live x xn := ⟨by rw [r1.other x hxcs]; exact hx.1, hx.2⟩
  obtain ⟨s2, e2, u2⟩ := Store.modify_ok hl1 (fun n => { n with children := none })
  refine ⟨s2, ?_, ?_, ?_, ?_, ?_, ?_⟩
  · simp only [Store.clear, Store.get_ok hx, Res.bind_ok]
    rw [hc, e1]
    simp only [Res.bind_ok, e2]
  · rw [u2.1, r1.freed]
  · rw [u2.2.1, r1.length]
  · rw [u2.2.2 x]; simp
  · intro i h1 h2
    rw [u2.2.2 i, if_neg h1, r1.other i h2]
  · intro i hi
    obtain ⟨n, hn, hd⟩ := r1.dead i hi
    have : i ≠ x := by rintro rfl; exact hxcs hi
    exact ⟨n, by rw [u2.2.2 i, if_neg this]; exact hn, hd⟩

/-- `mpt_node_destroy(x)` of an unlinked node at record level -/
theorem destroy_spec {s : Store} {x : Nat} {n : Name} {v : Val} {cs : Forest} {fuel : Nat}
    (hloop : ClearsList cs)
    (hR : Real s none none [.node x n v cs]) (hnd : (ids [.node x n v cs]).Nodup)
    (hf : cost cs + 2 ≤ fuel) :
    ∃ s', s.destroy fuel x = .ok (s', true) ∧ Released s s' [.node x n v cs] := by
  rw [Real_cons] at hR
  simp at hnd
  obtain ⟨f, rfl⟩ : ∃ f, fuel = f + 1 := ⟨fuel - 1, by omega⟩
  have hx : s.Live x (recOf none none none cs n v) := ⟨by simpa using hR.1, rfl⟩
  obtain ⟨s1, e1, f1, l1, rx, ro, rd⟩ := clear_spec (fuel := f) hloop hx rfl hR.2.1 hnd.2 hnd.1 (by omega)
  have hl1 : s1.Live x { recOf none none none cs n v with children := none } := ⟨rx, rfl⟩
  obtain ⟨s2, e2, f2, l2, r2⟩ := Store.free_ok hl1
  refine ⟨s2, ?_, ?_, ?_, ?_, ?_⟩
  · simp only [Store.destroy, Store.get_ok hx, Res.bind_ok]
    simp only [Option.isSome_none, Bool.false_eq_true, or_self, ↓reduceIte]
    rw [e1]
    simp only [Res.bind_ok, e2]
    rfl
  · rw [f2, f1]; simp [post]
  · rw [l2, l1]
  · intro i hi
    simp at hi
    rw [r2 i, if_neg hi.1, ro i hi.1 hi.2]
  · intro i hi
    simp at hi
    rcases hi with rfl | hi
    · exact ⟨{ recOf none none none cs n v with children := none, alive := false }, by rw [r2 i]; simp, rfl⟩
    · obtain ⟨m, hm, hd⟩ := rd i hi
      have : i ≠ x := by rintro rfl; exact hnd.1 hi
      exact ⟨m, by rw [r2 i, if_neg this]; exact hm, hd⟩

/-- the loop of `mpt_node_clear` on a realised sibling list: the first element is isolated — it is a detached root
    then — and destroyed, the loop goes on behind it.  When a sub-forest is walked, only records outside it have been
    written so far, so it is still laid out as it was. -/
theorem clearLoop_spec (l : Forest) : ClearsList l := by
  induction l using forest_induct with
  | nil => exact fun s fuel _ _ _ _ _ => ⟨s, by simp [Store.clearLoop], by simp [post], rfl, fun _ _ => rfl, by simp⟩
  | cons i n v cs ts ihc iht =>
    intro s fuel par prev hL hnd hc
    rw [Real_cons] at hL
    obtain ⟨⟨hics, hits⟩, ndcs, ndts, disj⟩ := nodup_ids_cons.1 hnd
    simp only [cost] at hc
    obtain ⟨f2, rfl⟩ : ∃ f2, fuel = f2 + 3 := ⟨fuel - 3, by omega⟩
    have hlive : s.Live i (recOf (headId ts) prev par cs n v) := ⟨hL.1, rfl⟩
    obtain ⟨s1, e1, u1⟩ := Store.modify_ok hlive (fun x => { x with next := none, prev := none, parent := none })
    have h1 : ∀ k, k ≠ i → s1.nodes[k]? = s.nodes[k]? := fun k hk => by rw [u1.2.2 k, if_neg hk]
    obtain ⟨s4, e4, r4⟩ := destroy_spec (s := s1) (fuel := f2 + 2) ihc
      (by rw [Real_cons]
          exact ⟨by rw [u1.2.2 i, if_pos rfl]; rfl, hL.2.1.frame fun k hk => h1 k fun e => hics (e ▸ hk), by simp⟩)
      (by simpa using ⟨hics, ndcs⟩) (by omega)
    have h4 : ∀ k ∈ ids ts, s4.nodes[k]? = s.nodes[k]? := fun k hk => by
      rw [r4.other k (by simpa using ⟨fun e => hits (e ▸ hk), fun h => disj k h hk⟩), h1 k fun e => hits (e ▸ hk)]
    obtain ⟨s5, e5, r5⟩ := iht s4 (f2 + 2) (hL.2.2.frame h4) ndts (by omega)
    refine ⟨s5, ?_, ?_, ?_, ?_, ?_⟩
    · simp only [headId_cons, Store.clearLoop, Store.get_ok hlive, Res.bind_ok, e1, e4]
      exact e5
    · rw [r5.freed, r4.freed, u1.1]
      simp [post]
    · rw [r5.length, r4.length, u1.2.1]
    · intro k hk
      simp only [ids_cons, List.mem_cons, List.mem_append, not_or] at hk
      rw [r5.other k hk.2.2, r4.other k (by simpa using ⟨hk.1, hk.2.1⟩), h1 k hk.1]
    · intro k hk
      by_cases hkts : k ∈ ids ts
      · exact r5.dead k hkts
      rw [r5.other k hkts]
      exact r4.dead k (by simpa [hkts] using hk)

/-- `mpt_node_destroy(x)` of a detached root: everything of the tree is released exactly once, in post-order -/
theorem destroy_refines {s : Store} {x : Nat} {n : Name} {v : Val} {cs : Forest} {rest : List Forest} {fuel : Nat}
    (hR : Realises s ([.node x n v cs] :: rest)) (hf : cost cs + 2 ≤ fuel) :
    ∃ s', s.destroy fuel x = .ok (s', true) ∧ Realises s' rest ∧ s'.freed = s.freed ++ post [.node x n v cs] := by
  have hT := (hR.real [.node x n v cs] (by simp)).2
  have hnd := hR.nodup
  simp only [List.flatMap_cons] at hnd
  have hndT := (List.nodup_append.1 hnd).1
  have hdisj := (List.nodup_append.1 hnd).2.2
  obtain ⟨s', hs', rel⟩ := destroy_spec (clearLoop_spec cs) hT hndT hf
  refine ⟨s', hs', ?_, rel.freed⟩
  refine hR.release (D := ids [.node x n v cs]) (post_perm _) rel.freed ?_ rel.dead (Real.live hT) ?_ ?_
  · intro i hi
    rw [rel.other i hi]
  · intro l hl
    have hr := hR.real l (by simp [hl])
    refine ⟨hr.1, Real.frame hr.2 (fun i hi => rel.other i ?_)⟩
    intro h
    exact hdisj i h i (List.mem_flatMap.2 ⟨l, hl, hi⟩) rfl
  · simp only [List.flatMap_cons]
    exact List.perm_append_comm

/-- `mpt_node_clear(x)`: everything below `x` is released exactly once, `x` keeps its place -/
theorem clear_refines {s : Store} {x : Nat} {l0 : Forest} {tx : Tree} {rest : List Forest} {fuel : Nat}
    (hR : Realises s (l0 :: rest)) (hfx : find? x l0 = some tx) (hf : cost tx.children + 1 ≤ fuel) :
    ∃ s', s.clear fuel x = .ok s' ∧ Realises s' (modKids x (fun _ => []) l0 :: rest) ∧
      s'.freed = s.freed ++ post tx.children := by
  have hl0 := hR.real l0 (by simp)
  have hnd := hR.nodup
  simp only [List.flatMap_cons] at hnd
  have hnd0 := (List.nodup_append.1 hnd).1
  have hdisj := (List.nodup_append.1 hnd).2.2
  obtain ⟨⟨nx, pv, pr, hxrec⟩, hkids⟩ := Real.of_find hl0.2 hfx
  obtain ⟨hxcs, hcsnd⟩ := find?_children_nodup hnd0 hfx
  have hsub := find?_children_subset hfx
  obtain ⟨s', hs', hfreed, hlen, rx, ro, rd⟩ :=
    clear_spec (fuel := fuel) (s := s) (x := x) (clearLoop_spec _) ⟨hxrec, rfl⟩ rfl hkids hcsnd hxcs hf
  refine ⟨s', hs', ?_, hfreed⟩
  obtain ⟨A, B, hsplit, hsplit'⟩ := ids_modKids_split hnd0 hfx
  refine hR.release (D := ids tx.children) (post_perm _) hfreed ?_ rd (Real.live hkids) ?_ ?_
  · intro i hi
    by_cases hix : i = x
    · subst hix; rw [rx, hxrec]; rfl
    · rw [ro i hix hi]
  · intro l hl
    simp only [List.mem_cons] at hl
    rcases hl with rfl | hl
    · refine ⟨modKids_ne_nil hl0.1, real_modKids hl0.2 hnd0 hfx (by simp) ?_ (fun i _ h1 h2 => ro i h1 h2)⟩
      rw [rx, hxrec]; rfl
    · have hr := hR.real l (by simp [hl])
      refine ⟨hr.1, Real.frame hr.2 (fun i hi => ?_)⟩
      have hirest : i ∈ rest.flatMap ids := List.mem_flatMap.2 ⟨l, hl, hi⟩
      refine ro i ?_ ?_
      · rintro rfl; exact hdisj i (find?_mem hfx).1 i hirest rfl
      · intro h; exact hdisj i (hsub i h) i hirest rfl
  · simp only [List.flatMap_cons]
    rw [hsplit, hsplit' (fun _ => [])]
    simp only [ids_nil, List.append_nil]
    have : (A ++ B ++ rest.flatMap ids ++ ids tx.children).Perm (A ++ ids tx.children ++ B ++ rest.flatMap ids) := by
      have h1 := @List.perm_append_comm _ (B ++ rest.flatMap ids) (ids tx.children)
      have h2 := List.Perm.append_left A h1
      simpa [List.append_assoc] using h2
    exact this

/-- the fuel both drivers pass to `clear` and `destroy` (`Store.fuel = 4 * s.nodes.length + 4`) suffices on a realised
    store: a realised list has at most `s.nodes.length` nodes, each costs three steps (this, `clear_fuel`, `destroy_fuel`) -/
theorem Realises.cost_le {s : Store} {tops : List Forest} (h : Realises s tops) {l : Forest} (hl : l ∈ tops) :
    cost l ≤ 3 * s.nodes.length := by
  have := h.ids_length_le hl
  rw [cost_eq]
  omega

theorem clear_fuel {s : Store} {x : Nat} {l0 : Forest} {tx : Tree} {rest : List Forest}
    (hR : Realises s (l0 :: rest)) (hfx : find? x l0 = some tx) : cost tx.children + 1 ≤ s.fuel := by
  have hfu := hR.cost_le (l := l0) (by simp)
  obtain ⟨A, B, h1, _⟩ := ids_modKids_split (hR.ids_nodup (by simp)) hfx
  rw [cost_eq, h1] at hfu
  rw [cost_eq]
  simp only [List.length_append, Store.fuel] at hfu ⊢
  omega

theorem destroy_fuel {s : Store} {x : Nat} {n : Name} {v : Val} {cs : Forest} {rest : List Forest}
    (hR : Realises s ([.node x n v cs] :: rest)) : cost cs + 2 ≤ s.fuel := by
  have hfu := hR.cost_le (l := [.node x n v cs]) (by simp)
  simp only [cost, Store.fuel] at hfu ⊢
  omega

end Mpt.Nodes
