/-
  For C03 and C02: what a peek call (`sourcelen == 0`) may change.  Inside a frame the call sees a window of the
  data, the first `n` bytes, as `mpt_queue_peek` calls it (`PeekOut`); the whole first segment is the window
  `n = store.length` (`C03.peek_effect`).  A refused call changes nothing (`peek_refused_eq`).
-/
import MptModel.Lemmas.DecodeCall
namespace Mpt.Codec
open Mpt.Cobs

theorem decPrep_peek_inl {st : DecState} {sg : List Seg} {store : List Byte} {e : Err} {st' : DecState}
    (hmsg : st.msg = none) (h : decPrep st sg store true = .inl (e, st')) : st' = st := by
  rcases (decPrep_inl _ _ _ _ _ _ h).2 rfl with h | h
  · exact h
  · rw [h, decPrev_none hmsg]

/-- what a peek call that sees the first `n` bytes of the data `s` leaves behind, inside a frame -/
structure PeekOut (v : Variant) (c0 : Nat) (U : List Byte) (st : DecState) (s : List Byte) (n : Nat) (o : DecOut) : Prop where
  len : o.store.length = n
  pos : o.st.pos = st.pos
  msg : o.st.msg = none
  hist : Hist v c0 U o.st (o.store ++ s.drop n)
  unread : (o.store ++ s.drop n).drop o.st.curr = s.drop o.st.curr
  ge : st.curr ≤ o.st.curr
  le : o.st.curr ≤ s.length
  nz : ∀ i, st.curr ≤ i → i < o.st.curr → s[i]? ≠ some 0
  slack : SlackOk v st → SlackOk v o.st
  bnd : o.st.pos + o.st.len ≤ o.st.curr
  nofault : o.ret ≠ .oob ∧ o.ret ≠ .clobber ∧ o.ret ≠ .val 1

/-- refused, or the block loop runs on the window (the first segment holds the first `n` bytes of `s`) and the state it
    is suspended in continues the machine run of `Hist` on all of `s` (`Ran.call`) -/
theorem peek_win0 (v : Variant) (c0 : Nat) (U : List Byte) (st : DecState) (s : List Byte) (n : Nat) (segs : List Seg)
    (hn : n ≤ s.length) (hflat : flat (segs.take 1) = s.take n)
    (hle : st.pos + st.len ≤ st.curr) (h : Hist v c0 U st s) :
    PeekOut v c0 U st s n (decodeCobs v st segs true) ∧
    (decodeCobs v st segs true).store.take (st.pos + st.len) = (s.take n).take (st.pos + st.len) ∧
    st.len ≤ (decodeCobs v st segs true).st.len := by
  have hwl : (s.take n).length = n := by rw [List.length_take]; omega
  obtain ⟨hmsg, hcurr, c, p, hctx, hc0, hc, hp, hrel⟩ := h
  cases hprep : decPrep st (segs.take 1) (flat (segs.take 1)) true with
  | inl es =>
    -- refused: nothing changes
    obtain ⟨e, st'⟩ := es
    rw [decodeCobs_err v true (sg := segs.take 1) rfl hprep, hflat, decPrep_peek_inl hmsg hprep]
    have hs : s.take n ++ s.drop n = s := List.take_append_drop n s
    exact ⟨⟨hwl, rfl, hmsg, by simp only [hs]; exact ⟨hmsg, hcurr, c, p, hctx, hc0, hc, hp, hrel⟩, by simp only [hs],
      Nat.le_refl _, hcurr, fun i h1 h2 => by simp only at h2; omega, fun hsl => hsl, hle, by simp, by simp, by simp⟩,
      rfl, Nat.le_refl _⟩
  | inr sl =>
    obtain ⟨st', l⟩ := sl
    obtain ⟨he, heq, hpk⟩ := decodeCobs_mid v true (segs := segs) (sg := segs.take 1) rfl hmsg hctx hc0 hc hp hprep
    obtain ⟨hl, rfl⟩ := hpk rfl
    rw [hflat] at he
    have hr := he.r
    have hs := he.hstore
    have hdone : l.done = st'.pos := he.base hl
    have hcn : st'.curr ≤ n := by have := he.le; rwa [hwl] at this
    have hacc : l.acc = (s.drop st'.pos).take st'.len := by
      rw [Loc.acc, hs, hdone, he.mlen, List.drop_take, List.take_take, Nat.min_eq_left (by omega)]
    have hran := decLoop_run v st' true _ l (show l.r + (l.store.length - l.r) = l.store.length by rw [hs, hwl, hr]; omega)
    rw [heq]
    generalize decLoop v st' true (l.store.length - l.r) l = o at hran
    -- the machine run of `Hist` continues over the bytes this call consumes; `s.drop n` is out of its sight
    have hhist := (hran.call (c0 := c0) (U := U) (T := s.drop n) (fun more => by
        rw [he.code, he.pos, hacc, hs, hr, ← List.append_assoc, drop_take_append_drop s _ n hcn hn]; exact hrel more)
      he.done hmsg (by rw [he.code]; exact hc0) (by rw [he.code]; exact hc) (by rw [he.pos]; exact hp)).1 hran.ne_one
    have hslack := fun hsl => (hran.live (he.jl hctx hc hp hsl) hdone.symm).1
    have hbnd := (hran.bnd hmsg hdone.symm).le
    -- a peek call stops in place: the rest is read off the run
    obtain ⟨k, out, lf, hrun, ⟨ret, hstop, _, rfl⟩ | ⟨hpk, _⟩⟩ := hran
    · have hlen : lf.store.length = n := by rw [hrun.len, hs, hwl]
      have hlr : lf.r ≤ n := by rw [← hlen]; exact hstop.le
      have hrr := hrun.r
      refine ⟨⟨hlen, rfl, hmsg, hhist, ?_, by show st'.curr ≤ lf.r; omega, by show lf.r ≤ s.length; omega, fun i h1 h2 => ?_,
        hslack, hbnd, hstop.ne_one.2.1, hstop.ne_one.2.2, hstop.ne_one.1⟩, ?_, by show st'.len ≤ lf.mlen; rw [hrun.mlen, he.mlen]; omega⟩
      · show (lf.store ++ s.drop n).drop lf.r = s.drop lf.r
        rw [List.drop_append_of_le_length (by omega), hrun.unread, hs, drop_take_append_drop s _ n hlr hn]
      · have := hrun.nz i (by omega) h2
        rwa [hs, List.getElem?_take, if_pos (by have : i < lf.r := h2; omega)] at this
      · rw [← he.w, ← hs]; exact hrun.low
    · cases hpk

/-- the same for the decoder selected by the variant: in peek mode the tail fix-up only changes the return value -/
theorem peek_window (v : Variant) (c0 : Nat) (U : List Byte) (st : DecState) (s : List Byte) (n : Nat) (segs : List Seg)
    (hn : n ≤ s.length) (hflat : flat (segs.take 1) = s.take n)
    (hle : st.pos + st.len ≤ st.curr) (h : Hist v c0 U st s) :
    PeekOut v c0 U st s n (decodeV v st segs true) ∧
    (decodeV v st segs true).store.take (st.pos + st.len) = (s.take n).take (st.pos + st.len) ∧
    st.len ≤ (decodeV v st segs true).st.len := by
  obtain ⟨h0, hlow, hlen⟩ := peek_win0 v c0 U st s n segs hn hflat hle h
  rcases decodeV_cases v st segs true (by intro m hm; rw [h.msg] at hm; cases hm) rfl with
    ⟨heq, _⟩ | ⟨_, _, _, ⟨_, heq⟩ | ⟨hpk, _⟩⟩
  · rw [heq]; exact ⟨h0, hlow, hlen⟩
  · rw [heq]
    exact ⟨{ h0 with nofault := by simp }, hlow, hlen⟩
  · cases hpk

theorem peek_win (v : Variant) (c0 : Nat) (U : List Byte) (st : DecState) (s : List Byte) (n a : Nat) (hn : n ≤ s.length)
    (hle : st.pos + st.len ≤ st.curr) (h : Hist v c0 U st s) :
    PeekOut v c0 U st s n (decodeV v st [(a, s.take n)] true) :=
  (peek_window v c0 U st s n [(a, s.take n)] hn (by simp [flat]) hle h).1

theorem peek_refused_eq (v : Variant) (st : DecState) (a : Nat) (w : List Byte)
    (h : st.msg.isSome ∨ st.len = 0 ∨ w.length < st.curr) :
    ∃ e, (e = .BadOperation ∨ e = .BadArgument) ∧ decodeV v st [(a, w)] true = { ret := .err e, st := st, store := w } := by
  have hflat : flat ([(a, w)].take 1) = w := by simp [flat]
  have hprep : ∃ e, (e = .BadOperation ∨ e = .BadArgument) ∧
      decPrep st ([(a, w)].take 1) (flat ([(a, w)].take 1)) true = .inl (e, st) := by
    cases hm : st.msg with
    | some m => exact (decPrep_waiting st _ _ (by rw [hm]; rfl)).elim (fun e => ⟨_, Or.inr rfl, e⟩) (fun e => ⟨_, Or.inl rfl, e⟩)
    | none =>
      cases hp : decPrep st ([(a, w)].take 1) (flat ([(a, w)].take 1)) true with
      | inl es =>
        obtain ⟨e, st'⟩ := es
        obtain rfl := decPrep_peek_inl hm hp
        exact ⟨e, (decPrep_inl _ _ _ _ _ _ hp).1.imp (·.1) (·.1), rfl⟩
      | inr sl =>
        -- the loop is entered only with decoded bytes of an open block, inside the data
        obtain ⟨he, hpk⟩ := decPrep_inr st _ _ true sl.1 sl.2 (fun m h => by rw [hm] at h; cases h) hp
        have := he.le
        rw [hflat] at this
        rcases h with h | h | h
        · rw [hm] at h; cases h
        · exact absurd ((he.mlen_none hm).trans h) (hpk rfl).2
        · omega
  obtain ⟨e, hor, hp⟩ := hprep
  have hc := decodeCobs_err v true (segs := [(a, w)]) (sg := [(a, w)].take 1) rfl hp
  rw [hflat] at hc
  exact ⟨e, hor, by rw [decodeV_of_ret v st _ true (by rw [hc]; rcases hor with rfl | rfl <;> simp), hc]⟩

end Mpt.Codec
