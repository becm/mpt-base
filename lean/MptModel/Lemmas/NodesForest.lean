/-
  Pure facts about ordered forests (`Spec/Forest`): handles (`ids`), the head of a sibling list, positions
  in a sibling list (`idx?`, `prevAt`), searching (`find?`) and rewriting (`modKids`) below a node.
-/
import MptModel.Spec.Forest
namespace Mpt.Nodes
open Mpt Mpt.Forest


@[simp] theorem ids_nil : ids [] = [] := by simp [ids]
@[simp] theorem ids_cons (i : Nat) (n : Name) (v : Val) (cs ts : Forest) :
    ids ((.node i n v cs) :: ts) = i :: (ids cs ++ ids ts) := by simp [ids]

/-- Induction over a forest: the children of the first tree and its later siblings are both smaller forests.
    Proofs that go into the children as well as along the siblings use this principle; recursion along the siblings
    alone is written directly. -/
theorem forest_induct {motive : Forest → Prop} (nil : motive [])
    (cons : ∀ i n v cs ts, motive cs → motive ts → motive (.node i n v cs :: ts)) : ∀ l, motive l :=
  ids.induct motive nil cons

theorem ids_append (a b : Forest) : ids (a ++ b) = ids a ++ ids b := by
  induction a using forest_induct with
  | nil => simp
  | cons i n v cs ts _ ih => simp [ih]

theorem nodup_ids_cons {i : Nat} {n : Name} {v : Val} {cs ts : Forest} :
    (ids (.node i n v cs :: ts)).Nodup ↔
      (i ∉ ids cs ∧ i ∉ ids ts) ∧ (ids cs).Nodup ∧ (ids ts).Nodup ∧ ∀ k ∈ ids cs, k ∉ ids ts := by
  rw [ids_cons, List.nodup_cons, List.mem_append, List.nodup_append, not_or]
  exact and_congr_right fun _ => and_congr_right fun _ => and_congr_right fun _ =>
    ⟨fun h k hk hk' => h k hk k hk' rfl, fun h a ha b hb e => h a ha (e ▸ hb)⟩

theorem ids_drop_subset (l : Forest) (n : Nat) : ∀ k ∈ ids (l.drop n), k ∈ ids l := by
  intro k hk
  rw [← List.take_append_drop n l, ids_append]
  exact List.mem_append_right _ hk

theorem length_le_ids : ∀ (L : Forest), L.length ≤ (ids L).length
  | [] => by simp
  | (.node i n v cs) :: ts => by
    have := length_le_ids ts
    simp; omega

theorem ids_perm {l l' : Forest} (h : l.Perm l') : (ids l).Perm (ids l') := by
  have e : ∀ l : Forest, ids l = l.flatMap fun t => ids [t] := by
    intro l
    induction l using forest_induct with
    | nil => simp
    | cons i n v cs ts _ ih => simp [ih]
  rw [e l, e l']
  exact h.flatMap_right _

theorem ids_insertIdx_perm (t : Tree) (l : Forest) (k : Nat) (h : k ≤ l.length) :
    (ids (l.insertIdx k t)).Perm (ids [t] ++ ids l) := by
  rw [← ids_append]
  exact ids_perm (List.perm_insertIdx t l h)

theorem ids_eraseIdx_perm {t : Tree} (L : Forest) (j : Nat) (h : L[j]? = some t) :
    (ids L).Perm (ids [t] ++ ids (L.eraseIdx j)) := by
  obtain ⟨hj, ht⟩ := List.getElem?_eq_some_iff.1 h
  have hL : L.take j ++ t :: L.drop (j + 1) = L := by
    rw [← ht, ← List.drop_eq_getElem_cons hj, List.take_append_drop]
  have : (L.take j ++ t :: L.drop (j + 1)).Perm (t :: (L.take j ++ L.drop (j + 1))) := List.perm_middle
  rw [hL] at this
  rw [← ids_append, List.eraseIdx_eq_take_drop_succ]
  exact ids_perm (by simpa using this)

/-- pigeonhole: the list is duplicate-free inside `List.range n` -/
theorem nodup_bound (n : Nat) (l : List Nat) (hnd : l.Nodup) (hb : ∀ i ∈ l, i < n) : l.length ≤ n := by
  simpa using hnd.length_le_of_subset (l₂ := List.range n) fun i hi => List.mem_range.2 (hb i hi)


@[simp] theorem headId_nil : headId [] = none := rfl
@[simp] theorem headId_cons (i : Nat) (n : Name) (v : Val) (cs ts : Forest) : headId ((.node i n v cs) :: ts) = some i := rfl

theorem headId_mem {l : Forest} {k : Nat} (h : headId l = some k) : k ∈ ids l := by
  cases l with
  | nil => simp at h
  | cons t ts =>
    cases t with
    | node i n v cs => simp at h; simp [h]

theorem headId_insertIdx_succ (l : Forest) (j : Nat) (t : Tree) (h : l ≠ []) :
    headId (l.insertIdx (j + 1) t) = headId l := by
  cases l with
  | nil => simp at h
  | cons a as => simp [List.insertIdx_succ_cons, headId]

theorem headId_eraseIdx_succ (l : Forest) (j : Nat) (h : l ≠ []) : headId (l.eraseIdx (j + 1)) = headId l := by
  cases l with
  | nil => simp at h
  | cons a as => simp [headId]

theorem headId_drop_one (l : Forest) : headId (l.drop 1) = headId (l.eraseIdx 0) := by
  cases l <;> simp

theorem headId_drop (L : Forest) (j : Nat) : headId (L.drop j) = (L[j]?).map Tree.id := by
  induction L generalizing j with
  | nil => simp
  | cons t ts ih =>
    cases j with
    | zero => cases t; simp [Tree.id]
    | succ j => simpa using ih j

theorem getElem?_last {L : Forest} (h : L ≠ []) : ∃ t, L[L.length - 1]? = some t := by
  have : L.length - 1 < L.length := by
    cases L with
    | nil => exact absurd rfl h
    | cons a as => simp
  exact ⟨L[L.length - 1], List.getElem?_eq_getElem this⟩


theorem idx?_cons (p i : Nat) (n : Name) (v : Val) (cs ts : Forest) :
    idx? p ((.node i n v cs) :: ts) = if i = p then some 0 else (idx? p ts).map (· + 1) := by
  simp [idx?, List.findIdx?_cons, Tree.id]

@[simp] theorem idx?_nil (p : Nat) : idx? p [] = none := by simp [idx?]

theorem idx?_induct {p : Nat} {motive : Forest → Nat → Prop}
    (here : ∀ n v cs ts, motive (.node p n v cs :: ts) 0)
    (later : ∀ i n v cs ts j, i ≠ p → idx? p ts = some j → motive ts j → motive (.node i n v cs :: ts) (j + 1)) :
    ∀ {L : Forest} {j : Nat}, idx? p L = some j → motive L j
  | [], _, h => by simp at h
  | (.node i n v cs) :: ts, j, h => by
    rw [idx?_cons] at h
    by_cases hip : i = p
    · subst hip; simp at h; subst h; exact here ..
    · simp [hip] at h
      obtain ⟨j', hj', rfl⟩ := h
      exact later _ _ _ _ _ _ hip hj' (idx?_induct here later hj')

theorem idx?_lt {p : Nat} {l : Forest} {j : Nat} (h : idx? p l = some j) : j < l.length :=
  idx?_induct (motive := fun l j => j < l.length) (by simp) (by intros; simp; omega) h

theorem idx?_mem {p : Nat} {l : Forest} {j : Nat} (h : idx? p l = some j) : p ∈ ids l :=
  idx?_induct (motive := fun l _ => p ∈ ids l) (by simp) (by intro _ _ _ _ _ _ _ _ ih; simp [ih]) h

theorem getElem?_of_idx? {p : Nat} {L : Forest} {j : Nat} (h : idx? p L = some j) : ∃ t, L[j]? = some t ∧ t.id = p :=
  idx?_induct (motive := fun L j => ∃ t, L[j]? = some t ∧ t.id = p) (fun n v cs _ => ⟨.node p n v cs, by simp, rfl⟩)
    (by intro _ _ _ _ _ _ _ _ ih; simpa using ih) h

theorem idx?_id {p : Nat} {L : Forest} {j : Nat} {t : Tree} (h : idx? p L = some j) (ht : L[j]? = some t) : t.id = p := by
  obtain ⟨t', ht', hid⟩ := getElem?_of_idx? h
  rw [ht] at ht'
  cases ht'
  exact hid

theorem idx?_not_mem_drop {p : Nat} {L : Forest} {j : Nat} (h : idx? p L = some j) :
    (ids L).Nodup → p ∉ ids (L.drop (j + 1)) :=
  idx?_induct (motive := fun L j => (ids L).Nodup → p ∉ ids (L.drop (j + 1)))
    (fun _ _ _ _ hnd => (nodup_ids_cons.1 hnd).1.2)
    (fun _ _ _ _ _ _ _ _ ih hnd => ih (nodup_ids_cons.1 hnd).2.2.1) h

theorem idx?_of_getElem? : ∀ {L : Forest} {j : Nat} {t : Tree}, (ids L).Nodup → L[j]? = some t → idx? t.id L = some j
  | [], _, _, _, h => by simp at h
  | (.node i n v cs) :: ts, 0, t, _, h => by
    simp at h; subst h
    rw [idx?_cons]; simp [Tree.id]
  | (.node i n v cs) :: ts, j + 1, t, hnd, h => by
    have ih := idx?_of_getElem? (nodup_ids_cons.1 hnd).2.2.1 (by simpa using h)
    have hne : ¬ i = t.id := by rintro rfl; exact (nodup_ids_cons.1 hnd).1.2 (idx?_mem ih)
    rw [idx?_cons]
    simp [hne, ih]

/-- the predecessor of the `j`-th element of a sibling list whose first element has the predecessor `prev` -/
def prevAt (prev : Option Nat) (L : Forest) (j : Nat) : Option Nat :=
  if j = 0 then prev else headId (L.drop (j - 1))

theorem prevAt_succ (prev : Option Nat) (t : Tree) (ts : Forest) (j : Nat) :
    prevAt prev (t :: ts) (j + 1) = prevAt (some t.id) ts j := by
  cases t with
  | node i n v cs =>
    cases j with
    | zero => simp [prevAt, Tree.id]
    | succ j' => simp [prevAt]

theorem prevAt_none_eq (L : Forest) (j : Nat) : prevAt none L j = if j = 0 then none else (L[j - 1]?).map Tree.id := by
  unfold prevAt
  split
  · rfl
  · rw [headId_drop]

theorem prevAt_cases {prev : Option Nat} {L : Forest} {j : Nat} {k : Nat} (h : prevAt prev L j = some k) :
    prev = some k ∨ k ∈ ids L := by
  unfold prevAt at h
  split at h
  · exact Or.inl h
  · exact Or.inr (ids_drop_subset L _ k (headId_mem h))

theorem prevAt_succ_mem {prev : Option Nat} {L : Forest} {j : Nat} {k : Nat} (h : prevAt prev L (j + 1) = some k) :
    k ∈ ids L :=
  ids_drop_subset L j k (headId_mem (by simpa [prevAt] using h))

theorem prevAt_mem {L : Forest} {j : Nat} {k : Nat} (h : prevAt none L j = some k) : k ∈ ids L :=
  (prevAt_cases h).resolve_left (by simp)

theorem prevAt_ne {p : Nat} {L : Forest} {prev : Option Nat} {j : Nat} (h : idx? p L = some j) :
    (ids L).Nodup → prev ≠ some p → prevAt prev L j ≠ some p :=
  idx?_induct (motive := fun L j => ∀ {prev}, (ids L).Nodup → prev ≠ some p → prevAt prev L j ≠ some p)
    (fun _ _ _ _ _ _ hpv => by simpa [prevAt] using hpv)
    (fun i _ _ _ _ _ hip _ ih _ hnd _ => by
      rw [prevAt_succ]
      exact ih (nodup_ids_cons.1 hnd).2.2.1 (by simpa [Tree.id] using hip)) h

theorem prevAt_ne_next {x : Nat} {L : Forest} {prev : Option Nat} {j : Nat} (h : idx? x L = some j) :
    (ids L).Nodup → (∀ k, prev = some k → k ∉ ids L) →
    ∀ k, prevAt prev L j = some k → headId (L.drop (j + 1)) ≠ some k :=
  idx?_induct
    (motive := fun L j => ∀ {prev}, (ids L).Nodup → (∀ k, prev = some k → k ∉ ids L) →
      ∀ k, prevAt prev L j = some k → headId (L.drop (j + 1)) ≠ some k)
    (fun _ _ _ _ _ _ hpv k hk e => by
      have := hpv k (by simpa [prevAt] using hk)
      simp only [ids_cons, List.mem_cons, List.mem_append, not_or] at this
      exact this.2.2 (headId_mem (by simpa using e)))
    (fun i _ _ _ _ _ _ _ ih _ hnd _ k hk => by
      rw [prevAt_succ] at hk
      refine ih (nodup_ids_cons.1 hnd).2.2.1 ?_ k hk
      intro k' hk'
      simp only [Tree.id, Option.some.injEq] at hk'
      exact hk' ▸ (nodup_ids_cons.1 hnd).1.2) h


theorem find?_cons_self (i : Nat) (n : Name) (v : Val) (cs ts : Forest) :
    find? i ((.node i n v cs) :: ts) = some (.node i n v cs) := by simp [find?]

theorem find?_induct {q : Nat} {motive : Forest → Tree → Prop}
    (here : ∀ n v cs ts, motive (.node q n v cs :: ts) (.node q n v cs))
    (below : ∀ i n v cs ts t, i ≠ q → find? q cs = some t → motive cs t → motive (.node i n v cs :: ts) t)
    (later : ∀ i n v cs ts t, i ≠ q → find? q cs = none → find? q ts = some t → motive ts t →
      motive (.node i n v cs :: ts) t)
    {l : Forest} {t : Tree} : find? q l = some t → motive l t := by
  induction l using forest_induct generalizing t with
  | nil => intro h; simp [find?] at h
  | cons i n v cs ts ihc iht =>
    intro h
    simp only [find?] at h
    by_cases hiq : i = q
    · subst hiq; simp at h; subst h; exact here ..
    · simp only [hiq, ↓reduceIte] at h
      cases hc : find? q cs with
      | some t' => simp [hc] at h; subst h; exact below _ _ _ _ _ _ hiq hc (ihc hc)
      | none => simp [hc] at h; exact later _ _ _ _ _ _ hiq hc h (iht h)

theorem find?_mem {q : Nat} {l : Forest} {tq : Tree} (h : find? q l = some tq) : q ∈ ids l ∧ tq.id = q :=
  find?_induct (motive := fun l tq => q ∈ ids l ∧ tq.id = q) (by simp [Tree.id])
    (by intro _ _ _ _ _ _ _ _ ih; simp [ih]) (by intro _ _ _ _ _ _ _ _ _ ih; simp [ih]) h

theorem find?_none {q : Nat} {l : Forest} : q ∉ ids l → find? q l = none := by
  induction l using forest_induct with
  | nil => simp [find?]
  | cons i n v cs ts ihc iht =>
    intro h
    simp only [ids_cons, List.mem_cons, List.mem_append, not_or] at h
    simp [find?, Ne.symm h.1, ihc h.2.1, iht h.2.2]

theorem find?_children_subset {q : Nat} {l : Forest} {tq : Tree} (h : find? q l = some tq) :
    ∀ k ∈ ids tq.children, k ∈ ids l :=
  find?_induct (motive := fun l tq => ∀ k ∈ ids tq.children, k ∈ ids l)
    (by intro _ _ cs _ k hk; simp only [Tree.children] at hk; simp [hk])
    (by intro _ _ _ _ _ _ _ _ ih k hk; simp [ih k hk]) (by intro _ _ _ _ _ _ _ _ _ ih k hk; simp [ih k hk]) h

theorem find?_children_nodup {q : Nat} {l : Forest} {tq : Tree} (hnd : (ids l).Nodup) (h : find? q l = some tq) :
    q ∉ ids tq.children ∧ (ids tq.children).Nodup :=
  find?_induct (motive := fun l tq => (ids l).Nodup → q ∉ ids tq.children ∧ (ids tq.children).Nodup)
    (fun _ _ _ _ hnd => ⟨(nodup_ids_cons.1 hnd).1.1, (nodup_ids_cons.1 hnd).2.1⟩)
    (fun _ _ _ _ _ _ _ _ ih hnd => ih (nodup_ids_cons.1 hnd).2.1)
    (fun _ _ _ _ _ _ _ _ _ ih hnd => ih (nodup_ids_cons.1 hnd).2.2.1) h hnd

theorem modKids_of_not_mem {q : Nat} {g : Forest → Forest} {l : Forest} : q ∉ ids l → modKids q g l = l := by
  induction l using forest_induct with
  | nil => simp [modKids]
  | cons i n v cs ts ihc iht =>
    intro h
    simp only [ids_cons, List.mem_cons, List.mem_append, not_or] at h
    simp [modKids, Ne.symm h.1, ihc h.2.1, iht h.2.2]

theorem headId_modKids {q : Nat} {g : Forest → Forest} : ∀ (l : Forest), headId (modKids q g l) = headId l
  | [] => by simp [modKids]
  | (.node i n v cs) :: ts => by
    simp only [modKids]
    split <;> simp

theorem modKids_ne_nil {q : Nat} {g : Forest → Forest} {l : Forest} (h : l ≠ []) : modKids q g l ≠ [] := by
  intro e
  have := headId_modKids (q := q) (g := g) l
  rw [e] at this
  cases l with
  | nil => exact h rfl
  | cons t ts => cases t; simp at this

theorem ids_modKids_split {q : Nat} {tq : Tree} {l : Forest} (hnd : (ids l).Nodup) (h : find? q l = some tq) :
    ∃ A B, ids l = A ++ ids tq.children ++ B ∧ ∀ g, ids (modKids q g l) = A ++ ids (g tq.children) ++ B :=
  find?_induct
    (motive := fun l tq => (ids l).Nodup →
      ∃ A B, ids l = A ++ ids tq.children ++ B ∧ ∀ g, ids (modKids q g l) = A ++ ids (g tq.children) ++ B)
    (fun n v cs ts _ => ⟨[q], ids ts, by simp [Tree.children], fun g => by simp [modKids, Tree.children]⟩)
    (fun i n v cs ts t hiq hc ih hnd => by
      obtain ⟨⟨_, _⟩, ndcs, _, disj⟩ := nodup_ids_cons.1 hnd
      obtain ⟨A, B, h1, h2⟩ := ih ndcs
      refine ⟨i :: A, B ++ ids ts, by simp [h1], fun g => ?_⟩
      simp [modKids, hiq, modKids_of_not_mem (disj q (find?_mem hc).1), h2 g])
    (fun i n v cs ts t hiq _ hf ih hnd => by
      obtain ⟨⟨_, _⟩, _, ndts, disj⟩ := nodup_ids_cons.1 hnd
      obtain ⟨A, B, h1, h2⟩ := ih ndts
      refine ⟨i :: (ids cs ++ A), B, by simp [h1], fun g => ?_⟩
      simp [modKids, hiq, modKids_of_not_mem (fun hq => disj q hq (find?_mem hf).1), h2 g]) h hnd

theorem ids_modKids_perm {q : Nat} {g : Forest → Forest} {tq : Tree} {E : List Nat} {l : Forest}
    (hnd : (ids l).Nodup) (h : find? q l = some tq) (hg : (ids (g tq.children)).Perm (E ++ ids tq.children)) :
    (ids (modKids q g l)).Perm (E ++ ids l) := by
  obtain ⟨A, B, h1, h2⟩ := ids_modKids_split hnd h
  rw [h1, h2]
  refine ((hg.append_left A).append_right B).trans ?_
  simpa [List.append_assoc] using
    (List.perm_append_comm (l₁ := A) (l₂ := E)).append_right (ids tq.children ++ B)

theorem idx?_none_of_not_mem {p : Nat} : ∀ {l : Forest}, p ∉ ids l → idx? p l = none
  | [], _ => by simp
  | (.node i n v cs) :: ts, h => by
    simp at h
    rw [idx?_cons]
    have h1 : ¬ i = p := fun e => h.1 e.symm
    simp [h1, idx?_none_of_not_mem h.2.2]

theorem parentOf?_none {p : Nat} {l : Forest} (h : p ∉ ids l) : parentOf? p l = none := by
  induction l using forest_induct with
  | nil => simp [parentOf?]
  | cons i n v cs ts ihc iht =>
    simp only [ids_cons, List.mem_cons, List.mem_append, not_or] at h
    simp only [parentOf?, idx?_none_of_not_mem h.2.1, Option.isSome_none, Bool.false_eq_true, ↓reduceIte, ihc h.2.1,
      iht h.2.2]

theorem find?_of_idx? {x : Nat} {l : Forest} {j : Nat} {t : Tree} (hnd : (ids l).Nodup) (hi : idx? x l = some j)
    (ht : l[j]? = some t) : find? x l = some t := by
  refine idx?_induct (motive := fun l j => (ids l).Nodup → l[j]? = some t → find? x l = some t) ?_ ?_ hi hnd ht
  · intro n v cs ts _ ht
    simp at ht; subst ht; exact find?_cons_self ..
  · intro i n v cs ts j hix hj ih hnd ht
    obtain ⟨_, _, ndts, disj⟩ := nodup_ids_cons.1 hnd
    simp only [find?, hix, ↓reduceIte, find?_none (fun h => disj x h (idx?_mem hj))]
    exact ih ndts (by simpa using ht)

theorem find?_below {q x : Nat} {l : Forest} {tq : Tree} (hnd : (ids l).Nodup) (hf : find? q l = some tq)
    (hx : x ∈ ids tq.children) : find? x l = find? x tq.children := by
  -- `x` below the first root: the later trees are not searched
  have first : ∀ {i n v cs ts}, (ids (.node i n v cs :: ts)).Nodup → x ∈ ids cs →
      find? x (.node i n v cs :: ts) = find? x cs := fun {i n v cs ts} hnd hx => by
    obtain ⟨hni, _, _, disj⟩ := nodup_ids_cons.1 hnd
    have hix : ¬ i = x := by rintro rfl; exact hni.1 hx
    simp only [find?, hix, ↓reduceIte, find?_none (disj x hx)]
    cases find? x cs <;> rfl
  refine find?_induct (motive := fun l tq => (ids l).Nodup → x ∈ ids tq.children →
    find? x l = find? x tq.children) ?_ ?_ ?_ hf hnd hx
  · intro n v cs ts hnd hx
    exact first hnd hx
  · intro i n v cs ts t hiq hc ih hnd hx
    rw [first hnd (find?_children_subset hc x hx)]
    exact ih (nodup_ids_cons.1 hnd).2.1 hx
  · intro i n v cs ts t hiq hc hf ih hnd hx
    obtain ⟨hni, _, ndts, disj⟩ := nodup_ids_cons.1 hnd
    have hxts := find?_children_subset hf x hx
    have hix : ¬ i = x := by rintro rfl; exact hni.2 hxts
    simp only [find?, hix, ↓reduceIte, find?_none (fun h => disj x h hxts)]
    exact ih ndts hx

theorem modKids_congr {p : Nat} {g g' : Forest → Forest} {l : Forest} {tp : Tree} (hnd : (ids l).Nodup)
    (hf : find? p l = some tp) (hg : g tp.children = g' tp.children) : modKids p g l = modKids p g' l := by
  refine find?_induct (motive := fun l tp => (ids l).Nodup → g tp.children = g' tp.children →
    modKids p g l = modKids p g' l) ?_ ?_ ?_ hf hnd hg
  · intro n v cs ts _ hg
    simp only [Tree.children] at hg
    simp [modKids, hg]
  · intro i n v cs ts t hip hc ih hnd hg
    obtain ⟨_, ndcs, _, disj⟩ := nodup_ids_cons.1 hnd
    simp only [modKids, hip, ↓reduceIte, ih ndcs hg, modKids_of_not_mem (disj p (find?_mem hc).1)]
  · intro i n v cs ts t hip hc hf ih hnd hg
    obtain ⟨_, _, ndts, disj⟩ := nodup_ids_cons.1 hnd
    simp only [modKids, hip, ↓reduceIte, ih ndts hg, modKids_of_not_mem (fun h => disj p h (find?_mem hf).1)]

end Mpt.Nodes
