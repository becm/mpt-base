/-
  Any decoder call from any state (`st.WF` is all the safety lemmas ask of it).  The call taken apart: what the part in front of the block loop (`decPrep`) hands to
  the loop or refuses (`Entered`, `decPrep_inl`), and the tail-inline fix-up in terms of the regular decoder
  (`decodeV_cases`).  On these, for all four decoders and both modes: the index trace stays inside the storage, stores
  below the read index (`decodeV_safe`), and the offsets stay consistent (`decodeV_bnd`).
-/
import MptModel.Lemmas.DecodeRan
namespace Mpt.Codec
open Mpt.Cobs

/-- what the callers of the decoders may rely on: no stray access, stores only below the read index -/
structure SafeOut (total : Nat) (o : DecOut) : Prop where
  nofault : o.ret ≠ .oob ∧ o.ret ≠ .clobber
  len : o.store.length = total
  writes : ∀ x ∈ o.writes, x.1 < x.2 ∧ x.2 ≤ total
  reads : o.reads.Pairwise (· < ·) ∧ ∀ x ∈ o.reads, x < total
  md : o.ret = .err .MissingData → o.st.pos + o.st.len ≤ o.st.curr ∧ o.st.curr < total

theorem SafeOut.fail (store : List Byte) (st : DecState) (e : Err) (he : e ≠ .MissingData) :
    SafeOut store.length { ret := .err e, st := st, store := store } :=
  ⟨by simp, rfl, by simp, by simp, by simp [he]⟩

theorem Safe.out {total : Nat} {st : DecState} {o : DecOut} (h : Safe total st st.pos o) : SafeOut total o :=
  ⟨h.nofault, h.len, h.writes, h.reads, fun he => by
    obtain ⟨a, b, c⟩ := h.md he
    rw [a]; exact ⟨b, c⟩⟩

/-- what `decPrep` hands to the loop, as far as the safety facts need it -/
structure PrepOk (store : List Byte) (st' : DecState) (l : Loc) : Prop where
  hstore : l.store = store
  r : l.r ≤ store.length
  reads : l.reads = []
  writes : l.writes = []
  pos : st'.pos = l.done

/-- every result of the alignment loop is a remainder `addr % 2^k` that fits into the work area -/
theorem alignPost_bound (a u p : Nat) : alignPost a u p ≤ p ∧ alignPost a u p < 16 := by
  have step : ∀ (k x : Nat), k ≤ 16 → 0 < k → x ≤ p ∧ x < 16 →
      (if ¬ (u < k / 2 ∨ p < a % k) then a % k else x) ≤ p ∧ (if ¬ (u < k / 2 ∨ p < a % k) then a % k else x) < 16 := by
    intro k x hk h0 hx
    have := Nat.mod_lt a h0
    split <;> omega
  exact step 16 _ (by decide) (by decide) (step 8 _ (by decide) (by decide) (step 4 _ (by decide) (by decide)
    (step 2 _ (by decide) (by decide) ⟨Nat.zero_le _, by decide⟩)))

theorem decPrev_none {st : DecState} (h : st.msg = none) : decPrev st = (st, st.pos, st.len) := by
  simp [decPrev, h]

theorem decPrev_some {st : DecState} {m : Nat} (h : st.msg = some m) :
    decPrev st = ({ st with len := st.len - m, msg := none }, st.pos + m, st.len - m) := by
  simp [decPrev, h]

/-- "consume previous message" for a state whose waiting message is all of the decoded data -/
theorem decPrev_wf {st : DecState} (hwf : st.WF) :
    (decPrev st).1 = { st with len := (decPrev st).2.2, msg := none } ∧
    (decPrev st).2.1 + (decPrev st).2.2 = st.pos + st.len ∧
    ((decPrev st).2.2 ≠ 0 → st.msg = none ∧ (decPrev st).2.1 = st.pos) ∧
    (st.msg = none → (decPrev st).2.2 = st.len) ∧ (st.msg.isSome → (decPrev st).2.2 = 0) := by
  cases hm : st.msg with
  | none =>
    rw [decPrev_none hm]
    exact ⟨by rw [← hm], rfl, fun _ => ⟨rfl, rfl⟩, fun _ => rfl, fun h => by cases h⟩
  | some m =>
    cases hwf m hm
    rw [decPrev_some hm]
    exact ⟨rfl, by dsimp only; omega, fun h => absurd (Nat.sub_self _) h, fun h => (nomatch h), fun _ => Nat.sub_self _⟩

/-- what `decPrep` hands to the block loop, for a state whose waiting message (if any) is all of the decoded
    data: the loop variables are read off the state, the read index is the input position, the write index
    lies less than the 16 of an alignment offset past the end of the decoded data, on it for an open block -/
structure Entered (st : DecState) (store : List Byte) (st' : DecState) (l : Loc) : Prop where
  hstore : l.store = store
  reads : l.reads = []
  writes : l.writes = []
  code : l.code = st.ctx % 256
  pos : l.pos = st.ctx / 256 % 256
  hst : st' = { st with pos := l.done, len := l.mlen, msg := none }
  r : l.r = st.curr
  le : st.curr ≤ store.length
  margin : l.w < st.pos + st.len + 16
  opened : st.ctx % 256 ≠ 0 → l.w = st.pos + st.len
  mlen_none : st.msg = none → l.mlen = st.len
  mlen_some : st.msg.isSome → l.mlen = 0
  done : l.mlen ≠ 0 → l.done = st.pos

theorem Entered.of {st : DecState} {store : List Byte} {st' : DecState} {done mlen proc : Nat}
    (hst : st' = { st with pos := done, len := mlen, msg := none }) (hr : done + mlen + proc = st.curr)
    (hle : st.curr ≤ store.length) (hmargin : done + mlen < st.pos + st.len + 16)
    (hopen : st.ctx % 256 ≠ 0 → done + mlen = st.pos + st.len) (hnone : st.msg = none → mlen = st.len)
    (hsome : st.msg.isSome → mlen = 0) (hdone : mlen ≠ 0 → done = st.pos) :
    Entered st store st' { store := store, done := done, mlen := mlen, proc := proc, code := st.ctx % 256, pos := st.ctx / 256 % 256 } :=
  ⟨rfl, rfl, rfl, rfl, rfl, hst, hr, hle, hmargin, hopen, hnone, hsome, hdone⟩

theorem decEnter_inr {st : DecState} {store : List Byte} {done mlen proc : Nat} {st' : DecState} {l : Loc}
    (h : decEnter st store done mlen proc = .inr (st', l)) :
    st' = st ∧ l = { store := store, done := done, mlen := mlen, proc := proc, code := st.ctx % 256, pos := st.ctx / 256 % 256 } ∧
      done + mlen + proc ≤ store.length := by
  unfold decEnter at h
  split at h
  · cases h
  · cases h; exact ⟨rfl, rfl, by omega⟩

theorem decPrep_inr (st : DecState) (segs : List Seg) (store : List Byte) (peek : Bool) (st' : DecState) (l : Loc)
    (hwf : st.WF) (h : decPrep st segs store peek = .inr (st', l)) :
    Entered st store st' l ∧ (peek = true → st.msg = none ∧ l.mlen ≠ 0) := by
  -- along the branches of `decPrep`: offset check, peek with a waiting message, new message (alignment offset
  -- `post`, zero inside an open block), message in progress
  have hpost : ∀ post, post = (if st.ctx % 256 = 0 then alignPost (cursorAt segs (st.pos + st.len)).1
      (cursorAt segs (st.pos + st.len)).2 (st.curr - (st.pos + st.len)) else 0) →
      post ≤ st.curr - (st.pos + st.len) ∧ post < 16 ∧ (st.ctx % 256 ≠ 0 → post = 0) := by
    intro post hpost
    have := alignPost_bound (cursorAt segs (st.pos + st.len)).1 (cursorAt segs (st.pos + st.len)).2 (st.curr - (st.pos + st.len))
    split at hpost
    · exact ⟨by omega, by omega, fun h => absurd ‹_› h⟩
    · exact ⟨by omega, by omega, fun _ => hpost⟩
  obtain ⟨e1, e2, e3, e4, e5⟩ := decPrev_wf hwf
  unfold decPrep at h
  generalize decPrev st = q at h e1 e2 e3 e4 e5
  obtain ⟨st1, d, ml⟩ := q
  dsimp only at h e1 e2 e3 e4 e5
  subst e1
  by_cases hg : st.pos + st.len > st.curr ∨ store.length < st.pos + st.len
  · rw [if_pos hg] at h; cases h
  rw [if_neg hg] at h
  by_cases hpk : st.msg.isSome = true ∧ peek = true
  · rw [if_pos hpk] at h; cases h
  rw [if_neg hpk] at h
  by_cases hl : ml = 0
  · rw [if_pos hl] at h
    by_cases hpeek : peek = true
    · rw [if_pos hpeek] at h; cases h
    rw [if_neg hpeek] at h
    generalize hq : (if st.ctx % 256 = 0 then alignPost (cursorAt segs (st.pos + st.len)).1
      (cursorAt segs (st.pos + st.len)).2 (st.curr - (st.pos + st.len)) else 0) = post at h
    obtain ⟨p1, p2, p3⟩ := hpost post hq.symm
    obtain ⟨rfl, rfl, hle⟩ := decEnter_inr h
    exact ⟨Entered.of (by rw [hl]) (by omega) (by omega) (by omega) (fun h => by have := p3 h; omega)
      (fun h => by have := e4 h; omega) (fun _ => rfl) (fun h => absurd rfl h), fun h => absurd h hpeek⟩
  · rw [if_neg hl] at h
    obtain ⟨rfl, rfl, hle⟩ := decEnter_inr h
    obtain ⟨hm, rfl⟩ := e3 hl
    exact ⟨Entered.of rfl (by omega) (by omega) (by omega) (fun _ => by omega) e4 e5 (fun _ => rfl),
      fun _ => ⟨hm, hl⟩⟩

theorem decEnter_inl {st : DecState} {store : List Byte} {done mlen proc : Nat} {st' : DecState} {e : Err}
    (h : decEnter st store done mlen proc = .inl (e, st')) :
    e = .BadArgument ∧ st' = st ∧ store.length < done + mlen + proc := by
  unfold decEnter at h
  split at h
  · cases h; exact ⟨rfl, rfl, ‹_›⟩
  · cases h

/-- `BadOperation`: a peek call that would start or drop a message; `BadArgument`: inconsistent offsets -/
theorem decPrep_inl (st : DecState) (segs : List Seg) (store : List Byte) (peek : Bool) (st' : DecState) (e : Err)
    (h : decPrep st segs store peek = .inl (e, st')) :
    ((e = .BadOperation ∧ peek = true) ∨
     (e = .BadArgument ∧ (st.WF → st.curr < st.pos + st.len ∨ store.length < st.curr))) ∧
    (peek = true → st' = st ∨ st' = (decPrev st).1) := by
  -- along the branches of `decPrep`, as in `decPrep_inr`
  unfold decPrep at h
  dsimp only at h
  by_cases hg : st.pos + st.len > st.curr ∨ store.length < st.pos + st.len
  · rw [if_pos hg] at h; cases h; exact ⟨Or.inr ⟨rfl, fun _ => by omega⟩, fun _ => Or.inl rfl⟩
  rw [if_neg hg] at h
  by_cases hpk : st.msg.isSome = true ∧ peek = true
  · rw [if_pos hpk] at h; cases h; exact ⟨Or.inl ⟨rfl, hpk.2⟩, fun _ => Or.inl rfl⟩
  rw [if_neg hpk] at h
  by_cases hl : (decPrev st).2.2 = 0
  · rw [if_pos hl] at h
    by_cases hpeek : peek = true
    · rw [if_pos hpeek] at h; cases h; exact ⟨Or.inl ⟨rfl, hpeek⟩, fun _ => Or.inr rfl⟩
    rw [if_neg hpeek] at h
    have hp := alignPost_bound (cursorAt segs (st.pos + st.len)).1 (cursorAt segs (st.pos + st.len)).2 (st.curr - (st.pos + st.len))
    obtain ⟨rfl, _, hlt⟩ := decEnter_inl h
    refine ⟨Or.inr ⟨rfl, fun _ => Or.inr ?_⟩, fun h => absurd h hpeek⟩
    split at hlt <;> omega
  · rw [if_neg hl] at h
    obtain ⟨rfl, rfl, hlt⟩ := decEnter_inl h
    refine ⟨Or.inr ⟨rfl, fun hwf => Or.inr ?_⟩, fun _ => Or.inr rfl⟩
    have := (decPrev_wf hwf).2.1
    omega

theorem decPrep_err (st : DecState) (segs : List Seg) (store : List Byte) (peek : Bool) (st' : DecState) (e : Err)
    (h : decPrep st segs store peek = .inl (e, st')) : e ≠ .MissingData := by
  rcases (decPrep_inl st segs store peek st' e h).1 with ⟨rfl, _⟩ | ⟨rfl, _⟩ <;> simp

theorem decPrep_waiting (st : DecState) (segs : List Seg) (store : List Byte) (h : st.msg.isSome = true) :
    decPrep st segs store true = .inl (.BadArgument, st) ∨ decPrep st segs store true = .inl (.BadOperation, st) := by
  unfold decPrep
  dsimp only
  by_cases hg : st.pos + st.len > st.curr ∨ store.length < st.pos + st.len
  · rw [if_pos hg]; exact Or.inl rfl
  · rw [if_neg hg, if_pos ⟨h, rfl⟩]; exact Or.inr rfl

theorem decPrep_ok (st : DecState) (segs : List Seg) (store : List Byte) (peek : Bool) (st' : DecState) (l : Loc)
    (hwf : st.WF) (h : decPrep st segs store peek = .inr (st', l)) : PrepOk store st' l :=
  have he := (decPrep_inr st segs store peek st' l hwf h).1
  ⟨he.hstore, he.r ▸ he.le, he.reads, he.writes, by rw [he.hst]⟩

theorem decStart_safe (v : Variant) (st : DecState) (peek : Bool) (l : Loc) (store : List Byte) (h : PrepOk store st l) :
    SafeOut store.length (decStart v st peek l) := by
  unfold decStart
  have hl : LSafe store.length st.pos l (store.length - l.r) l.r :=
    ⟨h.pos.symm, by rw [h.hstore], by have := h.r; omega, by simp [h.writes], by simp [h.reads], h.r⟩
  split
  · split
    · exact ⟨by simp, by simp [h.hstore], by simp, by simp, by simp⟩
    · rename_i c hc
      have hlt : l.r < store.length := h.hstore ▸ (List.getElem?_eq_some_iff.mp hc).1
      split
      · exact ⟨by simp, by simp [h.hstore], by simp, by simp [hlt], by simp⟩
      · apply Safe.out
        rw [h.hstore]
        -- the same loop variables one byte on, the load of the code byte recorded (`l.first c`)
        refine (decLoop_run v st peek _ _ ?_).safe (n := store.length - (l.r + 1)) ⟨h.pos.symm, h.hstore ▸ rfl, ?_, by simp [h.writes], ?_, ?_⟩
        · simp only [Loc.r] at *; omega
        · simp only [Loc.r] at *; omega
        · simp only [Loc.r] at *; simp
        · simp only [Loc.r] at *; omega
  · apply Safe.out
    rw [h.hstore]
    exact (decLoop_run v st peek _ l (by rw [h.hstore]; exact hl.unread)).safe hl

theorem decodeCobs_safe (v : Variant) (st : DecState) (segs : List Seg) (peek : Bool)
    (hwf : st.WF) :
    SafeOut (flat (if peek then segs.take 1 else segs)).length (decodeCobs v st segs peek) := by
  unfold decodeCobs
  simp only
  generalize (if peek = true then List.take 1 segs else segs) = sg
  split
  · rename_i e st' he
    exact SafeOut.fail _ _ _ (decPrep_err _ _ _ _ _ _ he)
  · rename_i st' l he
    exact decStart_safe v st' peek l _ (decPrep_ok _ _ _ _ _ _ hwf he)

theorem decodeCobs_err (v : Variant) (peek : Bool) {st : DecState} {segs sg : List Seg} {e : Err} {st' : DecState}
    (hsg : sg = if peek then segs.take 1 else segs) (h : decPrep st sg (flat sg) peek = .inl (e, st')) :
    decodeCobs v st segs peek = { ret := .err e, st := st', store := flat sg } := by
  unfold decodeCobs
  simp only [← hsg, h]

/-- the tail fix-up of `decodeCobsR`: the code byte of the open block appended as last data byte -/
def tailFix (o : DecOut) : DecOut :=
  { ret := .val 1,
    st := { o.st with ctx := 0, len := o.st.len + 1, msg := some (o.st.len + 1), curr := o.st.curr + 1 },
    store := o.store.set (o.st.pos + o.st.len) (UInt8.ofNat (o.st.ctx % 256)),
    reads := o.reads, writes := o.writes ++ [(o.st.pos + o.st.len, o.st.curr + 1)] }

/-- the decoder selected by the variant in terms of the regular one: the same, unless that one stopped at an
    inline zero inside an open block and the framing has the tail rule; then a request for work area in peek
    mode (nothing is visible), else the fix-up (there is room: the store is below the read index) -/
theorem decodeV_cases (v : Variant) (st : DecState) (segs : List Seg) (peek : Bool)
    (hwf : st.WF) {o : DecOut} (ho : decodeCobs v st segs peek = o) :
    (decodeV v st segs peek = o ∧ (o.ret = .err .MissingData → v.tail = false ∨ o.st.ctx = 0)) ∨
    (v.tail = true ∧ o.ret = .err .MissingData ∧ o.st.ctx ≠ 0 ∧
      (peek = true ∧ decodeV v st segs peek = { o with ret := .err .MissingBuffer } ∨
       peek = false ∧ o.st.pos + o.st.len < o.store.length ∧ o.st.pos + o.st.len ≤ o.st.curr ∧
        decodeV v st segs peek = tailFix o)) := by
  subst ho
  have h := decodeCobs_safe v st segs peek hwf
  unfold decodeV decodeCobsR
  simp only
  generalize decodeCobs v st segs peek = o at h ⊢
  cases ht : v.tail
  · exact Or.inl ⟨by simp, fun _ => Or.inl rfl⟩
  simp only [if_true]
  by_cases hc : o.ret = .err .MissingData ∧ o.st.ctx ≠ 0
  · rw [if_pos hc]
    have hmd := h.md hc.1
    have hlen := h.len
    refine Or.inr ⟨trivial, hc.1, hc.2, ?_⟩
    cases peek
    · rw [if_neg (by simp; omega), if_pos (by omega)]
      exact Or.inr ⟨rfl, by omega, hmd.1, rfl⟩
    · rw [if_pos (Or.inl rfl)]; exact Or.inl ⟨rfl, rfl⟩
  · rw [if_neg hc]
    exact Or.inl ⟨rfl, fun hmd => Or.inr (Decidable.byContradiction fun hne => hc ⟨hmd, hne⟩)⟩

theorem decodeV_safe (v : Variant) (st : DecState) (segs : List Seg) (peek : Bool)
    (hwf : st.WF) :
    SafeOut (flat (if peek then segs.take 1 else segs)).length (decodeV v st segs peek) := by
  have h := decodeCobs_safe v st segs peek hwf
  rcases decodeV_cases v st segs peek hwf rfl with ⟨e, _⟩ | ⟨_, hmd, _, ⟨_, e⟩ | ⟨_, hlt, hle, e⟩⟩ <;> rw [e]
  · exact h
  · exact ⟨by simp, h.len, h.writes, h.reads, by simp⟩
  · have := (h.md hmd).2
    refine ⟨by simp [tailFix], by simp [tailFix, h.len], ?_, h.reads, by simp [tailFix]⟩
    intro x hx
    simp only [tailFix, List.mem_append, List.mem_singleton] at hx
    rcases hx with hx | rfl
    · exact h.writes x hx
    · exact ⟨by dsimp only; omega, by dsimp only; omega⟩

theorem decodeV_of_ret (v : Variant) (st : DecState) (segs : List Seg) (peek : Bool)
    (h : (decodeCobs v st segs peek).ret ≠ .err .MissingData) : decodeV v st segs peek = decodeCobs v st segs peek := by
  unfold decodeV
  split
  · unfold decodeCobsR
    simp only
    rw [if_neg (by intro hc; exact h hc.1)]
  · rfl

theorem decodeV_err (v : Variant) {st : DecState} {segs : List Seg} {e : Err} {st' : DecState}
    (h : decPrep st segs (flat segs) false = .inl (e, st')) :
    decodeV v st segs false = { ret := .err e, st := st', store := flat segs } := by
  have hc := decodeCobs_err v false (sg := segs) rfl h
  rw [decodeV_of_ret v st segs false (by rw [hc]; exact fun h' => decPrep_err _ _ _ _ _ _ h (DecRet.err.inj h')), hc]

theorem decPrev_bnd (total : Nat) (st : DecState) (h : Bnd total st) : Bnd total (decPrev st).1 := by
  cases hm : st.msg with
  | none => rw [decPrev_none hm]; exact h
  | some m =>
    rw [decPrev_some hm]
    have := h.le
    exact ⟨by simp only; omega, h.tot, by intro m' hh; cases hh⟩

theorem decPrep_inl_bnd {st : DecState} {segs : List Seg} {store : List Byte} {peek : Bool} {e : Err} {st' : DecState}
    (h : Bnd store.length st) (hprep : decPrep st segs store peek = .inl (e, st')) : Bnd store.length st' := by
  obtain ⟨hcase, hst⟩ := decPrep_inl st segs store peek st' e hprep
  rcases hcase with ⟨_, hpk⟩ | ⟨_, hbad⟩
  · rcases hst hpk with rfl | rfl
    · exact h
    · exact decPrev_bnd store.length st h
  · have := hbad h.msg; have := h.le; have := h.tot; omega

theorem Entered.bnd {st : DecState} {store : List Byte} {st' : DecState} {l : Loc} (he : Entered st store st' l) :
    Bnd store.length st' := by
  have hr := he.r
  obtain rfl := he.hst
  exact ⟨by simp only [Loc.r] at hr ⊢; omega, he.le, by intro m hm; cases hm⟩

theorem decStart_bnd (v : Variant) (st : DecState) (peek : Bool) (l : Loc) (h : Bnd l.store.length st)
    (hm : st.msg = none) (hp : st.pos = l.done) (hr : l.r = st.curr) :
    Bnd l.store.length (decStart v st peek l).st := by
  have hrt : l.r ≤ l.store.length := by rw [hr]; exact h.tot
  unfold decStart
  split
  · cases hb : l.store[l.r]? with
    | none => exact h
    | some c =>
      simp only
      have hlt : l.r < l.store.length := (List.getElem?_eq_some_iff.mp hb).1
      split
      · refine ⟨?_, by simp only; omega, by intro m hh; simp only [hm] at hh; cases hh⟩
        have := h.le; simp only; omega
      · exact Ran.bnd (l := l.first c)
          (decLoop_run v st peek _ _ (by simp only [Loc.first, Loc.r] at *; omega)) hm hp
  · exact Ran.bnd (l := l) (decLoop_run v st peek _ l (by omega)) hm hp

theorem decodeCobs_bnd (v : Variant) (st : DecState) (segs : List Seg) (peek : Bool)
    (h : Bnd (flat (if peek then segs.take 1 else segs)).length st) :
    Bnd (flat (if peek then segs.take 1 else segs)).length (decodeCobs v st segs peek).st := by
  unfold decodeCobs
  simp only
  generalize (if peek = true then List.take 1 segs else segs) = sg at h ⊢
  cases hprep : decPrep st sg (flat sg) peek with
  | inl es => exact decPrep_inl_bnd h hprep
  | inr sl =>
    obtain ⟨st', l⟩ := sl
    have he := (decPrep_inr st sg _ peek st' l h.msg hprep).1
    have := decStart_bnd v st' peek l (by rw [he.hstore]; exact he.bnd) (by rw [he.hst]) (by rw [he.hst]) (by rw [he.r, he.hst])
    rwa [he.hstore] at this

theorem decodeV_bnd (v : Variant) (st : DecState) (segs : List Seg) (peek : Bool)
    (h : Bnd (flat (if peek then segs.take 1 else segs)).length st) :
    Bnd (flat (if peek then segs.take 1 else segs)).length (decodeV v st segs peek).st := by
  have hb := decodeCobs_bnd v st segs peek h
  have hsafe := decodeCobs_safe v st segs peek h.msg
  rcases decodeV_cases v st segs peek h.msg rfl with ⟨e, _⟩ | ⟨_, hmd, _, ⟨_, e⟩ | ⟨_, _, hle, e⟩⟩ <;> rw [e]
  · exact hb
  · exact hb
  · -- the fix-up moves the end of the decoded data and the input position up by one, onto the zero it stood on
    have := (hsafe.md hmd).2
    exact ⟨by simp only [tailFix]; omega, by simp only [tailFix]; omega, by intro m hh; cases hh; rfl⟩

theorem decPrep_noerr (st : DecState) (segs : List Seg) (store : List Byte) (h : Bnd store.length st) :
    ∃ st' l, decPrep st segs store false = .inr (st', l) := by
  cases hprep : decPrep st segs store false with
  | inr sl => exact ⟨sl.1, sl.2, rfl⟩
  | inl es =>
    rcases (decPrep_inl st segs store false es.2 es.1 hprep).1 with ⟨_, hp⟩ | ⟨_, hh⟩
    · cases hp
    · have := hh h.msg; have := h.le; have := h.tot; omega

end Mpt.Codec
