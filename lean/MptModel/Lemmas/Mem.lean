/-
  The raw memory primitives `Mem.read` / `Mem.write` / `Mem.move` as list operations: lengths, element-wise
  characterisation, the laws by which reads and writes of disjoint, equal and adjacent areas combine, accesses to
  a storage given as a frame `A ++ (X ++ B)`, a prefix of a written storage, `Mem.rotate`.
-/
import MptModel.Basic
namespace Mpt

/-- close a goal that is an equation between nested `if`s over `s[idx]?` terms: split every `if`,
    then decide each leaf by linear arithmetic on the conditions and the indices -/
macro "ite_idx" : tactic =>
  `(tactic| ((repeat' split) <;> first | rfl | omega | (congr 1; omega) | (exfalso; omega)))

namespace Mem

theorem write_length (s : List Byte) (d : Nat) (b : List Byte) (h : d + b.length ≤ s.length) :
    (Mem.write s d b).length = s.length := by
  simp [Mem.write]; omega

theorem read_length (s : List Byte) (src n : Nat) (h : src + n ≤ s.length) :
    (Mem.read s src n).length = n := by
  simp [Mem.read]; omega

theorem getElem?_write (s : List Byte) (d : Nat) (b : List Byte) (i : Nat) (h : d + b.length ≤ s.length) :
    (Mem.write s d b)[i]? = if i < d then s[i]? else if i < d + b.length then b[i - d]? else s[i]? := by
  have e : (s.take d).length = d := by rw [List.length_take]; omega
  rw [Mem.write, List.append_assoc, List.getElem?_append, e, List.getElem?_append, List.getElem?_take,
    List.getElem?_drop]
  ite_idx

theorem getElem?_read (s : List Byte) (src n i : Nat) :
    (Mem.read s src n)[i]? = if i < n then s[src + i]? else none := by
  rw [Mem.read, List.getElem?_take, List.getElem?_drop]

theorem move_length (s : List Byte) (d src n : Nat) (h1 : src + n ≤ s.length) (h2 : d + n ≤ s.length) :
    (Mem.move s d src n).length = s.length := by
  rw [Mem.move, write_length]
  rw [read_length _ _ _ h1]; exact h2

theorem getElem?_move (s : List Byte) (d src n i : Nat) (h1 : src + n ≤ s.length) (h2 : d + n ≤ s.length) :
    (Mem.move s d src n)[i]? = if i < d then s[i]? else if i < d + n then s[src + (i - d)]? else s[i]? := by
  have e := read_length s src n h1
  rw [Mem.move, getElem?_write _ _ _ _ (by omega), e, getElem?_read]
  ite_idx

theorem write_nil (s : List Byte) (d : Nat) : Mem.write s d [] = s := by
  simp [Mem.write]

theorem read_zero (s : List Byte) (a : Nat) : Mem.read s a 0 = [] := by
  simp [Mem.read]

theorem read_append (s : List Byte) (a n m : Nat) :
    Mem.read s a (n + m) = Mem.read s a n ++ Mem.read s (a + n) m := by
  simp only [Mem.read, List.take_add, List.drop_drop]

theorem write_append (s : List Byte) (d : Nat) (x y : List Byte) (h : d ≤ s.length) :
    Mem.write s d (x ++ y) = Mem.write (Mem.write s d x) (d + x.length) y := by
  have e : (s.take d ++ x).length = d + x.length := by simp; omega
  simp only [Mem.write, List.length_append]
  rw [← List.append_assoc (s.take d) x, List.take_left' e, List.drop_append, e, List.drop_drop,
    List.drop_of_length_le (l := s.take d ++ x) (by omega)]
  simp [Nat.add_assoc]

theorem read_write_same (s : List Byte) (d : Nat) (b : List Byte) (h : d ≤ s.length) :
    Mem.read (Mem.write s d b) d b.length = b := by
  have e : (s.take d).length = d := by simp; omega
  simp only [Mem.read, Mem.write, List.append_assoc]
  rw [List.drop_left' e, List.take_left' rfl]

theorem read_write_before (s : List Byte) (d : Nat) (b : List Byte) (a n : Nat) (h : a + n ≤ d)
    (hd : d ≤ s.length) :
    Mem.read (Mem.write s d b) a n = Mem.read s a n := by
  simp only [Mem.read, Mem.write, List.append_assoc, List.take_drop]
  rw [List.take_append_of_le_length (by simp; omega), List.take_take]
  congr 2; omega

theorem read_write_after (s : List Byte) (d : Nat) (b : List Byte) (a n : Nat) (h : d + b.length ≤ a)
    (hd : d ≤ s.length) :
    Mem.read (Mem.write s d b) a n = Mem.read s a n := by
  have e : (s.take d ++ b).length = d + b.length := by simp; omega
  simp only [Mem.read, Mem.write]
  rw [List.drop_append, e, List.drop_drop, List.drop_of_length_le (l := s.take d ++ b) (by omega), List.nil_append]
  congr 2; omega

theorem move_self (s : List Byte) (a n : Nat) (h : a + n ≤ s.length) : Mem.move s a a n = s := by
  have e : ((s.drop a).take n).length = n := by simp; omega
  simp only [Mem.move, Mem.write, Mem.read, ← List.take_add, e, List.take_append_drop]

theorem move_zero (s : List Byte) (d src : Nat) : Mem.move s d src 0 = s := by
  rw [Mem.move, Mem.read_zero, Mem.write_nil]

theorem read_move_same (s : List Byte) (d src n : Nat) (h1 : src + n ≤ s.length) (h2 : d ≤ s.length) :
    Mem.read (Mem.move s d src n) d n = Mem.read s src n := by
  have hl := Mem.read_length s src n h1
  rw [Mem.move]
  conv => lhs; arg 3; rw [← hl]
  rw [Mem.read_write_same _ _ _ h2]

theorem read_move_before (s : List Byte) (d src n a m : Nat) (h : a + m ≤ d) (h2 : d ≤ s.length) :
    Mem.read (Mem.move s d src n) a m = Mem.read s a m := by
  rw [Mem.move, Mem.read_write_before _ _ _ _ _ h h2]

theorem read_move_after (s : List Byte) (d src n a m : Nat) (h1 : src + n ≤ s.length) (h : d + n ≤ a)
    (h2 : d ≤ s.length) :
    Mem.read (Mem.move s d src n) a m = Mem.read s a m := by
  rw [Mem.move, Mem.read_write_after _ _ _ _ _ (by rw [Mem.read_length _ _ _ h1]; exact h) h2]

theorem move_down_chunk (R : List Byte) (d n k1 k2 : Nat) (h : d + n + k1 + k2 ≤ R.length) :
    Mem.move (Mem.move R d (d + n) k1) (d + k1) (d + k1 + n) k2 = Mem.move R d (d + n) (k1 + k2) := by
  have hl := Mem.read_length R (d + n) k1 (by omega)
  rw [Mem.move, Mem.move, Mem.move, Mem.read_append, Mem.write_append _ _ _ _ (by omega), hl,
    Mem.read_write_after _ _ _ _ _ (by omega) (by omega)]
  congr 2; omega

/-! Reads and writes of a storage given as `A ++ (X ++ B)`, at the position of `X`. -/
theorem read_frame (A X B : List Byte) (d n : Nat) (hd : A.length = d) (hn : X.length = n) :
    Mem.read (A ++ (X ++ B)) d n = X := by
  rw [Mem.read, List.drop_left' hd, List.take_left' hn]

theorem write_frame (A X B Y : List Byte) (d : Nat) (hd : A.length = d) (hn : X.length = Y.length) :
    Mem.write (A ++ (X ++ B)) d Y = A ++ (Y ++ B) := by
  rw [Mem.write, List.take_left' hd, ← List.append_assoc A X B, List.drop_left' (by simp; omega),
    List.append_assoc]

theorem frame (s : List Byte) (d n : Nat) (h : d + n ≤ s.length) :
    ∃ A X B, s = A ++ (X ++ B) ∧ A.length = d ∧ X.length = n :=
  ⟨s.take d, (s.drop d).take n, (s.drop d).drop n, by rw [List.take_append_drop, List.take_append_drop],
    by simp; omega, by simp; omega⟩

/-- `[pos, pos+pre+post)` rotated left by `pre`: the `post` bytes behind the pivot come first -/
def rotate (s : List Byte) (pos pre post : Nat) : List Byte :=
  Mem.write s pos (Mem.read s (pos + pre) post ++ Mem.read s pos pre)

theorem rotate_frame (A X Y B : List Byte) (d pre post : Nat) (hd : A.length = d) (hx : X.length = pre)
    (hy : Y.length = post) :
    rotate (A ++ (X ++ (Y ++ B))) d pre post = A ++ (Y ++ (X ++ B)) := by
  have e : A ++ (X ++ (Y ++ B)) = (A ++ X) ++ (Y ++ B) := (List.append_assoc ..).symm
  rw [rotate, read_frame A X _ d pre hd hx]
  conv => lhs; arg 3; arg 1; rw [e, read_frame (A ++ X) Y B (d + pre) post (by simp; omega) hy]
  rw [← List.append_assoc X Y B, write_frame A (X ++ Y) B (Y ++ X) d hd (by simp; omega), List.append_assoc]

theorem rotate_length (s : List Byte) (pos pre post : Nat) (h : pos + pre + post ≤ s.length) :
    (rotate s pos pre post).length = s.length := by
  rw [rotate, write_length]
  rw [List.length_append, read_length _ _ _ (by omega), read_length _ _ _ (by omega)]; omega

theorem getElem?_rotate (s : List Byte) (pos pre post i : Nat) (h : pos + pre + post ≤ s.length) :
    (rotate s pos pre post)[i]? = if pos ≤ i ∧ i < pos + post then s[i + pre]?
      else if pos + post ≤ i ∧ i < pos + post + pre then s[i - post]? else s[i]? := by
  have e : (Mem.read s (pos + pre) post ++ Mem.read s pos pre).length = post + pre := by
    rw [List.length_append, read_length _ _ _ (by omega), read_length _ _ _ (by omega)]
  rw [rotate, getElem?_write _ _ _ _ (by omega), e, List.getElem?_append, read_length _ _ _ (by omega),
    getElem?_read, getElem?_read]
  ite_idx

theorem take_write (R src : List Byte) (pos len : Nat) (h : pos + src.length ≤ len) (hl : len ≤ R.length) :
    (Mem.write R pos src).take len = Mem.write (R.take len) pos src := by
  have e : (R.take pos ++ src).length = pos + src.length := by simp; omega
  rw [Mem.write, Mem.write, List.take_append, e, List.take_of_length_le (l := R.take pos ++ src) (by omega),
    List.take_take, List.drop_take, Nat.min_eq_left (by omega)]

theorem take_write_end (R src : List Byte) (pos : Nat) (h : pos ≤ R.length) :
    (Mem.write R pos src).take (pos + src.length) = R.take pos ++ src := by
  have e : (R.take pos ++ src).length = pos + src.length := by simp; omega
  rw [Mem.write, List.take_left' e]

end Mem
end Mpt
