/-
  C15 lemmas: the counter, the vtable pair `addref`/`unref`, the invariant "count = number of
  references" with a balance for operations in progress (`InvP`), and every operation of the C part and of
  `unique_array` keeping it (the C++ handle class: `RefcountCxx`).
-/
import MptModel.Impl.Refcount
import MptModel.Lemmas.ListFacts

namespace Mpt.Refcount


theorem raise_eq (v : Nat) (h : v ≤ MAXV) :
    raise v = if v = 0 ∨ v = MAXV then (v, 0) else (v + 1, v + 1) := by
  unfold raise
  simp only [MAXV] at h ⊢
  by_cases h0 : v = 0
  · simp [h0]
  · by_cases hm : v = 18446744073709551615
    · subst hm; simp
    · have e : (v + 1) % (18446744073709551615 + 1) = v + 1 := by omega
      simp only [h0, hm, ↓reduceIte, e, or_self]
      simp

theorem lower_eq (v : Nat) (h : v ≤ MAXV) :
    lower v = if v = 0 then (0, MAXV) else (v - 1, v - 1) := by
  unfold lower
  simp only [MAXV] at h ⊢
  by_cases h0 : v = 0
  · simp [h0]
  · have e : (v + 18446744073709551615) % (18446744073709551615 + 1) = v - 1 := by omega
    simp only [h0, ↓reduceIte, e]

theorem raise_ne_zero (v : Nat) (h : v ≠ 0) : (raise v).1 ≠ 0 := by
  unfold raise
  simp only [h, ↓reduceIte]
  split
  · assumption
  · rename_i hw
    have hw' : (v + 1) % (MAXV + 1) = 0 := by simpa using hw
    rw [hw']; simp [MAXV]


theorem obj_default (s : St) (o : Nat) (h : s.objs.length ≤ o) : s.obj o = default := by
  unfold St.obj; rw [List.getD_eq_getElem?_getD, List.getElem?_eq_none h]; rfl

theorem obj_alive_lt (s : St) (o : Nat) (h : (s.obj o).alive = true) : o < s.objs.length :=
  Nat.lt_of_not_le fun hl => by rw [obj_default s o hl] at h; exact absurd h (by decide)

theorem obj_lt_of_ext (s : St) (o : Nat) (h : 1 ≤ (s.obj o).ext) : o < s.objs.length :=
  Nat.lt_of_not_le fun hl => by rw [obj_default s o hl] at h; exact absurd h (by decide)

/-- `St.obj` looks at `objs` only: the objects after one was replaced … -/
theorem obj_set (s : St) (o o' : Nat) (x : RObj) {hnd : List (Option Nat)} {ev : List Ev} {el : List ElEv} :
    ({ objs := s.objs.set o x, hnd := hnd, ev := ev, elog := el } : St).obj o' =
      if o' = o ∧ o < s.objs.length then x else s.obj o' := getD_set _ _ _ _ _

/-- … and after one was appended -/
theorem obj_push (s : St) (nb : RObj) (x : Nat) {hnd : List (Option Nat)} {ev : List Ev} {el : List ElEv} :
    ({ objs := s.objs ++ [nb], hnd := hnd, ev := ev, elog := el } : St).obj x =
      if x = s.objs.length then nb else s.obj x := by
  unfold St.obj
  simp only [List.getD_eq_getElem?_getD]
  by_cases hx : x = s.objs.length
  · subst hx; simp
  · simp only [hx, ↓reduceIte]
    rcases Nat.lt_or_ge x s.objs.length with hl | hl
    · rw [List.getElem?_append_left hl]
    · rw [List.getElem?_eq_none (by simp; omega), List.getElem?_eq_none hl]

/-- number of handles that name object `o` -/
def hrefs (hnd : List (Option Nat)) (o : Nat) : Nat := (hnd.filter (· == some o)).length

/-- what the handle value `v` contributes to the references of object `x`: 1 if it names `x`, else 0 (an `Int`, for balances) -/
def ind (v : Option Nat) (x : Nat) : Int := if v = some x then 1 else 0

theorem hrefs_set (hnd : List (Option Nat)) (h : Nat) (v : Option Nat) (o : Nat) (hl : h < hnd.length) :
    (hrefs (hnd.set h v) o : Int) = hrefs hnd o + ind v o - ind (hnd.getD h none) o := by
  unfold hrefs ind
  induction hnd generalizing h with
  | nil => simp at hl
  | cons a r ih =>
    cases h with
    | zero =>
      simp only [List.set_cons_zero, List.filter_cons, List.getD_cons_zero]
      by_cases h1 : v = some o <;> by_cases h2 : a = some o <;> simp [h1, h2] <;> omega
    | succ n =>
      simp only [List.set_cons_succ, List.filter_cons, List.getD_cons_succ]
      have := ih n (by simpa using hl)
      by_cases h2 : (a == some o) = true
      · simp only [h2, ↓reduceIte, List.length_cons]; omega
      · simp only [h2, Bool.false_eq_true, ↓reduceIte]; exact this

theorem hrefs_pos (hnd : List (Option Nat)) (h o : Nat) (e : hnd.getD h none = some o) : 1 ≤ hrefs hnd o := by
  unfold hrefs
  have hm : some o ∈ hnd := by
    rw [List.getD_eq_getElem?_getD] at e
    cases hg : hnd[h]? with
    | none => rw [hg] at e; cases e
    | some v => rw [hg] at e; simp at e; subst e; exact List.mem_of_getElem? hg
  have : some o ∈ hnd.filter (· == some o) := by simp [List.mem_filter, hm]
  exact List.length_pos_of_mem this


theorem addref_obj (s : St) (o o' : Nat) :
    (s.addref o).1.obj o' =
      if o' = o ∧ (s.obj o).alive = true then { s.obj o with count := (raise (s.obj o).count).1 } else s.obj o' := by
  unfold St.addref
  simp only []
  by_cases ha : (s.obj o).alive = true
  · have hl := obj_alive_lt s o ha
    simp only [ha, Bool.not_true, Bool.false_eq_true, ↓reduceIte, and_true]
    unfold St.obj
    simp only [getD_set, hl, and_true]
  · have ha' : (s.obj o).alive = false := by simpa using ha
    simp only [ha', Bool.not_false, ↓reduceIte, Bool.false_eq_true, and_false]
    rfl

theorem addref_hnd (s : St) (o : Nat) : (s.addref o).1.hnd = s.hnd := by
  unfold St.addref; simp only []; split <;> rfl

theorem addref_ret (s : St) (o : Nat) :
    (s.addref o).2 = if (s.obj o).alive = true then (raise (s.obj o).count).2 else 0 := by
  unfold St.addref; simp only []; by_cases ha : (s.obj o).alive = true <;> simp [ha]

theorem unref_obj (s : St) (o o' : Nat) :
    (s.unref o).obj o' =
      if o' = o ∧ (s.obj o).alive = true then
        { s.obj o with count := (lower (s.obj o).count).1, alive := decide ((lower (s.obj o).count).2 ≠ 0) }
      else s.obj o' := by
  unfold St.unref
  simp only []
  by_cases ha : (s.obj o).alive = true
  · have hl := obj_alive_lt s o ha
    simp only [ha, Bool.not_true, Bool.false_eq_true, ↓reduceIte, and_true]
    by_cases hr : (lower (s.obj o).count).2 = 0
    · simp only [hr, ne_eq, not_true_eq_false, ↓reduceIte, decide_false]
      unfold St.obj
      simp only [getD_set, hl, and_true]
    · simp only [hr, ne_eq, not_false_eq_true, ↓reduceIte, decide_true]
      unfold St.obj
      simp only [getD_set, hl, and_true]
  · have ha' : (s.obj o).alive = false := by simpa using ha
    simp only [ha', Bool.not_false, ↓reduceIte, Bool.false_eq_true, and_false]
    rfl

theorem unref_hnd (s : St) (o : Nat) : (s.unref o).hnd = s.hnd := by
  unfold St.unref; simp only []; (repeat' split) <;> rfl


/-- numbers of objects and of handle slots: what the operations on existing objects and handles leave alone -/
def St.shape (s : St) : Nat × Nat := (s.objs.length, s.hnd.length)

theorem addref_shape (s : St) (o : Nat) : (s.addref o).1.shape = s.shape := by
  unfold St.addref St.shape; simp only []; split <;> simp

theorem unref_shape (s : St) (o : Nat) : (s.unref o).shape = s.shape := by
  unfold St.unref St.shape; simp only []; (repeat' split) <;> simp

theorem shape_objs {s s' : St} (h : s'.shape = s.shape) : s'.objs.length = s.objs.length := congrArg Prod.fst h

theorem addref_len (s : St) (o : Nat) : (s.addref o).1.objs.length = s.objs.length := shape_objs (addref_shape s o)

theorem unref_len (s : St) (o : Nat) : (s.unref o).objs.length = s.objs.length := shape_objs (unref_shape s o)

theorem retain_shape (s : St) (src : Option Nat) : (s.retain src).1.shape = s.shape := by
  unfold St.retain; cases src with
  | none => rfl
  | some n => exact addref_shape s n

theorem release_shape (s : St) (old : Option Nat) : (s.release old).shape = s.shape := by
  unfold St.release; cases old with
  | none => rfl
  | some n => exact unref_shape s n

theorem sethnd_shape (s : St) (h : Nat) (v : Option Nat) : ({ s with hnd := s.hnd.set h v } : St).shape = s.shape := by
  simp [St.shape]

theorem drop_shape (s : St) (h : Nat) : (s.drop h).shape = s.shape := by
  unfold St.drop; split
  · rfl
  · rw [sethnd_shape, unref_shape]

theorem extUnref_shape (s : St) (o : Nat) : (s.extUnref o).shape = s.shape := by
  unfold St.extUnref
  have := unref_shape s o
  simp only [St.shape, List.length_set, Prod.mk.injEq] at this ⊢
  exact this


/-- the count of every object is the number of references to it — external ones, handles, and a balance
    `p o` of references an operation in progress has retained but not yet stored (positive) or released but
    still stored (negative); it never exceeds the largest counter value; a destroyed object has none -/
def InvP (s : St) (p : Nat → Int) : Prop :=
  ∀ o, ((s.obj o).count : Int) = (s.obj o).ext + hrefs s.hnd o + p o ∧ (s.obj o).count ≤ MAXV ∧
    ((s.obj o).alive = false → (s.obj o).count = 0)

/-- **count = number of references** (external ones + handles), bounded, and nothing left on a destroyed object -/
def Inv (s : St) : Prop := InvP s (fun _ => 0)

theorem invP_congr (s : St) (p q : Nat → Int) (h : InvP s p) (e : ∀ x, p x = q x) : InvP s q := by
  intro o; rw [← e o]; exact h o

theorem alive_of_count {s : St} {p : Nat → Int} (hI : InvP s p) (o : Nat) (hc : 1 ≤ (s.obj o).count) :
    (s.obj o).alive = true := by
  cases ha : (s.obj o).alive with
  | true => rfl
  | false => have := (hI o).2.2 ha; omega

theorem addref_invP (s : St) (p : Nat → Int) (o : Nat) (hI : InvP s p) :
    InvP (s.addref o).1 (fun x => p x + (if (s.addref o).2 = 0 then 0 else ind (some o) x)) := by
  intro o'
  obtain ⟨h1, h2, h3⟩ := hI o'
  obtain ⟨g1, g2, g3⟩ := hI o
  rw [addref_ret, addref_obj, addref_hnd]
  by_cases ha : (s.obj o).alive = true
  · simp only [ha, ↓reduceIte, and_true]
    rw [raise_eq _ g2]
    by_cases hc : (s.obj o).count = 0 ∨ (s.obj o).count = MAXV
    · simp only [hc, ↓reduceIte, Int.add_zero]
      by_cases e : o' = o
      · subst e; simp only [↓reduceIte]; exact ⟨h1, h2, fun hd => by cases hd⟩
      · simp only [e, ↓reduceIte]; exact ⟨h1, h2, h3⟩
    · have hne : (s.obj o).count + 1 ≠ 0 := by omega
      simp only [hc, ↓reduceIte, hne, ind, Option.some.injEq]
      by_cases e : o' = o
      · subst e
        simp only [↓reduceIte]
        simp only [MAXV] at *
        exact ⟨by omega, by omega, fun hd => by cases hd⟩
      · have e' : ¬ o = o' := fun x => e x.symm
        simp only [e, e', ↓reduceIte, Int.add_zero]; exact ⟨h1, h2, h3⟩
  · have ha' : (s.obj o).alive = false := by simpa using ha
    simp only [ha', Bool.false_eq_true, ↓reduceIte, and_false, Int.add_zero]
    exact ⟨h1, h2, h3⟩

theorem unref_invP (s : St) (p : Nat → Int) (o : Nat) (hI : InvP s p) (hpos : 1 ≤ (s.obj o).count) :
    InvP (s.unref o) (fun x => p x - ind (some o) x) := by
  intro o'
  obtain ⟨h1, h2, h3⟩ := hI o'
  obtain ⟨g1, g2, g3⟩ := hI o
  have ha := alive_of_count hI o hpos
  rw [unref_obj, unref_hnd]
  simp only [ha, and_true]
  rw [lower_eq _ g2]
  have hne : ¬ (s.obj o).count = 0 := by omega
  simp only [hne, ↓reduceIte, ind, Option.some.injEq]
  by_cases e : o' = o
  · subst e
    simp only [↓reduceIte]
    refine ⟨by omega, by omega, ?_⟩
    intro hd
    simp only [ne_eq, decide_not, Bool.not_eq_eq_eq_not, Bool.not_false, decide_eq_true_eq] at hd
    exact hd
  · have e' : ¬ o = o' := fun x => e x.symm
    simp only [e, e', ↓reduceIte, Int.sub_zero]; exact ⟨h1, h2, h3⟩

theorem sethnd_invP (s : St) (p : Nat → Int) (h : Nat) (v : Option Nat) (hI : InvP s p) (hh : h < s.hnd.length) :
    InvP { s with hnd := s.hnd.set h v } (fun x => p x + ind (s.hnd.getD h none) x - ind v x) := by
  intro o'
  obtain ⟨h1, h2, h3⟩ := hI o'
  refine ⟨?_, h2, h3⟩
  show ((s.obj o').count : Int) = (s.obj o').ext + hrefs (s.hnd.set h v) o' + (p o' + ind (s.hnd.getD h none) o' - ind v o')
  rw [hrefs_set _ _ _ _ hh]; omega


theorem addref_ext (s : St) (o x : Nat) : ((s.addref o).1.obj x).ext = (s.obj x).ext := by
  rw [addref_obj]; split
  · rename_i h; rw [h.1]
  · rfl

theorem unref_ext (s : St) (o x : Nat) : ((s.unref o).obj x).ext = (s.obj x).ext := by
  rw [unref_obj]; split
  · rename_i h; rw [h.1]
  · rfl

theorem retain_ext (s : St) (src : Option Nat) (x : Nat) : ((s.retain src).1.obj x).ext = (s.obj x).ext := by
  unfold St.retain; cases src with
  | none => rfl
  | some n => exact addref_ext s n x

theorem release_ext (s : St) (old : Option Nat) (x : Nat) : ((s.release old).obj x).ext = (s.obj x).ext := by
  unfold St.release; cases old with
  | none => rfl
  | some n => exact unref_ext s n x

theorem release_hnd (s : St) (old : Option Nat) : (s.release old).hnd = s.hnd := by
  unfold St.release; cases old with
  | none => rfl
  | some n => exact unref_hnd s n

theorem retain_hnd (s : St) (src : Option Nat) : (s.retain src).1.hnd = s.hnd := by
  unfold St.retain; cases src with
  | none => rfl
  | some n => exact addref_hnd s n

theorem unref_sethnd (s : St) (o : Nat) (v : List (Option Nat)) :
    ({ s with hnd := v } : St).unref o = { (s.unref o) with hnd := v } := by
  unfold St.unref St.obj St.evOf
  simp only []
  (repeat' split) <;> rfl

theorem release_sethnd (s : St) (old : Option Nat) (v : List (Option Nat)) :
    ({ s with hnd := v } : St).release old = { (s.release old) with hnd := v } := by
  unfold St.release; split
  · rfl
  · exact unref_sethnd s _ v


theorem retain_invP (s : St) (src : Option Nat) (hI : Inv s) :
    InvP (s.retain src).1 (fun x => if (s.retain src).2 then ind src x else 0) := by
  unfold St.retain
  cases src with
  | none => exact invP_congr _ _ _ hI (fun x => by simp [ind])
  | some n =>
    simp only []
    refine invP_congr _ _ _ (addref_invP s _ n hI) (fun x => ?_)
    by_cases hr : (s.addref n).2 = 0 <;> simp [hr]

theorem release_invP (s : St) (p : Nat → Int) (old : Option Nat) (hI : InvP s p)
    (hp : ∀ b, old = some b → 1 ≤ (s.obj b).count) :
    InvP (s.release old) (fun x => p x - ind old x) := by
  unfold St.release
  cases old with
  | none => exact invP_congr _ _ _ hI (fun x => by simp [ind])
  | some b => exact unref_invP s p b hI (hp b rfl)

theorem retain_fail_inv (s : St) (src : Option Nat) (hI : Inv s) (hr : (s.retain src).2 = false) :
    Inv (s.retain src).1 := by
  have a := retain_invP s src hI
  simp only [hr, Bool.false_eq_true, ↓reduceIte] at a
  exact a

/-- the common core of the assignments: `src` retained, the referent of handle `h` released, `v` stored in `h` -/
def assignCore (s : St) (h : Nat) (src v : Option Nat) : St :=
  { ((s.retain src).1.release (s.hnd.getD h none)) with hnd := s.hnd.set h v }

theorem assignCore_ext (s : St) (h : Nat) (src v : Option Nat) (x : Nat) :
    ((assignCore s h src v).obj x).ext = (s.obj x).ext := by
  show (((s.retain src).1.release (s.hnd.getD h none)).obj x).ext = _
  rw [release_ext, retain_ext]

theorem assignCore_inv (s : St) (h : Nat) (src v : Option Nat) (hI : Inv s) (hh : h < s.hnd.length)
    (hv : v = if (s.retain src).2 then src else none) : Inv (assignCore s h src v) := by
  have a := retain_invP s src hI
  have ah := retain_hnd s src
  have hp : ∀ b, s.hnd.getD h none = some b → 1 ≤ ((s.retain src).1.obj b).count := by
    intro b hb
    have h1 := (a b).1
    have h2 := hrefs_pos s.hnd h b hb
    rw [ah] at h1
    simp only [ind] at h1
    (repeat' split at h1) <;> omega
  have b := release_invP (s.retain src).1 _ (s.hnd.getD h none) a hp
  have bh := release_hnd (s.retain src).1 (s.hnd.getD h none)
  have c := sethnd_invP _ _ h v b (by rw [bh, ah]; exact hh)
  rw [bh, ah] at c
  refine invP_congr _ _ _ c (fun x => ?_)
  subst hv
  cases (s.retain src).2
  · simp only [Bool.false_eq_true, ↓reduceIte, ind, reduceCtorEq]; omega
  · simp only [↓reduceIte]; omega

theorem assignMeta_eq (s : St) (h : Nat) (src : Option Nat) :
    s.assignMeta h src =
      if !(s.retain src).2 then ((s.retain src).1, .err .BadOperation) else (assignCore s h src src, .ok 8) := by
  unfold St.assignMeta assignCore; rw [release_hnd, retain_hnd]

theorem assignArr_eq (s : St) (h : Nat) (src : Option Nat) :
    s.assignArr h src =
      if src = s.hnd.getD h none then (s, .ok 0)
      else if src.isSome ∧ (s.hnd.getD h none).isSome ∧ traitsOf s src ≠ traitsOf s (s.hnd.getD h none) then (s, .err .BadType)
      else if !(s.retain src).2 then ((s.retain src).1, .err .BadOperation)
      else (assignCore s h src src,
            .ok ((if (s.hnd.getD h none).isSome then 2 else 0) + (if src.isSome then 1 else 0))) := by
  unfold St.assignArr assignCore
  rw [release_sethnd, retain_hnd]

/-- the four outcomes of `mpt_array_clone` -/
theorem assignArr_cases (s : St) (h : Nat) (src : Option Nat) :
    (src = s.hnd.getD h none ∧ s.assignArr h src = (s, .ok 0)) ∨
    s.assignArr h src = (s, .err .BadType) ∨
    ((s.retain src).2 = false ∧ s.assignArr h src = ((s.retain src).1, .err .BadOperation)) ∨
    ((s.retain src).2 = true ∧ ∃ n, s.assignArr h src = (assignCore s h src src, .ok n)) := by
  rw [assignArr_eq]
  by_cases e : src = s.hnd.getD h none
  · exact Or.inl ⟨e, if_pos e⟩
  · rw [if_neg e]
    split
    · exact Or.inr (Or.inl rfl)
    · cases hr : (s.retain src).2
      · exact Or.inr (Or.inr (Or.inl ⟨rfl, rfl⟩))
      · exact Or.inr (Or.inr (Or.inr ⟨rfl, _, rfl⟩))

theorem assignRef_eq (s : St) (h : Nat) (src : Option Nat) :
    s.assignRef h src =
      if src = s.hnd.getD h none then s else assignCore s h src (if (s.retain src).2 then src else none) := by
  unfold St.assignRef assignCore; rw [release_hnd, retain_hnd]

theorem drop_eq (s : St) (h : Nat) : s.drop h = assignCore s h none none := by
  unfold St.drop assignCore St.retain St.release
  cases hv : s.hnd.getD h none with
  | none =>
    show s = { s with hnd := s.hnd.set h none }
    rw [← hv, set_getD_self]
  | some o => simp only [unref_hnd]

theorem take_eq (s : St) (h o : Nat) (he : s.hnd.getD h none = none) :
    s.take h o =
      if (s.retain (some o)).2 then (assignCore s h (some o) (some o), .ok 1)
      else ((s.retain (some o)).1, .err .BadOperation) := by
  unfold St.take assignCore St.retain
  rw [he]
  by_cases hr : (s.addref o).2 = 0
  · simp only [hr, ↓reduceIte, ne_eq, not_true_eq_false, decide_false, Bool.false_eq_true]
  · simp only [hr, ↓reduceIte, ne_eq, not_false_eq_true, decide_true, St.release, addref_hnd]

theorem take_inv (s : St) (h o : Nat) (hI : Inv s) (hh : h < s.hnd.length) (he : s.hnd.getD h none = none) :
    Inv (s.take h o).1 := by
  rw [take_eq s h o he]
  cases hr : (s.retain (some o)).2
  · exact retain_fail_inv s _ hI hr
  · exact assignCore_inv s h _ _ hI hh (by rw [hr]; rfl)

theorem copy_inv (s : St) (h g : Nat) (hI : Inv s) (hh : h < s.hnd.length) (he : s.hnd.getD h none = none) :
    Inv (s.copy h g).1 := by
  unfold St.copy
  split
  · exact hI
  · exact take_inv s h _ hI hh he

theorem drop_inv (s : St) (h : Nat) (hI : Inv s) (hh : h < s.hnd.length) : Inv (s.drop h) := by
  rw [drop_eq]; exact assignCore_inv s h none none hI hh rfl

theorem assignMeta_inv (s : St) (h : Nat) (src : Option Nat) (hI : Inv s) (hh : h < s.hnd.length) :
    Inv (s.assignMeta h src).1 := by
  rw [assignMeta_eq]
  cases hr : (s.retain src).2
  · exact retain_fail_inv s src hI hr
  · exact assignCore_inv s h src src hI hh (by rw [hr]; rfl)

theorem assignArr_inv (s : St) (h : Nat) (src : Option Nat) (hI : Inv s) (hh : h < s.hnd.length) :
    Inv (s.assignArr h src).1 := by
  obtain ⟨_, e⟩ | e | ⟨hr, e⟩ | ⟨hr, n, e⟩ := assignArr_cases s h src <;> rw [e]
  · exact hI
  · exact hI
  · exact retain_fail_inv s src hI hr
  · exact assignCore_inv s h src src hI hh (by rw [hr]; rfl)


theorem count_of_inv (s : St) (hI : Inv s) (x : Nat) : ((s.obj x).count : Int) = (s.obj x).ext + hrefs s.hnd x := by
  have := (hI x).1; simpa using this

theorem inv_referenced_alive (s : St) (hI : Inv s) (h o : Nat) (hn : s.hnd.getD h none = some o) :
    (s.obj o).alive = true := by
  have := count_of_inv s hI o
  have := hrefs_pos _ h o hn
  exact alive_of_count hI o (by omega)

theorem count_same (s s' : St) (hI : Inv s) (hI' : Inv s') (hh : s'.hnd = s.hnd)
    (he : ∀ x, (s'.obj x).ext = (s.obj x).ext) (x : Nat) : (s'.obj x).count = (s.obj x).count := by
  have c1 := count_of_inv _ hI' x
  have c0 := count_of_inv _ hI x
  rw [he x, hh] at c1; omega

theorem count_sethnd (s s' : St) (h : Nat) (v : Option Nat) (hI : Inv s) (hI' : Inv s') (hh : h < s.hnd.length)
    (hs : s'.hnd = s.hnd.set h v) (he : ∀ x, (s'.obj x).ext = (s.obj x).ext) (x : Nat) :
    ((s'.obj x).count : Int) = (s.obj x).count + ind v x - ind (s.hnd.getD h none) x := by
  have c1 := count_of_inv _ hI' x
  have c0 := count_of_inv _ hI x
  rw [he x, hs, hrefs_set _ _ _ _ hh] at c1; omega

theorem retain_fail_count (s : St) (src : Option Nat) (hI : Inv s) (hr : (s.retain src).2 = false) (x : Nat) :
    ((s.retain src).1.obj x).count = (s.obj x).count :=
  count_same s _ hI (retain_fail_inv s src hI hr) (retain_hnd s src) (retain_ext s src) x

theorem assignCore_count (s : St) (h : Nat) (src v : Option Nat) (hI : Inv s) (hh : h < s.hnd.length)
    (hv : v = if (s.retain src).2 then src else none) (x : Nat) :
    (((assignCore s h src v).obj x).count : Int) = (s.obj x).count + ind v x - ind (s.hnd.getD h none) x :=
  count_sethnd s _ h v hI (assignCore_inv s h src v hI hh hv) hh rfl (assignCore_ext s h src v) x


theorem setext_invP (s : St) (p : Nat → Int) (o n : Nat) (hI : InvP s p) (hl : o < s.objs.length) :
    InvP { s with objs := s.objs.set o { (s.obj o) with ext := n } }
      (fun x => p x - (if x = o then (n : Int) - (s.obj o).ext else 0)) := by
  intro o'
  obtain ⟨h1, h2, h3⟩ := hI o'
  rw [obj_set]
  show _ = _ + (hrefs s.hnd o' : Int) + _ ∧ _
  by_cases eo : o' = o
  · subst eo
    simp only [hl, and_self, ↓reduceIte]
    exact ⟨by omega, h2, h3⟩
  · simp only [eo, false_and, ↓reduceIte, Int.sub_zero]
    exact ⟨h1, h2, h3⟩

theorem extAdd_inv (s : St) (o : Nat) (hI : Inv s) : Inv (s.extAdd o).1 := by
  unfold St.extAdd
  have a := addref_invP s _ o hI
  by_cases hr : (s.addref o).2 = 0
  · simp only [hr, ne_eq, not_true_eq_false, ↓reduceIte] at a ⊢
    exact invP_congr _ _ _ a (fun x => by simp)
  · simp only [hr, ne_eq, not_false_eq_true, ↓reduceIte] at a ⊢
    have hal : (s.obj o).alive = true := by
      rw [addref_ret] at hr
      by_cases ha : (s.obj o).alive = true
      · exact ha
      · simp [ha] at hr
    have hl : o < (s.addref o).1.objs.length := by rw [addref_len]; exact obj_alive_lt s o hal
    have b := setext_invP (s.addref o).1 _ o (((s.addref o).1.obj o).ext + 1) a hl
    refine invP_congr _ _ _ b (fun x => ?_)
    simp only [ind, Option.some.injEq]
    by_cases e : x = o
    · subst e; simp only [↓reduceIte]; omega
    · have e' : ¬ o = x := fun y => e y.symm
      simp only [e, e', ↓reduceIte]; omega

theorem extUnref_inv (s : St) (o : Nat) (hI : Inv s) (he : 1 ≤ (s.obj o).ext) : Inv (s.extUnref o) := by
  unfold St.extUnref
  have h0 := count_of_inv s hI o
  have a := unref_invP s _ o hI (by omega)
  have hl : o < (s.unref o).objs.length := by rw [unref_len]; exact obj_lt_of_ext s o he
  have b := setext_invP (s.unref o) _ o (((s.unref o).obj o).ext - 1) a hl
  refine invP_congr _ _ _ b (fun x => ?_)
  simp only [ind, Option.some.injEq, unref_ext]
  by_cases e : x = o
  · subst e; simp only [↓reduceIte]; omega
  · have e' : ¬ o = x := fun y => e y.symm
    simp only [e, e', ↓reduceIte]; omega


theorem invP_of_same (s s' : St) (p : Nat → Int) (hI : InvP s p) (hh : s'.hnd = s.hnd)
    (ho : ∀ x, (s'.obj x).count = (s.obj x).count ∧ (s'.obj x).ext = (s.obj x).ext ∧ (s'.obj x).alive = (s.obj x).alive) :
    InvP s' p := by
  intro x
  obtain ⟨a, b, c⟩ := ho x
  rw [a, b, c, hh]
  exact hI x

theorem setobj_invP (s : St) (p : Nat → Int) (o : Nat) (x : RObj) (hI : InvP s p)
    (hx : x.count = (s.obj o).count ∧ x.ext = (s.obj o).ext ∧ x.alive = (s.obj o).alive) :
    InvP { s with objs := s.objs.set o x } p := by
  refine invP_of_same s _ p hI rfl (fun y => ?_)
  rw [obj_set]
  split
  · rename_i h; rw [h.1]; exact hx
  · exact ⟨rfl, rfl, rfl⟩

theorem push_invP (s : St) (p : Nat → Int) (nb : RObj) (ev : List Ev) (c : Nat) (hI : InvP s p)
    (hn : nb.count = nb.ext + c ∧ nb.count ≤ MAXV ∧ nb.alive = true) :
    InvP { s with objs := s.objs ++ [nb], ev := ev } (fun x => p x + (if x = s.objs.length then (c : Int) else 0)) := by
  intro x
  obtain ⟨h1, h2, h3⟩ := hI x
  rw [obj_push]
  show _ = _ + (hrefs s.hnd x : Int) + _ ∧ _
  by_cases hx : x = s.objs.length
  · subst hx
    simp only [↓reduceIte]
    -- no handle names the object that is not there yet: its slot reads as `default`, with counter 0
    rw [obj_default s _ (Nat.le_refl _)] at h1
    have hz : ((default : RObj).count : Int) = 0 := by decide
    have hz2 : ((default : RObj).ext : Int) = 0 := by decide
    rw [hz, hz2] at h1
    exact ⟨by omega, hn.2.1, fun h => by rw [hn.2.2] at h; cases h⟩
  · simp only [hx, ↓reduceIte, Int.add_zero]; exact ⟨h1, h2, h3⟩

theorem create_inv (s : St) (nb : RObj) (ev : List Ev) (hI : Inv s)
    (hn : nb.count = nb.ext ∧ nb.count ≤ MAXV ∧ nb.alive = true) :
    Inv { s with objs := s.objs ++ [nb], ev := ev } :=
  invP_congr _ _ _ (push_invP s _ nb ev 0 hI ⟨by omega, hn.2⟩) (fun x => by simp)

theorem newBuf_invP (s : St) (p : Nat → Int) (h : Nat) (nb : RObj) (ev : List Ev) (hI : InvP s p) (hh : h < s.hnd.length)
    (hn : nb.count = 1 ∧ nb.ext = 0 ∧ nb.alive = true) :
    InvP { s with objs := s.objs ++ [nb], ev := ev, hnd := s.hnd.set h (some s.objs.length) }
      (fun x => p x + ind (s.hnd.getD h none) x) := by
  have a := push_invP s p nb ev 1 hI ⟨by omega, by rw [hn.1]; decide, hn.2.2⟩
  have b := sethnd_invP _ _ h (some s.objs.length) a hh
  refine invP_congr _ _ _ b (fun x => ?_)
  show p x + (if x = s.objs.length then ((1 : Nat) : Int) else 0) + ind (s.hnd.getD h none) x - ind (some s.objs.length) x = _
  by_cases e : x = s.objs.length
  · subst e; simp only [ind, ↓reduceIte]; omega
  · have e' : ¬ s.objs.length = x := fun y => e y.symm
    simp only [ind, Option.some.injEq, e, e', ↓reduceIte]; omega

theorem relocateWith_inv (s : St) (h o newcap : Nat) (clear : Bool) (els : List Nat) (hI : Inv s) (hh : h < s.hnd.length)
    (ho : s.hnd.getD h none = some o) : Inv (s.relocateWith h o newcap clear els) := by
  unfold St.relocateWith
  simp only []
  -- elements cleared or copies logged: counters, flags and handles as before
  generalize hs1 : (if clear = true then ({ s with objs := s.objs.set o { (s.obj o) with elems := [] } } : St)
      else { s with elog := s.elog ++ els.map ElEv.copy }) = s1
  have i1 : Inv s1 ∧ s1.hnd = s.hnd ∧ (s1.obj o).count = (s.obj o).count := by
    subst hs1
    cases clear
    · exact ⟨invP_of_same s _ _ hI rfl (fun x => ⟨rfl, rfl, rfl⟩), rfl, rfl⟩
    · refine ⟨setobj_invP s _ o _ hI ⟨rfl, rfl, rfl⟩, rfl, ?_⟩
      simp only [↓reduceIte]; rw [obj_set]; split <;> rfl
  obtain ⟨i1, hh1, hc1⟩ := i1
  have hp : 1 ≤ (s1.obj o).count := by
    have := count_of_inv s hI o
    have := hrefs_pos s.hnd h o ho
    rw [hc1]; omega
  have i2 := unref_invP s1 _ o i1 hp
  have i3 := newBuf_invP (s1.unref o) _ h
    { kind := .rbuf, count := 1, alive := true, ext := 0, elems := els, cap := newcap }
    ((s1.unref o).ev ++ [({} : Ev)]) i2 (by rw [unref_hnd, hh1]; exact hh) ⟨rfl, rfl, rfl⟩
  refine invP_congr _ _ _ i3 (fun x => ?_)
  show (0 : Int) - ind (some o) x + ind ((s1.unref o).hnd.getD h none) x = 0
  rw [unref_hnd, hh1, ho]; omega

theorem detach_inv (s : St) (h len : Nat) (hI : Inv s) (hh : h < s.hnd.length) : Inv (s.detach h len).1 := by
  unfold St.detach
  cases ho : s.hnd.getD h none with
  | none => exact hI
  | some o =>
    simp only []
    split
    · split
      · exact hI
      · exact relocateWith_inv s h o _ true _ hI hh ho
    · split
      · exact hI
      · exact relocateWith_inv s h o _ false _ hI hh ho

theorem reserve_inv (s : St) (h len : Nat) (hI : Inv s) (hh : h < s.hnd.length) : Inv (s.reserve h len).1 := by
  unfold St.reserve
  cases ho : s.hnd.getD h none with
  | none =>
    refine invP_congr _ _ _ (newBuf_invP s _ h _ _ hI hh ⟨rfl, rfl, rfl⟩) (fun x => ?_)
    rw [ho]; rfl
  | some o =>
    simp only []
    split
    · exact relocateWith_inv s h o _ false _ hI hh ho
    · exact detach_inv s h len hI hh

theorem uaPrivate_inv (s : St) (a : Nat) (hI : Inv s) (hh : a < s.hnd.length) : Inv (s.uaPrivate a).1 := by
  unfold St.uaPrivate
  cases ho : s.hnd.getD a none with
  | none =>
    refine invP_congr _ _ _ (newBuf_invP s _ a _ _ hI hh ⟨rfl, rfl, rfl⟩) (fun x => ?_)
    rw [ho]; rfl
  | some b =>
    simp only []
    split
    · split
      · exact relocateWith_inv s a b _ false _ hI hh ho
      · exact hI
    · exact hI

/-- a refused `unique_array<T>::reserve()` leaves everything as it was: the handle still names the buffer -/
theorem uaPrivate_refused (s : St) (a : Nat) (hr : (s.uaPrivate a).2 = false) : (s.uaPrivate a).1 = s := by
  unfold St.uaPrivate at hr ⊢
  cases ho : s.hnd.getD a none with
  | none => rw [ho] at hr; simp at hr
  | some b =>
    simp only [ho] at hr ⊢
    -- the one path that answers `false` returns `s` itself; all others answer `true`
    by_cases h1 : (s.obj b).count > 1
    · by_cases he : (s.obj b).elems.isEmpty = true
      · simp [h1, he] at hr
      · simp [h1, he]
    · simp [h1] at hr

theorem uaSetLen_inv (s : St) (a n : Nat) (hI : Inv s) : Inv (s.uaSetLen a n) := by
  unfold St.uaSetLen
  split
  · exact hI
  · exact setobj_invP s _ _ _ hI ⟨rfl, rfl, rfl⟩

end Mpt.Refcount
