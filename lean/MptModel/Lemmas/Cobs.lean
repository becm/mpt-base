/-
  Lemmas about the COBS specs: block decoding steps, the invariant of the encoder recursion, frame bodies as
  blocks (`Body`: they decode to what they stand for and are zero-free), every output of `encB` is one
  (`encB_body`), from which the round trips and the zero-freeness of frames that the other files quote follow
  (`dec_body_frame`, `enc_roundtrip`, `frame_nz`); the marks of one piece (`markChunk`), the single steps of `encB`
  as equations with no pending zero on either side (`encB_data` and its neighbours), `encB` without zero pair
  elimination ignores the marks (`enc_of_marks`), and the Python client's encoder `pyEnc` against `encB` (`py_fold`).
-/
import MptModel.Spec.Cobs
import MptModel.Lemmas.ListFacts
namespace Mpt.Cobs

theorem Variant.maxlen_cases (v : Variant) : v.maxlen = 255 ∨ v.maxlen = 223 := by
  cases v <;> simp [Variant.maxlen]

theorem Variant.zpe_maxlen (v : Variant) (h : v.isZpe = true) : v.maxlen = 223 := by
  cases v <;> simp_all [Variant.maxlen, Variant.isZpe]

theorem Variant.nozpe_maxlen (v : Variant) (h : v.isZpe = false) : v.maxlen = 255 := by
  cases v <;> simp_all [Variant.maxlen, Variant.isZpe]

/-- invariant of `encB` in its arguments `run` (the open block) and `pend` (a zero held back for a possible pair) -/
structure Inv (v : Variant) (run : List Byte) (pend : Bool) : Prop where
  len : run.length + 1 < v.maxlen
  nz : ∀ x ∈ run, x ≠ 0
  pend : pend = true → pairOk v run = true

theorem Inv.nil (v : Variant) : Inv v [] false :=
  ⟨by have := v.maxlen_cases; simp; omega, by simp, by simp⟩

theorem Inv.single (v : Variant) {b : Byte} (hb : b ≠ 0) : Inv v [b] false :=
  ⟨by have := v.maxlen_cases; simp; omega, by simpa using hb, by simp⟩

theorem nz_snoc {run : List Byte} {b : Byte} (hr : ∀ x ∈ run, x ≠ 0) (hb : b ≠ 0) : ∀ x ∈ run ++ [b], x ≠ 0 := fun x hx => by
  rcases List.mem_append.mp hx with hx | hx
  · exact hr x hx
  · rw [List.mem_singleton.mp hx]; exact hb

theorem Inv.snoc {v : Variant} {run : List Byte} {pend : Bool} (inv : Inv v run pend) {b : Byte} (hb : b ≠ 0)
    (hfull : run.length + 2 ≠ v.maxlen) : Inv v (run ++ [b]) false :=
  ⟨by have := inv.len; simp; omega, nz_snoc inv.nz hb, by simp⟩

theorem decBody_block (v : Variant) (f : Nat) (c : Byte) (data rest : List Byte)
    (h : dataLen v c = data.length) :
    decBody v (f + 1) (c :: (data ++ rest)) =
      (decBody v f rest).map fun tl => data ++ zerosAfter v c (!rest.isEmpty) ++ tl := by
  simp only [decBody, h]
  rw [if_neg (by simp)]
  simp

theorem pairOk_iff (v : Variant) (run : List Byte) :
    pairOk v run = true ↔ v.isZpe = true ∧ 1 ≤ run.length ∧ run.length ≤ 30 := by
  simp [pairOk, and_assoc]

theorem codeOf_toNat (v : Variant) (run : List Byte) (h : run.length + 1 < v.maxlen) :
    (codeOf run).toNat = run.length + 1 := by
  have := v.maxlen_cases
  unfold codeOf; rw [toNat_ofNat_lt]; omega

theorem dataLen_codeOf (v : Variant) (run : List Byte) (h : run.length + 1 < v.maxlen) :
    dataLen v (codeOf run) = run.length := by
  unfold dataLen; rw [codeOf_toNat v run h]; rw [if_pos (by omega)]; omega

theorem zerosAfter_codeOf (v : Variant) (run : List Byte) (more : Bool) (h : run.length + 1 < v.maxlen) :
    zerosAfter v (codeOf run) more = if more then [0] else [] := by
  unfold zerosAfter; rw [codeOf_toNat v run h]
  rw [if_neg (by omega)]
  cases more <;> simp [h]

theorem pairCode_toNat (run : List Byte) (h : run.length ≤ 30) : (pairCode run).toNat = run.length + 0xE0 := by
  unfold pairCode; rw [toNat_ofNat_lt]; omega

theorem dataLen_pairCode (v : Variant) (run : List Byte) (h : pairOk v run = true) :
    dataLen v (pairCode run) = run.length := by
  rw [pairOk_iff] at h
  unfold dataLen; rw [pairCode_toNat run h.2.2, v.zpe_maxlen h.1]; rw [if_neg (by omega)]; omega

theorem zerosAfter_pairCode (v : Variant) (run : List Byte) (more : Bool) (h : pairOk v run = true) :
    zerosAfter v (pairCode run) more = [0, 0] := by
  rw [pairOk_iff] at h
  unfold zerosAfter; rw [pairCode_toNat run h.2.2, v.zpe_maxlen h.1]; rw [if_pos (by omega)]

theorem maxCode_toNat (v : Variant) : (UInt8.ofNat v.maxlen).toNat = v.maxlen := by
  have := v.maxlen_cases
  rw [toNat_ofNat_lt]; omega

theorem dataLen_maxCode (v : Variant) : dataLen v (UInt8.ofNat v.maxlen) = v.maxlen - 1 := by
  unfold dataLen; rw [maxCode_toNat]; simp

theorem zerosAfter_maxCode (v : Variant) (more : Bool) : zerosAfter v (UInt8.ofNat v.maxlen) more = [] := by
  unfold zerosAfter; rw [maxCode_toNat]; simp

theorem finalBlock_length_pos (v : Variant) (run : List Byte) : 1 ≤ (finalBlock v run).length := by
  unfold finalBlock
  split
  · split <;> simp
  · simp

/-- the first argument of `decBody` is fuel, one unit per block and one for the empty rest: the last block alone
    needs two, a body `bs` at most `bs.length + 1` (`Body.dec`), which is what `dec` passes -/
theorem decBody_final (v : Variant) (run : List Byte) (f : Nat) (h : run.length + 1 < v.maxlen) :
    decBody v (f + 2) (finalBlock v run) = some run := by
  unfold finalBlock
  split
  · rename_i e he
    have hdl : run.dropLast ++ [e] = run := by
      obtain ⟨ys, rfl⟩ := List.getLast?_eq_some_iff.mp he
      simp
    split
    · rename_i hc
      have hd : dataLen v e = e.toNat - 1 := by unfold dataLen; rw [if_pos hc.2.2]
      simp only [decBody, hd]
      have hl : run.dropLast.length < e.toNat - 1 := by
        simp; omega
      rw [if_pos hl, if_pos hc.1, hdl]
    · have := decBody_block v (f + 1) (codeOf run) run [] (dataLen_codeOf v run h)
      simp only [List.append_nil] at this
      rw [this, zerosAfter_codeOf v run _ h]
      simp [decBody]
  · rename_i he; simp at he; subst he
    simp [decBody, dataLen, zerosAfter]
    have := v.maxlen_cases; omega

theorem codeOf_ne_zero (v : Variant) (run : List Byte) (h : run.length + 1 < v.maxlen) : codeOf run ≠ 0 :=
  (toNat_ne_zero _).mp (by rw [codeOf_toNat v run h]; omega)

theorem finalBlock_nz (v : Variant) (run : List Byte) (h : run.length + 1 < v.maxlen) (hnz : ∀ x ∈ run, x ≠ 0) :
    ∀ x ∈ finalBlock v run, x ≠ 0 := by
  unfold finalBlock
  split
  · rename_i e he
    split
    · rename_i hc
      intro x hx
      simp at hx
      rcases hx with hx | hx
      · subst hx; exact (toNat_ne_zero _).mp (by omega)
      · exact hnz x (List.dropLast_subset run hx)
    · intro x hx
      simp at hx
      rcases hx with hx | hx
      · subst hx; exact codeOf_ne_zero v run h
      · exact hnz x hx
  · simp

theorem nz_block {c : Byte} {run tl : List Byte} (hc : c ≠ 0) (hr : ∀ x ∈ run, x ≠ 0) (ht : ∀ x ∈ tl, x ≠ 0) :
    ∀ x ∈ c :: (run ++ tl), x ≠ 0 := by
  intro x hx
  rcases List.mem_cons.mp hx with rfl | hx
  · exact hc
  · rcases List.mem_append.mp hx with hx | hx
    · exact hr x hx
    · exact ht x hx

/-- `Body v bs m`: `bs` is a frame body as the encoder builds it — closed blocks, each a non-zero code byte and
    the non-zero data bytes it announces, then the last block — and stands for the message `m` -/
inductive Body (v : Variant) : List Byte → List Byte → Prop
  | last (run : List Byte) : run.length + 1 < v.maxlen → (∀ x ∈ run, x ≠ 0) → Body v (finalBlock v run) run
  | block (c : Byte) (data bs m : List Byte) : c ≠ 0 → (∀ x ∈ data, x ≠ 0) → dataLen v c = data.length →
      Body v bs m → Body v (c :: (data ++ bs)) (data ++ zerosAfter v c true ++ m)

namespace Body
variable {v : Variant} {bs m : List Byte}

theorem ne_nil (h : Body v bs m) : bs ≠ [] := by
  cases h with
  | last => exact fun h => by have := finalBlock_length_pos v m; simp [h] at this
  | block => simp

theorem nz (h : Body v bs m) : ∀ x ∈ bs, x ≠ 0 := by
  induction h with
  | last run hl hnz => exact finalBlock_nz v run hl hnz
  | block c data bs m hc hd _ _ ih => exact nz_block hc hd ih

theorem dec (h : Body v bs m) : ∀ f, bs.length < f → decBody v f bs = some m := by
  induction h with
  | last run hl _ =>
    intro f hf
    obtain ⟨g, rfl⟩ : ∃ g, f = g + 2 := ⟨f - 2, by have := finalBlock_length_pos v run; omega⟩
    exact decBody_final v run g hl
  | block c data bs m _ _ hd hb ih =>
    intro f hf
    obtain ⟨g, rfl⟩ : ∃ g, f = g + 1 := ⟨f - 1, by simp at hf; omega⟩
    rw [decBody_block v g c data bs hd, ih g (by simp at hf; omega), List.isEmpty_eq_false_iff.mpr hb.ne_nil]; rfl

theorem cast {m' : List Byte} (h : Body v bs m) (e : m = m') : Body v bs m' := e ▸ h

theorem code {run : List Byte} (hl : run.length + 1 < v.maxlen) (hnz : ∀ x ∈ run, x ≠ 0) (h : Body v bs m) :
    Body v (codeOf run :: (run ++ bs)) (run ++ [0] ++ m) :=
  (block _ run bs m (codeOf_ne_zero v run hl) hnz (dataLen_codeOf v run hl) h).cast
    (by rw [zerosAfter_codeOf v run _ hl]; rfl)

end Body

theorem encB_body (v : Variant) (ms : List (Byte × Bool)) : ∀ run pend, Inv v run pend →
    Body v (encB v run pend ms) (run ++ (if pend then [0] else []) ++ ms.map Prod.fst) := by
  intro run pend inv
  -- the branches of `encB`: 1, 2 end of input (zero pending / not); 3, 4 a zero is pending and the byte is zero
  -- (pair) / not; 5 a zero becomes pending; 6 a zero closes the block; 7 the block is full; 8 a data byte
  fun_induction encB v run pend ms
  case case1 run =>
    exact (Body.code inv.len inv.nz (.last [] (Inv.nil v).len (by simp))).cast (by simp)
  case case2 run pend hp => exact (Body.last run inv.len inv.nz).cast (by simp [hp])
  case case3 run cut rest ih =>
    have hpo := inv.pend rfl
    have h2 := (pairOk_iff v run).mp hpo
    exact (Body.block _ run _ _ ((toNat_ne_zero _).mp (by rw [pairCode_toNat run h2.2.2]; omega)) inv.nz
      (dataLen_pairCode v run hpo) (ih (Inv.nil v))).cast (by rw [zerosAfter_pairCode v run _ hpo]; simp)
  case case4 run b cut rest hb ih => exact (Body.code inv.len inv.nz (ih (Inv.single v hb))).cast (by simp)
  case case5 run pend cut rest hp hc ih => exact (ih ⟨inv.len, inv.nz, fun _ => hc.1⟩).cast (by simp [hp])
  case case6 run pend cut rest hp hc ih => exact (Body.code inv.len inv.nz (ih (Inv.nil v))).cast (by simp [hp])
  case case7 run pend b cut rest hp hb hfull ih =>
    exact (Body.block _ (run ++ [b]) _ _ ((toNat_ne_zero _).mp (by rw [maxCode_toNat]; omega)) (nz_snoc inv.nz hb)
      (by rw [dataLen_maxCode]; simp; omega) (ih (Inv.nil v))).cast (by rw [zerosAfter_maxCode]; simp [hp])
  case case8 run pend b cut rest hp hb hfull ih => exact (ih (inv.snoc hb hfull)).cast (by simp [hp])

theorem encB_nz (v : Variant) (ms : List (Byte × Bool)) :
    ∀ run pend, Inv v run pend → ∀ x ∈ encB v run pend ms, x ≠ 0 :=
  fun run pend inv => (encB_body v ms run pend inv).nz

end Mpt.Cobs

namespace Mpt.Codec

/-- marks of one piece handed to the encoder: a cut after its last byte -/
def markChunk (bytes : List Byte) : List (Byte × Bool) :=
  (bytes.dropLast.map fun b => (b, false)) ++ (bytes.getLast?.toList.map fun b => (b, true))

theorem markChunk_nil : markChunk [] = [] := rfl
theorem markChunk_single (b : Byte) : markChunk [b] = [(b, true)] := rfl
theorem markChunk_cons (b c : Byte) (tl : List Byte) : markChunk (b :: c :: tl) = (b, false) :: markChunk (c :: tl) := by
  simp [markChunk, List.getLast?_cons_cons]

theorem markChunk_fst (bytes : List Byte) : (markChunk bytes).map Prod.fst = bytes := by
  rcases List.eq_nil_or_concat bytes with h | ⟨ys, e, h⟩
  · subst h; rfl
  · subst h; simp [markChunk, Function.comp_def]

end Mpt.Codec

namespace Mpt.Cobs
open Mpt.Codec

theorem mark_eq (chunks : List (List Byte)) : mark chunks = chunks.flatMap markChunk := rfl

theorem mark_fst (chunks : List (List Byte)) : (mark chunks).map Prod.fst = chunks.flatten := by
  induction chunks with
  | nil => rfl
  | cons c cs ih =>
    rw [mark_eq, List.flatMap_cons, List.map_append, markChunk_fst, ← mark_eq, ih, List.flatten_cons]

theorem dec_body_frame (v : Variant) (ms : List (Byte × Bool)) :
    dec v (encB v [] false ms ++ [0]) = some (ms.map Prod.fst) := by
  have hb := encB_body v ms [] false (Inv.nil v)
  unfold dec
  rw [if_pos ⟨by simp, by simpa using hb.ne_nil, by simpa using fun h0 => hb.nz 0 h0 rfl⟩]
  simp only [List.dropLast_concat]
  rw [hb.dec _ (Nat.lt_succ_self _)]
  simp

theorem enc_roundtrip (v : Variant) (m : List Byte) : dec v (enc v m) = some m := by
  have := dec_body_frame v (m.map fun b => (b, false))
  simpa [enc, Function.comp_def] using this

theorem encChunks_roundtrip (v : Variant) (chunks : List (List Byte)) :
    dec v (encChunks v chunks) = some chunks.flatten := by
  have := dec_body_frame v (mark chunks)
  rw [mark_fst] at this
  exact this

theorem frame_nz (v : Variant) (ms : List (Byte × Bool)) :
    (∀ b ∈ (encB v [] false ms ++ [0]).dropLast, b ≠ 0) ∧ (encB v [] false ms ++ [0]).getLast? = some 0 :=
  ⟨by rw [List.dropLast_concat]; exact encB_nz v ms [] false (Inv.nil v), by simp⟩

theorem encB_nil (v : Variant) (run : List Byte) : encB v run false [] = finalBlock v run := by
  simp [encB]

theorem encB_full (v : Variant) (run : List Byte) (b : Byte) (cut : Bool) (rest : List (Byte × Bool)) (hb : b ≠ 0)
    (h : run.length + 2 = v.maxlen) :
    encB v run false ((b, cut) :: rest) = UInt8.ofNat v.maxlen :: ((run ++ [b]) ++ encB v [] false rest) := by
  simp [encB, hb, h]

theorem encB_data (v : Variant) (run : List Byte) (b : Byte) (cut : Bool) (rest : List (Byte × Bool)) (hb : b ≠ 0)
    (h : run.length + 2 ≠ v.maxlen) :
    encB v run false ((b, cut) :: rest) = encB v (run ++ [b]) false rest := by
  simp [encB, hb, h]

/-- a zero byte that is not folded into a pair: no pair allowed here, or a cut behind it, or no zero follows -/
theorem encB_zero_plain (v : Variant) (run : List Byte) (cut : Bool) (rest : List (Byte × Bool))
    (h : pairOk v run = true → cut = false → rest.head?.map Prod.fst ≠ some 0) :
    encB v run false ((0, cut) :: rest) = codeOf run :: (run ++ encB v [] false rest) := by
  by_cases hpc : pairOk v run = true ∧ cut = false
  · -- the zero is kept pending and then closed by the end or by a non-zero byte
    have h3 := h hpc.1 hpc.2
    simp only [encB, Bool.false_eq_true, if_false, if_true, hpc, and_self]
    cases rest with
    | nil => simp [encB, finalBlock]
    | cons y tl =>
      have hy : y.1 ≠ 0 := by simpa using h3
      have := v.maxlen_cases
      -- on the right the empty block takes `y`; `0 + 2 ≠ maxlen` keeps that step out of the full-block branch
      simp only [encB, if_true, hy, if_false, Bool.false_eq_true, List.length_nil, List.nil_append,
        show ¬ (0 + 2 = v.maxlen) by omega]
  · simp [encB, hpc]

theorem encB_zero_pair (v : Variant) (run : List Byte) (cut : Bool) (rest : List (Byte × Bool)) (h : pairOk v run = true) :
    encB v run false ((0, false) :: (0, cut) :: rest) = pairCode run :: (run ++ encB v [] false rest) := by
  simp [encB, h]

theorem encB_nozpe (v : Variant) (hz : v.isZpe = false) (ms : List (Byte × Bool)) :
    ∀ run, encB v run false ms = encB v run false ((ms.map Prod.fst).map fun b => (b, false)) := by
  induction ms with
  | nil => intro run; rfl
  | cons x rest ih =>
    intro run
    obtain ⟨b, cut⟩ := x
    simp only [List.map_cons, encB, pairOk, hz, Bool.false_and, Bool.false_eq_true, false_and, if_false]
    rw [ih [], ih (run ++ [b])]

theorem enc_of_marks (v : Variant) (hz : v.isZpe = false) (ms : List (Byte × Bool)) :
    encB v [] false ms ++ [0] = enc v (ms.map Prod.fst) := by
  rw [encB_nozpe v hz]; rfl

theorem finalBlock_notail (v : Variant) (run : List Byte) (h : v.tail = false) :
    finalBlock v run = codeOf run :: run := by
  unfold finalBlock
  split
  · simp [h]
  · rename_i he; simp at he; subst he; simp [codeOf]

/-- the last statement of `mpt.py:encode_cobs`: the open code is stored -/
def pyClose (st : List Byte × Nat) : List Byte := st.1.set (st.1.length - st.2) (UInt8.ofNat st.2)

theorem pyEnc_eq (m : List Byte) : pyEnc m = pyClose (m.foldl pyStep ([1], 1)) ++ [0] := rfl

/-- loop invariant of `encode_cobs`: `ret` is the finished blocks, a placeholder (1 while the block is empty) and
    the open block; `code` its length plus one -/
theorem py_fold (m : List Byte) : ∀ (fin : List Byte) (ph : Byte) (run : List Byte),
    run.length + 1 < 255 → (run = [] → ph = 1) →
    pyClose (m.foldl pyStep (fin ++ ph :: run, run.length + 1)) = fin ++ encB .cobs run false (m.map fun b => (b, false)) := by
  induction m with
  | nil =>
    intro fin ph run hl hph
    simp only [List.foldl_nil, List.map_nil, encB_nil, pyClose]
    rw [finalBlock_notail _ _ rfl, set_mid _ _ _ _ _ (by simp)]
    rfl
  | cons b m ih =>
    intro fin ph run hl hph
    simp only [List.foldl_cons, List.map_cons]
    by_cases hb : b = 0
    · subst hb
      have hst : pyStep (fin ++ ph :: run, run.length + 1) 0 = ((fin ++ codeOf run :: run) ++ (1 : Byte) :: [], ([] : List Byte).length + 1) := by
        unfold pyStep
        simp only [ne_eq, not_true, if_false]
        by_cases hr : run = []
        · subst hr; simp [hph rfl, codeOf]
        · have : run.length + 1 ≠ 1 := by
            have := List.length_pos_iff.mpr hr; omega
          simp only [this, not_false_eq_true, if_true]
          rw [set_mid _ _ _ _ _ (by simp)]
          simp [codeOf]
      rw [hst, ih _ 1 [] (by simp) (fun _ => rfl), encB_zero_plain _ _ _ _ (fun hp => by simp [pairOk, Variant.isZpe] at hp)]
      simp
    · by_cases hfull : run.length + 2 = Variant.cobs.maxlen
      · have h253 : run.length = 253 := by simp [Variant.maxlen] at hfull; omega
        have hst : pyStep (fin ++ ph :: run, run.length + 1) b =
            ((fin ++ UInt8.ofNat 255 :: (run ++ [b])) ++ (1 : Byte) :: [], ([] : List Byte).length + 1) := by
          unfold pyStep
          simp only [ne_eq, hb, not_false_eq_true, if_true]
          rw [if_pos (by simp; omega)]
          have : (fin ++ ph :: run ++ [b]) = fin ++ ph :: (run ++ [b]) := by simp
          rw [this, set_mid _ _ _ _ _ (by simp; omega)]
          simp [h253]
        rw [hst, ih _ 1 [] (by simp) (fun _ => rfl), encB_full _ _ _ _ _ hb hfull]
        simp [Variant.maxlen]
      · have hlt : run.length + 1 < 254 := by simp [Variant.maxlen] at hfull; omega
        have hst : pyStep (fin ++ ph :: run, run.length + 1) b =
            (fin ++ ph :: (run ++ [b]), (run ++ [b]).length + 1) := by
          unfold pyStep
          simp only [ne_eq, hb, not_false_eq_true, if_true]
          rw [if_neg (by simp; omega)]
          simp
        rw [hst, ih _ ph (run ++ [b]) (by simp; omega) (by simp), encB_data _ _ _ _ _ hb hfull]

end Mpt.Cobs
