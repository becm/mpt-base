/-
  For C02: the reference receiver of Spec/Stream.lean on frames and on arbitrary segmentations; frame lists that
  carry a message list (`Carries`: what they consist of, how their delimiters count, which frame stands behind the
  first `k` — `carries_at`, `stream_at`); the invariant of every schedule (`SysInv`).
-/
import MptModel.Spec.Stream
import MptModel.Lemmas.Cobs
namespace Mpt.Stream
open Mpt.Cobs

theorem IsFrame.split {f : List Byte} (h : IsFrame f) : ∃ body, f = body ++ [0] ∧ ∀ b ∈ body, b ≠ 0 := by
  obtain ⟨h1, h2⟩ := h
  rcases List.eq_nil_or_concat f with hf | ⟨body, e, hf⟩
  · subst hf; exact absurd h1 (by simp)
  · subst hf
    simp at h1
    subst h1
    exact ⟨body, by simp, by simpa using h2⟩

theorem IsFrame.mk (body : List Byte) (h : ∀ b ∈ body, b ≠ 0) : IsFrame (body ++ [0]) :=
  ⟨by simp, by simpa using h⟩

theorem enc_isFrame (v : Variant) (m : List Byte) : IsFrame (enc v m) := by
  unfold enc
  exact IsFrame.mk _ (encB_nz v _ [] false (Inv.nil v))

theorem encChunks_isFrame (v : Variant) (chunks : List (List Byte)) : IsFrame (encChunks v chunks) := by
  unfold encChunks
  exact IsFrame.mk _ (encB_nz v _ [] false (Inv.nil v))

theorem splitAux_body (body : List Byte) (hnz : ∀ b ∈ body, b ≠ 0) : ∀ (cur rest : List Byte),
    splitAux cur (body ++ 0 :: rest) = ((cur ++ body ++ [0]) :: (splitAux [] rest).1, (splitAux [] rest).2) := by
  induction body with
  | nil => intro cur rest; simp [splitAux]
  | cons b bs ih =>
    intro cur rest
    have hb : b ≠ 0 := hnz b (by simp)
    simp only [List.cons_append, splitAux, hb, if_false]
    rw [ih (fun x hx => hnz x (by simp [hx]))]
    simp

theorem splitAux_frames (fs : List (List Byte)) (h : ∀ f ∈ fs, IsFrame f) :
    splitAux [] fs.flatten = (fs, []) := by
  induction fs with
  | nil => simp [splitAux]
  | cons f fs ih =>
    obtain ⟨body, rfl, hnz⟩ := (h f (by simp)).split
    have := ih (fun g hg => h g (by simp [hg]))
    simp only [List.flatten_cons, List.append_assoc, List.singleton_append]
    rw [splitAux_body body hnz, this]
    simp

theorem segment_append (v : Variant) (r : Recv) (a b : List Byte) :
    Recv.segment v r (a ++ b) = Recv.segment v (Recv.segment v r a) b := by
  simp [Recv.segment, List.foldl_append]

theorem foldl_segment (v : Variant) (segs : List (List Byte)) : ∀ r : Recv,
    segs.foldl (Recv.segment v) r = Recv.segment v r segs.flatten := by
  induction segs with
  | nil => intro r; simp [Recv.segment]
  | cons s ss ih => intro r; simp only [List.foldl_cons, List.flatten_cons, segment_append, ih]

theorem recvAll_flatten (v : Variant) (segs : List (List Byte)) :
    recvAll v segs = Recv.segment v {} segs.flatten := foldl_segment v segs {}

theorem segment_cons (v : Variant) (r : Recv) (b : Byte) (bs : List Byte) :
    Recv.segment v r (b :: bs) = Recv.segment v (Recv.byte v r b) bs := by
  simp [Recv.segment]

theorem segment_nz (v : Variant) (body : List Byte) (hnz : ∀ b ∈ body, b ≠ 0) : ∀ r : Recv,
    Recv.segment v r body = { r with pending := r.pending ++ body } := by
  induction body with
  | nil => intro r; simp [Recv.segment]
  | cons b bs ih =>
    intro r
    have hb : b ≠ 0 := hnz b (by simp)
    rw [segment_cons, ih (fun x hx => hnz x (by simp [hx]))]
    simp [Recv.byte, hb]

theorem segment_frame (v : Variant) (r : Recv) (f : List Byte) (hf : IsFrame f) :
    Recv.segment v r f =
      match dec v (r.pending ++ f) with
      | some m => { pending := [], out := r.out ++ [m] }
      | none => { pending := [], out := r.out } := by
  obtain ⟨body, rfl, hnz⟩ := hf.split
  rw [segment_append, segment_nz v body hnz]
  simp only [Recv.segment, List.foldl_cons, List.foldl_nil, Recv.byte, if_true, List.append_assoc]
  cases dec v (r.pending ++ (body ++ [0])) <;> rfl

theorem byte_out_mono (v : Variant) (r : Recv) (b : Byte) : ∃ more, (Recv.byte v r b).out = r.out ++ more := by
  unfold Recv.byte
  split
  · split
    · exact ⟨_, rfl⟩
    · exact ⟨[], by simp⟩
  · exact ⟨[], by simp⟩

theorem segment_out_mono (v : Variant) (s : List Byte) : ∀ r : Recv,
    ∃ more, (Recv.segment v r s).out = r.out ++ more := by
  induction s with
  | nil => intro r; exact ⟨[], by simp [Recv.segment]⟩
  | cons b bs ih =>
    intro r
    obtain ⟨m1, h1⟩ := byte_out_mono v r b
    obtain ⟨m2, h2⟩ := ih (Recv.byte v r b)
    exact ⟨m1 ++ m2, by rw [segment_cons, h2, h1]; simp⟩

inductive Carries (v : Variant) : List (List Byte) → List Msg → Prop where
  | nil : Carries v [] []
  | cons {f m fs ms} : (IsFrame f ∧ dec v f = some m) → Carries v fs ms → Carries v (f :: fs) (m :: ms)

theorem carries_enc (v : Variant) (ms : List Msg) : Carries v (ms.map (enc v)) ms := by
  induction ms with
  | nil => exact Carries.nil
  | cons m ms ih => exact Carries.cons ⟨enc_isFrame v m, enc_roundtrip v m⟩ ih

theorem carries_encChunks (v : Variant) (cms : List (List (List Byte))) :
    Carries v (cms.map (encChunks v)) (cms.map List.flatten) := by
  induction cms with
  | nil => exact Carries.nil
  | cons c cs ih => exact Carries.cons ⟨encChunks_isFrame v c, encChunks_roundtrip v c⟩ ih

theorem Carries.snoc {v : Variant} {fs : List (List Byte)} {ms : List Msg} (h : Carries v fs ms) {f : List Byte} {m : Msg}
    (hf : IsFrame f ∧ dec v f = some m) : Carries v (fs ++ [f]) (ms ++ [m]) := by
  induction h with
  | nil => exact Carries.cons hf Carries.nil
  | cons a _ ih => exact Carries.cons a ih

theorem frame_count_one {f : List Byte} (h : IsFrame f) : f.count 0 = 1 := by
  obtain ⟨body, rfl, hnz⟩ := h.split
  rw [List.count_append, List.count_eq_zero.mpr (fun hm => hnz 0 hm rfl)]
  simp

theorem carries_length {v : Variant} {fs : List (List Byte)} {ms : List Msg} (h : Carries v fs ms) : fs.length = ms.length := by
  induction h with
  | nil => rfl
  | cons _ _ ih => simp [ih]

theorem carries_isFrame {v : Variant} {fs : List (List Byte)} {ms : List Msg} (h : Carries v fs ms) : ∀ f ∈ fs, IsFrame f := by
  induction h with
  | nil => intro f hf; cases hf
  | cons a _ ih =>
    intro f hf
    rcases List.mem_cons.mp hf with rfl | h'
    · exact a.1
    · exact ih f h'

theorem frames_count (fs : List (List Byte)) (h : ∀ f ∈ fs, IsFrame f) : fs.flatten.count 0 = fs.length := by
  induction fs with
  | nil => rfl
  | cons f fs ih =>
    rw [List.flatten_cons, List.count_append, frame_count_one (h f (by simp)), ih (fun g hg => h g (by simp [hg]))]
    simp; omega

theorem carries_count {v : Variant} {fs : List (List Byte)} {ms : List Msg} (h : Carries v fs ms) :
    frameCount fs.flatten = ms.length := by
  unfold frameCount
  rw [frames_count _ (carries_isFrame h), carries_length h]

theorem carries_at {v : Variant} : ∀ (k : Nat) (fs : List (List Byte)) (ms : List Msg), Carries v fs ms →
    ∀ f tl, fs.drop k = f :: tl → ∃ m, ms[k]? = some m ∧ IsFrame f ∧ dec v f = some m ∧ fs[k]? = some f := by
  intro k
  induction k with
  | zero =>
    intro fs ms h f tl hd
    cases h with
    | nil => simp at hd
    | cons a _ =>
      simp only [List.drop_zero, List.cons.injEq] at hd
      obtain ⟨rfl, _⟩ := hd
      exact ⟨_, rfl, a.1, a.2, rfl⟩
  | succ k ih =>
    intro fs ms h f tl hd
    cases h with
    | nil => simp at hd
    | cons a b =>
      simp only [List.drop_succ_cons] at hd
      obtain ⟨m, h1, h2, h3, h4⟩ := ih _ _ b f tl hd
      exact ⟨m, by simpa using h1, h2, h3, by simpa using h4⟩

theorem frame_shape {v : Variant} {f : List Byte} {m : Msg} (hf : IsFrame f) (hd : dec v f = some m) :
    ∃ b0 body, f = b0 :: (body ++ [0]) ∧ b0 ≠ 0 ∧ ∀ x ∈ body, x ≠ 0 := by
  obtain ⟨body', rfl, hnz⟩ := hf.split
  cases body' with
  | nil => simp [dec] at hd
  | cons b0 body => exact ⟨b0, body, rfl, hnz b0 (by simp), fun x hx => hnz x (by simp [hx])⟩

theorem stream_at {v : Variant} {frames : List (List Byte)} {ms : List Msg} (hc : Carries v frames ms) (k : Nat)
    (X future : List Byte) (hs : (frames.take k).flatten ++ X ++ future = frames.flatten) (hX : X ≠ []) :
    ∃ m b0 body, ms[k]? = some m ∧ b0 ≠ 0 ∧ (∀ x ∈ body, x ≠ 0) ∧ dec v (b0 :: (body ++ [0])) = some m ∧
      frames[k]? = some (b0 :: (body ++ [0])) ∧
      X ++ future = b0 :: (body ++ [0]) ++ (frames.drop (k + 1)).flatten := by
  have hsplit : frames.flatten = (frames.take k).flatten ++ (frames.drop k).flatten := by
    rw [← List.flatten_append, List.take_append_drop]
  rw [hsplit, List.append_assoc] at hs
  have hx := List.append_cancel_left hs
  cases hdk : frames.drop k with
  | nil =>
    rw [hdk] at hx
    simp only [List.flatten_nil, List.append_eq_nil_iff] at hx
    exact absurd hx.1 hX
  | cons f tl =>
    obtain ⟨m, h1, h2, h3, h4⟩ := carries_at k frames ms hc f tl hdk
    obtain ⟨b0, body, rfl, hb0, hnz⟩ := frame_shape h2 h3
    refine ⟨m, b0, body, h1, hb0, hnz, h3, h4, ?_⟩
    rw [hx, hdk]
    have : frames.drop (k + 1) = tl := by
      have := congrArg (List.drop 1) hdk
      simpa [List.drop_drop, Nat.add_comm] using this
    rw [this]; simp

theorem segment_frames (v : Variant) (fs : List (List Byte)) (ms : List Msg) (h : Carries v fs ms) :
    ∀ r : Recv, r.pending = [] → Recv.segment v r fs.flatten = { pending := [], out := r.out ++ ms } := by
  induction h with
  | nil => intro r hr; cases r; simp_all [Recv.segment]
  | @cons f m fs' ms' hfm _ ih =>
    intro r hr
    simp only [List.flatten_cons]
    rw [segment_append, segment_frame v r f hfm.1, hr, List.nil_append, hfm.2]
    simp only
    rw [ih _ rfl]
    simp

theorem recvAll_frames (v : Variant) (fs : List (List Byte)) (ms : List Msg) (segs : List (List Byte))
    (hc : Carries v fs ms) (h : segs.flatten = fs.flatten) :
    (recvAll v segs).out = ms ∧ (recvAll v segs).pending = [] := by
  rw [recvAll_flatten, h, segment_frames v fs ms hc {} rfl]
  simp

/-- invariant of every schedule: the bytes written so far are, in order, what the receiver has consumed,
    what waits in its input buffer, what is in flight and what is not yet flushed -/
def SysInv (v : Variant) (s : Sys) : Prop :=
  ∃ consumed, s.rx = Recv.segment v {} consumed ∧ consumed ++ s.rxbuf ++ s.chan ++ s.txbuf = wire v s.sent

theorem wire_append (v : Variant) (a b : List Msg) : wire v (a ++ b) = wire v a ++ wire v b := by
  simp [wire]

theorem step_inv (v : Variant) (ms : List Msg) (s : Sys) (e : Event) (h : SysInv v s) : SysInv v (step v ms s e) := by
  obtain ⟨c, h1, h2⟩ := h
  cases e with
  | write i =>
    simp only [step]
    split
    · refine ⟨c, h1, ?_⟩
      simp only [wire_append, ← h2]
      simp [wire]
    · exact ⟨c, h1, h2⟩
  | flush =>
    refine ⟨c, h1, ?_⟩
    simp only [step, List.append_nil]
    rw [← h2]; simp
  | deliver k =>
    refine ⟨c, h1, ?_⟩
    simp only [step]
    rw [← h2]
    have := List.take_append_drop k s.chan
    calc c ++ (s.rxbuf ++ List.take k s.chan) ++ List.drop k s.chan ++ s.txbuf
        = c ++ s.rxbuf ++ (List.take k s.chan ++ List.drop k s.chan) ++ s.txbuf := by simp
      _ = c ++ s.rxbuf ++ s.chan ++ s.txbuf := by rw [this]
  | receive =>
    refine ⟨c ++ s.rxbuf, ?_, ?_⟩
    · simp only [step]; rw [segment_append, h1]
    · simp only [step, List.append_nil]; rw [← h2]

theorem run_inv (v : Variant) (ms : List Msg) (evs : List Event) : ∀ s, SysInv v s → SysInv v (evs.foldl (step v ms) s) := by
  induction evs with
  | nil => intro s h; exact h
  | cons e es ih => intro s h; exact ih _ (step_inv v ms s e h)

theorem init_inv (v : Variant) : SysInv v {} := ⟨[], by simp [Recv.segment], by simp [wire]⟩

end Mpt.Stream
