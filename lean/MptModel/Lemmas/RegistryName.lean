/-
  C06: lookups by name.  With the exact-length tests in place both modes of `mpt_named_traits` are the lookup of a key
  (`namedTraits_whole`, `namedTraits_len`); what they find carries the key, in every state; under the invariant (names
  unique, none a short name) they find the entry that carries it (`named_whole`, `named_prefix`).  `mpt_alias_typeid`
  is the lookup of the name part of a description.
-/
import MptModel.Lemmas.Registry
namespace Mpt.Registry
open Mpt.RegSpec

theorem matchLen_exact (key : Name) (n : Option Name) : matchLen true key n = decide (n = some key) := by
  cases n with
  | none => simp [matchLen]
  | some e =>
    simp only [matchLen, if_true]
    by_cases h : e = key
    · subst h; simp
    · have : ¬ (some e = some key) := by simpa using h
      simp only [this, decide_false]
      by_cases hl : e.length = key.length
      · have : e.take key.length ≠ key := by rw [← hl, List.take_length]; exact h
        simp [hl, this]
      · simp [hl]

theorem lookupLen_eq (r : Reg) (key : Name) : lookupLen r key = lookupKey r key := by
  unfold lookupLen lookupKey allNamed
  rw [tests_in_place.exactMeta, tests_in_place.exactIface]
  simp only [matchLen_exact, List.find?_append]
  cases List.find? (fun e => decide (e.name = some key)) r.metas <;> rfl

theorem namedTraits_whole (r : Reg) (text : Name) :
    namedTraits r text (-1) = if text = [] then none else lookupKey r (resolveShort text) := by
  simp [namedTraits]

theorem namedTraits_len (r : Reg) (text : Name) (len : Nat) :
    namedTraits r text len = if text = [] ∨ len = 0 ∨ text.length < len then none else lookupKey r (text.take len) := by
  by_cases h : text = [] ∨ len = 0
  · rcases h with h | h <;> simp [namedTraits, h]
  · have h' : ¬ (text = [] ∨ (len : Int) = 0) := by simpa using h
    simp only [namedTraits, h', if_false, show (len : Int) ≥ 0 by omega, if_true, Int.toNat_natCast, lookupLen_eq]
    rw [not_or] at h
    simp [h.1, h.2]

theorem lookupKey_ne_none {r : Reg} {k : Name} {e : Named} (he : e ∈ allNamed r) (hn : e.name = some k) :
    lookupKey r k ≠ none := by
  unfold lookupKey
  intro h
  rw [List.find?_eq_none] at h
  exact h e he (by simp [hn])

theorem lookupKey_mem {r : Reg} {k : Name} {e : Named} (h : lookupKey r k = some e) :
    e ∈ allNamed r ∧ e.name = some k := by
  unfold lookupKey at h
  exact ⟨List.mem_of_find?_eq_some h, by simpa using List.find?_some h⟩

theorem named_whole_sound {r : Reg} {text : Name} {e : Named} (h : namedTraits r text (-1) = some e) :
    e ∈ allNamed r ∧ e.name = some (resolveShort text) := by
  rw [namedTraits_whole] at h
  split at h
  · cases h
  · exact lookupKey_mem h

theorem named_len_sound {r : Reg} {text : Name} {len : Nat} {e : Named} (h : namedTraits r text len = some e) :
    len ≠ 0 ∧ len ≤ text.length ∧ e ∈ allNamed r ∧ e.name = some (text.take len) := by
  rw [namedTraits_len] at h
  split at h
  · cases h
  · rename_i hc
    obtain ⟨hm, hn⟩ := lookupKey_mem h
    exact ⟨fun h0 => hc (.inr (.inl h0)), Nat.le_of_not_lt fun hl => hc (.inr (.inr hl)), hm, hn⟩

theorem named_len_exact {r : Reg} {text : Name} {len : Nat} {e : Named} {n : Name}
    (h : namedTraits r text len = some e) (hn : e.name = some n) : n.length = len := by
  obtain ⟨_, hle, _, hname⟩ := named_len_sound h
  rw [hn] at hname
  simp only [Option.some.injEq] at hname
  subst hname
  simp [List.length_take]; omega

theorem named_whole_none {r : Reg} {text : Name} (h : ∀ e ∈ allNamed r, e.name ≠ some (resolveShort text)) :
    namedTraits r text (-1) = none := by
  cases hr : namedTraits r text (-1) with
  | none => rfl
  | some e => obtain ⟨hm, hn⟩ := named_whole_sound hr; exact absurd hn (h e hm)

theorem named_len_none {r : Reg} {text : Name} {len : Nat} (h : ∀ e ∈ allNamed r, e.name ≠ some (text.take len)) :
    namedTraits r text len = none := by
  cases hr : namedTraits r text len with
  | none => rfl
  | some e => obtain ⟨_, _, hm, hn⟩ := named_len_sound hr; exact absurd hn (h e hm)

/-- names are unique: the first entry with a registered name is the entry -/
theorem lookupKey_registered {r : Reg} (hinv : Inv r) {e : Named} {n : Name} (he : e ∈ allNamed r) (hn : e.name = some n) :
    lookupKey r n = some e := by
  cases h : lookupKey r n with
  | none => exact absurd h (lookupKey_ne_none he hn)
  | some e' =>
    obtain ⟨hm, hn'⟩ := lookupKey_mem h
    rw [hinv.unique e' hm e he (by rw [hn, hn']) (by simp [hn'])]

theorem named_resolved {r : Reg} (hinv : Inv r) {e : Named} {n text : Name} (he : e ∈ allNamed r) (hn : e.name = some n)
    (hne : text ≠ []) (hres : resolveShort text = n) : namedTraits r text (-1) = some e := by
  rw [namedTraits_whole, if_neg hne, hres, lookupKey_registered hinv he hn]

theorem named_whole {r : Reg} (hinv : Inv r) {e : Named} {n : Name} (he : e ∈ allNamed r) (hn : e.name = some n) :
    namedTraits r n (-1) = some e :=
  have ⟨hres, hne⟩ := hinv.noShort e he n hn
  named_resolved hinv he hn hne hres

theorem named_prefix {r : Reg} (hinv : Inv r) {e : Named} {n : Name} (he : e ∈ allNamed r) (hn : e.name = some n)
    (suffix : Name) : namedTraits r (n ++ suffix) n.length = some e := by
  have hne := (hinv.noShort e he n hn).2
  have hpos : n.length ≠ 0 := fun h0 => hne (List.eq_nil_of_length_eq_zero h0)
  rw [namedTraits_len, if_neg (by simp [hne, hpos]), List.take_left' rfl, lookupKey_registered hinv he hn]

theorem aliasKey_trim (n ws rest : Name) (hws : ∀ c ∈ ws, isSpaceC c = true)
    (hlast : ∀ c, n.getLast? = some c → isSpaceC c = false) :
    aliasKey (n ++ ws ++ rest) (n.length + ws.length) = n := by
  unfold aliasKey
  have : (n ++ ws ++ rest).take (n.length + ws.length) = n ++ ws := by
    rw [← List.length_append]; exact List.take_left'  rfl
  rw [this, List.reverse_append, List.dropWhile_append_of_pos (by intro x hx; exact hws x (by simpa using hx))]
  cases hn : n.reverse with
  | nil => simp at hn; subst hn; rfl
  | cons c t =>
    have hc : n.getLast? = some c := by
      rw [List.getLast?_eq_head?_reverse, hn]; rfl
    simp only [List.dropWhile_cons, hlast c hc, Bool.false_eq_true, if_false]
    rw [← hn, List.reverse_reverse]

/-- a description without `:` (byte 58) is looked up as a whole -/
theorem alias_plain (r : Reg) (desc : Name) (h : 58 ∉ desc) :
    aliasTypeid r desc = (match namedTraits r desc (-1) with
      | some e => .ok (e.id, desc.length)
      | none => .err .BadValue) := by
  have : desc.findIdx? (· = 58) = none := by
    rw [List.findIdx?_eq_none_iff]
    intro x hx; simp; intro hx58; subst hx58; exact h hx
  simp only [aliasTypeid, this]
  cases namedTraits r desc (-1) <;> rfl

/-- `name [ws] : [ws] symbol` for a registered name resolves to the id of that name and ends at the symbol -/
theorem alias_described {r : Reg} (hinv : Inv r) {e : Named} {n : Name} (he : e ∈ allNamed r) (hn : e.name = some n)
    (ws ws2 sym : Name) (hcolon : 58 ∉ n) (hlast : ∀ c, n.getLast? = some c → isSpaceC c = false)
    (hws : ∀ c ∈ ws, isSpaceC c = true) (hws2 : ∀ c ∈ ws2, isSpaceC c = true)
    (hsym : ∀ c, sym.head? = some c → isSpaceC c = false) :
    aliasTypeid r (n ++ ws ++ 58 :: (ws2 ++ sym)) = .ok (e.id, n.length + ws.length + 1 + ws2.length) := by
  -- the first `:` stands behind `n ++ ws` (`hidx`); the text in front of it without trailing white space is `n`
  -- (`hkey`), which the length-limited lookup finds (`hfound`); `end` skips `ws2` (`hend`)
  obtain ⟨_, hne⟩ := hinv.noShort e he n hn
  have hidx : (n ++ ws ++ 58 :: (ws2 ++ sym)).findIdx? (· = 58) = some (n.length + ws.length) := by
    have hpre : (n ++ ws).findIdx? (· = 58) = none := by
      rw [List.findIdx?_eq_none_iff]
      intro y hy
      rcases List.mem_append.1 hy with hy | hy
      · simp; intro h58; subst h58; exact hcolon hy
      · have := hws y hy
        simp; intro h58; subst h58; simp [isSpaceC] at this
    rw [List.findIdx?_append, hpre]
    simp [List.findIdx?_cons]
  have hkey := aliasKey_trim n ws (58 :: (ws2 ++ sym)) hws hlast
  have hfound := named_prefix hinv he hn (ws ++ 58 :: (ws2 ++ sym))
  have hend : ((n ++ ws ++ 58 :: (ws2 ++ sym)).drop (n.length + ws.length + 1)).takeWhile isSpaceC = ws2 := by
    have : (n ++ ws ++ 58 :: (ws2 ++ sym)).drop (n.length + ws.length + 1) = ws2 ++ sym := by
      have h1 : n ++ ws ++ 58 :: (ws2 ++ sym) = (n ++ ws ++ [58]) ++ (ws2 ++ sym) := by simp
      rw [h1]
      exact List.drop_left' (by simp; omega)
    rw [this]
    rw [List.takeWhile_append_of_pos hws2]
    cases sym with
    | nil => simp
    | cons c t => rw [List.takeWhile_cons_of_neg (by simp [hsym c rfl]), List.append_nil]
  simp only [aliasTypeid, hidx, hkey, hne, if_false]
  -- `hfound` speaks of `n ++ (ws ++ …)`, `hend` of `n ++ ws ++ …`: the text is re-bracketed for the one and back for the other
  rw [show n ++ ws ++ 58 :: (ws2 ++ sym) = n ++ (ws ++ 58 :: (ws2 ++ sym)) by simp, hfound]
  rw [show n ++ (ws ++ 58 :: (ws2 ++ sym)) = n ++ ws ++ 58 :: (ws2 ++ sym) by simp, hend]

/-- whatever `mpt_alias_typeid` accepts is the id of the entry named by the name part of the description -/
theorem alias_sound {r : Reg} {desc : Name} {id off : Nat} (h : aliasTypeid r desc = .ok (id, off)) :
    ∃ e ∈ allNamed r, e.id = id ∧
      ((58 ∉ desc ∧ e.name = some (resolveShort desc)) ∨
       (∃ k, desc.findIdx? (· = 58) = some k ∧ aliasKey desc k ≠ [] ∧ e.name = some (desc.take (aliasKey desc k).length))) := by
  unfold aliasTypeid at h
  cases hidx : desc.findIdx? (· = 58) with
  | none =>
    simp only [hidx] at h
    cases hl : namedTraits r desc (-1) with
    | none => simp [hl] at h
    | some e =>
      simp only [hl, Res.ok.injEq, Prod.mk.injEq] at h
      obtain ⟨hm, hn⟩ := named_whole_sound hl
      refine ⟨e, hm, h.1, Or.inl ⟨?_, hn⟩⟩
      intro hmem
      rw [List.findIdx?_eq_none_iff] at hidx
      simpa using hidx 58 hmem
  | some k =>
    simp only [hidx] at h
    split at h
    · cases h
    rename_i hkey
    cases hl : namedTraits r desc (aliasKey desc k).length with
    | none => simp [hl] at h
    | some e =>
      simp only [hl, Res.ok.injEq, Prod.mk.injEq] at h
      obtain ⟨_, _, hm, hn⟩ := named_len_sound hl
      exact ⟨e, hm, h.1, Or.inr ⟨k, rfl, hkey, hn⟩⟩

end Mpt.Registry
