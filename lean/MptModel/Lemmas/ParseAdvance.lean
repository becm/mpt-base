/-
  The tree `mpt_parse_node` builds from a written text, as a calculus for all styles: `Cur` is where the element loop
  with the `mpt_node_append` handler stands, `At` says it stands at the start of a text with given sections open, and
  `Advances e txt e' g` that reading `txt` takes it from open sections `e` to `e'` and applies `g` to the forest under
  construction (`Finishes`: up to the end of the input).  Advances compose over `++` (`Advances.seq`); the lines a style
  interface of ParseStyle describes are advances (`option_adv`, `open_adv`, `close_adv`, over `open_cur`), the end of the
  text finishes (`eof_finishes`).  In front: `appendAll`, the forest operation the advances are stated with.
-/
import MptModel.Lemmas.ParseStyle
import MptModel.Lemmas.ParseLoop

namespace Mpt.Parse
open Mpt.Conf Mpt.Render

def appendAll (d : Nat) (F : Forest) (ts : Forest) : Forest := ts.foldl (appendAt d) F

/-- the rightmost spine reaches depth `d` (where it does not, `appendAt (d + 1)` finds no last node and leaves the
    forest as it is) -/
def HasSpine : Nat → Forest → Prop
  | 0, _ => True
  | d + 1, F => ∃ n v cs, F.getLast? = some (.node n v cs) ∧ HasSpine d cs

theorem appendAt_succ (d : Nat) (F : Forest) (t : Tree) (n : List UInt8) (v : Option (List UInt8)) (cs : Forest)
    (h : F.getLast? = some (.node n v cs)) :
    appendAt (d + 1) F t = F.dropLast ++ [.node n v (appendAt d cs t)] := by
  simp only [appendAt, h]

theorem appendAt_succ_snoc (d : Nat) (P : Forest) (t : Tree) (n : List UInt8) (v : Option (List UInt8)) (cs : Forest) :
    appendAt (d + 1) (P ++ [.node n v cs]) t = P ++ [.node n v (appendAt d cs t)] := by
  rw [appendAt_succ d _ t n v cs (by simp)]
  simp

theorem appendAll_snoc (k : Nat) (P : Forest) (a : List UInt8) (b : Option (List UInt8)) :
    ∀ (xs c : Forest), appendAll (k + 1) (P ++ [.node a b c]) xs = P ++ [.node a b (appendAll k c xs)] := by
  intro xs
  induction xs with
  | nil => intro c; rfl
  | cons x r ih =>
    intro c
    simp only [appendAll, List.foldl_cons] at ih ⊢
    rw [appendAt_succ_snoc]
    exact ih _

theorem appendAll_zero (F ts : Forest) : appendAll 0 F ts = F ++ ts := by
  induction ts generalizing F with
  | nil => simp [appendAll]
  | cons t r ih =>
    simp only [appendAll, List.foldl_cons, appendAt] at ih ⊢
    rw [ih]; simp

theorem appendAll_nil (d : Nat) (ts : Forest) : appendAll (d + 1) [] ts = [] := by
  induction ts with
  | nil => rfl
  | cons t r ih => exact ih

/-- building a node child by child is the same as appending it complete (where the spine does not reach depth
    `d` both sides leave the forest as it is) -/
theorem appendAll_child : ∀ (d : Nat) (F : Forest) (n : List UInt8) (v : Option (List UInt8)) (cs : Forest),
    appendAll (d + 1) (appendAt d F (.node n v [])) cs = appendAt d F (.node n v cs) := by
  intro d
  induction d with
  | zero =>
    intro F n v cs
    simp only [appendAt]
    rw [appendAll_snoc, appendAll_zero]; simp
  | succ d ih =>
    intro F n v cs
    cases hl : F.getLast? with
    | none =>
      rw [List.getLast?_eq_none_iff.mp hl]
      exact appendAll_nil _ cs
    | some t =>
      obtain ⟨a, b, c⟩ := t
      rw [appendAt_succ d F _ a b c hl, appendAt_succ d F _ a b c hl, appendAll_snoc, ih c n v cs]

theorem hasSpine_appendAt : ∀ (d : Nat) (F : Forest) (t : Tree), HasSpine d F → HasSpine d (appendAt d F t) := by
  intro d
  induction d with
  | zero => intro _ _ _; trivial
  | succ d ih =>
    intro F t h
    obtain ⟨a, b, c, hl, hs⟩ := h
    rw [appendAt_succ d F t a b c hl]
    exact ⟨a, b, appendAt d c t, by simp, ih c t hs⟩

theorem hasSpine_appendAll (d : Nat) (F ts : Forest) (h : HasSpine d F) : HasSpine d (appendAll d F ts) := by
  induction ts generalizing F with
  | nil => exact h
  | cons t r ih =>
    simp only [appendAll, List.foldl_cons] at ih ⊢
    exact ih _ (hasSpine_appendAt d F t h)

/-- behind a section end or an option the last path element goes and the path is clean -/
theorem afterSave_del {e : List (List UInt8)} {n : List UInt8} {p : Path} {code : Int}
    (hc : code = 2 ∨ code = 3 ∨ code = 7) (h : p.elems = e ++ [n]) :
    ∃ p', afterSave code p = .ok p' ∧ Clean e p' := by
  obtain ⟨p', hd, he, hpend, hkeep⟩ := Path.del_elems p (by simp [h])
  exact ⟨p', (afterSave_drop hc p).trans hd, by simp [he, h], hpend, hkeep⟩

/-- the cursor of the tree under construction is on the node at depth `dep` — the previous operation was its section
    start (`curr` = 9) — or on its last child (behind an option, 11, or a section end, 2): either way the next node
    goes below the node at depth `dep` -/
def Under (dep : Nat) (b : Build) (prev : Nat) : Prop :=
  prev ≠ 0 ∧ ((prev &&& 3 = 1 ∧ b.depth = dep) ∨ (prev &&& 3 ≠ 1 ∧ b.depth = dep + 1))

theorem under_sect (dep : Nat) (F : Forest) : Under (dep + 1) { forest := F, depth := dep + 1 } 9 := by
  simp [Under]

theorem under_child (dep : Nat) (F : Forest) (prev : Nat) (h : prev = 11 ∨ prev = 2) :
    Under dep { forest := F, depth := dep + 1 } prev := by
  rcases h with rfl | rfl <;> simp [Under]

/-- `mpt_node_append` for a section start or an option -/
theorem nodeAppend_new (dep : Nat) (b : Build) (prev : Nat) (s1 : St) (code : Int)
    (e : List (List UInt8)) (n : List UInt8) (val : Option (List UInt8))
    (hmode : Under dep b prev)
    (hcode : (code = 1 ∧ val = none) ∨ (code = 3 ∧ val = none) ∨ (code = 7 ∧ val = some s1.name))
    (helems : s1.path.elems = e ++ [n]) (hlen : n.length < 65535) :
    nodeAppend b s1 prev code = some { forest := appendAt dep b.forest (.node n val []), depth := dep + 1 } := by
  have hname : nodeName s1.path = some n := by
    rw [nodeName_last (n := n) (by simp [helems]), if_neg (by omega)]
  -- wherever the cursor is, the new node goes below the node at depth `dep`
  have hplace : ∀ t : Tree,
      (if prev &&& 3 == Flag.section_ then some ({ forest := appendAt b.depth b.forest t, depth := b.depth + 1 } : Build)
       else if b.depth == 0 then none
       else some { forest := appendAt (b.depth - 1) b.forest t, depth := b.depth })
      = some { forest := appendAt dep b.forest t, depth := dep + 1 } := by
    intro t
    rcases hmode.2 with h | h <;> simp [Flag.section_, h.1, h.2]
  rw [← hplace]
  unfold nodeAppend
  rcases hcode with ⟨hc, hv⟩ | ⟨hc, hv⟩ | ⟨hc, hv⟩ <;> subst hc <;> subst hv <;>
    simp [Flag.sectEnd, Flag.section_, Flag.data, hname, metaNew]

theorem nodeAppend_close (dep : Nat) (b : Build) (prev : Nat) (s1 : St)
    (hm : Under (dep + 1) b prev) : nodeAppend b s1 prev 2 = some { b with depth := dep + 1 } := by
  unfold nodeAppend
  rcases hm.2 with h | h
  · simp [Flag.sectEnd, Flag.section_, h.1, ← h.2]
  · simp [Flag.sectEnd, Flag.section_, hm.1, h.1, h.2]

theorem normTree_leaf (n : List UInt8) (v : Option (List UInt8)) :
    normTree (.node n v []) = .node n (if (valueOf v).isEmpty then none else some (valueOf v)) [] := by
  cases v with
  | none => simp [normTree, norm, valueOf]
  | some x => by_cases hx : x.isEmpty = true <;> simp [normTree, norm, valueOf, hx]

theorem treeOk_leaf (n : List UInt8) (v : Option (List UInt8)) (h : treeOk (.node n v []) = true) :
    nameOk n = true ∧ OptValOk v := by
  simp only [treeOk, List.isEmpty_nil, ↓reduceIte, Bool.and_eq_true] at h
  refine ⟨h.1, ?_⟩
  cases v with
  | none => trivial
  | some x => simpa [OptValOk] using h.2

/-- where the element loop stands: tree under construction, previous operation, parser state, source -/
structure Cur where
  b : Build
  prev : Nat
  s : St
  src : Src

section calculus
variable (k : Kind) (cfg : Cfg) (P : Nat → Prop)

def Cur.run (c : Cur) : Result Build := loop k cfg nodeAppend c.b c.prev c.s c.src

/-- the loop stands at the start of `txt` (behind insignificant left-overs) with the sections `e` open; the cursor
    of the tree is on the innermost of them or on its last child.  `P` is what the style asks of the
    previous-operation code (`OptStyle`) -/
def At (e : List (List UInt8)) (c : Cur) (txt : List UInt8) : Prop :=
  ∃ J, Ready e c.s c.src J txt ∧ Under e.length c.b c.prev ∧ P c.prev

/-- reading `txt` takes the loop from open sections `e` to `e'` and applies `g` to the forest -/
def Advances (e : List (List UInt8)) (txt : List UInt8) (e' : List (List UInt8)) (g : Forest → Forest) : Prop :=
  ∀ (c : Cur) (rest : List UInt8), At P e c (txt ++ rest) →
    ∃ c', At P e' c' rest ∧ c'.b.forest = g c.b.forest ∧ c.run k cfg = c'.run k cfg

/-- reading `txt` and then insignificant text up to the end of the input ends the loop with code 0 and `g` applied
    (a text of a flat style ends inside its last section: there is no position behind it to advance to) -/
def Finishes (e : List (List UInt8)) (txt : List UInt8) (g : Forest → Forest) : Prop :=
  ∀ (c : Cur) (tail : List UInt8) (bb : Bool), visSkip false tail = some bb → At P e c (txt ++ tail) →
    (c.run k cfg).code = 0 ∧ (c.run k cfg).ctx.forest = g c.b.forest

variable {k cfg P}

theorem Advances.nil (e : List (List UInt8)) : Advances k cfg P e [] e id :=
  fun c _ h => ⟨c, h, rfl, rfl⟩

theorem Advances.seq {e e' e'' : List (List UInt8)} {a b : List UInt8} {g g' : Forest → Forest}
    (h1 : Advances k cfg P e a e' g) (h2 : Advances k cfg P e' b e'' g') :
    Advances k cfg P e (a ++ b) e'' (g' ∘ g) := by
  intro c rest h
  rw [List.append_assoc] at h
  obtain ⟨c1, hat1, hf1, heq1⟩ := h1 c _ h
  obtain ⟨c2, hat2, hf2, heq2⟩ := h2 c1 rest hat1
  exact ⟨c2, hat2, by rw [hf2, hf1]; rfl, heq1.trans heq2⟩

theorem Advances.finish {e e' : List (List UInt8)} {a b : List UInt8} {g g' : Forest → Forest}
    (h1 : Advances k cfg P e a e' g) (h2 : Finishes k cfg P e' b g') : Finishes k cfg P e (a ++ b) (g' ∘ g) := by
  intro c tail bb htail h
  rw [List.append_assoc] at h
  obtain ⟨c1, hat1, hf1, heq1⟩ := h1 c _ h
  have h3 := h2 c1 tail bb htail hat1
  rw [hf1] at h3
  rw [heq1]
  exact h3

/-- the text and the effect on the forest in the shape the written forest gives them -/
theorem Advances.cast {e e' : List (List UInt8)} {a a' : List UInt8} {g g' : Forest → Forest}
    (h : Advances k cfg P e a e' g) (ha : a = a') (hg : ∀ F, g F = g' F) : Advances k cfg P e a' e' g' := by
  subst ha
  obtain rfl : g = g' := funext hg
  exact h

theorem Finishes.cast {e : List (List UInt8)} {a a' : List UInt8} {g g' : Forest → Forest}
    (h : Finishes k cfg P e a g) (ha : a = a') (hg : ∀ F, g F = g' F) : Finishes k cfg P e a' g' := by
  subst ha
  obtain rfl : g = g' := funext hg
  exact h

theorem lead_adv (dl : LineDecor) (hdl : dl.ok = true) (e : List (List UInt8)) :
    Advances k cfg P e (dl.before ++ dl.indent) e id := by
  rintro c rest ⟨J, hr, hm, hp⟩
  exact ⟨c, ⟨J ++ dl.before ++ dl.indent, Ready.lead dl hr hdl, hm, hp⟩, rfl, rfl⟩

end calculus


theorem option_adv {k : Kind} {cfg : Cfg} {P : Nat → Prop} (hst : OptStyle k cfg P) (hP : P 11) (dl : LineDecor)
    (hdl : dl.ok = true) (n : List UInt8) (v : Option (List UInt8)) (e : List (List UInt8))
    (hok : treeOk (.node n v []) = true) (hfit : nameFits cfg.opt n = true) :
    Advances k cfg P e (optionLine dl n v) e (appendAt e.length · (normTree (.node n v []))) := by
  rintro ⟨b, prev, s, src⟩ rest ⟨J, hr, hm, hp⟩
  obtain ⟨hn, hv⟩ := treeOk_leaf n v hok
  have hparts := LineDecor.ok_parts _ hdl
  obtain ⟨s1, src1, heq, ⟨fi', l, kq, ln', hs1, htake⟩, hrest⟩ :=
    hst.optLine e s src prev _ n dl.pre dl.post dl.trail rest v hp
      (Ready.lead dl (optionLine_eq dl n v rest ▸ hr) hdl)
      hn (nameFits_ncheck _ _ hfit) hparts.pre hparts.post hparts.trail hv
  have hname : s1.name = valueOf v := by rw [hs1]; simp only [St.name, head_pth, htake]
  -- the element, whatever its code is
  have hcode : ((if (valueOf v).isEmpty then 3 else 7 : Int) = 3 ∧
        (if (valueOf v).isEmpty then none else some (valueOf v)) = none)
      ∨ ((if (valueOf v).isEmpty then 3 else 7 : Int) = 7 ∧
        (if (valueOf v).isEmpty then none else some (valueOf v)) = some s1.name) := by
    rw [hname]; cases (valueOf v).isEmpty <;> simp
  have hel : s1.path.elems = e ++ [n] := by rw [hs1]; rfl
  have hna := nodeAppend_new e.length b prev s1 _ e n _ hm (Or.inr hcode) hel (nameOk_parts n hn).2.2
  obtain ⟨p2, hafter, hclean⟩ := afterSave_del (Or.inr (hcode.imp And.left And.left)) hel
  refine ⟨⟨_, 11, { s1 with path := p2, curr := 0, valid := 0 }, src1⟩,
    ⟨[], ⟨hclean, rfl, rfl, by simpa using hrest⟩, under_child _ _ 11 (.inl rfl), hP⟩, by rw [normTree_leaf], ?_⟩
  rw [Cur.run, loop_step k cfg nodeAppend b _ prev s s1 src src1 _ _ heq (by split <;> decide) hna hafter, hs1]
  rfl

/-- **a section start** returned by one call: an empty node is appended below the innermost open section and becomes
    the current one -/
theorem open_cur (k : Kind) (cfg : Cfg) (P : Nat → Prop) (hP : P 9) (n : List UInt8) (e : List (List UInt8))
    (c : Cur) (s1 : St) (src1 : Src) (J' rest : List UInt8)
    (heq : next k cfg c.prev c.s c.src = (1, s1, src1)) (hs1 : SectRead e n s1) (hn : nameOk n = true)
    (hm : Under e.length c.b c.prev) (hJ : visSkip false J' = some false) (hrest : src1.rest = J' ++ rest) :
    ∃ c', At P (e ++ [n]) c' rest ∧ c'.b.forest = appendAt e.length c.b.forest (.node n none [])
      ∧ c.run k cfg = c'.run k cfg := by
  obtain ⟨l, fi', v', ln', rfl⟩ := hs1
  have hna := nodeAppend_new e.length c.b c.prev (Stt (e ++ [n]) l false fi' v' (Flag.section_ ||| Flag.name) ln') 1
    e n none hm (Or.inl ⟨rfl, rfl⟩) rfl (nameOk_parts n hn).2.2
  exact ⟨⟨_, 9, Stt (e ++ [n]) [] false fi' 0 0 ln', src1⟩,
    ⟨J', ⟨clean_pth _ fi', rfl, hJ, hrest⟩, by rw [List.length_append]; exact under_sect _ _, hP⟩, rfl,
    loop_step k cfg nodeAppend c.b _ c.prev c.s _ c.src src1 1 _ heq (by decide) hna
      (by rw [afterSave_keep (.inl rfl), invalidate_pth])⟩

theorem open_adv {k : Kind} {cfg : Cfg} {openL : LineDecor → List UInt8 → List UInt8} (hst : NestStyle k cfg openL)
    (dl : LineDecor) (hdl : dl.ok = true) (n : List UInt8) (e : List (List UInt8))
    (hn : nameOk n = true) (hfit : nameFits cfg.sect n = true) :
    Advances k cfg (fun _ => True) e (openL dl n) (e ++ [n]) (appendAt e.length · (.node n none [])) := by
  rintro c rest ⟨J, hr, hm, _⟩
  obtain ⟨s1, src1, J1, heq, hs1, hJ1, hrest⟩ :=
    hst.openLine e c.s c.src c.prev J dl n rest hr hdl hn (nameFits_ncheck _ _ hfit)
  exact open_cur k cfg _ trivial n e c s1 src1 J1 rest heq hs1 hn hm hJ1 hrest

theorem close_adv {k : Kind} {cfg : Cfg} {openL : LineDecor → List UInt8 → List UInt8} (hst : NestStyle k cfg openL)
    (dl : LineDecor) (hdl : dl.ok = true) (e : List (List UInt8)) (m : List UInt8) :
    Advances k cfg (fun _ => True) (e ++ [m]) (closeLine dl) e id := by
  rintro ⟨b, prev, s, src⟩ rest ⟨J, hr, hm, _⟩
  rw [List.length_append] at hm
  obtain ⟨s3, src3, heq3, hel3, hc3, hrest3⟩ :=
    hst.closeLine e m s src prev _ ((headTrail dl ++ [10]) ++ rest)
      (Ready.lead dl (by simpa [closeLine, List.append_assoc] using hr) hdl)
  obtain ⟨p3, hafter3, hclean3⟩ := afterSave_del (code := 2) (.inl rfl) hel3
  refine ⟨⟨_, 2, { s3 with path := p3, curr := 0, valid := 0 }, src3⟩,
    ⟨headTrail dl ++ [10], ⟨hclean3, rfl, visSkip_headTrail _ (LineDecor.ok_headTrail _ hdl), hrest3⟩,
      under_child _ _ 2 (.inr rfl), trivial⟩, rfl, ?_⟩
  rw [Cur.run, loop_step k cfg nodeAppend b _ prev s s3 src src3 2 p3 heq3 (by decide)
    (nodeAppend_close e.length b prev s3 hm) hafter3, hc3]
  rfl


theorem eof_finishes {k : Kind} {cfg : Cfg} {P : Nat → Prop} (e : List (List UInt8))
    (heof : ∀ (s : St) (src : Src) (prev : Nat) (junk : List UInt8) (b : Bool), P prev → Clean e s.path →
      visSkip false junk = some b → src.rest = junk → ∃ s' src', next k cfg prev s src = (0, s', src')) :
    Finishes k cfg P e [] id := by
  rintro ⟨b, prev, s, src⟩ tail bb htail ⟨J, hr, _, hp⟩
  obtain ⟨s2, src2, h0⟩ := heof s src prev (J ++ tail) bb hp hr.clean (visSkip_append _ _ _ _ _ hr.junk htail) hr.src
  rw [Cur.run, loop_stop k cfg nodeAppend b prev s s2 src src2 h0]
  exact ⟨rfl, rfl⟩

end Mpt.Parse
