/-
  Helper lemmas for C02: `mpt_queue_peek` on a decode queue.  The decoder sees the first
  contiguous part of the data behind the delivered bytes; inside a valid stream it decodes more of the open
  block in place and nothing else, so a later `mpt_queue_recv` continues exactly as without the peek.
-/
import MptModel.Lemmas.DecodePeek
import MptModel.Lemmas.CodedQueueDec
import MptModel.Lemmas.CodedQueuePhase
namespace Mpt.CQ
open Mpt.Cobs Mpt.Codec Mpt.Ring

/-- the decoder state a peek works on: offsets relative to the delivered bytes (`peekDec` subtracts
    `off = min pos curr`, which is `pos` under the invariant; `pos - pos` is the term it leaves) -/
def peekSt (st : DecState) : DecState :=
  { ctx := st.ctx, curr := st.curr - st.pos, pos := st.pos - st.pos, len := st.len, msg := st.msg }

/-- the decoder call of a peek that reached the decoder with the piece `(b, used)` of the storage -/
def peekOut (v : Variant) (q : DecodeQueue) (b used : Nat) : DecOut :=
  decodeV v (peekSt q.st) [(q.base + b, (q.ring.store.drop b).take used)] true

/-- the queue after that peek -/
def peekQ (v : Variant) (q : DecodeQueue) (b used : Nat) : DecodeQueue :=
  let o := peekOut v q b used
  { q with ring := { q.ring with store := Mem.write q.ring.store b o.store },
           st := { ctx := o.st.ctx, curr := o.st.curr + q.st.pos, pos := o.st.pos + q.st.pos, len := o.st.len, msg := o.st.msg } }

theorem peekQ_refused (v : Variant) (q : DecodeQueue) (h : DInv q) (b used : Nat) (hs : skipTo q.ring q.st.pos = some (b, used))
    (href : q.st.msg.isSome ∨ q.st.len = 0 ∨ used < q.st.curr - q.st.pos) :
    (peekQ v q b used).st = q.st ∧ (peekQ v q b used).ring.content = q.ring.content := by
  obtain ⟨hm, hu⟩ := skipTo_maps q.ring h.wf _ b used hs
  have hb := hm.in_store
  have hle := h.bnd.le
  have hwl : ((q.ring.store.drop b).take used).length = used := by simp only [List.length_take, List.length_drop]; omega
  obtain ⟨_, _, e1⟩ := peek_refused_eq v (peekSt q.st) (q.base + b)
    ((q.ring.store.drop b).take used) (by rw [hwl]; exact href)
  constructor
  · simp only [peekQ, peekOut]
    rw [e1]
    simp only [peekSt]
    cases hst : q.st with
    | mk ctx curr pos len msg =>
      rw [hst] at hle
      simp only at hle ⊢
      congr 1 <;> omega
  · have := hm.write h.wf hu
      (decodeV v (peekSt q.st) [(q.base + b, (q.ring.store.drop b).take used)] true).store (by rw [e1]; exact hwl)
    simp only [peekQ, peekOut]
    rw [this, e1, hm.read h.wf hu]
    rw [List.append_assoc, ← List.drop_drop, List.take_append_drop, List.take_append_drop]

theorem peekCall_bnd (v : Variant) (q : DecodeQueue) (h : DInv q) (b used : Nat) (hs : skipTo q.ring q.st.pos = some (b, used)) :
    (peekOut v q b used).store.length = used ∧ (peekOut v q b used).ret ≠ .oob ∧ (peekOut v q b used).ret ≠ .clobber ∧
    Bnd (q.ring.len - q.st.pos) (peekOut v q b used).st ∧
    ((∀ e, (peekOut v q b used).ret ≠ .err e) → (peekOut v q b used).st.curr ≤ used) := by
  unfold peekOut
  obtain ⟨hm, hu⟩ := skipTo_maps q.ring h.wf _ b used hs
  have hb := hm.in_store
  have hle := h.bnd.le
  have htot := h.bnd.tot
  have hwl : ((q.ring.store.drop b).take used).length = used := by simp only [List.length_take, List.length_drop]; omega
  have hwf : ∀ m, (peekSt q.st).msg = some m → m = (peekSt q.st).len := h.bnd.msg
  have hflat : (flat (if true = true then [(q.base + b, (q.ring.store.drop b).take used)].take 1 else [(q.base + b, (q.ring.store.drop b).take used)])).length = used := by
    simp [flat]; omega
  have hsafe := decodeV_safe v (peekSt q.st) [(q.base + b, (q.ring.store.drop b).take used)] true hwf
  have hol := hsafe.len
  rw [hflat] at hol
  by_cases hc : q.st.curr - q.st.pos ≤ used
  · have hbnd := decodeV_bnd v (peekSt q.st) [(q.base + b, (q.ring.store.drop b).take used)] true
      (by rw [hflat]; exact ⟨by simp only [peekSt]; omega, by simp only [peekSt]; omega, hwf⟩)
    rw [hflat] at hbnd
    exact ⟨hol, hsafe.nofault.1, hsafe.nofault.2, hbnd.mono (by omega), fun _ => hbnd.tot⟩
  · obtain ⟨e, _, e1⟩ := peek_refused_eq v (peekSt q.st) (q.base + b) ((q.ring.store.drop b).take used)
      (Or.inr (Or.inr (by rw [hwl]; simp only [peekSt]; omega)))
    refine ⟨hol, hsafe.nofault.1, hsafe.nofault.2, ?_, fun hne => absurd (by rw [e1]) (hne e)⟩
    rw [e1]
    exact ⟨by simp only [peekSt]; omega, by simp only [peekSt]; omega, hwf⟩

theorem peekQ_inv (v : Variant) (q : DecodeQueue) (h : DInv q) (b used : Nat) (hs : skipTo q.ring q.st.pos = some (b, used)) :
    DInv (peekQ v q b used) ∧ (peekQ v q b used).ring.store.length = q.ring.store.length ∧
    (peekQ v q b used).ring.len = q.ring.len ∧ (peekQ v q b used).ring.off = q.ring.off := by
  obtain ⟨hol, _, _, hbnd, _⟩ := peekCall_bnd v q h b used hs
  have hwr := Mem.write_length q.ring.store b _ (by rw [hol]; exact (skipTo_maps q.ring h.wf _ b used hs).1.in_store)
  have hle := h.bnd.le
  have htot := h.bnd.tot
  refine ⟨⟨⟨by simp only [peekQ, hwr]; exact h.wf.1, by simp only [peekQ, hwr]; exact h.wf.2⟩, ?_⟩, by simp only [peekQ, hwr], rfl, rfl⟩
  exact ⟨by simp only [peekQ]; have := hbnd.le; omega, by simp only [peekQ]; have := hbnd.tot; omega,
    by simp only [peekQ]; exact hbnd.msg⟩

theorem peekQ_phase (v : Variant) (frames : List (List Byte)) (q : DecodeQueue) (fed : List Byte) (k : Nat) (h : DInv q)
    (hph : Phase v frames q.st q.ring.content fed k) (b used : Nat)
    (hs : skipTo q.ring q.st.pos = some (b, used)) :
    Phase v frames (peekQ v q b used).st (peekQ v q b used).ring.content fed k ∧
    (SlackOk v q.st → SlackOk v (peekQ v q b used).st) ∧
    (peekQ v q b used).st.msg = q.st.msg := by
  obtain ⟨hm, hu⟩ := skipTo_maps q.ring h.wf _ b used hs
  have hle := h.bnd.le
  have htot := h.bnd.tot
  have hcl := content_length q.ring h.wf.1
  cases hph with
  | idle hf hcc hfed =>
    have href : q.st.msg.isSome ∨ q.st.len = 0 ∨ used < q.st.curr - q.st.pos := by
      cases hm : q.st.msg with
      | none => exact Or.inr (Or.inl (hf.hnone hm))
      | some m => exact Or.inl rfl
    obtain ⟨e1, e2⟩ := peekQ_refused v q h b used hs href
    rw [e1, e2]
    exact ⟨Phase.idle hf hcc hfed, fun hsl => hsl, rfl⟩
  | busy c0 Uc hc0 hnz hh hfed =>
    -- the decoder works on the content behind the delivered bytes, offsets relative to `pos`
    have sv1 : SameView q.st (peekSt q.st) q.ring.content (q.ring.content.drop q.st.pos) :=
      SameView.drop q.st q.ring.content q.st.pos (q.st.pos - q.st.pos) (by omega) (by omega) (Or.inl ⟨Nat.le_refl _, rfl⟩)
    have hpo := peek_win v c0.toNat _ (peekSt q.st) (q.ring.content.drop q.st.pos) used (q.base + b)
      (by rw [List.length_drop, hcl]; omega) (by simp only [peekSt]; omega) (sv1.hist hh)
    rw [← hm.read h.wf hu] at hpo
    simp only [peekQ, peekOut]
    generalize decodeV v (peekSt q.st) [(q.base + b, (q.ring.store.drop b).take used)] true = o at hpo ⊢
    rw [hm.write h.wf hu o.store hpo.len]
    -- back to offsets in the whole content
    have hpl : (q.ring.content.take q.st.pos).length = q.st.pos := by rw [List.length_take, hcl]; omega
    have sv2 := SameView.prepend o.st (o.store ++ (q.ring.content.drop q.st.pos).drop used) (q.ring.content.take q.st.pos)
      hpo.hist.curr
    rw [hpl] at sv2
    -- the bytes the call consumed
    have hmnz := slice_nz (q.ring.content.drop q.st.pos) (peekSt q.st).curr o.st.curr hpo.nz
    have hmid := slice_split (q.ring.content.drop q.st.pos) (peekSt q.st).curr o.st.curr hpo.ge
    rw [sv1.unread] at hmnz
    rw [sv1.unread, ← hpo.unread, ← sv2.unread] at hmid
    have hhist := sv2.hist hpo.hist
    simp only [List.drop_drop, ← List.append_assoc] at hhist hmid
    refine ⟨Phase.advance hc0 hnz hmnz hmid hfed hhist,
      fun hsl => sv2.slack (hpo.slack (sv1.slack hsl)), by rw [hpo.msg, hh.msg]⟩

/-- `mpt_queue_peek` never leaves the storage (the decoder stays inside the piece it is given, the copy to the
    destination inside the decoded bytes); it leaves the queue alone or runs the decoder on one piece of the storage -/
theorem queuePeek_cases (v : Variant) (q : DecodeQueue) (h : DInv q) (hc : q.codec = some v) (mx : Nat) (dst : Bool) :
    (∃ r, queuePeek q mx dst = .ok (q, r, [])) ∨
    ∃ b used, skipTo q.ring q.st.pos = some (b, used) ∧ ∃ r out, queuePeek q mx dst = .ok (peekQ v q b used, r, out) := by
  have hmin : min q.st.pos q.st.curr = q.st.pos := by have := h.bnd.le; omega
  -- the value is named `x` so that the branches of `queuePeek` can be split in a hypothesis
  have key : ∀ x, queuePeek q mx dst = x → (∃ r, x = .ok (q, r, [])) ∨
      ∃ b used, skipTo q.ring q.st.pos = some (b, used) ∧ ∃ r out, x = .ok (peekQ v q b used, r, out) := by
    intro x he
    unfold queuePeek at he
    split at he
    · subst he; exact Or.inl ⟨_, rfl⟩
    rw [hc] at he
    unfold peekDec at he
    simp only [hmin] at he
    split at he
    · subst he; exact Or.inl ⟨_, rfl⟩
    · rename_i b used hsk
      refine Or.inr ⟨b, used, hsk, ?_⟩
      obtain ⟨hol, hno, hnc, hbnd, hcurr⟩ := peekCall_bnd v q h b used hsk
      have hb := (skipTo_maps q.ring h.wf _ b used hsk).1.in_store
      have hwr := Mem.write_length q.ring.store b _ (by rw [hol]; exact hb)
      have hle := hbnd.le
      simp only [peekOut, peekSt] at hno hnc hle hcurr hwr
      split at he
      · rename_i heq; exact absurd heq hno
      · rename_i heq; exact absurd heq hnc
      · subst he; exact ⟨_, _, rfl⟩
      · rename_i n hval
        split at he
        · subst he; exact ⟨_, _, rfl⟩
        · unfold Mem.rd at he
          split at he
          · simp only [Res.bind_ok, Res.pure_eq] at he
            subst he; exact ⟨_, _, rfl⟩
          · rename_i hoob
            exfalso
            apply hoob
            rw [hwr]
            have := hcurr (fun e he' => by rw [hval] at he'; cases he')
            omega
  exact key _ rfl

/-- inside a valid stream `mpt_queue_peek` is invisible: same place in the stream, same pending message (left
    exactly as it is), work area invariant kept -/
theorem queuePeek_spec (v : Variant) (q : DecodeQueue) (hc : q.codec = some v) (h : DInv q) (mx : Nat) (dst : Bool) :
    ∃ q' r out, queuePeek q mx dst = .ok (q', r, out) ∧ Kept q q' ∧ q'.ring.len = q.ring.len ∧ q'.ring.off = q.ring.off ∧
      ∀ frames fed k, Phase v frames q.st q.ring.content fed k →
        Phase v frames q'.st q'.ring.content fed k ∧ (SlackOk v q.st → SlackOk v q'.st) ∧ q'.st.msg = q.st.msg ∧
        (q.st.msg.isSome → q'.st = q.st ∧ q'.ring.content = q.ring.content) := by
  rcases queuePeek_cases v q h hc mx dst with ⟨r, e⟩ | ⟨b, used, hs, r, out, e⟩
  · exact ⟨q, r, [], e, ⟨h, rfl, rfl⟩, rfl, rfl, fun _ _ _ hph => ⟨hph, fun x => x, rfl, fun _ => ⟨rfl, rfl⟩⟩⟩
  · obtain ⟨hi, h1, h2, h3⟩ := peekQ_inv v q h b used hs
    refine ⟨_, r, out, e, ⟨hi, h1, rfl⟩, h2, h3, fun frames fed k hph => ?_⟩
    obtain ⟨a1, a2, a3⟩ := peekQ_phase v frames q fed k h hph b used hs
    exact ⟨a1, a2, a3, fun hm => peekQ_refused v q h b used hs (Or.inl hm)⟩

end Mpt.CQ
