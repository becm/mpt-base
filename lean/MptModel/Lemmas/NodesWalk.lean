/-
  A well-formed store seen from outside: every live record satisfies the link invariants of the property text
  (`LinksAt`), and the parts of the observer's walk (`Store.walk`, printed by the model driver and mirrored by
  harness/drv_node.c on the real nodes): one sibling list, the list heads, all top-level lists.
-/
import MptModel.Lemmas.NodesReal
namespace Mpt.Nodes
open Mpt Mpt.Forest

/-- the link invariants of the property text, about one live record -/
structure LinksAt (s : Store) (i : Nat) (n : Node) : Prop where
  /-- forward and backward links agree; siblings name the same parent -/
  next_prev : ∀ j, n.next = some j → ∃ m, s.Live j m ∧ m.prev = some i ∧ m.parent = n.parent
  prev_next : ∀ j, n.prev = some j → ∃ m, s.Live j m ∧ m.next = some i
  /-- the first-child link leads to a node that names this node as parent and has no predecessor -/
  child_parent : ∀ c, n.children = some c → ∃ m, s.Live c m ∧ m.parent = some i ∧ m.prev = none
  /-- the parent is alive, has children, and its first-child link is the head of this sibling list -/
  parent_head : ∀ p, n.parent = some p → ∃ m, s.Live p m ∧ m.children.isSome ∧ (n.prev = none → m.children = some i)

theorem Real.head_live {s : Store} {l : Forest} {par prev : Option Nat} {k : Nat} (h : Real s par prev l)
    (hk : headId l = some k) : ∃ m, s.Live k m ∧ m.prev = prev ∧ m.parent = par := by
  cases l with
  | nil => simp at hk
  | cons t ts =>
    cases t with
    | node i n v cs =>
      rw [Real_cons] at h
      cases hk
      exact ⟨_, ⟨h.1, rfl⟩, rfl, rfl⟩

theorem Real.links {s : Store} {l : Forest} : ∀ {par prev : Option Nat},
    Real s par prev l →
    (∀ k, prev = some k → ∃ m, s.Live k m ∧ m.next = headId l) →
    (∀ q, par = some q → ∃ m, s.Live q m ∧ m.children.isSome ∧ (prev = none → m.children = headId l)) →
    ∀ i ∈ ids l, ∃ n, s.Live i n ∧ LinksAt s i n := by
  induction l using forest_induct with
  | nil => intro _ _ _ _ _ i hi; simp at hi
  | cons j nm v cs ts ihc iht =>
    intro par prev hL hpv hpa i hi
    rw [Real_cons] at hL
    have hlive : s.Live j (recOf (headId ts) prev par cs nm v) := ⟨hL.1, rfl⟩
    simp only [ids_cons, List.mem_cons, List.mem_append] at hi
    rcases hi with rfl | hi | hi
    · refine ⟨_, hlive, fun k hk => hL.2.2.head_live hk, hpv, fun c hc => ?_, hpa⟩
      obtain ⟨m, hm, h1, h2⟩ := hL.2.1.head_live hc
      exact ⟨m, hm, h2, h1⟩
    · refine ihc hL.2.1 (by simp) (fun q hq => ?_) i hi
      cases hq
      refine ⟨_, hlive, ?_, fun _ => rfl⟩
      cases cs with
      | nil => simp at hi
      | cons t cs' => cases t; rfl
    · refine iht hL.2.2 (fun k hk => ?_) (fun q hq => ?_) i hi
      · cases hk
        exact ⟨_, hlive, rfl⟩
      · obtain ⟨m, hm, hc, _⟩ := hpa q hq
        exact ⟨m, hm, hc, by simp⟩

theorem Realises.links {s : Store} {tops : List Forest} (h : Realises s tops) :
    ∀ i n, s.Live i n → LinksAt s i n := by
  intro i n hl
  obtain ⟨l, hlt, hil⟩ := List.mem_flatMap.1 (h.cover i n hl.1 hl.2)
  obtain ⟨n', hn', hlk⟩ := Real.links (h.real l hlt).2 (by simp) (by simp) i hil
  have := hn'.1
  rw [hl.1] at this
  cases this
  exact hlk

/-- the observer's walk of a realised sibling list returns that list: all link checks pass, and the nodes of the
    list have been added (pre-order, newest first) to the visited ones -/
theorem walkList_real {s : Store} (l : Forest) : ∀ (fuel : Nat) (par prev : Option Nat) (seen : List Nat),
    Real s par prev l → (ids l).Nodup → (∀ x ∈ ids l, x ∉ seen) → (ids l).length + 1 ≤ fuel →
    s.walkList fuel (headId l) par prev seen = .ok (l, (ids l).reverse ++ seen) := by
  induction l using forest_induct with
  | nil => intro fuel; cases fuel <;> simp [Store.walkList]
  | cons i n v cs ts ihc iht =>
    intro fuel par prev seen hR hnd hs hf
    rw [Real_cons] at hR
    obtain ⟨⟨hics, hits⟩, ndcs, ndts, disj⟩ := nodup_ids_cons.1 hnd
    simp only [ids_cons, List.length_cons, List.length_append] at hf
    obtain ⟨f, rfl⟩ : ∃ f, fuel = f + 1 := ⟨fuel - 1, by omega⟩
    have hi : i ∉ seen := hs i (by simp)
    have h1 := ihc f (some i) none (i :: seen) hR.2.1 ndcs
      (fun x hx => by
        simp only [List.mem_cons, not_or]
        exact ⟨fun e => hics (e ▸ hx), hs x (by simp [hx])⟩)
      (by omega)
    have h2 := iht f par (some i) ((ids cs).reverse ++ i :: seen) hR.2.2 ndts
      (fun x hx => by
        simp only [List.mem_append, List.mem_reverse, List.mem_cons, not_or]
        exact ⟨fun h => disj x h hx, fun e => hits (e ▸ hx), hs x (by simp [hx])⟩)
      (by omega)
    -- the record is `recOf …`: it is alive, its `prev` and `parent` are the expected ones (the walk's link checks), and
    -- `i` has not been seen (`hi`); then the two recursive walks
    simp only [headId_cons, Store.walkList, hR.1, recOf]
    simp [hi, h1, h2]

theorem Real.root_is_head {s : Store} {l : Forest} : ∀ {par prev : Option Nat} {i : Nat} {n : Node},
    Real s par prev l → i ∈ ids l → s.nodes[i]? = some n → n.parent = none → n.prev = none →
    par = none ∧ prev = none ∧ headId l = some i := by
  induction l using forest_induct with
  | nil => intro _ _ _ _ _ hi; simp at hi
  | cons j nm v cs ts ihc iht =>
    intro par prev i n hR hi hn hp hv
    rw [Real_cons] at hR
    simp only [ids_cons, List.mem_cons, List.mem_append] at hi
    rcases hi with rfl | hi | hi
    · rw [hR.1] at hn
      cases hn
      exact ⟨hp, hv, rfl⟩
    · exact absurd (ihc hR.2.1 hi hn hp hv).1 (by simp)
    · exact absurd (iht hR.2.2 hi hn hp hv).2.1 (by simp)

theorem mem_heads {s : Store} {i : Nat} :
    i ∈ s.heads ↔ ∃ n, s.nodes[i]? = some n ∧ n.alive = true ∧ n.parent = none ∧ n.prev = none := by
  simp only [Store.heads, List.mem_filter, List.mem_range]
  constructor
  · rintro ⟨hlt, h⟩
    cases hn : s.nodes[i]? with
    | none => simp [hn] at h
    | some n =>
      simp [hn] at h
      exact ⟨n, rfl, h.1.1, h.1.2, h.2⟩
  · rintro ⟨n, hn, ha, hp, hv⟩
    exact ⟨Store.Live.lt ⟨hn, ha⟩, by simp [hn, ha, hp, hv]⟩

theorem walkHeads_real {s : Store} : ∀ (ls : List Forest) (seen : List Nat),
    (∀ l ∈ ls, l ≠ [] ∧ Real s none none l) → (ls.flatMap ids).Nodup → (∀ x ∈ ls.flatMap ids, x ∉ seen) →
    (∀ l ∈ ls, (ids l).length + 1 ≤ s.fuel) →
    s.walkHeads (ls.filterMap headId) seen = .ok (ls, (ls.flatMap ids).reverse ++ seen)
  | [], seen, _, _, _, _ => by simp [Store.walkHeads]
  | l :: ls, seen, hr, hnd, hs, hf => by
    simp only [List.flatMap_cons] at hnd hs
    obtain ⟨ndl, ndls, disj⟩ := List.nodup_append.1 hnd
    have hl := hr l (by simp)
    cases hh : headId l with
    | none =>
      cases l with
      | nil => exact absurd rfl hl.1
      | cons t ts => cases t; simp at hh
    | some h =>
      have h1 := walkList_real l s.fuel none none seen hl.2 ndl (fun x hx => hs x (by simp [hx])) (hf l (by simp))
      rw [hh] at h1
      have h2 := walkHeads_real ls ((ids l).reverse ++ seen) (fun l' hl' => hr l' (by simp [hl'])) ndls
        (fun x hx => by
          simp only [List.mem_append, List.mem_reverse, not_or]
          exact ⟨fun h => disj x h x hx rfl, hs x (by simp [hx])⟩)
        (fun l' hl' => hf l' (by simp [hl']))
      simp [hh, Store.walkHeads, h1, h2]

end Mpt.Nodes
