/-
  The numbers of a value-list text (`parseL`, `nums`, `numsOk`; on `Reads`: `reads_nums`) and the generator states as
  cursors over the sequence they denote: `Gen.all` / `Gen.rem` / `Gen.WF` / `Gen.abs`; `value` / `advance` / `reset`
  simulate the cursor automaton of Spec/Iterator.lean, a clone is an equal state, the documented loop (`mValue`,
  `mAdvance`), reading and advancing as `mpt_iterator_consume` does; the closed forms of the sequences (`mkLinear_ok`,
  `poly_all`, `boundary_all`) and the slot pattern of the array fillers (`stride_slots`).
-/
import MptModel.Lemmas.IterScan
import MptModel.Impl.IterArgs
namespace Mpt.Iter
open Mpt.IterSpec


/-- numbers of a value-list text from `s` on; the flag tells whether the scan ended regularly (end of text
    or white space only) rather than at a non-number -/
def parseL : Nat → List Char → List Rat × Bool
  | 0, _ => ([], true)
  | fuel + 1, s =>
    if s.isEmpty then ([], true)
    else match cdouble s with
      | .ok v rest => ((parseL fuel rest).1.cons v, (parseL fuel rest).2)
      | .zero => ([], true)
      | .err _ => ([], false)

def nums (s : List Char) : List Rat := (parseL (s.length + 1) s).1
def numsOk (s : List Char) : Bool := (parseL (s.length + 1) s).2

theorem parseL_fuel (f1 f2 : Nat) (s : List Char) (h1 : s.length < f1) (h2 : s.length < f2) :
    parseL f1 s = parseL f2 s := by
  induction f1 generalizing f2 s with
  | zero => omega
  | succ n ih =>
    cases f2 with
    | zero => omega
    | succ m =>
      unfold parseL
      split
      · rfl
      · split
        · rename_i v rest hc
          have hl := (cdouble_suffix s v rest hc).2
          rw [ih m rest (by omega) (by omega)]
        · rfl
        · rfl

theorem nums_step (s : List Char) (v : Rat) (rest : List Char) (h : cdouble s = .ok v rest) :
    nums s = v :: nums rest ∧ numsOk s = numsOk rest := by
  have hl := (cdouble_suffix s v rest h).2
  have hne : s.isEmpty = false := by
    cases s with
    | nil => simp at hl
    | cons a as => rfl
  unfold nums numsOk
  rw [parseL]
  simp only [hne, h]
  rw [parseL_fuel s.length (rest.length + 1) rest hl (by omega)]
  exact ⟨rfl, rfl⟩

theorem nums_zero (s : List Char) (h : cdouble s = .zero) : nums s = [] := by
  unfold nums
  rw [parseL]
  split
  · rfl
  · simp only [h]

theorem numsOk_err (s : List Char) (e : Err) (h : cdouble s = .err e) : numsOk s = false := by
  have hne : s.isEmpty = false := by
    cases s with
    | nil => cases h
    | cons _ _ => rfl
  unfold numsOk
  rw [parseL]
  simp only [hne, h]
  rfl

theorem mkValues_ok {s rest : List Char} {v : Rat} (h : cdouble s = .ok v rest) :
    mkValues s = some (.values s (some rest) v) := by
  unfold mkValues
  rw [h]

theorem mkValues_some {s : List Char} {g : Gen} (h : mkValues s = some g) :
    ∃ v rest, cdouble s = .ok v rest ∧ g = .values s (some rest) v := by
  unfold mkValues at h
  split at h
  · rename_i v rest hc
    cases h
    exact ⟨v, rest, hc, rfl⟩
  · cases h

theorem reads_nums {s t : List Char} {vs : List Rat} (h : Reads s vs t) :
    nums s = vs ++ nums t ∧ numsOk s = numsOk t := by
  induction h with
  | done => exact ⟨rfl, rfl⟩
  | step hc _ ih =>
    obtain ⟨n1, n2⟩ := nums_step _ _ _ hc
    exact ⟨by rw [n1, ih.1]; rfl, n2.trans ih.2⟩


def facNth (base fact init : Rat) (i : Nat) : Rat := if i = 0 then init else base * fact ^ (i - 1)
def bndNth (left inter right : Rat) (elem i : Nat) : Rat :=
  if i = 0 then left else if i < elem - 1 then inter else right

namespace Gen

def all : Gen → List Rat
  | .linear base step elem _ => (List.range elem).map fun (i : Nat) => base + (i : Rat) * step
  | .factor base fact init elem _ _ => (List.range elem).map (facNth base fact init)
  | .boundary l i r elem _ => (List.range elem).map (bndNth l i r elem)
  | .poly grid coeff _ _ => grid.map (polyEval coeff)
  | .polyN coeff _ _ => (List.range 4294967295).map fun (i : Nat) => polyEval coeff (i : Rat)
  | .values text _ _ => nums text

def rem : Gen → List Rat
  | g@(.linear _ _ _ pos) => g.all.drop pos
  | g@(.factor _ _ _ _ pos _) => g.all.drop pos
  | g@(.boundary _ _ _ _ pos) => g.all.drop pos
  | g@(.poly _ _ pos _) => g.all.drop pos
  | g@(.polyN _ pos _) => g.all.drop pos
  | .values _ none _ => []
  | .values _ (some s) curr => curr :: nums s

/-- the invariant the simulation needs: the memoised values agree with the closed form — `curr` of the factor generator
    (while an element is current), the cache of the polynomial generators; the linear and boundary generators
    keep nothing besides the position.  A value list must have a first number and its text, and the text behind
    the current value, must scan to the end without meeting a non-number (`numsOk`): `advance()` reports such a
    text as an error where the cursor would report `last` (hence the side condition of `created_wf`).  It does not
    describe the reachable states: for a value list nothing ties `next` and `curr` to `text`, so `rem` need not be a
    tail of `all` (`Gen.values ['1'] (some ['7']) 5` satisfies it with `all = [1]`, `rem = [5, 7]`). -/
def WF : Gen → Prop
  | .linear .. => True
  | .factor base fact init elem pos curr => pos < elem → curr = facNth base fact init pos
  | .boundary .. => True
  | .poly grid coeff pos cache => ∀ v, cache = some v → v = polyEval coeff (grid.getD pos 0)
  | .polyN coeff pos cache => ∀ v, cache = some v → v = polyEval coeff (pos : Rat)
  | .values text next _ =>
    (∃ v rest, cdouble text = .ok v rest) ∧ numsOk text = true ∧
    (∀ s, next = some s → numsOk s = true)

def abs (g : Gen) : Cur := { all := g.all, rem := g.rem }

end Gen

/-! The generators with a position are cursors `⟨L, L.drop p⟩`: value and advance of such a cursor. -/

theorem range_value (f : Nat → Rat) (n p : Nat) :
    (((List.range n).map f).drop p).head? = if p ≥ n then none else some (f p) := by
  rw [List.head?_drop, List.getElem?_map]
  split <;> simp_all

theorem grid_value (f : Rat → Rat) (grid : List Rat) (p : Nat) :
    ((grid.map f).drop p).head? = if p ≥ grid.length then none else some (f (grid.getD p 0)) := by
  rw [List.head?_drop, List.getElem?_map, List.getD_eq_getElem?_getD]
  by_cases hp : p < grid.length
  · rw [if_neg (by omega), List.getElem?_eq_getElem hp]; rfl
  · rw [if_pos (by omega), List.getElem?_eq_none (by omega)]; rfl

theorem cur_advance_drop (L : List Rat) (p : Nat) :
    Cur.advance { all := L, rem := L.drop p } =
      if p ≥ L.length then ({ all := L, rem := L.drop p }, Adv.err)
      else ({ all := L, rem := L.drop (p + 1) }, if p + 1 = L.length then Adv.last else Adv.more) := by
  unfold Cur.advance
  by_cases h : p < L.length
  · rw [if_neg (by omega), List.drop_eq_getElem_cons h]
    simp only []
    congr 1
    by_cases he : p + 1 = L.length
    · rw [if_pos he, if_pos (by simp; omega)]
    · rw [if_neg he, if_neg (by simp; omega)]
  · rw [if_pos (by omega), List.drop_eq_nil_of_le (by omega)]

/-- `advance()` of a generator with a position, in the shape `r` the C functions share: `g` the state, `p` its
    position among `n` elements, `e` the error code past the end, `g'` the state a successful call leaves (same
    sequence, position `p + 1`; the callers show `hr`, `ha`, `hr'` by `rfl`) -/
theorem advance_idx (g g' : Gen) (n p : Nat) (e : Err) (hn : g.all.length = n) (hr : g.rem = g.all.drop p)
    (ha : g'.all = g.all) (hr' : g'.rem = g.all.drop (p + 1)) (hw : g.WF) (hw' : p < n → g'.WF) (r : Gen × AdvRes)
    (hres : r = if p ≥ n then (g, AdvRes.err e) else (g', if p + 1 = n then .last else .more)) :
    r.1.abs = g.abs.advance.1 ∧ advClass r.2 = g.abs.advance.2 ∧ r.1.WF := by
  subst hres
  unfold Gen.abs
  rw [hr, cur_advance_drop, hn]
  by_cases hp : p ≥ n
  · rw [if_pos hp, if_pos hp]; exact ⟨by rw [hr], rfl, hw⟩
  · rw [if_neg hp, if_neg hp, ha, hr']
    exact ⟨rfl, by split <;> rfl, hw' (by omega)⟩

/-- `value()` reports the head of `rem` and leaves the cursor where it is: the memoised values (`curr`, the cache)
    are the closed form by `WF`, and the polynomial generators fill an empty cache with it, which keeps `WF`.
    4294967295 = `UINT_MAX`, the element count of a polynomial source over an array without data. -/
theorem value_sim (g : Gen) (h : g.WF) :
    g.value.1.abs = g.abs ∧ g.value.2 = g.abs.value ∧ g.value.1.WF := by
  cases g with
  | linear base step elem pos => exact ⟨rfl, (range_value (fun (i : Nat) => base + (i : Rat) * step) elem pos).symm, trivial⟩
  | factor b f i elem pos curr =>
    refine ⟨rfl, Eq.trans ?_ (range_value (facNth b f i) elem pos).symm, h⟩
    show (if pos ≥ elem then none else some curr) = _
    by_cases hp : pos ≥ elem
    · rw [if_pos hp, if_pos hp]
    · rw [if_neg hp, if_neg hp, h (by omega)]
  | boundary l i r elem pos => exact ⟨rfl, (range_value (bndNth l i r elem) elem pos).symm, trivial⟩
  | poly grid coeff pos cache =>
    have hv : _ = (Gen.poly grid coeff pos cache).abs.value := (grid_value (polyEval coeff) grid pos).symm
    rw [← hv]
    simp only [Gen.value]
    by_cases hp : pos ≥ grid.length
    · rw [if_pos hp, if_pos hp]; exact ⟨rfl, rfl, h⟩
    · rw [if_neg hp, if_neg hp]
      cases cache with
      | some v => exact ⟨rfl, by rw [h v rfl], h⟩
      | none => exact ⟨rfl, rfl, fun v e => by cases e; rfl⟩
  | polyN coeff pos cache =>
    have hv : _ = (Gen.polyN coeff pos cache).abs.value :=
      (range_value (fun (i : Nat) => polyEval coeff (i : Rat)) 4294967295 pos).symm
    rw [← hv]
    simp only [Gen.value]
    by_cases hp : pos ≥ 4294967295
    · rw [if_pos hp, if_pos hp]; exact ⟨rfl, rfl, h⟩
    · rw [if_neg hp, if_neg hp]
      cases cache with
      | some v => exact ⟨rfl, by rw [h v rfl], h⟩
      | none => exact ⟨rfl, rfl, fun v e => by cases e; rfl⟩
  | values text next curr => cases next <;> exact ⟨rfl, rfl, h⟩

theorem facNth_succ (b f i : Rat) (pos : Nat) (curr : Rat) (h : curr = facNth b f i pos) :
    (if pos = 0 then b else curr * f) = facNth b f i (pos + 1) := by
  unfold facNth at *
  by_cases hp : pos = 0
  · subst hp; simp
  · rw [if_neg hp] at h
    rw [if_neg hp, if_neg (by omega), h]
    rw [show pos + 1 - 1 = (pos - 1) + 1 by omega, Rat.pow_succ, Rat.mul_assoc]

theorem advance_sim (g : Gen) (h : g.WF) :
    g.advance.1.abs = g.abs.advance.1 ∧ advClass g.advance.2 = g.abs.advance.2 ∧ g.advance.1.WF := by
  cases g with
  | linear base step elem pos =>
    exact advance_idx (.linear base step elem pos) (.linear base step elem (pos + 1)) elem pos .MissingData
      (by simp only [Gen.all, List.length_map, List.length_range]) rfl rfl rfl h (fun _ => trivial) _ rfl
  | factor b f i elem pos curr =>
    exact advance_idx (.factor b f i elem pos curr) (.factor b f i elem (pos + 1) (if pos = 0 then b else curr * f))
      elem pos .MissingData (by simp only [Gen.all, List.length_map, List.length_range]) rfl rfl rfl h
      (fun hp _ => facNth_succ b f i pos curr (h hp)) _ rfl
  | boundary l i r elem pos =>
    exact advance_idx (.boundary l i r elem pos) (.boundary l i r elem (pos + 1)) elem pos .MissingData
      (by simp only [Gen.all, List.length_map, List.length_range]) rfl rfl rfl h (fun _ => trivial) _ rfl
  | poly grid coeff pos cache =>
    exact advance_idx (.poly grid coeff pos cache) (.poly grid coeff (pos + 1) none) grid.length pos .BadOperation
      (by simp only [Gen.all, List.length_map]) rfl rfl rfl h (fun _ v hv => by cases hv) _ rfl
  | polyN coeff pos cache =>
    exact advance_idx (.polyN coeff pos cache) (.polyN coeff (pos + 1) none) 4294967295 pos .MissingData
      (by simp only [Gen.all, List.length_map, List.length_range]) (by simp only [Gen.rem])
      (by simp only [Gen.all]) (by simp only [Gen.rem, Gen.all]) h (fun _ v hv => by cases hv) _ rfl
  | values text next curr =>
    obtain ⟨h1, h2, h3⟩ := h
    cases next with
    | none => exact ⟨rfl, rfl, h1, h2, h3⟩
    | some s =>
      have hok := h3 s rfl
      simp only [Gen.advance, Gen.abs, Gen.rem, Gen.all, Cur.advance]
      by_cases he : s.isEmpty = true
      · rw [if_pos he]
        have : s = [] := by simpa using he
        subst this
        exact ⟨rfl, rfl, h1, h2, by intro s hs; cases hs⟩
      · rw [if_neg he]
        cases hc : cdouble s with
        | zero =>
          simp only []
          rw [nums_zero s hc]
          exact ⟨rfl, rfl, h1, h2, by intro s hs; cases hs⟩
        | err e =>
          -- excluded by the invariant: the scan from `s` ends regularly
          rw [numsOk_err s e hc] at hok
          cases hok
        | ok v rest =>
          obtain ⟨hn, hk⟩ := nums_step s v rest hc
          simp only []
          rw [hn]
          refine ⟨rfl, ?_, h1, h2, ?_⟩
          · cases nums rest <;> rfl
          · intro s' hs'; cases hs'; rw [← hk]; exact hok

theorem reset_sim (g : Gen) (h : g.WF) :
    g.reset.1.abs = g.abs.reset ∧ 0 ≤ g.reset.2 ∧ g.reset.1.WF := by
  cases g with
  | linear base step elem pos => exact ⟨rfl, Int.natCast_nonneg _, trivial⟩
  | factor b f i elem pos curr => exact ⟨rfl, Int.natCast_nonneg _, fun _ => rfl⟩
  | boundary l i r elem pos => exact ⟨rfl, Int.natCast_nonneg _, trivial⟩
  | poly grid coeff pos cache => exact ⟨rfl, Int.natCast_nonneg _, fun v hv => by cases hv⟩
  | polyN coeff pos cache =>
    exact ⟨by simp only [Gen.reset, Gen.abs, Gen.rem, Gen.all, Cur.reset, List.drop_zero], Int.le_refl 0,
      fun v hv => by cases hv⟩
  | values text next curr =>
    obtain ⟨⟨v, rest, hc⟩, h2, h3⟩ := h
    obtain ⟨hn, hk⟩ := nums_step text v rest hc
    simp only [Gen.reset, hc, Gen.abs, Gen.rem, Gen.all, Cur.reset]
    refine ⟨by rw [hn], by decide, ⟨v, rest, hc⟩, h2, ?_⟩
    intro s hs; cases hs; rw [← hk]; exact h2

theorem clone_some_boundary (l i r : Rat) (elem pos : Nat) (h : 2 ≤ elem) :
    (Gen.boundary l i r elem pos).clone = some (.boundary l i r elem pos) := by
  simp only [Gen.clone, mkBoundary]
  rw [if_neg (by omega)]

theorem clone_some_values (text : List Char) (next : Option (List Char)) (curr : Rat) (g0 : Gen)
    (h : mkValues text = some g0) : (Gen.values text next curr).clone = some (.values text next curr) := by
  obtain ⟨v, rest, hc, _⟩ := mkValues_some h
  simp only [Gen.clone]
  rw [mkValues_ok hc]

/-- a clone is an equal state (the polynomial generator has none) -/
theorem clone_eq (g g' : Gen) (h : g.clone = some g') : g' = g := by
  cases g with
  | linear _ _ _ _ => cases h; rfl
  | factor _ _ _ _ _ _ => cases h; rfl
  | poly _ _ _ _ => cases h
  | polyN _ _ _ => cases h
  | boundary l i r elem pos =>
    by_cases he : elem < 2
    · simp only [Gen.clone, mkBoundary, if_pos he] at h; cases h
    · rw [clone_some_boundary l i r elem pos (by omega)] at h; cases h; rfl
  | values text next curr =>
    cases hm : mkValues text with
    | none =>
      simp only [Gen.clone, hm] at h; cases h
    | some g0 => rw [clone_some_values text next curr g0 hm] at h; cases h; rfl


theorem walk_cur (fuel : Nat) (c : Cur) (h : c.rem.length ≤ fuel) :
    IterSpec.walk Cur.value Cur.advance fuel c = c.rem := by
  induction fuel generalizing c with
  | zero =>
    have : c.rem = [] := List.eq_nil_of_length_eq_zero (by omega)
    simp [IterSpec.walk, this]
  | succ n ih =>
    obtain ⟨all, rem⟩ := c
    cases rem with
    | nil => simp [IterSpec.walk, Cur.value]
    | cons v t =>
      simp only [IterSpec.walk, Cur.value, List.head?_cons, Cur.advance]
      cases t with
      | nil => simp
      | cons w t' =>
        simp only [List.isEmpty_cons, Bool.false_eq_true, ↓reduceIte]
        rw [ih { all := all, rem := w :: t' } (by simp at h ⊢; omega)]

/-- the model's `value` and `advance` as the loop uses them: `advance` is called on the state `value()` has left
    (the polynomial generators have filled their cache by then) -/
def mValue (g : Gen) : Option Rat := g.value.2
def mAdvance (g : Gen) : Gen × Adv := (g.value.1.advance.1, advClass g.value.1.advance.2)

theorem walk_sim (fuel : Nat) (g : Gen) (h : g.WF) :
    IterSpec.walk mValue mAdvance fuel g = IterSpec.walk Cur.value Cur.advance fuel g.abs := by
  induction fuel generalizing g with
  | zero => rfl
  | succ n ih =>
    obtain ⟨ha, hv, hw⟩ := value_sim g h
    obtain ⟨a1, a2, a3⟩ := advance_sim g.value.1 hw
    simp only [IterSpec.walk, mValue, mAdvance]
    rw [hv]
    cases hcv : g.abs.value with
    | none => rfl
    | some v =>
      simp only []
      rw [a2, ha]
      cases hadv : g.abs.advance with
      | mk c' r =>
        cases r with
        | more =>
          simp only []
          rw [ih _ a3, a1, ha, hadv]
        | last => rfl
        | err => rfl

/-! ### `mpt_iterator_consume` on a generator: read the value, then advance -/

theorem cur_advance_nil (c : Cur) (h : c.rem = []) : c.advance = (c, .err) := by
  unfold Cur.advance
  rw [h]

theorem cur_advance_cons (c : Cur) (v : Rat) (t : List Rat) (h : c.rem = v :: t) :
    c.advance = ({ c with rem := t }, if t.isEmpty then .last else .more) := by
  unfold Cur.advance
  rw [h]

theorem advance_nil (g : Gen) (h : g.WF) (he : g.rem = []) :
    advClass g.advance.2 = .err ∧ g.advance.1.rem = [] := by
  obtain ⟨b1, b2, _⟩ := advance_sim g h
  rw [cur_advance_nil g.abs he] at b1 b2
  exact ⟨b2, (congrArg Cur.rem b1).trans he⟩

theorem read_advance_nil (g : Gen) (h : g.WF) (he : g.rem = []) :
    g.value.2 = none ∧ ∃ e, g.value.1.advance.2 = .err e ∧ g.value.1.advance.1.rem = [] := by
  obtain ⟨b, a, c⟩ := value_sim g h
  have he1 : g.value.1.rem = [] := (congrArg Cur.rem b).trans he
  obtain ⟨d2, hrem⟩ := advance_nil g.value.1 c he1
  refine ⟨by rw [a]; exact congrArg List.head? he, ?_⟩
  cases hr : g.value.1.advance.2 with
  | err e => exact ⟨e, rfl, hrem⟩
  | more => rw [hr] at d2; cases d2
  | last => rw [hr] at d2; cases d2

theorem read_advance_cons (g : Gen) (h : g.WF) (v : Rat) (t : List Rat) (he : g.rem = v :: t) :
    g.value.2 = some v ∧ g.value.1.advance.1.rem = t ∧ g.value.1.advance.1.WF ∧
    ∀ e, g.value.1.advance.2 ≠ .err e := by
  obtain ⟨b, a, c⟩ := value_sim g h
  obtain ⟨d1, d2, d3⟩ := advance_sim g.value.1 c
  rw [b, cur_advance_cons g.abs v t he] at d1 d2
  refine ⟨by rw [a]; exact congrArg List.head? he, congrArg Cur.rem d1, d3, ?_⟩
  intro e hr
  rw [hr] at d2
  split at d2 <;> cases d2

/-- `mpt_iterator_consume(it, 0, 0)` on a generator: the current element is skipped; past the end an error -/
theorem skip_gen (g : Gen) (h : g.WF) :
    (∀ v t, g.rem = v :: t → ∃ g', (Src.gen g).skip = (.gen g', none) ∧ g'.rem = t ∧ g'.WF) ∧
    (g.rem = [] → ∃ g' e, (Src.gen g).skip = (.gen g', some e) ∧ g'.rem = []) := by
  constructor
  · intro v t he
    obtain ⟨_, h2, h3, h4⟩ := read_advance_cons g h v t he
    refine ⟨_, ?_, h2, h3⟩
    -- the second alternative of the match applies since the answer is no error: `simp` finds `h4` in the context
    simp only [Src.skip]
  · intro he
    obtain ⟨_, e, h2, h3⟩ := read_advance_nil g h he
    refine ⟨_, e, ?_, h3⟩
    simp only [Src.skip]
    cases hr : g.value.1.advance with
    | mk g2 res => rw [hr] at h2; simp only [] at h2; subst h2; rfl

/-- `mpt_iterator_consume(it, 'u', …)` on a generator of `double` values: no conversion, nothing is consumed -/
theorem consumeU_gen (g : Gen) (h : g.WF) :
    ∃ g', (Src.gen g).consumeU.1 = .gen g' ∧ g'.abs = g.abs ∧ g'.WF ∧
      (Src.gen g).consumeU.2 = .err (if g.rem = [] then .MissingData else .BadType) := by
  obtain ⟨b, a, c⟩ := value_sim g h
  simp only [Src.consumeU]
  cases hq : g.value with
  | mk g1 r =>
    rw [hq] at a b c; simp only [] at a b c
    have hv : g.rem.head? = r := a.symm
    cases r with
    | none => exact ⟨g1, rfl, b, c, by rw [if_pos (List.head?_eq_none_iff.1 hv)]⟩
    | some v => exact ⟨g1, rfl, b, c, by rw [if_neg (by intro e; rw [e] at hv; cases hv)]⟩


/-! ### the sequences in closed form, and the slots of the array fillers -/

theorem polyProd_eq (mult tmp : Rat) (k : Nat) : polyProd mult tmp k = mult * tmp ^ k := by
  induction k with
  | zero => simp [polyProd, Rat.pow_zero, Rat.mul_one]
  | succ n ih => rw [polyProd, ih, Rat.pow_succ, Rat.mul_assoc]

theorem polySumAux_eq (coeff : List (Rat × Rat)) (x : Rat) (l : List (Rat × Rat)) (acc : Rat) :
    polySumAux coeff x l acc = acc + polySum x l := by
  induction l generalizing acc with
  | nil => simp [polySumAux, polySum, Rat.add_zero]
  | cons c rest ih =>
    rw [polySumAux, ih, polyProd_eq, polySum, Rat.add_assoc]

/-- `iterPolyValue` computes `Σ_j mult_j·(x + shift_j)^(nc−1−j)` -/
theorem polyEval_eq (coeff : List (Rat × Rat)) (x : Rat) : polyEval coeff x = polyAt coeff x := by
  unfold polyEval polyAt
  split
  · rfl
  · rw [polySumAux_eq, Rat.zero_add]

theorem poly_all (grid : List Rat) (coeff : List (Rat × Rat)) (pos : Nat) (cache : Option Rat) :
    (Gen.poly grid coeff pos cache).all = grid.map (IterSpec.polyAt coeff) :=
  List.map_congr_left fun x _ => polyEval_eq coeff x

theorem map_range_getD (L : List Rat) (f : Rat → Rat) :
    (List.range L.length).map (fun i => f (L.getD i 0)) = L.map f := by
  apply List.ext_getElem?
  intro i
  simp only [List.getElem?_map]
  by_cases hi : i < L.length
  · simp [hi, List.getD_eq_getElem?_getD]
  · simp [hi]

theorem explicit_elems (vs : List Rat) : (IterSpec.explicit vs).elems = vs := by
  have := map_range_getD vs id
  rw [List.map_id] at this
  exact this

theorem poly_elems (grid : List Rat) (coeff : List (Rat × Rat)) :
    (IterSpec.poly grid coeff).elems = grid.map (IterSpec.polyAt coeff) :=
  map_range_getD grid (IterSpec.polyAt coeff)

theorem mkLinear_ok (n : Nat) (a b : Rat) (hn : 1 ≤ n) :
    ∃ g, mkLinear (n + 1) a b = some g ∧ g.WF ∧ g.all = (IterSpec.linear n a b).elems ∧ g.rem = g.all
      ∧ g.all.length = n + 1 := by
  refine ⟨.linear a ((b - a) / ((n : Nat) : Rat)) (n + 1) 0, ?_, trivial, rfl, rfl, by simp [Gen.all]⟩
  unfold mkLinear
  rw [if_neg (by omega)]
  rfl

theorem boundary_all (l i r : Rat) (len pos : Nat) :
    (Gen.boundary l i r len pos).all = (IterSpec.boundary len l i r).elems := by
  apply List.map_congr_left
  intro k hk
  have : k < len := by simpa using hk
  simp only [bndNth, IterSpec.boundary]
  by_cases h0 : k = 0
  · rw [if_pos h0, if_pos h0]
  · rw [if_neg h0, if_neg h0]
    by_cases h1 : k < len - 1
    · rw [if_pos h1, if_pos (by omega)]
    · rw [if_neg h1, if_neg (by omega)]

theorem wrap32_small (k : Nat) (h : k < 4294967295) : wrap32 (k + 1) = k + 1 := by
  unfold wrap32; omega


theorem getD_map_range (f : Nat → Rat) (n k : Nat) (hk : k < n) : ((List.range n).map f).getD k 0 = f k := by
  simp [List.getD_eq_getElem?_getD, List.getElem?_range hk]

/-- the slots both fillers write — `last` at `(points−1)·ld` (written last), `mid` at the multiples of `ld` in
    between, `first` at 0 — hold the sequence `f` at stride `ld` when the three agree with `f` where they are used -/
theorem stride_slots (points ld k : Nat) (hp : 2 ≤ points) (hl : 1 ≤ ld) (first last : Rat) (mid f : Nat → Rat)
    (hfirst : first = f 0) (hlast : last = f (points - 1)) (hmid : ∀ q, 0 < q → q < points - 1 → mid q = f q) :
    (if k = (points - 1) * ld then last
     else if ld ≠ 0 ∧ k % ld = 0 ∧ 0 < k / ld ∧ k / ld < points - 1 then mid (k / ld)
     else if k = 0 then first else 0) =
    if k % ld = 0 ∧ k / ld < points then f (k / ld) else 0 := by
  -- a slot index is a multiple `q·ld` exactly if the remainder is 0 and the quotient is `q`
  have hq : ∀ q, k = q * ld ↔ (k % ld = 0 ∧ k / ld = q) := by
    intro q
    constructor
    · intro e; rw [e]; exact ⟨Nat.mul_mod_left _ _, Nat.mul_div_cancel _ (by omega)⟩
    · intro ⟨hm, hd⟩
      have := Nat.div_add_mod k ld
      rw [hm, hd, Nat.add_zero, Nat.mul_comm] at this
      exact this.symm
  have h0 : k = 0 ↔ (k % ld = 0 ∧ k / ld = 0) := by have := hq 0; rwa [Nat.zero_mul] at this
  simp only [hq, h0]
  generalize k / ld = q
  by_cases hm : k % ld = 0
  · simp only [hm, true_and, ne_eq, show ¬ ld = 0 by omega, not_false_eq_true]
    by_cases h1 : q = points - 1
    · rw [if_pos h1, if_pos (by omega), hlast, h1]
    · rw [if_neg h1]
      by_cases h2 : 0 < q ∧ q < points - 1
      · rw [if_pos h2, if_pos (by omega), hmid q h2.1 h2.2]
      · rw [if_neg h2]
        by_cases h3 : q = 0
        · rw [if_pos h3, if_pos (by omega), hfirst, h3]
        · rw [if_neg h3, if_neg (by omega)]
  · simp only [hm, false_and, and_false, ↓reduceIte]

theorem linear_last (mn mx : Rat) (len : Nat) (h : 1 ≤ len) :
    mn + ((len : Nat) : Rat) * ((mx - mn) / ((len : Nat) : Rat)) = mx := by
  have hne : ((len : Nat) : Rat) ≠ 0 := by
    intro hc
    have : ((len : Nat) : Rat) = ((0 : Nat) : Rat) := by simpa using hc
    have := Rat.natCast_inj.1 this
    omega
  rw [Rat.div_def, Rat.mul_comm (mx - mn), ← Rat.mul_assoc, Rat.mul_inv_cancel _ hne, Rat.one_mul]
  -- `mn + (mx - mn) = mx`
  grind

end Mpt.Iter
