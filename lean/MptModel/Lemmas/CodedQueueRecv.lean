/-
  Helper lemmas for C02, receive side: the decode queue fed with a valid frame stream in
  arbitrary pieces.  `CallSpec` is all one decoder call does for a receiver that stands in the stream (`Phase`),
  `RecvSpec` all one `mpt_queue_recv` does: every message delivered is the reference decoding of the next frame, the
  decoder keeps its work area, and a queue that holds a complete frame delivers it, given free space when the decoder
  asks for it.  `queueRecv_spec` says it together with what holds on any data: the call is total and keeps `DInv`.
-/
import MptModel.Lemmas.CodedQueueDec
import MptModel.Lemmas.CodedQueuePhase
import MptModel.Lemmas.Stream
namespace Mpt.CQ
open Mpt.Cobs Mpt.Codec Mpt.Ring Mpt.Stream

/-- the answer of a decoder call whose unread input held the delimiter of the frame behind the non-zero bytes `pre`: a
    delivery or a request for work area — a delivery when there was `enough` of it —, and a call that did not deliver
    stands in an open block with the delimiter still ahead, no further away -/
structure LiveAnswer (ret : DecRet) (st' : DecState) (content' pre junk : List Byte) (enough : Prop) : Prop where
  answers : ret = .val 1 ∨ ret = .err .MissingBuffer
  delivers : enough → ret = .val 1
  stays : ret ≠ .val 1 → st'.ctx ≠ 0 ∧
    ∃ pre', content'.drop st'.curr = pre' ++ 0 :: junk ∧ (∀ x ∈ pre', x ≠ 0) ∧ pre'.length ≤ pre.length

/-- a call inside the frame `c0 :: body ++ [0]` whose unread input holds the delimiter: an inline zero would contradict
    the reference decoding of the frame, so it delivers or asks for space; the work area is enough when it has `room`
    for the bytes in front of the delimiter and two more (`Ran.live`: a code byte stores at most two zeros) -/
theorem live_tail {v : Variant} {st : DecState} {c0 : Byte} {U content : List Byte} {c room : Nat} {o : DecOut}
    (hv : CallV v st c0.toNat U content c room o) (hs : SlackOk v st) (future body rest : List Byte) (m : Msg)
    (hb0 : c0 ≠ 0) (hbnz : ∀ x ∈ body, x ≠ 0) (hX : U ++ future = body ++ 0 :: rest)
    (hdec : dec v (c0 :: body ++ [0]) = some m)
    (pre junk : List Byte) (hun : content.drop c = pre ++ 0 :: junk) (hnz : ∀ x ∈ pre, x ≠ 0) :
    LiveAnswer o.ret o.st o.store pre junk (pre.length + 2 ≤ room) := by
  obtain ⟨hr, hen⟩ := hv.live hs pre junk hun hnz
  have hret : o.ret = .val 1 ∨ o.ret = .err .MissingBuffer := by
    rcases hr with a | a | a
    · exact Or.inl a
    · exact Or.inr a
    · obtain ⟨ht, code, pos, e1⟩ := hv.md a
      -- an inline zero in a frame the reference decoder accepts is the tail form: impossible without tail inlining
      rw [mach_dec_zeroIn v hb0 hbnz hX e1 ht] at hdec; cases hdec
  refine ⟨hret, fun hroom => hret.resolve_right (hen hroom), fun hne => ?_⟩
  obtain ⟨_, _, c', p', e, h0', _⟩ := hv.hist hne
  refine ⟨by rw [e]; omega, ?_⟩
  obtain ⟨mid, hmid, hmnz⟩ := hv.scan.split.1 hne
  rw [hun] at hmid
  obtain ⟨p2, e1, e2⟩ := split_mid mid _ pre junk hmnz hmid.symm
  refine ⟨p2, by rw [hv.scan.unread]; exact e1, fun x hx => hnz x (by rw [e2]; simp [hx]), ?_⟩
  rw [e2, List.length_append]; omega

/-- a decoder call inside frame `k` of the valid stream (first byte `c0`, consumed bytes `Uc`, read position `c`; `hv` is
    all decode says about the call), with the frame and its reference decoding from `stream_at`; `CallSpec` is this for a
    call from any place of the stream -/
theorem frame_call (v : Variant) (frames : List (List Byte)) (ms : List Msg) (hcar : Carries v frames ms)
    {st : DecState} {content : List Byte} (fed future : List Byte) (hfut : fed ++ future = frames.flatten) (k : Nat)
    {c room : Nat} {c0 : Byte} {Uc : List Byte} {o : DecOut} (hc0 : c0 ≠ 0) (hnz0 : ∀ x ∈ Uc, x ≠ 0)
    (hfed : (frames.take k).flatten ++ c0 :: (Uc ++ content.drop c) = fed)
    (hv : CallV v st c0.toNat (Uc ++ content.drop c) content c room o) :
    (o.ret ≠ .val 1 → Phase v frames o.st o.store fed k ∧ o.st.msg = none) ∧
    (o.ret = .val 1 → Phase v frames o.st o.store fed (k + 1) ∧ ms[k]? = some o.region ∧ o.st.msg = some o.st.len) ∧
    (SlackOk v st → ∀ pre junk, content.drop c = pre ++ 0 :: junk → (∀ x ∈ pre, x ≠ 0) →
      LiveAnswer o.ret o.st o.store pre junk (pre.length + 2 ≤ room)) := by
  have hsc := hv.scan
  have hs1 : (frames.take k).flatten ++ (c0 :: (Uc ++ content.drop c)) ++ future = frames.flatten := by
    rw [hfed]; exact hfut
  obtain ⟨m, b0, body, hm, hb0, hbnz, hdec, hfk, hX⟩ := stream_at hcar k _ future hs1 (by simp)
  simp only [List.cons_append, List.cons.injEq] at hX
  obtain ⟨rfl, hX2⟩ := hX
  refine ⟨phase_after_stay hc0 hnz0 hfed hv.toCallOut, fun h1 => ?_, fun hs pre junk hun hnz =>
    live_tail hv hs future body _ m hb0 hbnz (by simpa using hX2) (by simpa using hdec) pre junk hun hnz⟩
  -- a delivering call has consumed the rest of the frame: the bytes `pre` and the delimiter
  obtain ⟨pre, hpre, hpnz⟩ := hsc.split.2 h1
  obtain ⟨hdel, hctx, hmsg⟩ := hv.one h1
  rw [hpre] at hX2
  obtain ⟨hbody, hrest⟩ := zero_split_unique (Uc ++ pre) body (content.drop o.st.curr ++ future)
    ((frames.drop (k + 1)).flatten)
    (by
      intro x hx
      rcases List.mem_append.mp hx with h | h
      · exact hnz0 x h
      · exact hpnz x h) hbnz (by simpa using hX2)
  have hreg : dec v (c0 :: body ++ [0]) = some o.region :=
    hdel.dec hc0 (rest := []) (junk := content.drop o.st.curr) (by rw [hpre, ← hbody]; simp) hbnz
  have hm' : m = o.region := by
    have : dec v (c0 :: (body ++ [0])) = some o.region := by simpa using hreg
    rw [hdec] at this; exact Option.some.inj this
  refine ⟨Phase.idle (Fresh.ofMsg hctx hmsg) (by rw [hsc.len]; exact hsc.le) ?_, by rw [hm, hm'], hmsg⟩
  have htk : frames.take (k + 1) = frames.take k ++ [c0 :: (body ++ [0])] := by
    rw [List.take_add_one, hfk]; rfl
  rw [htk, List.flatten_append, hsc.unread, ← hfed, hpre, ← hbody]
  simp

/-- one decoder call (return value `ret`, state and data afterwards `st'`, `content'`) of a receiver that has finished
    `k` frames of the valid stream and holds `content`: its place in the stream afterwards, and — given the work area
    invariant — what it answers when the unread data holds the delimiter of frame `k` (`pre` = the bytes in front of
    it; enough work area is there when a block is open with room for `pre` and two bytes more).  The fields are not
    those of a `DecOut`: that also records the trace of reads and writes. -/
structure CallSpec (v : Variant) (frames : List (List Byte)) (ms : List Msg) (fed : List Byte) (k : Nat)
    (st : DecState) (content : List Byte) (ret : DecRet) (st' : DecState) (content' : List Byte) : Prop where
  stay : ret ≠ .val 1 → Phase v frames st' content' fed k ∧ st'.msg = none
  deliver : ret = .val 1 →
    Phase v frames st' content' fed (k + 1) ∧ ms[k]? = some ((content'.drop st'.pos).take st'.len) ∧ st'.msg = some st'.len
  slack : SlackOk v st → SlackOk v st'
  live : SlackOk v st → ∀ pre junk, content.drop st.curr = pre ++ 0 :: junk → (∀ x ∈ pre, x ≠ 0) →
    LiveAnswer ret st' content' pre junk (st.ctx ≠ 0 ∧ pre.length + 2 ≤ st.curr - (st.pos + st.len))

/-- between frames the unread data starts with the code byte of frame `k` (`fresh_call`), inside a frame the call
    continues the open block (`mid_call`); then `frame_call` -/
theorem phase_call (v : Variant) (frames : List (List Byte)) (ms : List Msg) (hcar : Carries v frames ms)
    (st : DecState) (content fed future : List Byte) (hfut : fed ++ future = frames.flatten) (k : Nat)
    (segs : List Seg) (hflat : flat segs = content) (hb : Bnd content.length st)
    (hph : Phase v frames st content fed k) :
    CallSpec v frames ms fed k st content (decodeV v st segs false).ret (decodeV v st segs false).st
      (decodeV v st segs false).store := by
  cases hph with
  | idle hf hcl hfed =>
    cases hun : content.drop st.curr with
    | nil =>
      obtain ⟨e1, e2, e3, e4, e5⟩ := fresh_call_nil v segs st content hflat hb hf hun
      exact ⟨fun _ => ⟨Phase.idle e2 (by rw [e4, e3]; exact hcl) (by rw [e4, e3]; exact hfed), e5⟩,
        fun h1 => (by rw [e1] at h1; cases h1), fun _ => slackOk_ctx0 v _ e2.ctx,
        fun _ pre junk h => (by rw [hun] at h; cases pre <;> cases h)⟩
    | cons b U =>
      -- the first unread byte is the code byte of frame `k`, not a delimiter
      have hs1 : (frames.take k).flatten ++ (b :: U) ++ future = frames.flatten := by
        rw [← hun, hfed]; exact hfut
      obtain ⟨_, b0, _, _, hb0, _, _, _, hX⟩ := stream_at hcar k _ future hs1 (by simp)
      simp only [List.cons_append, List.cons.injEq] at hX
      obtain ⟨rfl, _⟩ := hX
      have hU : content.drop (st.curr + 1) = U := by
        have := congrArg (List.drop 1) hun
        simpa [List.drop_drop, Nat.add_comm] using this
      have hv := fresh_call v segs st content hflat hb hf b U hun hb0
      -- 14: the head room `fresh_call` sets aside for the alignment of a block that starts here
      have hv' : CallV v st b.toNat ([] ++ content.drop (st.curr + 1)) content (st.curr + 1)
          (st.curr - (st.pos + st.len) - 14) (decodeV v st segs false) := by simpa [hU] using hv
      obtain ⟨hstay, hdel, hlive⟩ := frame_call v frames ms hcar fed future hfut k hb0 (by simp)
        (by rw [← hfed, hun, hU]; simp) hv'
      refine ⟨hstay, hdel, hv.slack, fun hs pre junk hp hnz => ?_⟩
      rw [hun] at hp
      cases pre with
      | nil => cases hp; exact absurd rfl hb0
      | cons c0 pre' =>
        obtain ⟨rfl, rfl⟩ := List.cons.inj hp
        obtain ⟨hret, _, hrest⟩ := hlive hs pre' junk hU (fun x hx => hnz x (by simp [hx]))
        -- between two frames there is no work area to measure: `enough` asks for an open block
        refine ⟨hret, fun hc => absurd hf.ctx hc.1, fun hne => ?_⟩
        obtain ⟨hctx, p2, e1, e2, e3⟩ := hrest hne
        exact ⟨hctx, p2, e1, e2, by rw [List.length_cons]; omega⟩
  | busy c0 Uc hc0 hnzc hh hfed =>
    have hv := mid_call v segs st content c0.toNat _ hflat hb hh
    obtain ⟨hstay, hdel, hlive⟩ := frame_call v frames ms hcar fed future hfut k hc0 hnzc hfed hv
    refine ⟨hstay, hdel, hv.slack, fun hs pre junk hun hnz => ?_⟩
    obtain ⟨hret, hen, hrest⟩ := hlive hs pre junk hun hnz
    exact ⟨hret, fun hc => hen hc.2, hrest⟩

/-- the same for the call on the queue data: `decCall` is `decodeV` on the parts of the content, written back -/
theorem decCall_spec (v : Variant) (frames : List (List Byte)) (ms : List Msg) (hcar : Carries v frames ms)
    (q : DecodeQueue) (fed future : List Byte) (hfut : fed ++ future = frames.flatten) (k : Nat) (h : DInv q)
    (hph : Phase v frames q.st q.ring.content fed k) :
    CallSpec v frames ms fed k q.st q.ring.content (decCall v q).2 (decCall v q).1.st (decCall v q).1.ring.content := by
  obtain ⟨hflat, hb, hc⟩ := decCall_content v q h
  rw [hc]
  exact phase_call v frames ms hcar q.st q.ring.content fed future hfut k (segsOf q.ring q.base) hflat hb hph

/-- outcome of `mpt_queue_recv` for a receiver that has finished `k` frames of the valid stream: no delivery
    and the same place in the stream, or the message of frame `k` is delivered — available through
    `mpt_message_get(data.pos, data.msg)` — and the receiver stands behind that frame -/
def RecvOut (v : Variant) (frames : List (List Byte)) (ms : List Msg) (fed : List Byte) (k : Nat) (q' : DecodeQueue) (r : Int) : Prop :=
  DInv q' ∧
  ((r ≠ 1 ∧ Phase v frames q'.st q'.ring.content fed k) ∨
   (r = 1 ∧ Phase v frames q'.st q'.ring.content fed (k + 1) ∧
      ∃ c m, ms[k]? = some m ∧ currentMessage q' = some (.ok (c, m))))

theorem afterCall_spec (v : Variant) (q1 : DecodeQueue) (ret : DecRet) (h : DInv q1) (hno : ret ≠ .oob) (hnc : ret ≠ .clobber) :
    ∃ q' r, afterCall q1 ret = .ok (q', r) ∧ Kept q1 q' ∧
      (SlackOk v q1.st → SlackOk v q'.st) ∧ (∀ e, ret = .err e → r = e.code) ∧
      ∀ frames ms fed k st0 content0, CallSpec v frames ms fed k st0 content0 ret q1.st q1.ring.content →
        RecvOut v frames ms fed k q' r ∧ (ret = .val 1 → r = 1) := by
  unfold afterCall
  cases ret with
  | val n =>
    obtain ⟨q', he, K, sv⟩ := queueShift_eff q1 h
    have hi' := K.inv
    simp only [recvDone, he]
    refine ⟨_, _, rfl, K, sv.slack, fun e he => (nomatch he), fun frames ms fed k _ _ S => ⟨⟨hi', ?_⟩, ?_⟩⟩
    · by_cases h1 : n = 1
      · subst h1
        obtain ⟨hph, hmsg, hm⟩ := S.deliver rfl
        refine Or.inr ⟨by simp [sv.msg, hm], sv.phase hph, ?_⟩
        obtain ⟨c, hget⟩ := messageGet_spec q'.ring hi'.wf q'.st.pos q'.st.len
          (by have := hi'.bnd.le; have := hi'.bnd.tot; omega)
        exact ⟨c, _, hmsg, by simp only [currentMessage, sv.msg, hm, Option.map_some]; rw [← sv.region, ← hget, sv.len]⟩
      · obtain ⟨hph, hm⟩ := S.stay (by intro hh; cases hh; exact h1 rfl)
        exact Or.inl ⟨by simp [sv.msg, hm], sv.phase hph⟩
    · intro h1
      cases h1
      simp [sv.msg, (S.deliver rfl).2.2]
  | err e =>
    refine ⟨q1, e.code, rfl, ⟨h, rfl, rfl⟩, fun hs => hs, fun e' he => (by cases he; rfl),
      fun frames ms fed k _ _ S => ⟨⟨h, Or.inl ⟨?_, (S.stay (by simp)).1⟩⟩, fun hh => (nomatch hh)⟩⟩
    have := err_code_neg e; omega
  | oob => exact absurd rfl hno
  | clobber => exact absurd rfl hnc

/-- what `mpt_queue_recv` does for a receiver that has finished `k` frames of the valid stream: the outcome
    `RecvOut`; the work area invariant is kept; and a call that finds the delimiter of frame `k` in the unread data
    (`pre` = the bytes in front of it) delivers, or asks for space — only when the queue has less free space than the
    work area the decoder may need.  Free space is that of the queue at this call: the `MissingBuffer` recovery of an
    earlier receive may have turned it into work area, so it does not only shrink by what is fed. -/
structure RecvSpec (v : Variant) (frames : List (List Byte)) (ms : List Msg) (fed : List Byte) (k : Nat)
    (q q' : DecodeQueue) (r : Int) : Prop where
  out : RecvOut v frames ms fed k q' r
  slack : SlackOk v q.st → SlackOk v q'.st
  answers : SlackOk v q.st → ∀ pre junk, q.ring.content.drop q.st.curr = pre ++ 0 :: junk → (∀ x ∈ pre, x ≠ 0) →
    r = 1 ∨ (r = Err.MissingBuffer.code ∧ q.ring.store.length - q.ring.len < pre.length + 2)

/-- **`mpt_queue_recv` on any queue state that satisfies the invariant**: the call is total, also through the
    `MissingBuffer` recovery (no access outside the storage, the decoder never writes at or behind its read position), and
    keeps the invariant `pos + len ≤ curr ≤ data.len ≤ max` and the capacity; for a receiver in a valid stream it does
    what `RecvSpec` says -/
theorem queueRecv_spec (v : Variant) (q : DecodeQueue) (hc : q.codec = some v) (h : DInv q) :
    ∃ q' r, queueRecv q = .ok (q', r) ∧ Kept q q' ∧
      ∀ frames ms, Carries v frames ms → ∀ fed future, fed ++ future = frames.flatten → ∀ k,
        Phase v frames q.st q.ring.content fed k → RecvSpec v frames ms fed k q q' r := by
  have hcl := content_length q.ring h.wf.1
  by_cases h0 : q.ring.len = 0
  · -- no data: nothing to answer, a delivered empty message is consumed
    have hnil : ∀ pre junk, q.ring.content.drop q.st.curr ≠ pre ++ 0 :: junk := by
      intro pre junk hun
      have := congrArg List.length hun
      rw [List.length_drop, hcl, h0] at this
      simp at this
    have hneg : Err.MissingData.code ≠ 1 := by decide
    unfold queueRecv
    rw [if_pos h0]
    split
    · rename_i hm
      have hi' : DInv { q with st := { q.st with msg := none } } := ⟨h.wf, ⟨h.bnd.le, h.bnd.tot, by intro m hh; cases hh⟩⟩
      exact ⟨_, _, rfl, ⟨hi', rfl, rfl⟩, fun frames ms _ fed _ _ k hph => ⟨⟨hi', Or.inl ⟨hneg, hph.clearMsg hm.2⟩⟩,
        fun hs => ⟨hs.1, hs.2⟩, fun _ pre junk hun => absurd hun (hnil pre junk)⟩⟩
    · exact ⟨q, _, rfl, ⟨h, rfl, rfl⟩, fun frames ms _ fed _ _ k hph => ⟨⟨h, Or.inl ⟨hneg, hph⟩⟩, fun hs => hs,
        fun _ pre junk hun => absurd hun (hnil pre junk)⟩⟩
  rw [queueRecv_unfold v q hc h0]
  obtain ⟨K1, hl1, hno, hnc⟩ := decCall_inv v q h
  have hi1 := K1.inv
  have hsl1 := K1.cap
  split
  · -- the decoder asked for space and there is some: recover from the state the refused call left, call again
    rename_i hcond
    obtain ⟨hmb, hroom⟩ := hcond
    have hne1 : (decCall v q).2 ≠ .val 1 := by rw [hmb]; simp
    obtain ⟨e1, K2, hst2, sv⟩ := recvRetry_eq v (decCall v q).1 hi1 hroom
    have hi2 := K2.inv
    obtain ⟨K3, _, hno3, hnc3⟩ := decCall_inv v _ hi2
    obtain ⟨q', r, he, K4, hslk, hre, hstream⟩ := afterCall_spec v _ _ K3.inv hno3 hnc3
    refine ⟨q', r, by rw [e1]; exact he, K1.trans (K2.trans (K3.trans K4)),
      fun frames ms hcar fed future hfut k hph => ?_⟩
    have S1 := decCall_spec v frames ms hcar q fed future hfut k h hph
    obtain ⟨hph1, hmsg1⟩ := S1.stay hne1
    have S2 := decCall_spec v frames ms hcar _ fed future hfut k hi2 (sv.phase hph1)
    obtain ⟨hout, hr1⟩ := hstream frames ms fed k _ _ S2
    refine ⟨hout, fun hs => hslk (S2.slack (sv.slack (S1.slack hs))), fun hs pre junk hun hnz => ?_⟩
    obtain ⟨_, _, hrest⟩ := S1.live hs pre junk hun hnz
    obtain ⟨hctx1, pre', hun1, hnz1, hlen1⟩ := hrest hne1
    obtain ⟨hret2, hen2, _⟩ := S2.live (sv.slack (S1.slack hs)) pre' junk (by rw [sv.unread]; exact hun1) hnz1
    rcases hret2 with h21 | h2mb
    · exact Or.inl (hr1 h21)
    · refine Or.inr ⟨hre _ h2mb, ?_⟩
      -- with room for the work area the repeated call would have delivered
      rcases Nat.lt_or_ge (q.ring.store.length - q.ring.len) (pre.length + 2) with hlt | hfree
      · exact hlt
      · have hle1 := hi1.bnd.le
        -- the recovery has put all free space in front of the input position: the work area is at least `pre.length + 2`
        have h21 := hen2 ⟨by rw [sv.ctx]; exact hctx1, by rw [hst2]; simp only; rw [hl1, hsl1]; omega⟩
        rw [h21] at h2mb; cases h2mb
  · rename_i hcond
    obtain ⟨q', r, he, K4, hslk, hre, hstream⟩ := afterCall_spec v _ _ hi1 hno hnc
    refine ⟨q', r, he, K1.trans K4, fun frames ms hcar fed future hfut k hph => ?_⟩
    have S1 := decCall_spec v frames ms hcar q fed future hfut k h hph
    obtain ⟨hout, hr1⟩ := hstream frames ms fed k _ _ S1
    refine ⟨hout, fun hs => hslk (S1.slack hs), fun hs pre junk hun hnz => ?_⟩
    rcases (S1.live hs pre junk hun hnz).answers with h1 | hmb
    · exact Or.inl (hr1 h1)
    · refine Or.inr ⟨hre _ hmb, ?_⟩
      have hfull : ¬ (decCall v q).1.ring.len < (decCall v q).1.ring.store.length := fun hh => hcond ⟨hmb, hh⟩
      rw [hl1, hsl1] at hfull
      omega

end Mpt.CQ
