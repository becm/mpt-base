/-
  What a decoder state goes by: the open block and the message, the decoded bytes, the unread input and the
  work area in front of it.  `Hist` is kept by more unread input (`Hist.append`) and by every change of offsets and data
  that shows the decoder the same (`SameView`: bytes dropped or put in front of the data); so is `SlackOk`.  With them the
  list facts about the first zero byte of the unread input, and what a call consumed of it (`Scan.split`).
-/
import MptModel.Lemmas.DecodeCall
namespace Mpt.Codec
open Mpt.Cobs

theorem Hist.append {v : Variant} {c0 : Nat} {U : List Byte} {st : DecState} {store : List Byte} (h : Hist v c0 U st store)
    (hle : st.pos + st.len ≤ st.curr) (piece : List Byte) : Hist v c0 (U ++ piece) st (store ++ piece) := by
  obtain ⟨hmsg, hcurr, c, p, hctx, hc0, hc, hp, hrel⟩ := h
  refine ⟨hmsg, by rw [List.length_append]; omega, c, p, hctx, hc0, hc, hp, ?_⟩
  intro more
  rw [List.append_assoc, hrel, List.drop_append_of_le_length hcurr, List.append_assoc,
    take_drop_append_le _ _ _ _ (by omega)]

/-- the decoder state `st'` on the data `s'` shows the decoder what `st` on `s` does: the same open block and message,
    the same decoded bytes, the same unread input, and (for an open block) no less work area -/
structure SameView (st st' : DecState) (s s' : List Byte) : Prop where
  ctx : st'.ctx = st.ctx
  msg : st'.msg = st.msg
  len : st'.len = st.len
  curr : st'.curr ≤ s'.length
  unread : s'.drop st'.curr = s.drop st.curr
  region : (s'.drop st'.pos).take st'.len = (s.drop st.pos).take st.len
  room : st.ctx ≠ 0 → st.curr - (st.pos + st.len) ≤ st'.curr - (st'.pos + st'.len)

theorem SameView.hist {v : Variant} {c0 : Nat} {U : List Byte} {st st' : DecState} {s s' : List Byte}
    (sv : SameView st st' s s') (h : Hist v c0 U st s) : Hist v c0 U st' s' := by
  obtain ⟨hmsg, _, c, p, hctx, hc0, hc, hp, hrel⟩ := h
  exact ⟨sv.msg.trans hmsg, sv.curr, c, p, sv.ctx.trans hctx, hc0, hc, hp,
    fun more => by rw [sv.unread, sv.region]; exact hrel more⟩

theorem SameView.slack {v : Variant} {st st' : DecState} {s s' : List Byte}
    (sv : SameView st st' s s') (h : SlackOk v st) : SlackOk v st' := by
  refine ⟨by rw [sv.ctx]; exact h.1, fun hlt => ?_⟩
  rw [sv.ctx] at hlt
  -- a block open in its data part is an open block
  have hne : st.ctx ≠ 0 := by
    intro h0
    rw [h0] at hlt
    simp only [Nat.zero_div, Nat.zero_mod, lenData_zero] at hlt
    omega
  have := h.2 hlt
  have := sv.room hne
  omega

/-- `n` bytes leave the start of the data and the offsets follow: the decoded bytes keep their place (`p'`), or there
    are none and no block is open -/
theorem SameView.drop (st : DecState) (s : List Byte) (n p' : Nat) (hcl : st.curr ≤ s.length) (hn : n ≤ st.curr)
    (hp : (n ≤ st.pos ∧ p' = st.pos - n) ∨ (st.len = 0 ∧ st.ctx = 0)) :
    SameView st { st with curr := st.curr - n, pos := p' } s (s.drop n) := by
  refine ⟨rfl, rfl, rfl, by simp only [List.length_drop]; omega, ?_, ?_, fun hne => ?_⟩
  · simp only [List.drop_drop]; rw [show n + (st.curr - n) = st.curr by omega]
  · simp only [List.drop_drop]
    rcases hp with ⟨a, b⟩ | ⟨a, _⟩
    · rw [b, show n + (st.pos - n) = st.pos by omega]
    · rw [a, List.take_zero, List.take_zero]
  · rcases hp with ⟨a, b⟩ | ⟨_, b⟩
    · simp only; omega
    · exact absurd b hne

theorem SameView.prepend (st : DecState) (s pre : List Byte) (hcl : st.curr ≤ s.length) :
    SameView st { ctx := st.ctx, curr := st.curr + pre.length, pos := st.pos + pre.length, len := st.len, msg := st.msg }
      s (pre ++ s) := by
  refine ⟨rfl, rfl, rfl, by simp only [List.length_append]; omega, ?_, ?_, fun _ => by simp only; omega⟩
  · simp only; rw [Nat.add_comm _ pre.length, List.drop_length_add_append]
  · simp only; rw [Nat.add_comm _ pre.length, List.drop_length_add_append]

theorem split_mid (mid X pre junk : List Byte) (hnz : ∀ x ∈ mid, x ≠ 0) (h : mid ++ X = pre ++ 0 :: junk) :
    ∃ pre', X = pre' ++ 0 :: junk ∧ pre = mid ++ pre' := by
  rcases first_zero_split h with ⟨tl', e1, e2⟩ | ⟨post, e⟩
  · exact ⟨tl', e2, e1⟩
  · exact absurd rfl (hnz 0 (by rw [e]; simp))

theorem zero_split_unique (a b x y : List Byte) (ha : ∀ z ∈ a, z ≠ 0) (hb : ∀ z ∈ b, z ≠ 0)
    (h : a ++ 0 :: x = b ++ 0 :: y) : a = b ∧ x = y := by
  obtain ⟨pre', e1, e2⟩ := split_mid a (0 :: x) b y ha h
  cases pre' with
  | nil => exact ⟨by rw [e2, List.append_nil], by simpa using e1⟩
  | cons p ps =>
    simp only [List.cons_append, List.cons.injEq] at e1
    exact absurd e1.1.symm (hb p (by rw [e2]; simp))

theorem first_zero (l : List Byte) (h : 0 < l.count 0) : ∃ pre junk, l = pre ++ 0 :: junk ∧ ∀ x ∈ pre, x ≠ 0 := by
  obtain ⟨pre, junk, e, hn⟩ := List.eq_append_cons_of_mem (List.count_pos_iff.mp h)
  exact ⟨pre, junk, e, fun x hx h0 => hn (h0 ▸ hx)⟩

theorem slice_split (s : List Byte) (c e : Nat) (hce : c ≤ e) : s.drop c = (s.drop c).take (e - c) ++ s.drop e := by
  have := List.take_append_drop (e - c) (s.drop c)
  rw [List.drop_drop, show c + (e - c) = e by omega] at this
  exact this.symm

theorem slice_nz (s : List Byte) (c e : Nat) (hnz : ∀ i, c ≤ i → i < e → s[i]? ≠ some 0) :
    ∀ x ∈ (s.drop c).take (e - c), x ≠ 0 := by
  intro x hx
  obtain ⟨j, hj, rfl⟩ := List.getElem_of_mem hx
  rw [List.length_take, List.length_drop] at hj
  have := hnz (c + j) (by omega) (by omega)
  intro h0
  apply this
  rw [← h0, List.getElem_take, List.getElem_drop]
  exact List.getElem?_eq_getElem _

theorem Scan.split {s : List Byte} {c : Nat} {o : DecOut} (h : Scan s c o) :
    (o.ret ≠ .val 1 → ∃ mid, s.drop c = mid ++ s.drop o.st.curr ∧ ∀ x ∈ mid, x ≠ 0) ∧
    (o.ret = .val 1 → ∃ pre, s.drop c = pre ++ 0 :: s.drop o.st.curr ∧ ∀ x ∈ pre, x ≠ 0) := by
  have hge := h.ge
  have hle := h.le
  constructor
  · intro hne
    exact ⟨_, slice_split s c o.st.curr hge,
      slice_nz s c o.st.curr (fun i a b => h.nz i a (by simp only [hne, if_false]; omega))⟩
  · intro h1
    obtain ⟨hlt, hz⟩ := h.last h1
    have hl1 : o.st.curr - 1 < s.length := by omega
    -- the last byte consumed is the delimiter
    have e2 : s.drop (o.st.curr - 1) = 0 :: s.drop o.st.curr := by
      rw [List.drop_eq_getElem_cons hl1, show o.st.curr - 1 + 1 = o.st.curr by omega]
      congr 1
      have := List.getElem?_eq_getElem hl1
      rw [hz] at this
      exact (Option.some.inj this).symm
    have e1 := slice_split s c (o.st.curr - 1) (by omega)
    rw [e2] at e1
    exact ⟨_, e1, slice_nz s c (o.st.curr - 1) (fun i a b => h.nz i a (by simp only [h1, if_true]; omega))⟩

end Mpt.Codec
