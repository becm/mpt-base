/-
  Refinement of gnode_after / gnode_before: a detached root `x` is spliced into the sibling list of `p`.
  Both calls have the effect `SpliceEff` on the records (`x` linked in between a predecessor and a successor), so
  one lemma about lists (`real_splice`: `x` placed at index `k`) and one about the store (`SpliceEff.realises`) serve both.
  `after_real` is gnode_after on a bare realised list, as the loops of clone and move call it.
-/
import MptModel.Lemmas.NodesReal
namespace Mpt.Nodes
open Mpt Mpt.Forest

/-- The detached root `x` is linked in at index `k` of a realised sibling list: between the element in front of that
    place (`prevAt`, or the list's predecessor) and the element at it.  Whatever is written besides the list (its
    predecessor, or its parent when `x` comes first) must lie outside the list and outside the tree of `x`. -/
theorem real_splice {s s' : Store} {x : Nat} {n' : Name} {v' : Val} {cs' : Forest} {par : Option Nat}
    (hT : Real s none none [.node x n' v' cs']) (hxT : x ∉ ids cs') :
    ∀ {L : Forest} {prev : Option Nat} {k : Nat},
    Real s par prev L → k ≤ L.length → (ids L).Nodup → (∀ r ∈ ids L, r ≠ x ∧ r ∉ ids cs') →
    (∀ r, prev = some r → r ∉ ids L ∧ r ≠ x ∧ r ∉ ids cs') →
    (prevAt prev L k = none → ∀ r, par = some r → r ∉ ids L ∧ r ≠ x ∧ r ∉ ids cs') →
    SpliceEff s s' x (prevAt prev L k) (headId (L.drop k)) par →
    Real s' par prev (L.insertIdx k (.node x n' v' cs'))
  | L, prev, 0, hL, _, hnd, hd, hpv, hpa, he => by
    -- `x` comes first: the old first element gets `x` as predecessor
    rw [Real_cons] at hT
    simp only [prevAt, ↓reduceIte, List.drop_zero] at he hpa
    rw [List.insertIdx_zero, Real_cons]
    refine ⟨by rw [he x, if_pos rfl, hT.1]; rfl,
      he.frame hT.2.1 hxT (fun r hr => (hpv r hr).2.2) (fun r hr => (hd r (headId_mem hr)).2)
        (fun hn r hr => (hpa hn r hr).2.2),
      hL.set_prev hnd fun r hr => ?_⟩
    rw [he r, if_neg (hd r hr).1, if_neg (fun e => (hpv r e.symm).1 hr)]
    by_cases h : some r = headId L
    · rw [if_pos h, if_pos h]
    · rw [if_neg h, if_neg h, if_neg (fun e => (hpa e.1 r e.2.symm).1 hr)]
  | [], _, k + 1, _, hk, _, _, _, _, _ => by simp at hk
  | (.node i n v cs) :: ts, prev, k + 1, hL, hk, hnd, hd, hpv, hpa, he => by
    -- `x` comes later: the first element is written only if `x` becomes its successor
    obtain ⟨⟨hics, hits⟩, -, ndts, disj⟩ := nodup_ids_cons.1 hnd
    have hd' : ∀ r, (r = i ∨ r ∈ ids cs ∨ r ∈ ids ts) → r ≠ x ∧ r ∉ ids cs' := fun r hr => hd r (by simpa using hr)
    have hpa' : prevAt (some i) ts k = none → ∀ r, par = some r → (r ≠ i ∧ r ∉ ids cs ∧ r ∉ ids ts) ∧ r ≠ x ∧ r ∉ ids cs' :=
      fun e r hr => by simpa [prevAt_succ, Tree.id, not_or, and_assoc] using hpa (by rw [prevAt_succ]; exact e) r hr
    rw [prevAt_succ] at he
    simp only [Tree.id, List.drop_succ_cons] at he
    simp only [List.insertIdx_succ_cons]
    rw [Real_cons] at hL ⊢
    have hk' : k ≤ ts.length := by simpa using hk
    have hq : ∀ r, prevAt (some i) ts k = some r → r = i ∨ r ∈ ids ts := fun r h =>
      (prevAt_cases h).imp_left fun e => (Option.some.inj e).symm
    have hp : ∀ r, headId (ts.drop k) = some r → r ∈ ids ts := fun r h => ids_drop_subset _ _ r (headId_mem h)
    refine ⟨?_, he.frame hL.2.1 (fun h => (hd' x (Or.inr (Or.inl h))).1 rfl)
        (fun r hr h => (hq r hr).elim (fun e => hics (e ▸ h)) (disj r h)) (fun r hr h => disj r h (hp r hr))
        (fun hn r hr => (hpa' hn r hr).1.2.1),
      real_splice hT hxT hL.2.2 hk' ndts (fun r hr => hd' r (Or.inr (Or.inr hr)))
        (fun r hr => by cases hr; exact ⟨hits, hd' i (Or.inl rfl)⟩)
        (fun hn r hr => ⟨(hpa' hn r hr).1.2.2, (hpa' hn r hr).2⟩) he⟩
    cases k with
    | zero => rw [he i, if_neg (hd' i (Or.inl rfl)).1, if_pos (by simp [prevAt]), hL.1]; rfl
    | succ k' =>
      rw [headId_insertIdx_succ ts k' _ (by rintro rfl; simp at hk'),
        he.untouched (hd' i (Or.inl rfl)).1 (fun e => hits (prevAt_succ_mem e.symm)) (fun e => hits (hp i e.symm))
          (fun hn e => (hpa' hn i e.symm).1.1 rfl), hL.1]

theorem SpliceEff.realises {s s' : Store} {p x j k : Nat} {n' : Name} {v' : Val} {cs' l0 L : Forest}
    {rest : List Forest} {par : Option Nat}
    (he : SpliceEff s s' x (prevAt none L k) (headId (L.drop k)) par) (hf : s'.freed = s.freed)
    (hR : Realises s ([.node x n' v' cs'] :: l0 :: rest)) (hat : SibsAt p l0 L j par) (hk : k ≤ L.length) :
    Realises s' (applyAt par (fun L => L.insertIdx k (.node x n' v' cs')) l0 :: rest) := by
  obtain ⟨hT, hl0, hnd0, hndT, hdisj⟩ := hR.detached
  have hxL : ∀ r ∈ ids L, r ≠ x ∧ r ∉ ids cs' := fun r hr => hdisj r (hat.subset r hr)
  have hpar : ∀ r, par = some r → r ∉ ids L ∧ r ≠ x ∧ r ∉ ids cs' := fun r hr =>
    ⟨(hat.par_not_mem hnd0 r hr).1, hdisj r (hat.par_not_mem hnd0 r hr).2⟩
  have hLne : L ≠ [] := by rintro rfl; simpa using hat.idx
  have hq : ∀ r, some r = prevAt none L k → r ∈ ids L := fun r h => prevAt_mem h.symm
  have hp : ∀ r, some r = headId (L.drop k) → r ∈ ids L := fun r h => ids_drop_subset L _ r (headId_mem h.symm)
  have hunch : ∀ i, i ≠ x → i ∉ ids L → some i ≠ par → s'.nodes[i]? = s.nodes[i]? := fun i h1 h2 h3 =>
    he.untouched h1 (fun e => h2 (hq i e)) (fun e => h2 (hp i e)) fun _ => h3
  refine hat.realises (E := [[.node x n' v' cs']]) (E' := []) hR ⟨hf, he.alive fun _ => rfl⟩ (by simp)
    (applyAt_ne_nil hl0.1 (by cases l0 with | nil => exact absurd rfl hl0.1 | cons a as => cases k <;> simp))
    (real_splice (by rw [Real_cons]; exact ⟨hT.1, hT.2, by simp⟩) hndT.1 (hat.real hl0.2) hk (hat.nodup hnd0) hxL
      (by simp) (fun _ => hpar) he)
    (fun q hq' => ?_) (by simpa using ids_insertIdx_perm (.node x n' v' cs') L k hk)
    fun i hi hiL hip => hunch i (fun e => hi (by simp [e])) hiL hip
  -- the parent's first child: `x` if it comes first, else as before
  obtain ⟨qn, hqn, hqc⟩ := hat.par_rec hl0.2 q hq'
  cases k with
  | zero =>
    rw [he q, if_neg (hpar q hq').2.1, if_neg (by simp [prevAt]), if_neg (fun e => (hpar q hq').1 (hp q e)),
      if_pos ⟨by simp [prevAt], hq'.symm⟩]
    rfl
  | succ k' =>
    have hpv : prevAt none L (k' + 1) ≠ none := by
      rw [prevAt_none_eq, if_neg (Nat.succ_ne_zero _), Nat.add_sub_cancel, List.getElem?_eq_getElem (by omega)]
      simp
    rw [he.untouched (hpar q hq').2.1 (fun e => (hpar q hq').1 (hq q e)) (fun e => (hpar q hq').1 (hp q e))
      (fun hn => absurd hn hpv), hqn, headId_insertIdx_succ L k' _ hLne, ← hqc]
    rfl

theorem prevAt_after {p : Nat} {L : Forest} {j : Nat} (hj : idx? p L = some j) : prevAt none L (j + 1) = some p := by
  obtain ⟨tp, htp, hid⟩ := getElem?_of_idx? hj
  rw [prevAt_none_eq, if_neg (Nat.succ_ne_zero _), Nat.add_sub_cancel, htp, ← hid]; rfl

theorem after_eff {s : Store} {L : Forest} {par : Option Nat} {p x j : Nat} {n' : Name} {v' : Val} {cs' : Forest}
    (hL : Real s par none L) (hj : idx? p L = some j) (hT : Real s none none [.node x n' v' cs'])
    (hnd : (ids L ++ ids [.node x n' v' cs']).Nodup) :
    ∃ s', s.gnodeAfter (some p) x = .ok s' ∧ s'.freed = s.freed ∧ s'.nodes.length = s.nodes.length ∧
      SpliceEff s s' x (prevAt none L (j + 1)) (headId (L.drop (j + 1))) par := by
  obtain ⟨hLnd, -, hd⟩ := List.nodup_append.1 hnd
  obtain ⟨tp, htp, hid⟩ := getElem?_of_idx? hj
  have hprec := hL.rec_idx htp
  rw [hid] at hprec
  rw [Real_cons] at hT
  have hnxt : ∀ q, headId (L.drop (j + 1)) = some q → q ∈ ids L := fun q hq => ids_drop_subset L _ q (headId_mem hq)
  rw [prevAt_after hj]
  exact Store.gnodeAfter_eff (s := s) (p := p) (x := x) ⟨hprec, rfl⟩ ⟨hT.1, rfl⟩
    (fun e => hd p (idx?_mem hj) x (by simp) e.symm)
    (fun q hq => (hL.live q (hnxt q hq)).imp fun _ hqn =>
      ⟨hqn, fun e => hd q (hnxt q hq) x (by simp) e, fun e => idx?_not_mem_drop hj hLnd (e ▸ headId_mem hq)⟩)

theorem after_real {s : Store} {L : Forest} {par : Option Nat} {p x j : Nat} {n' : Name} {v' : Val} {cs' : Forest}
    (hL : Real s par none L) (hj : idx? p L = some j) (hT : Real s none none [.node x n' v' cs'])
    (hnd : (ids L ++ ids [.node x n' v' cs']).Nodup) :
    ∃ s', s.gnodeAfter (some p) x = .ok s' ∧ Real s' par none (L.insertIdx (j + 1) (.node x n' v' cs')) ∧
      SameLife s s' ∧ s'.nodes.length = s.nodes.length ∧ ∀ i, i ∉ ids L → i ≠ x → s'.nodes[i]? = s.nodes[i]? := by
  obtain ⟨hLnd, hTnd, hd⟩ := List.nodup_append.1 hnd
  have hxL : ∀ r ∈ ids L, r ≠ x ∧ r ∉ ids cs' := fun r hr =>
    ⟨fun e => hd r hr x (by simp) e, fun h => hd r hr r (by simp [h]) rfl⟩
  have hxT : x ∉ ids cs' := by
    simp only [ids_cons, ids_nil, List.append_nil] at hTnd
    exact (List.nodup_cons.1 hTnd).1
  obtain ⟨s', hs', hfreed, hlen, he⟩ := after_eff hL hj hT hnd
  have hqn : prevAt none L (j + 1) ≠ none := by rw [prevAt_after hj]; simp
  exact ⟨s', hs', real_splice hT hxT hL (idx?_lt hj) hLnd hxL (by simp) (fun hn => absurd hn hqn) he,
    ⟨hfreed, he.alive fun _ => rfl⟩, hlen, fun i hi hix => he.untouched hix (fun e => hi (prevAt_mem e.symm))
      (fun e => hi (ids_drop_subset L _ i (headId_mem e.symm))) fun hn => absurd hn hqn⟩

/-- `mpt_gnode_after(p, x)` with `x` a detached root: `x` becomes the successor of `p` in `p`'s sibling list -/
theorem after_refines {s : Store} {p x j : Nat} {n' : Name} {v' : Val} {cs' l0 L : Forest} {rest : List Forest}
    {par : Option Nat}
    (hR : Realises s ([.node x n' v' cs'] :: l0 :: rest)) (hat : SibsAt p l0 L j par) :
    ∃ s', s.gnodeAfter (some p) x = .ok s' ∧
      Realises s' (applyAt par (fun L => L.insertIdx (j + 1) (.node x n' v' cs')) l0 :: rest) := by
  obtain ⟨hT, hl0, hnd0, hndT, hdisj⟩ := hR.detached
  obtain ⟨s', hs', hfreed, -, he⟩ := after_eff (hat.real hl0.2) hat.idx
    (by rw [Real_cons]; exact ⟨hT.1, hT.2, by simp⟩)
    (List.nodup_append.2 ⟨hat.nodup hnd0, by simpa using List.nodup_cons.2 hndT, fun a ha b hb e => by
      simp only [ids_cons, ids_nil, List.append_nil, List.mem_cons] at hb
      have := hdisj a (hat.subset a ha)
      exact hb.elim (fun h => this.1 (e.trans h)) fun h => this.2 (e ▸ h)⟩)
  exact ⟨s', hs', SpliceEff.realises he hfreed hR hat (idx?_lt hat.idx)⟩

/-- `mpt_gnode_before(p, x)` with `x` a detached root: `x` becomes the predecessor of `p` in `p`'s sibling list -/
theorem before_refines {s : Store} {p x j : Nat} {n' : Name} {v' : Val} {cs' l0 L : Forest} {rest : List Forest}
    {par : Option Nat}
    (hR : Realises s ([.node x n' v' cs'] :: l0 :: rest)) (hat : SibsAt p l0 L j par) :
    ∃ s', s.gnodeBefore (some p) x = .ok s' ∧
      Realises s' (applyAt par (fun L => L.insertIdx j (.node x n' v' cs')) l0 :: rest) := by
  obtain ⟨hT, hl0, hnd0, -, hdisj⟩ := hR.detached
  have hLr := hat.real hl0.2
  have hLnd := hat.nodup hnd0
  have hpL : p ∈ ids L := idx?_mem hat.idx
  obtain ⟨tp, htp, hid⟩ := getElem?_of_idx? hat.idx
  have hprec := hLr.rec_idx htp
  rw [hid] at hprec
  obtain ⟨s', hs', hfreed, -, he⟩ := Store.gnodeBefore_eff (s := s) (p := p) (x := x) ⟨hprec, rfl⟩ ⟨hT.1, rfl⟩
    (fun e => (hdisj p (hat.subset p hpL)).1 e.symm)
    (by
      intro q hq
      have hqL : q ∈ ids L := prevAt_mem hq
      obtain ⟨qn, hqn⟩ := hLr.live q hqL
      exact ⟨qn, hqn, (hdisj q (hat.subset q hqL)).1, fun e => prevAt_ne hat.idx hLnd (by simp) (e ▸ hq)⟩)
    (by
      intro _ r hr
      obtain ⟨hrL, hrl0⟩ := hat.par_not_mem hnd0 r hr
      obtain ⟨rn, hrn⟩ := hl0.2.live r hrl0
      exact ⟨rn, hrn, (hdisj r hrl0).1, fun e => hrL (e ▸ hpL)⟩)
  have hp : headId (L.drop j) = some p := by rw [headId_drop, htp, ← hid]; rfl
  exact ⟨s', hs', SpliceEff.realises (hp ▸ he) hfreed hR hat (Nat.le_of_lt (idx?_lt hat.idx))⟩

end Mpt.Nodes
