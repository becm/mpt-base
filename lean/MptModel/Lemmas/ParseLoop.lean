/-
  Facts about the element loop of `mpt_parse_config` (`Parse.loop`).  Its equations: `loop_step` for one known
  element, `loop_stop` for the end (what a proof about a concrete text uses).  For every input, by induction along
  its own recursion (`loop_induction`) and as bounds, not as values: input consumption and the return code for any
  handler; for the recording handler the number of recorded events, their nesting when the run ends with a code ≥ 0,
  the run that refuses a call against the one that accepts all; the name length limit of `mpt_node_append`
  (`nodeName_last`).
  Code 0 ("end of input, nothing more to deliver") comes from an element function (`Elem`), which produces it
  only where the source returned the regular end marker -2: a source that reports a read error (-1, or any
  other end marker) cannot make `mpt_parse_config` return success.
-/
import MptModel.Impl.ParseConfig

namespace Mpt.Parse
open Mpt.Events

theorem loop_pos {α : Type} (k : Kind) (cfg : Cfg) (save : Handler α) (ctx : α) (prev : Nat) (s : St) (src : Src)
    (h : 0 < (next k cfg prev s src).1) :
    loop k cfg save ctx prev s src =
      match save ctx (next k cfg prev s src).2.1 prev (next k cfg prev s src).1 with
      | none => { code := -128, ctx := ctx, st := (next k cfg prev s src).2.1, prev := prev,
                  src := (next k cfg prev s src).2.2 }
      | some ctx1 =>
        match afterSave (next k cfg prev s src).1 (next k cfg prev s src).2.1.path with
        | .error _ => { code := Err.MissingData.code, ctx := ctx1, st := (next k cfg prev s src).2.1,
                        prev := prev, src := (next k cfg prev s src).2.2 }
        | .ok p => loop k cfg save ctx1 (next k cfg prev s src).2.1.curr
                    { (next k cfg prev s src).2.1 with path := p, curr := 0, valid := 0 }
                    (next k cfg prev s src).2.2 := by
  rw [loop]
  simp only [h, ↓reduceDIte]
  rfl

theorem loop_nonpos {α : Type} (k : Kind) (cfg : Cfg) (save : Handler α) (ctx : α) (prev : Nat) (s : St)
    (src : Src) (h : ¬ 0 < (next k cfg prev s src).1) :
    loop k cfg save ctx prev s src =
      { code := (next k cfg prev s src).1, ctx := ctx, st := (next k cfg prev s src).2.1, prev := prev,
        src := (next k cfg prev s src).2.2 } := by
  rw [loop]
  simp only [h, ↓reduceDIte]

theorem loop_step {α : Type} (k : Kind) (cfg : Cfg) (save : Handler α) (b b1 : α) (prev : Nat) (s s1 : St)
    (src src1 : Src) (code : Int) (p : Path) (heq : next k cfg prev s src = (code, s1, src1)) (hpos : 0 < code)
    (hsave : save b s1 prev code = some b1) (hafter : afterSave code s1.path = .ok p) :
    loop k cfg save b prev s src = loop k cfg save b1 s1.curr { s1 with path := p, curr := 0, valid := 0 } src1 := by
  rw [loop_pos _ _ _ _ _ _ _ (by rw [heq]; exact hpos)]
  simp only [heq, hsave, hafter]

theorem loop_stop {α : Type} (k : Kind) (cfg : Cfg) (save : Handler α) (b : α) (prev : Nat) (s s1 : St) (src src1 : Src)
    (heq : next k cfg prev s src = (0, s1, src1)) :
    loop k cfg save b prev s src = { code := 0, ctx := b, st := s1, prev := prev, src := src1 } := by
  rw [loop_nonpos _ _ _ _ _ _ _ (by rw [heq]; exact Int.lt_irrefl 0), heq]

/-- invariant rule: a property `P` of loop states that is kept by every accepted element gives `Q` for the
    result, if `Q` holds at the three exits (end or error, handler refusal, failed path element removal) -/
theorem loop_induction {α : Type} (k : Kind) (cfg : Cfg) (save : Handler α)
    (P : α → Nat → St → Src → Prop) (Q : Result α → Prop)
    (hstop : ∀ ctx prev s src, P ctx prev s src → ¬ 0 < (next k cfg prev s src).1 →
      Q { code := (next k cfg prev s src).1, ctx := ctx, st := (next k cfg prev s src).2.1, prev := prev,
          src := (next k cfg prev s src).2.2 })
    (hrefuse : ∀ ctx prev s src, P ctx prev s src → 0 < (next k cfg prev s src).1 →
      save ctx (next k cfg prev s src).2.1 prev (next k cfg prev s src).1 = none →
      Q { code := -128, ctx := ctx, st := (next k cfg prev s src).2.1, prev := prev,
          src := (next k cfg prev s src).2.2 })
    (hdel : ∀ ctx prev s src ctx1 e, P ctx prev s src → 0 < (next k cfg prev s src).1 →
      save ctx (next k cfg prev s src).2.1 prev (next k cfg prev s src).1 = some ctx1 →
      afterSave (next k cfg prev s src).1 (next k cfg prev s src).2.1.path = .error e →
      Q { code := Err.MissingData.code, ctx := ctx1, st := (next k cfg prev s src).2.1, prev := prev,
          src := (next k cfg prev s src).2.2 })
    (hstep : ∀ ctx prev s src ctx1 p, P ctx prev s src → 0 < (next k cfg prev s src).1 →
      save ctx (next k cfg prev s src).2.1 prev (next k cfg prev s src).1 = some ctx1 →
      afterSave (next k cfg prev s src).1 (next k cfg prev s src).2.1.path = .ok p →
      P ctx1 (next k cfg prev s src).2.1.curr
        { (next k cfg prev s src).2.1 with path := p, curr := 0, valid := 0 } (next k cfg prev s src).2.2)
    (ctx : α) (prev : Nat) (s : St) (src : Src) (hp : P ctx prev s src) : Q (loop k cfg save ctx prev s src) := by
  fun_induction loop k cfg save ctx prev s src with
  | case1 ctx prev s src h _ _ _ hs => exact hrefuse _ _ _ _ hp h hs
  | case2 ctx prev s src h _ _ _ ctx1 hs e he => exact hdel _ _ _ _ _ _ hp h hs he
  | case3 ctx prev s src h _ _ _ ctx1 hs p he ih => exact ih (hstep _ _ _ _ _ _ hp h hs he)
  | case4 ctx prev s src h => exact hstop _ _ _ _ hp h

theorem loop_reads {α : Type} (k : Kind) (cfg : Cfg) (save : Handler α) (ctx : α) (prev : Nat) (s : St)
    (src : Src) : Reads src (loop k cfg save ctx prev s src).src := by
  refine loop_induction k cfg save (fun _ _ _ src' => Reads src src') (fun r => Reads src r.src)
    ?_ ?_ ?_ ?_ ctx prev s src (Reads.refl _)
  · intro ctx prev s src' hp _; exact hp.trans (next_reads _ _ _ _ _)
  · intro ctx prev s src' hp _ _; exact hp.trans (next_reads _ _ _ _ _)
  · intro ctx prev s src' ctx1 e hp _ _ _; exact hp.trans (next_reads _ _ _ _ _)
  · intro ctx prev s src' ctx1 p hp _ _ _; exact hp.trans (next_reads _ _ _ _ _)

theorem record_some {fa : Option Nat} {evs ctx1 : List Event} {s : St} {prev : Nat} {ret : Int}
    (h : record fa evs s prev ret = some ctx1) : ctx1 = mkEvent ret s :: evs := by
  unfold record at h
  split at h
  · cases h
  · cases h; rfl

/-- `evs` is the accumulator of the recording handler (newest event first): every call costs one unit of `measure` -/
theorem loop_calls (k : Kind) (cfg : Cfg) (fa : Option Nat) (evs : List Event) (prev : Nat) (s : St) (src : Src) :
    (loop k cfg (record fa) evs prev s src).ctx.length ≤ evs.length + measure prev src := by
  refine loop_induction k cfg (record fa)
    (fun evs' prev' _ src' => evs'.length + measure prev' src' ≤ evs.length + measure prev src)
    (fun r => r.ctx.length ≤ evs.length + measure prev src)
    ?_ ?_ ?_ ?_ evs prev s src (Nat.le_refl _)
  · intro ctx prev' s' src' hp _; simp only []; omega
  · intro ctx prev' s' src' hp _ _; simp only []; omega
  · intro ctx prev' s' src' ctx1 e hp h hs _
    have hlt := next_measure k cfg prev' s' src' h
    rw [record_some hs]; simp only [List.length_cons]; omega
  · intro ctx prev' s' src' ctx1 p hp h hs _
    have hlt := next_measure k cfg prev' s' src' h
    rw [record_some hs]; simp only [List.length_cons]; omega

theorem run_append (st : List Name) (es : List Event) (e : Event) :
    Events.run st (es ++ [e]) = (Events.run st es).bind (fun s => Events.step s e) := by
  induction es generalizing st with
  | nil => cases h : Events.step st e <;> simp [Events.run, h]
  | cons x xs ih =>
    simp only [List.cons_append, Events.run]
    cases Events.step st x with
    | none => rfl
    | some s' => exact ih s'

/-- the events recorded so far lead to the committed path elements as stack of open sections -/
def NestInv (evs : List Event) (s : St) : Prop := Events.run [] evs.reverse = some s.path.elems

theorem dropLast_append_singleton {α : Type} (l : List α) (a : α) : (l ++ [a]).dropLast = l := by
  simp

theorem Path.del_elems (p : Path) (h : p.elems ≠ []) :
    ∃ p', p.del = .ok p' ∧ p'.elems = p.elems.dropLast ∧ p'.pending = #[] ∧ p'.keep = false := by
  unfold Path.del
  rw [if_neg (by simpa using h)]
  exact ⟨_, rfl, rfl, rfl, rfl⟩

/-- section end, option, option with data: the last path element goes -/
theorem afterSave_drop {r : Int} (h : r = 2 ∨ r = 3 ∨ r = 7) (p : Path) : afterSave r p = p.del := by
  rcases h with h | h | h <;> subst h <;> rfl

/-- section start, data: only the pending bytes go -/
theorem afterSave_keep {r : Int} (h : r = 1 ∨ r = 4) (p : Path) : afterSave r p = .ok p.invalidate := by
  rcases h with h | h <;> subst h <;> rfl

/-- the event of an accepted element is a legal step from the open sections `st` to the path elements
    the loop goes on with — or the path element removal fails (a section end at top level) -/
theorem nest_step {cfg : Cfg} {st : List Name} {o : Out} (hg : Elem cfg st o) (hpos : 0 < o.1) :
    (∃ e, afterSave o.1 o.2.1.path = .error e) ∨
    (∃ p, afterSave o.1 o.2.1.path = .ok p ∧ Events.step st (mkEvent o.1 o.2.1) = some p.elems) := by
  obtain ⟨ret, s1, src1⟩ := o
  rcases hg with h0 | ⟨h0, _⟩ | ⟨hc, n, he⟩ | ⟨hc, he⟩
  · exact absurd hpos (Int.lt_asymm h0)
  · exact absurd hpos (h0 ▸ Int.lt_irrefl 0)
  · simp only [] at hc he
    rcases hc with hc | hc | hc <;> subst hc <;> right
    · exact ⟨_, afterSave_keep (.inl rfl) _, by simp [mkEvent, Events.step, he]⟩
    · obtain ⟨p', hp', hl, _⟩ := Path.del_elems s1.path (by simp [he])
      exact ⟨p', (afterSave_drop (.inr (.inl rfl)) _).trans hp', by simp [mkEvent, Events.step, he, hl]⟩
    · obtain ⟨p', hp', hl, _⟩ := Path.del_elems s1.path (by simp [he])
      exact ⟨p', (afterSave_drop (.inr (.inr rfl)) _).trans hp', by simp [mkEvent, Events.step, he, hl]⟩
  · simp only [] at hc he
    rcases hc with hc | hc <;> subst hc
    · by_cases hemp : st = []
      · left
        exact ⟨.MissingData, by rw [afterSave_drop (.inl rfl)]; simp [Path.del, he, hemp]⟩
      · right
        obtain ⟨p', hp', hl, _⟩ := Path.del_elems s1.path (he ▸ hemp)
        exact ⟨p', (afterSave_drop (.inl rfl) _).trans hp', by simp [mkEvent, Events.step, he, hl, hemp]⟩
    · exact .inr ⟨_, afterSave_keep (.inr rfl) _, by simp [mkEvent, Events.step, he]⟩

theorem loop_nested (k : Kind) (cfg : Cfg) (fa : Option Nat) (evs : List Event) (prev : Nat) (s : St) (src : Src)
    (hinv : NestInv evs s) (hok : 0 ≤ (loop k cfg (record fa) evs prev s src).code) :
    (Events.run [] (loop k cfg (record fa) evs prev s src).ctx.reverse).isSome = true := by
  revert hok
  refine loop_induction k cfg (record fa) (fun evs' _ s' _ => NestInv evs' s')
    (fun r => 0 ≤ r.code → (Events.run [] r.ctx.reverse).isSome = true)
    ?_ ?_ ?_ ?_ evs prev s src hinv
  · intro ctx prev' s' src' hp _ _
    unfold NestInv at hp; simp only [hp]; rfl
  · intro ctx prev' s' src' _ _ _ hc
    exact absurd (show (0 : Int) ≤ -128 from hc) (by decide)
  · intro ctx prev' s' src' ctx1 e _ _ _ _ hc
    exact absurd (show (0 : Int) ≤ Err.MissingData.code from hc) (by decide)
  · intro ctx prev' s' src' ctx1 p hp h hs ha
    rcases nest_step (next_elem k cfg prev' s' src') h with ⟨e, he⟩ | ⟨p', hp', hr⟩
    · rw [he] at ha; cases ha
    · rw [hp'] at ha; cases ha
      unfold NestInv at hp ⊢
      rw [record_some hs, List.reverse_cons, run_append, hp]
      exact hr


theorem loop_code {α : Type} (k : Kind) (cfg : Cfg) (save : Handler α) (ctx : α) (prev : Nat) (s : St) (src : Src) :
    (loop k cfg save ctx prev s src).code ≤ 0 ∧ ((loop k cfg save ctx prev s src).code = 0 → cfg.eof = -2) := by
  refine loop_induction k cfg save (fun _ _ _ _ => True) (fun r => r.code ≤ 0 ∧ (r.code = 0 → cfg.eof = -2))
    ?_ ?_ ?_ ?_ ctx prev s src trivial
  · intro ctx prev s src _ hn
    exact ⟨by simp only; omega, (next_elem k cfg prev s src).zero⟩
  · intro ctx prev s src _ _ _
    exact ⟨by simp only; decide, fun h => by simp only at h; cases h⟩
  · intro ctx prev s src ctx1 e _ _ _ _
    have : Err.MissingData.code < 0 := Err.code_neg _
    exact ⟨by simp only; omega, fun h => by simp only at h; omega⟩
  · intros; trivial


theorem loop_ctx_suffix (k : Kind) (cfg : Cfg) (fa : Option Nat) (evs : List Event) (prev : Nat) (s : St)
    (src : Src) : ∃ l, (loop k cfg (record fa) evs prev s src).ctx = l ++ evs := by
  refine loop_induction k cfg (record fa) (fun evs' _ _ _ => ∃ l, evs' = l ++ evs)
    (fun r => ∃ l, r.ctx = l ++ evs) ?_ ?_ ?_ ?_ evs prev s src ⟨[], rfl⟩
  · intro ctx _ _ _ hp _; exact hp
  · intro ctx _ _ _ hp _ _; exact hp
  · intro ctx prev' s' src' ctx1 e hp _ hs _
    obtain ⟨l, hl⟩ := hp
    rw [record_some hs, hl]; exact ⟨_ :: l, rfl⟩
  · intro ctx prev' s' src' ctx1 p hp _ hs _
    obtain ⟨l, hl⟩ := hp
    rw [record_some hs, hl]; exact ⟨_ :: l, rfl⟩

theorem record_none (evs : List Event) (s : St) (prev : Nat) (ret : Int) :
    record none evs s prev ret = some (mkEvent ret s :: evs) := rfl

theorem record_refuses_iff {n : Nat} {evs : List Event} {s : St} {prev : Nat} {ret : Int} :
    record (some n) evs s prev ret = none ↔ evs.length = n := by
  unfold record
  by_cases h : evs.length = n
  · simp [h]
  · simp [h]; exact fun e => h e.symm

/-- the handler that refuses its call number `n` (counted from 0) against the handler that accepts
    everything: when the accepting run makes at most `n` calls both runs are the same; otherwise the
    refusing run returns -0x80 with exactly the `n` events delivered before -/
theorem loop_refuse (k : Kind) (cfg : Cfg) (n : Nat) (evs : List Event) (prev : Nat) (s : St) (src : Src)
    (hlen : evs.length ≤ n) :
    ((loop k cfg (record none) evs prev s src).ctx.length ≤ n →
        loop k cfg (record (some n)) evs prev s src = loop k cfg (record none) evs prev s src)
    ∧ (n < (loop k cfg (record none) evs prev s src).ctx.length →
        (loop k cfg (record (some n)) evs prev s src).code = -128
        ∧ (loop k cfg (record (some n)) evs prev s src).ctx.length = n
        ∧ ∃ l, (loop k cfg (record none) evs prev s src).ctx = l ++ (loop k cfg (record (some n)) evs prev s src).ctx) := by
  -- along the refusing run: the accepting run from the current state is still the one from the start
  generalize hA : loop k cfg (record none) evs prev s src = A
  refine loop_induction k cfg (record (some n))
    (fun evs' prev' s' src' => evs'.length ≤ n ∧ loop k cfg (record none) evs' prev' s' src' = A)
    (fun r => (A.ctx.length ≤ n → r = A) ∧
      (n < A.ctx.length → r.code = -128 ∧ r.ctx.length = n ∧ ∃ l, A.ctx = l ++ r.ctx))
    ?_ ?_ ?_ ?_ evs prev s src ⟨hlen, hA⟩
  · intro evs' prev' s' src' ⟨hl, hA⟩ h
    rw [loop_nonpos _ _ _ _ _ _ _ h] at hA
    subst hA
    exact ⟨fun _ => rfl, fun hh => absurd hh (Nat.not_lt.mpr hl)⟩
  · intro evs' prev' s' src' ⟨_, hA⟩ h hs
    have hn := record_refuses_iff.mp hs
    rw [loop_pos _ _ _ _ _ _ _ h, record_none] at hA
    simp only [] at hA
    have hsuf : ∃ l, A.ctx = l ++ evs' ∧ 0 < l.length := by
      subst hA
      split
      · exact ⟨[_], rfl, Nat.one_pos⟩
      · exact (loop_ctx_suffix k cfg none _ _ _ _).elim fun l hl => ⟨l ++ [_], hl.trans (List.append_cons ..), by simp⟩
    obtain ⟨l, hl, hpos⟩ := hsuf
    refine ⟨fun hh => ?_, fun _ => ⟨rfl, hn, l, hl⟩⟩
    rw [hl, List.length_append] at hh; omega
  · intro evs' prev' s' src' ctx1 e ⟨hl, hA⟩ h hs he
    have hn : evs'.length ≠ n := fun hn => by rw [record_refuses_iff.mpr hn] at hs; cases hs
    rw [loop_pos _ _ _ _ _ _ _ h, record_none] at hA
    simp only [he] at hA
    subst hA
    rw [record_some hs]
    exact ⟨fun _ => rfl, fun hh => by simp only [List.length_cons] at hh; omega⟩
  · intro evs' prev' s' src' ctx1 p ⟨hl, hA⟩ h hs he
    have hn : evs'.length ≠ n := fun hn => by rw [record_refuses_iff.mpr hn] at hs; cases hs
    rw [loop_pos _ _ _ _ _ _ _ h, record_none] at hA
    simp only [he] at hA
    rw [record_some hs]
    exact ⟨by simp only [List.length_cons]; omega, hA⟩


theorem nodeName_last {p : Path} {n : List UInt8} (h : p.elems.getLast? = some n) :
    nodeName p = if n.length + 1 > 65535 then none else some n := by
  unfold nodeName; rw [h]

end Mpt.Parse
