/-
  Heaps of buffers with constructor/destructor element types: structural invariant `InvM`, the tokens stored in the live
  buffers, the token invariant in pointwise form (`TokP`) and as a duplicate-free list (`tokP_iff`), and `stored_pair`:
  what two states store, up to order, when they differ in two buffers.
-/
import MptModel.Lemmas.HeapElem
namespace Mpt.Heap

/-- element traits with constructor and destructor, elements of at least four bytes (they hold a token) -/
def Managed (t : Traits) : Prop := t.init = true ∧ t.fini.isSome = true ∧ 4 ≤ t.size

/-- a buffer of whole managed elements inside its allocation -/
def GoodBuf (x : Buf) : Prop := ∃ t, x.traits = some t ∧ Managed t ∧ x.used ≤ x.size ∧ x.used % t.size = 0

/-- structural invariant of a heap of managed buffers; field for field `Refs GoodBuf` (`InvM.refs`) -/
structure InvM (s : State) : Prop where
  live : ∀ h b, s.handle h = some b → ∃ x, s.buf? b = some x
  ref : ∀ b x, s.buf? b = some x → x.ref = s.hs.count (some b) ∧ 1 ≤ x.ref
  good : ∀ b x, s.buf? b = some x → GoodBuf x

def bufToks : Option Buf → List Nat
  | some x => x.toks
  | none => []

theorem mem_bufToks {y : Option Buf} {t : Nat} : t ∈ bufToks y ↔ ∃ x, y = some x ∧ t ∈ x.toks := by
  cases y <;> simp [bufToks]

/-- the tokens in the element slots `[0, used)` of all live buffers, in buffer order -/
def stored (s : State) : List Nat := (List.range s.bufs.length).flatMap fun c => bufToks (s.buf? c)

theorem mem_stored {s : State} {t : Nat} : t ∈ stored s ↔ ∃ c x, s.buf? c = some x ∧ t ∈ x.toks := by
  unfold stored
  rw [List.mem_flatMap]
  constructor
  · rintro ⟨c, _, hc⟩
    cases hx : s.buf? c with
    | none => rw [hx] at hc; cases hc
    | some x => rw [hx] at hc; exact ⟨c, x, hx, hc⟩
  · rintro ⟨c, x, hx, ht⟩
    exact ⟨c, List.mem_range.mpr (State.buf?_lt hx), by rw [hx]; exact ht⟩

structure TokP (s : State) : Prop where
  nodup : ∀ c x, s.buf? c = some x → x.toks.Nodup
  fresh : ∀ c x, s.buf? c = some x → ∀ t ∈ x.toks, t < s.next
  disj : ∀ c1 c2 x1 x2, c1 ≠ c2 → s.buf? c1 = some x1 → s.buf? c2 = some x2 → ∀ t, t ∈ x1.toks → t ∉ x2.toks

theorem nodup_flatMap_range_iff (n : Nat) (f : Nat → List Nat) :
    ((List.range n).flatMap f).Nodup ↔
      (∀ c, c < n → (f c).Nodup) ∧ ∀ c1 c2, c1 < c2 → c2 < n → ∀ t, t ∈ f c1 → t ∉ f c2 := by
  rw [List.Nodup, List.pairwise_flatMap, List.pairwise_iff_getElem]
  simp only [List.mem_range, List.length_range, List.getElem_range]
  exact and_congr_right fun _ => ⟨fun h c1 c2 lt l2 t h1 h2 => h c1 c2 (by omega) l2 lt t h1 t h2 rfl,
    fun h i j _ hj lt x hx y hy e => h i j lt hj x hx (e ▸ hy)⟩

theorem tokP_iff {s : State} : TokP s ↔ (stored s).Nodup ∧ ∀ t ∈ stored s, t < s.next := by
  rw [stored, nodup_flatMap_range_iff]
  constructor
  · intro tp
    refine ⟨⟨fun c _ => ?_, fun c1 c2 lt _ t h1 h2 => ?_⟩, fun t ht => ?_⟩
    · cases hx : s.buf? c with
      | none => exact List.nodup_nil
      | some x => exact tp.nodup c x hx
    · obtain ⟨x1, e1, m1⟩ := mem_bufToks.mp h1
      obtain ⟨x2, e2, m2⟩ := mem_bufToks.mp h2
      exact tp.disj c1 c2 x1 x2 (Nat.ne_of_lt lt) e1 e2 t m1 m2
    · obtain ⟨c, x, hx, hm⟩ := mem_stored.mp ht
      exact tp.fresh c x hx t hm
  · rintro ⟨⟨n1, n2⟩, fr⟩
    refine ⟨fun c x hx => by have := n1 c (State.buf?_lt hx); rwa [hx] at this,
      fun c x hx t ht => fr t (mem_stored.mpr ⟨c, x, hx, ht⟩), fun c1 c2 x1 x2 ne h1 h2 t ht ht2 => ?_⟩
    rcases Nat.lt_or_gt_of_ne ne with lt | gt
    · exact n2 c1 c2 lt (State.buf?_lt h2) t (by rw [h1]; exact ht) (by rw [h2]; exact ht2)
    · exact n2 c2 c1 gt (State.buf?_lt h1) t (by rw [h2]; exact ht2) (by rw [h1]; exact ht)

theorem flatMap_congr {l : List Nat} {f g : Nat → List Nat} (h : ∀ c ∈ l, f c = g c) : l.flatMap f = l.flatMap g := by
  rw [List.flatMap_def, List.flatMap_def, List.map_congr_left h]

theorem flatMap_range_pull (f : Nat → List Nat) (b : Nat) : ∀ n, b < n →
    ((List.range n).flatMap f).Perm (f b ++ (List.range n).flatMap fun c => if c = b then [] else f c) := by
  intro n
  induction n with
  | zero => intro h; omega
  | succ n ih =>
    intro h
    rw [List.range_succ, List.flatMap_append, List.flatMap_append]
    simp only [List.flatMap_cons, List.flatMap_nil, List.append_nil]
    by_cases e : b = n
    · subst e
      rw [if_pos rfl, List.append_nil]
      have : ((List.range b).flatMap fun c => if c = b then [] else f c) = (List.range b).flatMap f :=
        flatMap_congr fun c hc => if_neg (Nat.ne_of_lt (List.mem_range.mp hc))
      rw [this]
      exact List.perm_append_comm
    · rw [if_neg (Ne.symm e), ← List.append_assoc]
      exact (ih (by omega)).append_right _

theorem stored_range (s : State) (k : Nat) :
    ((List.range (s.bufs.length + k)).flatMap fun c => bufToks (s.buf? c)) = stored s := by
  induction k with
  | zero => rfl
  | succ k ih =>
    rw [← Nat.add_assoc, List.range_succ, List.flatMap_append, ih]
    simp [bufToks, State.buf?_ge_length s _ (Nat.le_add_right _ k)]

theorem stored_pair {s s' : State} {b nb : Nat} (ne : b ≠ nb)
    (other : ∀ c, c ≠ b → c ≠ nb → bufToks (s'.buf? c) = bufToks (s.buf? c)) :
    ∃ R, (stored s).Perm (bufToks (s.buf? b) ++ bufToks (s.buf? nb) ++ R) ∧
      (stored s').Perm (bufToks (s'.buf? b) ++ bufToks (s'.buf? nb) ++ R) := by
  -- one bound `N` beyond both tables and both indices
  have pull : ∀ (st : State) (N : Nat), st.bufs.length ≤ N → b < N → nb < N →
      (stored st).Perm (bufToks (st.buf? b) ++ bufToks (st.buf? nb) ++
        (List.range N).flatMap fun c => if c = nb then [] else if c = b then [] else bufToks (st.buf? c)) := by
    intro st N h1 h2 h3
    obtain ⟨k, rfl⟩ := Nat.exists_eq_add_of_le h1
    rw [← stored_range st k, List.append_assoc]
    refine (flatMap_range_pull _ b _ h2).trans (List.Perm.append_left _ ?_)
    have := flatMap_range_pull (fun c => if c = b then [] else bufToks (st.buf? c)) nb _ h3
    rwa [if_neg (Ne.symm ne)] at this
  let N := s.bufs.length + s'.bufs.length + b + nb + 1
  refine ⟨_, pull s N (by omega) (by omega) (by omega), ?_⟩
  have e : ((List.range N).flatMap fun c => if c = nb then [] else if c = b then [] else bufToks (s.buf? c)) =
      (List.range N).flatMap fun c => if c = nb then [] else if c = b then [] else bufToks (s'.buf? c) :=
    flatMap_congr fun c _ => by
      by_cases c2 : c = nb
      · rw [if_pos c2, if_pos c2]
      · by_cases c1 : c = b
        · rw [if_neg c2, if_neg c2, if_pos c1, if_pos c1]
        · rw [if_neg c2, if_neg c2, if_neg c1, if_neg c1, other c c1 c2]
  rw [e]
  exact pull s' N (by omega) (by omega) (by omega)

theorem TokP.transfer {s s' : State} (tp : TokP s) (nb : Nat) (hn : s.next ≤ s'.next)
    (old : ∀ c y, c ≠ nb → s'.buf? c = some y → ∃ y0, s.buf? c = some y0 ∧ y.toks = y0.toks)
    (new : ∀ z, s'.buf? nb = some z → z.toks.Nodup ∧ (∀ t ∈ z.toks, t < s'.next) ∧
      ∀ c y, c ≠ nb → s'.buf? c = some y → ∀ t, t ∈ z.toks → t ∉ y.toks) : TokP s' := by
  refine ⟨?_, ?_, ?_⟩
  · intro c y hy
    by_cases e : c = nb
    · subst e; exact (new y hy).1
    · obtain ⟨y0, h0, te⟩ := old c y e hy
      rw [te]; exact tp.nodup c y0 h0
  · intro c y hy t ht
    by_cases e : c = nb
    · subst e; exact (new y hy).2.1 t ht
    · obtain ⟨y0, h0, te⟩ := old c y e hy
      rw [te] at ht
      have := tp.fresh c y0 h0 t ht; omega
  · intro c1 c2 x1 x2 ne h1 h2 t t1 t2
    by_cases e1 : c1 = nb
    · subst e1
      exact (new x1 h1).2.2 c2 x2 (fun e => ne e.symm) h2 t t1 t2
    · by_cases e2 : c2 = nb
      · subst e2
        exact (new x2 h2).2.2 c1 x1 e1 h1 t t2 t1
      · obtain ⟨y1, g1, te1⟩ := old c1 x1 e1 h1
        obtain ⟨y2, g2, te2⟩ := old c2 x2 e2 h2
        rw [te1] at t1; rw [te2] at t2
        exact tp.disj c1 c2 y1 y2 ne g1 g2 t t1 t2

theorem TokP.same {s s' : State} (tp : TokP s) (hn : s.next ≤ s'.next)
    (old : ∀ c y, s'.buf? c = some y → ∃ y0, s.buf? c = some y0 ∧ y.toks = y0.toks) : TokP s' := by
  -- `transfer` with its new buffer at an index where no buffer is: only the clause for the old buffers is left
  refine tp.transfer s'.bufs.length hn (fun c y _ hy => old c y hy) ?_
  intro z hz
  have := State.buf?_lt hz
  omega

/-! ### structural invariant: `InvM` is the reference graph `Refs` of `Lemmas/Heap.lean` over `GoodBuf`
  (a structure of its own, the one the statements of Props/C05 speak of; the lemmas are those of `Refs`) -/

theorem InvM.refs {s : State} (i : InvM s) : Refs GoodBuf s := ⟨i.live, i.ref, i.good⟩
theorem Refs.invM {s : State} (g : Refs GoodBuf s) : InvM s := ⟨g.live, g.ref, g.good⟩

theorem InvM.unique {s : State} (inv : InvM s) {h h' b : Nat} {x : Buf} (hb : s.buf? b = some x) (hr : x.ref = 1)
    (hh : s.handle h = some b) (hh' : s.handle h' = some b) : h' = h :=
  inv.refs.unique hb hr hh hh'

theorem InvM.setBuf {s s' : State} (inv : InvM s) {b : Nat} {x x' : Buf} (hb : s.buf? b = some x)
    (fr : Frame s s' b) (hb' : s'.buf? b = some x') (r' : x'.ref = x.ref) (g' : GoodBuf x') : InvM s' :=
  (inv.refs.setBuf hb fr.hs fr.other hb' r' g').invM

theorem InvM.congr {s s' : State} (inv : InvM s) (hbuf : ∀ c, s'.buf? c = s.buf? c) (hhs : s'.hs = s.hs) : InvM s' :=
  (inv.refs.congr hbuf hhs).invM

theorem InvM.move {s s' : State} (inv : InvM s) {h : Nat} (hlt : h < s.hs.length) (new : Option Nat)
    (hne : s.handle h ≠ new) (hhs : s'.hs = s.hs.set h new)
    (hnew : ∀ a, new = some a → ∃ z, s'.buf? a = some z ∧ z.ref = s.hs.count (some a) + 1 ∧ GoodBuf z)
    (hold : ∀ c, new ≠ some c → s'.buf? c = if s.handle h = some c then dropRef s c else s.buf? c) :
    InvM s' ∧ s'.handle h = new := by
  obtain ⟨g, hh, _⟩ := inv.refs.move (fun _ _ p => p) hlt new hne hhs hnew hold
  exact ⟨g.invM, by rw [hh, if_pos rfl]⟩

theorem InvM.retarget {s s' : State} (inv : InvM s) {h nb : Nat} {z : Buf}
    (hlt : h < s.hs.length) (hnb : s.buf? nb = none) (hhs : s'.hs = s.hs.set h (some nb))
    (hbuf : ∀ c, s'.buf? c = if c = nb then some z else if s.handle h = some c then dropRef s c else s.buf? c)
    (zr : z.ref = 1) (zg : GoodBuf z) : InvM s' ∧ s'.handle h = some nb :=
  inv.move hlt (some nb) (inv.refs.no_handle_of_dead hnb h) hhs
    (fun a e => by
      cases e
      exact ⟨z, by rw [hbuf, if_pos rfl], by rw [inv.refs.count_dead hnb, zr], zg⟩)
    (fun c n1 => by rw [hbuf, if_neg (fun e => n1 (by rw [e]))])

theorem InvM.reassign {s s' : State} (inv : InvM s) {h : Nat} (hlt : h < s.hs.length) (new : Option Nat)
    (hnew : ∀ a, new = some a → ∃ x, s.buf? a = some x)
    (hne : s.handle h ≠ new)
    (hhs : s'.hs = s.hs.set h new)
    (hbuf : ∀ c, s'.buf? c =
      if new = some c then (s.buf? c).map (fun x => { x with ref := x.ref + 1 })
      else if s.handle h = some c then
        (match s.buf? c with
         | some x => if x.ref = 1 then none else some { x with ref := x.ref - 1 }
         | none => none)
      else s.buf? c) : InvM s' :=
  (inv.move hlt new hne hhs
    (fun a e => by
      obtain ⟨x, hx⟩ := hnew a e
      exact ⟨{ x with ref := x.ref + 1 }, by rw [hbuf, if_pos e, hx]; rfl, congrArg (· + 1) (inv.ref a x hx).1, inv.good a x hx⟩)
    (fun c n1 => by rw [hbuf, if_neg n1]; rfl)).1

end Mpt.Heap
