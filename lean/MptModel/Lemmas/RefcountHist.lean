/-
  C15 lemmas: "never later" as a relation between states that every operation respects (`Mono`),
  and the call counters (`ev`) of `addref`, `unref` and an assignment.
-/
import MptModel.Lemmas.Refcount

namespace Mpt.Refcount

/-- `s'` comes after `s`: no object disappears, a destroyed object stays destroyed, and an object that had a
    positive counter in `s` and has counter 0 in `s'` IS destroyed -/
def Mono (s s' : St) : Prop :=
  s.objs.length ≤ s'.objs.length ∧
  ∀ x, x < s.objs.length →
    ((s.obj x).alive = false → (s'.obj x).alive = false) ∧
    (0 < (s.obj x).count → (s'.obj x).count = 0 → (s'.obj x).alive = false)

theorem Mono.refl (s : St) : Mono s s := by
  refine ⟨Nat.le_refl _, fun x _ => ⟨fun h => h, fun h1 h2 => by omega⟩⟩

theorem Mono.trans {s s1 s2 : St} (a : Mono s s1) (b : Mono s1 s2) : Mono s s2 := by
  refine ⟨Nat.le_trans a.1 b.1, fun x hx => ?_⟩
  have hx1 : x < s1.objs.length := Nat.lt_of_lt_of_le hx a.1
  obtain ⟨a1, a2⟩ := a.2 x hx
  obtain ⟨b1, b2⟩ := b.2 x hx1
  refine ⟨fun h => b1 (a1 h), fun hp hz => ?_⟩
  by_cases h0 : (s1.obj x).count = 0
  · exact b1 (a2 hp h0)
  · exact b2 (by omega) hz

theorem mono_of_same (s s' : St) (hl : s.objs.length ≤ s'.objs.length)
    (h : ∀ x, x < s.objs.length → (s'.obj x).count = (s.obj x).count ∧ (s'.obj x).alive = (s.obj x).alive) : Mono s s' := by
  refine ⟨hl, fun x hx => ?_⟩
  obtain ⟨c, a⟩ := h x hx
  rw [c, a]
  exact ⟨fun h => h, fun h1 h2 => by omega⟩

theorem addref_mono (s : St) (o : Nat) : Mono s (s.addref o).1 := by
  refine ⟨by rw [addref_len]; exact Nat.le_refl _, fun x _ => ?_⟩
  rw [addref_obj]
  split
  · rename_i h
    obtain ⟨rfl, ha⟩ := h
    refine ⟨fun hd => (by rw [ha] at hd; cases hd), fun hp hz => ?_⟩
    exact absurd hz (raise_ne_zero _ (by omega))
  · exact ⟨fun h => h, fun h1 h2 => by omega⟩

theorem unref_mono (s : St) (o : Nat) : Mono s (s.unref o) := by
  refine ⟨by rw [unref_len]; exact Nat.le_refl _, fun x _ => ?_⟩
  rw [unref_obj]
  split
  · rename_i h
    obtain ⟨rfl, ha⟩ := h
    refine ⟨fun hd => (by rw [ha] at hd; cases hd), fun hp hz => ?_⟩
    have hne : (s.obj x).count ≠ 0 := by omega
    have e : (lower (s.obj x).count).2 = (lower (s.obj x).count).1 := by
      unfold lower; simp only [hne, ↓reduceIte]
    simp only [] at hz ⊢
    rw [e, hz]; simp
  · exact ⟨fun h => h, fun h1 h2 => by omega⟩

theorem mono_hnd {s s' : St} (a : Mono s s') (hnd : List (Option Nat)) : Mono s { s' with hnd := hnd } := a

theorem take_mono (s : St) (h o : Nat) : Mono s (s.take h o).1 := by
  unfold St.take; split
  · exact addref_mono s o
  · exact mono_hnd (addref_mono s o) _

theorem copy_mono (s : St) (h g : Nat) : Mono s (s.copy h g).1 := by
  unfold St.copy; split
  · exact Mono.refl s
  · exact take_mono s h _

theorem drop_mono (s : St) (h : Nat) : Mono s (s.drop h) := by
  unfold St.drop; split
  · exact Mono.refl s
  · exact mono_hnd (unref_mono s _) _

theorem retain_mono (s : St) (src : Option Nat) : Mono s (s.retain src).1 := by
  unfold St.retain; split
  · exact Mono.refl s
  · exact addref_mono s _

theorem release_mono (s : St) (old : Option Nat) : Mono s (s.release old) := by
  unfold St.release; split
  · exact Mono.refl s
  · exact unref_mono s _

theorem assignCore_mono (s : St) (h : Nat) (src v : Option Nat) : Mono s (assignCore s h src v) :=
  mono_hnd ((retain_mono s src).trans (release_mono _ _)) _

theorem assignMeta_mono (s : St) (h : Nat) (src : Option Nat) : Mono s (s.assignMeta h src).1 := by
  rw [assignMeta_eq]; split
  · exact retain_mono s src
  · exact assignCore_mono s h src src

theorem assignArr_mono (s : St) (h : Nat) (src : Option Nat) : Mono s (s.assignArr h src).1 := by
  obtain ⟨_, e⟩ | e | ⟨_, e⟩ | ⟨_, n, e⟩ := assignArr_cases s h src <;> rw [e]
  · exact Mono.refl s
  · exact Mono.refl s
  · exact retain_mono s src
  · exact assignCore_mono s h src src

theorem mono_setobj (s : St) (o : Nat) (x : RObj) (hc : x.count = (s.obj o).count) (ha : x.alive = (s.obj o).alive) :
    Mono s { s with objs := s.objs.set o x } := by
  refine mono_of_same s _ (by simp) (fun y _ => ?_)
  rw [obj_set]
  split
  · rename_i h; rw [h.1]; exact ⟨hc, ha⟩
  · exact ⟨rfl, rfl⟩

theorem extAdd_mono (s : St) (o : Nat) : Mono s (s.extAdd o).1 := by
  unfold St.extAdd; split
  · exact (addref_mono s o).trans (mono_setobj _ o _ rfl rfl)
  · exact addref_mono s o

theorem extUnref_mono (s : St) (o : Nat) : Mono s (s.extUnref o) := by
  unfold St.extUnref
  exact (unref_mono s o).trans (mono_setobj _ o _ rfl rfl)

theorem push_mono (s : St) (nb : RObj) (ev : List Ev) : Mono s { s with objs := s.objs ++ [nb], ev := ev } := by
  refine mono_of_same s _ (by simp) (fun y hy => ?_)
  rw [obj_push]
  have : ¬ y = s.objs.length := by omega
  simp only [this, ↓reduceIte, and_self]

theorem relocateWith_mono (s : St) (h o newcap : Nat) (clear : Bool) (els : List Nat) :
    Mono s (s.relocateWith h o newcap clear els) := by
  unfold St.relocateWith
  simp only []
  have a : Mono s (if clear = true then ({ s with objs := s.objs.set o { (s.obj o) with elems := [] } } : St)
      else { s with elog := s.elog ++ els.map ElEv.copy }) := by
    split
    · exact mono_setobj s o _ rfl rfl
    · exact Mono.refl s
  exact mono_hnd ((a.trans (unref_mono _ o)).trans (push_mono _ _ _)) _

theorem detach_mono (s : St) (h len : Nat) : Mono s (s.detach h len).1 := by
  unfold St.detach; split
  · exact Mono.refl s
  · simp only []
    (repeat' split) <;> first | exact Mono.refl s | exact relocateWith_mono _ _ _ _ _ _

theorem reserve_mono (s : St) (h len : Nat) : Mono s (s.reserve h len).1 := by
  unfold St.reserve; split
  · exact mono_hnd (push_mono s _ _) _
  · split
    · exact relocateWith_mono _ _ _ _ _ _
    · exact detach_mono s h len

theorem exec_mono (s : St) (op : Op) : Mono s (s.exec op).1 := by
  unfold St.exec
  split
  · exact Mono.refl s
  · cases op with
    | create k n els => exact push_mono s _ _
    | take h o => exact take_mono s h o
    | copy h g => exact copy_mono s h g
    | drop h => exact drop_mono s h
    | assignMeta h src => exact assignMeta_mono s h src
    | assignArr h src => exact assignArr_mono s h src
    | extAdd o => exact extAdd_mono s o
    | extUnref o => exact extUnref_mono s o
    | detach h len => exact detach_mono s h len
    | reserve h len => exact reserve_mono s h len

theorem run_mono (ops : List Op) (s : St) : Mono s (run s ops) := by
  induction ops generalizing s with
  | nil => exact Mono.refl s
  | cons op ops ih => exact (exec_mono s op).trans (ih _)


theorem addref_ev (s : St) (o x : Nat) (ha : (s.obj o).alive = true) (hl : o < s.ev.length) :
    (s.addref o).1.evOf x = if x = o then { (s.evOf o) with add := (s.evOf o).add + 1 } else s.evOf x := by
  unfold St.addref
  simp only [ha, Bool.not_true, Bool.false_eq_true, ↓reduceIte]
  unfold St.evOf
  simp only [getD_set, hl, and_true]

theorem addref_evlen (s : St) (o : Nat) : (s.addref o).1.ev.length = s.ev.length := by
  unfold St.addref; simp only []; split <;> simp

theorem unref_ev (s : St) (o x : Nat) (ha : (s.obj o).alive = true) (hl : o < s.ev.length) :
    (s.unref o).evOf x =
      if x = o then { (s.evOf o) with unref := (s.evOf o).unref + 1,
                                      destroyed := (s.evOf o).destroyed || decide ((lower (s.obj o).count).2 = 0) }
      else s.evOf x := by
  unfold St.unref
  simp only [ha, Bool.not_true, Bool.false_eq_true, ↓reduceIte]
  by_cases hr : (lower (s.obj o).count).2 = 0
  · simp only [hr, ne_eq, not_true_eq_false, ↓reduceIte, decide_true, Bool.or_true]
    unfold St.evOf
    simp only [getD_set, hl, and_true]
  · simp only [hr, ne_eq, not_false_eq_true, ↓reduceIte, decide_false, Bool.or_false]
    unfold St.evOf
    simp only [getD_set, hl, and_true]

theorem assignCore_ev (s : St) (h n o x : Nat) (hold : s.hnd.getD h none = some o) (hno : n ≠ o)
    (han : (s.obj n).alive = true) (hoa : (s.obj o).alive = true) (hl : s.ev.length = s.objs.length) :
    (assignCore s h (some n) (some n)).evOf x =
      if x = o then { (s.evOf o) with unref := (s.evOf o).unref + 1,
                                      destroyed := (s.evOf o).destroyed || decide ((lower (s.obj o).count).2 = 0) }
      else if x = n then { (s.evOf n) with add := (s.evOf n).add + 1 } else s.evOf x := by
  have e0 : (s.addref n).1.obj o = s.obj o := by
    rw [addref_obj, if_neg (fun hc => hno hc.1.symm)]
  have hcore : (assignCore s h (some n) (some n)).evOf x = ((s.addref n).1.unref o).evOf x := by
    unfold assignCore St.retain St.release; rw [hold]; rfl
  rw [hcore, unref_ev _ o x (by rw [e0]; exact hoa) (by rw [addref_evlen, hl]; exact obj_alive_lt s o hoa), e0]
  split
  · rw [addref_ev s n o han (by rw [hl]; exact obj_alive_lt s n han), if_neg (Ne.symm hno)]
  · rw [addref_ev s n x han (by rw [hl]; exact obj_alive_lt s n han)]

end Mpt.Refcount
