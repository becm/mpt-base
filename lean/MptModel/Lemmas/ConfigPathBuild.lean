/-
  Building a path element by element (mpt_path_addchar / mpt_path_valid / mpt_path_add) and undoing it
  (mpt_path_del), in both modes: `Arr` is a cursor at the start of a buffer that holds exactly its elements; the empty
  path is one (`arr_empty`), `pushElem` of an element that `Fits` and `pathDel` keep it (`pushElem_arr`, `pathDel_arr`),
  and `Arr.toCur` hands an `Arr` to the walks of `ConfigPath`.
-/
import MptModel.Lemmas.ConfigPath
import MptModel.Lemmas.Mem
namespace Mpt.Config
open Mpt Mpt.PathMap


/-- the characters of an element through `mpt_path_addchar` + `mpt_path_valid`: they are appended when the pending ones are
    kept or there are none (otherwise `mpt_path_addchar` overwrites the last pending character) -/
theorem pushChars_arr : ∀ (e : List Byte) (p : Path), p.hasArray = true → p.off + p.len ≤ p.base.length →
    (p.keepPost = true ∨ p.off + p.len = p.base.length) →
    e.foldl pushChar p = { p with base := p.base ++ e, keepPost := p.keepPost || !e.isEmpty }
  | [], p, _, _, _ => by simp
  | c :: cs, p, ha, hle, hk => by
    have h1 : pushChar p c = { p with base := p.base ++ [c], keepPost := true } := by
      have hcond : ¬ (p.off + p.len < p.base.length ∧ (!p.keepPost) = true) := by
        rcases hk with h | h
        · simp [h]
        · omega
      simp only [pushChar, pathAddChar, ha, Bool.not_true, Bool.false_eq_true, ↓reduceIte, hcond, pathValid]
      have : ¬ (p.base ++ [c]).length < p.off + p.len := by simp; omega
      simp only [this, ↓reduceIte]
      simp only [Path.mk.injEq, and_true, true_and, Bool.or_eq_true, decide_eq_true_eq]
      right; simp; omega
    have h2 := pushChars_arr cs { p with base := p.base ++ [c], keepPost := true } ha (by simp; omega) (Or.inl rfl)
    rw [List.foldl_cons, h1, h2]
    simp

/-- a whole element on a path with nothing pending (with storage, or without any stored byte): its characters end up
    behind the used part, then `mpt_path_add` runs on the array (which ignores `keepPost`) -/
theorem pushElem_eq (p : Path) (e : List Byte) (hu : p.off + p.len = p.base.length) (ha : p.hasArray = true ∨ p.base = []) :
    ∃ kp, pushElem p e = pathAddCore { p with base := p.base ++ e, hasArray := true, keepPost := kp } e.length := by
  cases harr : p.hasArray with
  | true =>
    refine ⟨p.keepPost || !e.isEmpty, ?_⟩
    rw [pushElem, pushChars_arr e p harr (by omega) (Or.inr hu)]
    simp [pathAdd, harr]
  | false =>
    have hb : p.base = [] := by simpa [harr] using ha
    have ho : p.off = 0 ∧ p.len = 0 := by rw [hb] at hu; simpa using hu
    cases e with
    | nil => exact ⟨p.keepPost, by simp [pushElem, pathAdd, harr, hb, ho]⟩
    | cons c cs =>
      have h1 : pushChar p c = { p with base := [c], hasArray := true, keepPost := true } := by
        simp [pushChar, pathAddChar, harr, ho, pathValid]
      refine ⟨true, ?_⟩
      rw [pushElem, List.foldl_cons, h1, pushChars_arr cs _ rfl (by simp [ho]) (Or.inl rfl)]
      simp [pathAdd, hb]

/-- the bytes `mpt_path_add` puts behind an element: its tag and the free byte -/
def width (bin : Bool) : Nat := if bin then 2 else 1

theorem width_eq (bin : Bool) (e : List Byte) : width bin = (tag bin e).length + 1 := by
  cases bin <;> simp [tag, width]

/-- the buffer after `mpt_path_add` of the pending bytes `e`: room for the frame, the link over the free byte (if there is
    one), tag and new free byte behind the element -/
def addBytes (p : Path) (e : List Byte) : List Byte :=
  Mem.write
    (if p.off + p.len ≠ 0 then Mem.write (p.base ++ List.replicate (width p.binary) 0) (p.off + p.len - 1) [link p.binary p.sep e]
      else p.base ++ List.replicate (width p.binary) 0)
    (p.off + p.len + e.length) (tag p.binary e ++ [if p.binary then 0 else p.assign])

theorem pathAddCore_eq {p : Path} {e : List Byte} (hu : p.base.length = p.off + p.len + e.length)
    (he : p.base.drop (p.off + p.len) = e) (hf : Fits p.binary p.sep e) :
    pathAddCore p e.length = .ok { p with
      base := addBytes p e
      first := if p.len ≠ 0 then p.first else if p.binary = false ∧ e.length > 255 then 0 else e.length
      len := p.len + e.length + width p.binary, keepPost := false } := by
  have h1 : ¬ p.base.length < p.off + p.len := by omega
  have h2 : p.base.length - (p.off + p.len) = e.length := by omega
  rw [pathAddCore, addBytes]
  cases hb : p.binary with
  | false =>
    have h3 : e.take e.length = e := List.take_length
    have h4 : e.contains p.sep = false := by simpa [Fits, hb] using hf
    have h5 : p.off + p.len + e.length + 1 - p.off = p.len + e.length + 1 := by omega
    simp only [h1, h2, he, h3, h4, h5, ↓reduceIte, Nat.lt_irrefl, Nat.sub_self, Nat.lt_add_one, Bool.false_eq_true, width, tag, link,
      List.replicate, List.nil_append, true_and]
  | true =>
    have h3 : ¬ e.length > 255 := by simpa [Fits, hb] using hf
    have h5 : p.off + p.len + e.length + 2 - p.off = p.len + e.length + 2 := by omega
    simp only [h1, h2, h3, h5, ↓reduceIte, Nat.lt_irrefl, Nat.sub_self, Nat.zero_lt_succ, Nat.sub_zero, width, tag, link,
      List.replicate, List.cons_append, List.nil_append, Bool.true_eq_false, false_and]

/-- an array backed path (or one without storage yet) that holds exactly the elements `es`, nothing pending: a cursor at
    the start of a buffer with nothing else in it -/
structure Arr (bin : Bool) (sep : Byte) (p : Path) (es : List (List Byte)) : Prop extends Cur bin sep p [] es [] where
  arr : p.hasArray = true ∨ p.base = []

theorem Arr.bytes {bin : Bool} {sep : Byte} {p : Path} {es : List (List Byte)} (h : Arr bin sep p es) :
    p.off = 0 ∧ ∃ x, p.base = enc bin sep x es ∧ p.len = p.base.length := by
  obtain ⟨x, hx, hl⟩ := h.body
  have hx' : p.base = enc bin sep x es := by simpa using hx
  exact ⟨h.off, x, hx', by rw [hl, hx']⟩

theorem arr_empty (sep assign : Byte) (bin : Bool) : Arr bin sep (emptyPath sep assign bin) [] :=
  ⟨⟨rfl, rfl, rfl, ⟨0, rfl, rfl⟩, by simp, by simp⟩, Or.inr rfl⟩

/-- the bytes after adding `e` to a path that holds `es`: nothing stored yet, or the free byte behind the last element
    takes the link of `e` -/
theorem addBytes_enc {bin : Bool} {sep : Byte} {p : Path} {es : List (List Byte)} (h : Arr bin sep p es) (e : List Byte) (kp : Bool) :
    addBytes { p with base := p.base ++ e, hasArray := true, keepPost := kp } e =
      enc bin sep (if bin then 0 else p.assign) (es ++ [e]) := by
  obtain ⟨ho, x, hx, hl⟩ := h.bytes
  have hw : (List.replicate (width bin) (0 : Byte)).length = (tag bin e ++ [if bin then 0 else p.assign]).length := by
    simp [width_eq bin e]
  rw [enc_snoc, addBytes]
  simp only [h.hbin, h.hsep]
  by_cases hes : es = []
  · subst hes
    have hb0 : p.base = [] := by simpa using hx
    have hl0 : p.len = 0 := h.len_eq_zero.2 rfl
    simp only [ho, hl0, hb0, ne_eq, not_true_eq_false, ↓reduceIte, List.nil_append, Nat.zero_add, enc_nil]
    rw [← List.append_nil (List.replicate _ _), Mem.write_frame e _ [] _ _ rfl hw]
    simp
  · obtain ⟨D, hD⟩ := enc_last bin sep es hes
    have hb : p.base = D ++ [x] := by rw [hx, hD]
    have hpl : p.off + p.len = D.length + 1 := by simp [ho, hl, hb]
    have e1 : p.base ++ e ++ List.replicate (width bin) 0 = D ++ ([x] ++ (e ++ List.replicate (width bin) 0)) := by simp [hb]
    have e2 : D ++ ([link bin sep e] ++ (e ++ List.replicate (width bin) 0))
        = (D ++ [link bin sep e] ++ e) ++ (List.replicate (width bin) 0 ++ []) := by simp
    simp only [hpl, ne_eq, Nat.add_one_ne_zero, not_false_eq_true, ↓reduceIte, Nat.add_sub_cancel]
    rw [e1, Mem.write_frame _ [x] _ [link bin sep e] _ rfl rfl, e2, Mem.write_frame _ _ [] _ _ (by simp; omega) hw, hD]
    simp

theorem pushElem_arr {bin : Bool} {sep : Byte} {p : Path} {es : List (List Byte)} (h : Arr bin sep p es) (e : List Byte)
    (hf : Fits bin sep e) : ∃ q, pushElem p e = .ok q ∧ Arr bin sep q (es ++ [e]) := by
  obtain ⟨ho, x, hx, hl⟩ := h.bytes
  obtain ⟨kp, hpe⟩ := pushElem_eq p e (by omega) h.arr
  rw [hpe, pathAddCore_eq (p := { p with base := p.base ++ e, hasArray := true, keepPost := kp }) (e := e)
    (by simp; omega) (by simp [ho, hl]) (by simpa [h.hbin, h.hsep] using hf)]
  -- the path after the add is known (`pushElem_eq`, `pathAddCore_eq`) and its bytes are `enc (es ++ [e])`; left are the
  -- length, `first` and `fits` of `Cur`
  have hbase := addBytes_enc h e kp
  refine ⟨_, rfl, ⟨h.hbin, h.hsep, ho, ⟨_, by simpa using hbase, ?_⟩, ?_, ?_⟩, Or.inl rfl⟩
  · show p.len + e.length + width p.binary = _
    rw [enc_snoc, hl, hx, enc_length bin sep x (link bin sep e), h.hbin, width_eq bin e]
    simp; omega
  · show ∀ a ∈ (es ++ [e]).head?, (if p.len ≠ 0 then p.first else if p.binary = false ∧ e.length > 255 then 0 else e.length) = a.length ∨ _
    rw [h.hbin]
    cases es with
    | nil =>
      have hl0 : p.len = 0 := h.len_eq_zero.2 rfl
      cases bin <;> by_cases h255 : e.length > 255 <;> simp [hl0, h255]
    | cons a r =>
      have hne : p.len ≠ 0 := by simp [h.len_eq_zero]
      simpa [hne] using h.first
  · intro a ha
    rcases List.mem_append.1 ha with h' | h'
    · exact h.fits a h'
    · rw [List.mem_singleton.1 h']; exact hf

theorem pushElems_arr {bin : Bool} {sep : Byte} : ∀ (es' : List (List Byte)) {p : Path} {es : List (List Byte)}, Arr bin sep p es →
    (∀ e ∈ es', Fits bin sep e) → ∃ q, pushElems p es' = .ok q ∧ Arr bin sep q (es ++ es')
  | [], p, es, h, _ => ⟨p, rfl, by simpa using h⟩
  | e :: es', p, es, h, hs => by
    obtain ⟨q, hq, hQ⟩ := pushElem_arr h e (hs e (by simp))
    obtain ⟨q', hq', hQ'⟩ := pushElems_arr es' hQ (fun x hx => hs x (by simp [hx]))
    exact ⟨q', by simp only [pushElems, hq, hq'], by simpa using hQ'⟩

theorem build_arr (sep assign : Byte) (bin : Bool) (es : List (List Byte)) (hs : ∀ e ∈ es, Fits bin sep e) :
    ∃ p, pushElems (emptyPath sep assign bin) es = .ok p ∧ Arr bin sep p es := by
  simpa using pushElems_arr es (arr_empty sep assign bin) hs

/-- the loop of `mpt_path_del` is the loop of `mpt_path_last`, entered one step earlier -/
theorem delScan_succ (base : List Byte) (sep : Byte) : ∀ (n idx part : Nat),
    delScan base sep (n + 1) idx part = scanBack base sep n idx part
  | 0, _, _ => by simp [delScan, scanBack]
  | n + 1, idx, part => by
    rw [delScan, scanBack, if_neg (Nat.add_one_ne_zero n)]
    cases base[idx]? with
    | none => rfl
    | some c => simp only [delScan_succ base sep n]

/-- `mpt_path_del` takes the last element off again: the element is found from behind (separator mode: scan for the link;
    binary mode: the tag, checked against the link), the buffer is cut in front of it -/
theorem pathDel_arr {bin : Bool} {sep : Byte} {p : Path} {es : List (List Byte)} {e : List Byte} (h : Arr bin sep p (es ++ [e])) :
    ∃ q, pathDel p = .ok (q, e.length) ∧ Arr bin sep q es := by
  obtain ⟨ho, y, hy, hl⟩ := h.bytes
  rw [enc_snoc] at hy
  have hfe : Fits bin sep e := h.fits e (by simp)
  -- `P`: the elements before `e`, their free byte holding the link of `e`
  have hP := enc_nil_or_last bin sep (link bin sep e) es
  generalize hPe : enc bin sep (link bin sep e) es = P at hy hP
  have hlen : p.len = P.length + e.length + width bin := by
    rw [hl, hy, width_eq bin e]; simp; omega
  have harr : p.hasArray = true := h.arr.resolve_right (by simp [hy])
  have hcut : p.base.take (P.length + p.off) = P := by simp [hy, ho]
  refine ⟨{ p with base := p.base.take (P.length + p.off), len := P.length, first := if P.length = 0 then 0 else p.first, keepPost := false },
    ?_, ⟨h.hbin, h.hsep, ho, ⟨link bin sep e, by simp [hcut, hPe], by rw [hPe]⟩, ?_, fun a ha => h.fits a (by simp [ha])⟩, Or.inl harr⟩
  · have hl0 : ¬ p.len = 0 := by simp [h.len_eq_zero]
    have hfit : ¬ P.length + p.off > p.base.length := by rw [hy, ho]; simp
    cases bin with
    | false =>
      have hbase : p.base = [] ++ P ++ e ++ [y] := by simpa [tag] using hy
      have hscan : delScan p.base sep p.len (p.len + p.off - 2) 0 = .ok (P.length, e.length) := by
        have := scanBack_spec sep p.base [] P e [y] 0 hbase (by simpa [Fits] using hfe)
          (hP.imp (·.2) (fun ⟨D, hD⟩ => ⟨D, by simpa [link] using hD⟩))
        have hlen' : p.len = P.length + e.length + 1 := by simpa [width] using hlen
        rw [hlen', delScan_succ, ho]
        simpa using this
      simp only [pathDel, hl0, ↓reduceIte, h.hbin, Bool.false_eq_true, h.hsep, hscan, harr, hfit]
    | true =>
      have hle : e.length ≤ 255 := by simpa [Fits] using hfe
      have hlen' : p.len = P.length + e.length + 2 := by simpa [width] using hlen
      have hbase : p.base = P ++ e ++ [UInt8.ofNat e.length, y] := by simpa [tag] using hy
      have hidx : p.base[p.len + p.off - 2]? = some (UInt8.ofNat e.length) := by
        rw [hbase, hlen', ho, List.getElem?_append_right (by simp)]
        simp
      have hback : (if P.length + p.off ≠ 0 then (p.base[P.length + p.off - 1]?).map (·.toNat) else some p.first) = some e.length := by
        rcases hP with ⟨hes, hP0⟩ | ⟨D, hD⟩
        · simpa [hP0, ho, hes] using h.first
        · simp [hbase, hD, ho, link, toNat_ofNat_lt (Nat.lt_succ_of_le hle)]
      have hl2 : ¬ p.len < 2 := by omega
      have e1 : ¬ p.len ≤ e.length := by omega
      have e2 : p.len - (e.length + 2) = P.length := by omega
      simp only [pathDel, hl0, ↓reduceIte, h.hbin, hl2, hidx, toNat_ofNat_lt (Nat.lt_succ_of_le hle), e1, e2, hback, ne_eq, not_true_eq_false,
        harr, hfit]
  · intro a ha
    have hne : ¬ P.length = 0 := by
      rcases hP with ⟨hes, _⟩ | ⟨D, hD⟩
      · simp [hes] at ha
      · simp [hD]
    cases es with
    | nil => simp at ha
    | cons b r => simpa [hne] using h.first a (by simpa using ha)

theorem undo_arr (sep assign : Byte) (bin : Bool) (es : List (List Byte)) (e e' : List Byte)
    (hs : ∀ x ∈ es ++ [e], Fits bin sep x) (hs' : Fits bin sep e') :
    ∃ p q r, pushElems (emptyPath sep assign bin) (es ++ [e]) = .ok p ∧ pathDel p = .ok (q, e.length) ∧ Arr bin sep q es ∧
      pushElem q e' = .ok r ∧ Arr bin sep r (es ++ [e']) := by
  obtain ⟨p, h1, h2⟩ := build_arr sep assign bin (es ++ [e]) hs
  obtain ⟨q, hq, hQ⟩ := pathDel_arr h2
  obtain ⟨r, hr, hR⟩ := pushElem_arr hQ e' hs'
  exact ⟨p, q, r, h1, hq, hQ, hr, hR⟩

end Mpt.Config
