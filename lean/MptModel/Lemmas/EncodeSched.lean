/-
  The caller loop `encodeSched` (the shape of every retry loop in the library) against what it has to know of
  an encoder, for arbitrary pieces and growth schedules: it never stores outside the window, never leaves the
  modelled states, a finished run has consumed exactly the pieces, and it finishes as soon as the space
  granted in total suffices.  Nothing here depends on a framing: the instances are the four COBS framings
  (Lemmas/EncodeCobs.lean) and command text (Lemmas/EncodeCommand.lean).
-/
import MptModel.Impl.Encode
namespace Mpt.Codec

/-- What a caller loop has to know of the encoder `c`.  `J st win s`: state and window are consistent, `s`
    records what has been consumed of the message in progress and `msg s` are its bytes (`init s`: nothing yet,
    no finished data either); `ok ch`: a piece the encoder does not refuse; `need st n`: a window of this size
    surely holds `n` more bytes and the end of the message; `Fin s o`: what the terminating call leaves behind;
    `refusal e`: the errors with which a piece that is not `ok` is refused.  A data call lowers the need by what
    it takes (in `push` for any number `m` of bytes still to come in later pieces, which is what lets
    `sched_total` carry `need ≤ win.length + caps.sum` from call to call), and takes what is sure to fit; space is
    asked for only when not even the end is sure to fit.
    `init`, `start`, `need_le` and `ok_ne` are for the retry loop of `mpt_array_push` (Lemmas/ArrayPush.lean) only. -/
structure Contract (c : Codec) (σ : Type) where
  J : EncState → List Byte → σ → Prop
  msg : σ → List Byte
  init : σ → Prop
  ok : List Byte → Prop
  need : EncState → Nat → Nat
  Fin : σ → EncOut → Prop
  refusal : Err → Prop
  start : ∀ {s}, init s → ∀ win, J {} win s
  le : ∀ {st win s}, J st win s → st.done + st.scratch ≤ win.length
  /-- the invariant only looks at the used part of the window (`WInv.congr`, `EncInvM.congr` for the COBS framings) -/
  congr : ∀ {st win win' s}, J st win s → st.done + st.scratch ≤ win'.length →
    win'.take (st.done + st.scratch) = win.take (st.done + st.scratch) → J st win' s
  mono : ∀ st {n m}, n ≤ m → need st n ≤ need st m
  /-- `mpt_array_push` enlarges by 64 bytes, which is enough for one more byte -/
  need_le : ∀ st, need st 1 ≤ st.done + st.scratch + 64
  ok_ne : ∀ {ch : List Byte}, ok ch → ch ≠ []
  ok_drop : ∀ {ch : List Byte} {n : Nat}, ok ch → n < ch.length → ok (ch.drop n)
  push : ∀ {st win s} (ch : List Byte), J st win s →
    (¬ ok ch ∧ ∃ e, encode c st win (some ch) = .err e ∧ e ≠ .MissingBuffer ∧ refusal e) ∨
    (encode c st win (some ch) = .err .MissingBuffer ∧ win.length < need st 0) ∨
    ∃ o s', encode c st win (some ch) = .ok o ∧ o.win.length = win.length ∧ o.ret ≤ ch.length ∧
      J o.st o.win s' ∧ msg s' = msg s ++ ch.take o.ret ∧
      (∀ m, need o.st (ch.length - o.ret + m) ≤ need st (ch.length + m)) ∧
      (∀ k, k ≤ ch.length → need st k ≤ win.length → k ≤ o.ret)
  term : ∀ {st win s}, J st win s →
    (encode c st win none = .err .MissingBuffer ∧ win.length < need st 0) ∨
    ∃ o, encode c st win none = .ok o ∧ o.ret = 0 ∧ Fin s o

namespace Contract
variable {c : Codec} {σ : Type} (K : Contract c σ) (fill : Byte)

theorem grow {st : EncState} {win : List Byte} {s : σ} (ext : List Byte) (h : K.J st win s) : K.J st (win ++ ext) s :=
  K.congr h (by have := K.le h; simp; omega) (List.take_append_of_le_length (K.le h))

/-- partial correctness of a run that started with `s` consumed and `chunks` to go -/
def Sound (s : σ) (chunks : List (List Byte)) : CRes EncOut → Prop
  | .ok o => ∃ s', K.msg s' = K.msg s ++ chunks.flatten ∧ K.Fin s' o
  | .err e => e = .MissingBuffer ∨ K.refusal e
  | _ => False

theorem Sound.of_eq {s s1 : σ} {chunks chunks1 : List (List Byte)} {r : CRes EncOut}
    (h : K.Sound s1 chunks1 r) (he : K.msg s1 ++ chunks1.flatten = K.msg s ++ chunks.flatten) : K.Sound s chunks r := by
  cases r <;> simp only [Sound] at h ⊢
  · rw [← he]; exact h
  · exact h

theorem Sound.safe {s : σ} {chunks : List (List Byte)} {r : CRes EncOut} (h : K.Sound s chunks r) :
    r ≠ .oob ∧ r ≠ .unmodelled ∧ ∀ e, r = .err e → e = .MissingBuffer ∨ K.refusal e := by
  cases r <;> simp_all [Sound]

theorem sched_sound (fuel : Nat) : ∀ (st : EncState) (win : List Byte) (chunks : List (List Byte)) (caps : List Nat) (s : σ),
    K.J st win s → K.Sound s chunks (encodeSched c fill fuel st win chunks caps) := by
  -- one encoder call per unit of fuel: the cases of `K.term` / `K.push`; a growth step keeps `J` (`grow`)
  induction fuel with
  | zero => intro st win chunks caps s _; exact Or.inl rfl
  | succ f ih =>
    intro st win chunks caps s hJ
    cases chunks with
    | nil =>
      simp only [encodeSched]
      rcases K.term hJ with ⟨he, _⟩ | ⟨o, he, _, hfin⟩
      · rw [he]
        cases caps with
        | nil => exact Or.inl rfl
        | cons k caps => exact ih _ _ _ _ _ (K.grow _ hJ)
      · rw [he]; exact ⟨s, by simp, hfin⟩
    | cons ch rest =>
      simp only [encodeSched]
      rcases K.push ch hJ with ⟨_, e, he, hne, hr⟩ | ⟨he, _⟩ | ⟨o, s', he, _, hret, hJ', hmsg, _⟩
      · rw [he]; simp only [hne, if_false]; exact Or.inr hr
      · rw [he]
        cases caps with
        | nil => exact Or.inl rfl
        | cons k caps => exact ih _ _ _ _ _ (K.grow _ hJ)
      · rw [he]
        simp only
        by_cases hall : o.ret = ch.length
        · rw [if_pos hall]
          refine (ih _ _ _ _ _ hJ').of_eq K ?_
          rw [hmsg, hall, List.take_length]; simp
        · rw [if_neg hall]
          cases caps with
          | nil => exact Or.inl rfl
          | cons k caps =>
            refine (ih _ _ _ _ _ (K.grow _ hJ')).of_eq K ?_
            rw [hmsg]; simp [← List.append_assoc (ch.take o.ret), List.take_append_drop]

/-- fuel: one call per piece, one per portion of `caps` (of whatever size, zero included), and the terminating one -/
theorem sched_total (fuel : Nat) : ∀ (st : EncState) (win : List Byte) (chunks : List (List Byte)) (caps : List Nat) (s : σ),
    K.J st win s → (∀ ch ∈ chunks, K.ok ch) → chunks.length + caps.length + 1 ≤ fuel →
    K.need st chunks.flatten.length ≤ win.length + caps.sum →
    ∃ o, encodeSched c fill fuel st win chunks caps = .ok o := by
  induction fuel with
  | zero => intro st win chunks caps s _ _ hf _; omega
  | succ f ih =>
    intro st win chunks caps s hJ hok hf hsp
    cases chunks with
    | nil =>
      simp only [encodeSched]
      simp only [List.flatten_nil, List.length_nil] at hsp
      rcases K.term hJ with ⟨he, hl⟩ | ⟨o, he, _⟩
      · rw [he]
        cases caps with
        | nil => simp only [List.sum_nil, Nat.add_zero] at hsp; omega
        | cons k caps =>
          refine ih _ _ _ _ _ (K.grow _ hJ) hok (by simp at hf ⊢; omega) ?_
          simp only [List.sum_cons, List.length_append, List.length_replicate, List.flatten_nil, List.length_nil] at hsp ⊢
          omega
      · rw [he]; exact ⟨o, rfl⟩
    | cons ch rest =>
      simp only [encodeSched]
      simp only [List.flatten_cons, List.length_append, List.length_cons] at hsp hf
      rcases K.push ch hJ with ⟨hno, _⟩ | ⟨he, hl⟩ | ⟨o, s', he, hlen, hret, hJ', _, htight, hpart⟩
      · exact absurd (hok ch (by simp)) hno
      · rw [he]
        have hmono := K.mono st (Nat.zero_le (ch.length + rest.flatten.length))
        cases caps with
        | nil => simp only [List.sum_nil, Nat.add_zero] at hsp; omega
        | cons k caps =>
          refine ih _ _ _ _ _ (K.grow _ hJ) hok (by simp at hf ⊢; omega) ?_
          simp only [List.sum_cons, List.length_append, List.length_replicate, List.flatten_cons] at hsp ⊢; omega
      · rw [he]
        simp only
        -- what is still to come in later pieces is `rest`
        have htight := htight rest.flatten.length
        by_cases hall : o.ret = ch.length
        · rw [if_pos hall]
          rw [hall, Nat.sub_self, Nat.zero_add] at htight
          exact ih _ _ _ _ _ hJ' (fun c hc => hok c (by simp [hc])) (by omega) (by omega)
        · rw [if_neg hall]
          -- not everything was taken: the window was short of what the piece needs
          have hpart : ¬ K.need st ch.length ≤ win.length := fun h => hall (Nat.le_antisymm hret (hpart _ (Nat.le_refl _) h))
          have hmono := K.mono st (Nat.le_add_right ch.length rest.flatten.length)
          cases caps with
          | nil => simp only [List.sum_nil, Nat.add_zero] at hsp; omega
          | cons k caps =>
            refine ih _ _ _ _ _ (K.grow _ hJ') ?_ (by simp at hf ⊢; omega) ?_
            · intro c hc
              rcases List.mem_cons.mp hc with h | h
              · subst h; exact K.ok_drop (hok ch (by simp)) (by omega)
              · exact hok c (by simp [h])
            · simp only [List.sum_cons, List.length_append, List.length_replicate, List.flatten_cons, List.length_drop] at hsp ⊢
              omega

end Contract

end Mpt.Codec
