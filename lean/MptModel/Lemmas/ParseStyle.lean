/-
  Lines of the reference writer seen by the format functions, the part that does not depend on the style: the
  loops that collect a name (`TakesName`, `SkipsBlank`, `first_step`), the name becoming a path element
  (`commit_name`), the value behind `=` (`nameThenData_line`), the entry of `mpt_parse_format_enc` / `_sep` as
  equations and the end of the text (`next_eof`); and what the tree-level proofs ask of a style — option
  lines (`OptStyle`), nested sections (`NestStyle`), one level of sections (`SectStyle`).
-/
import MptModel.Lemmas.ParseValue

namespace Mpt.Parse
open Mpt.Render

/-- an element function is called at the start of a line: clean path with the open sections `e`, nothing
    valid, insignificant left-over `J` of the previous line in front of the text `txt` -/
structure Ready (e : List (List UInt8)) (s : St) (src : Src) (J txt : List UInt8) : Prop where
  clean : Clean e s.path
  valid : s.valid = 0
  junk : visSkip false J = some false
  src : src.rest = J ++ txt

/-- the state an option line leaves: one more path element `n`, the value is the valid part of the pending bytes -/
def OptRead (e : List (List UInt8)) (n : List UInt8) (ov : Option (List UInt8)) (s' : St) : Prop :=
  ∃ fi', ValRead (e ++ [n]) fi' (Flag.option ||| Flag.name) (valueOf ov) s'

/-- the state a section start leaves: one more path element `n`, nothing kept -/
def SectRead (e : List (List UInt8)) (n : List UInt8) (s' : St) : Prop :=
  ∃ l fi' v' ln', s' = Stt (e ++ [n]) l false fi' v' (Flag.section_ ||| Flag.name) ln'

theorem Ready.nextvis {e : List (List UInt8)} {s : St} {src : Src} {J : List UInt8} {c : UInt8} {tl : List UInt8}
    (hr : Ready e s src J (c :: tl)) {f : Format} (hf : HashOnly f) (hc : visible c = true) :
    ∃ ln src1, nextvis f s src = (some c, { s with line := ln }, src1) ∧ src1.rest = tl :=
  nextvis_skip hf J c tl s src hr.junk hc hr.src

theorem visible_of_nameChar (c : UInt8) (h : nameChar c = true) : visible c = true := by
  have hc := nameChar_facts c h
  simp [visible, hc.ne0, hc.nosp, hc.ne35]

theorem HashOnly.nameChar {f : Format} (hf : HashOnly f) {c : UInt8} (h : nameChar c = true) :
    f.isComment c = false := by
  rw [hf.isComment]; exact beq_false_of_ne (nameChar_facts c h).ne35


/-- on a character of a name the loop saves it and declares everything up to it valid -/
def TakesName {ρ : Type} (step : St → UInt8 → Step St ρ) (cur : Nat) : Prop :=
  ∀ e l k fi v ln c, (k = true ∨ l = []) → nameChar c = true →
    step (Stt e l k fi v cur ln) c = .more (Stt e (l ++ [c]) true fi (l.length + 1) cur ln)

/-- on a blank behind the name the loop only saves it -/
def SkipsBlank {ρ : Type} (step : St → UInt8 → Step St ρ) (cur : Nat) : Prop :=
  ∀ e l fi v ln b, isBlank b = true →
    step (Stt e l true fi v cur ln) b = .more (Stt e (l ++ [b]) true fi v cur ln)

theorem takesName_of_body {ρ : Type} (body : St → UInt8 → Step St ρ) (cur : Nat)
    (h : ∀ s c, s.curr = cur → nameChar c = true → body s c = .more s.markValid) :
    TakesName (fun s c => body (s.save c) c) cur := by
  intro e l k fi v ln c hk hc
  simp only [save_append e l k fi v cur ln c hk (nameChar_facts c hc).ne0 (nameChar_facts c hc).ne10]
  have hne : (l ++ [c]).isEmpty = false := by simp
  rw [h _ c rfl hc, markValid_stt, hne]
  simp

theorem skipsBlank_of_body {ρ : Type} (body : St → UInt8 → Step St ρ) (cur : Nat)
    (h : ∀ s b, s.curr = cur → isBlank b = true → body s b = .more s) :
    SkipsBlank (fun s c => body (s.save c) c) cur := by
  intro e l fi v ln b hb
  simp only [save_append e l true fi v cur ln b (Or.inl rfl) (isBlank_facts b hb).ne0 (isBlank_facts b hb).ne10]
  exact h _ b rfl hb

theorem TakesName.run {ρ : Type} {step : St → UInt8 → Step St ρ} {cur : Nat} (h : TakesName step cur)
    (e : List (List UInt8)) (fi : UInt8) (ln : Nat) :
    ∀ (w l : List UInt8) (k : Bool), w.all nameChar = true → (k = true ∨ (l = [] ∧ w ≠ [])) →
      runSteps step (Stt e l k fi l.length cur ln) w = some (Stt e (l ++ w) true fi (l ++ w).length cur ln) := by
  intro w
  induction w with
  | nil =>
    intro l k _ hk
    rcases hk with rfl | ⟨_, h⟩
    · simp [runSteps]
    · exact absurd rfl h
  | cons c r ih =>
    intro l k hw hk
    simp only [List.all_cons, Bool.and_eq_true] at hw
    simp only [runSteps, h e l k fi l.length ln c (hk.imp_right And.left) hw.1]
    have := ih (l ++ [c]) true hw.2 (Or.inl rfl)
    simpa using this

theorem SkipsBlank.run {ρ : Type} {step : St → UInt8 → Step St ρ} {cur : Nat} (h : SkipsBlank step cur)
    (e : List (List UInt8)) (fi : UInt8) (v ln : Nat) :
    ∀ (bs l : List UInt8), bs.all isBlank = true →
      runSteps step (Stt e l true fi v cur ln) bs = some (Stt e (l ++ bs) true fi v cur ln) := by
  intro bs
  induction bs with
  | nil => intro l _; simp [runSteps]
  | cons b r ih =>
    intro l hb
    simp only [List.all_cons, Bool.and_eq_true] at hb
    simp only [runSteps, h e l fi v ln b hb.1]
    have := ih (l ++ [b]) hb.2
    simpa using this

theorem run_name_blanks {ρ : Type} {step : St → UInt8 → Step St ρ} {cur : Nat} (hn : TakesName step cur)
    (hb : SkipsBlank step cur) (e : List (List UInt8)) (fi : UInt8) (ln : Nat) (w bs l : List UInt8) (k : Bool)
    (hw : w.all nameChar = true) (hbs : bs.all isBlank = true) (hk : k = true ∨ (l = [] ∧ w ≠ [])) :
    runSteps step (Stt e l k fi l.length cur ln) (w ++ bs)
      = some (Stt e (l ++ w ++ bs) true fi (l ++ w).length cur ln) :=
  runSteps_append step _ _ _ w bs (hn.run e fi ln w l k hw hk) (hb.run e fi _ ln bs (l ++ w) hbs)

/-- the loops whose body sees the first character before `scan` takes over: the body leaves at `d` after `cs` -/
theorem first_step {σ ρ : Type} (step : σ → UInt8 → Step σ ρ) (atEnd : σ → ρ) (s s' : σ) (c d : UInt8)
    (cs tl rest : List UInt8) (r : ρ) (src1 : Src) (hsrc : src1.rest = tl) (hcs : c :: tl = cs ++ d :: rest)
    (h1 : runSteps step s cs = some s') (h2 : step s' d = .done r) :
    (step s c = .done r ∧ src1.rest = rest)
      ∨ ∃ s3 src', step s c = .more s3 ∧ scan step atEnd src1 s3 = (r, src') ∧ src'.rest = rest := by
  cases cs with
  | nil =>
    simp only [List.nil_append, List.cons.injEq] at hcs
    obtain ⟨rfl, rfl⟩ := hcs
    simp only [runSteps, Option.some.injEq] at h1; subst h1
    exact Or.inl ⟨h2, hsrc⟩
  | cons c' cs' =>
    simp only [List.cons_append, List.cons.injEq] at hcs
    obtain ⟨rfl, rfl⟩ := hcs
    simp only [runSteps] at h1
    split at h1
    · rename_i s3 hs3
      obtain ⟨src', hscan, hr⟩ := scan_prefix_done step atEnd cs' d rest src1 s3 s' r hsrc h1 h2
      exact Or.inr ⟨s3, src', hs3, hscan, hr⟩
    · cases h1


/-- `ncheck` and `mpt_path_add` on a name that is the valid part of the pending bytes -/
theorem commit_name (e : List (List UInt8)) (n tl : List UInt8) (fi : UInt8) (cur ln flags : Nat) (e1 e2 : Err)
    (hn : n.all nameChar = true) (hnc : ncheck n flags = none) :
    (Stt e (n ++ tl) true fi n.length cur ln).commit flags e1 e2 =
      .ok (Stt (e ++ [n]) (tl.drop 1) false (if e.isEmpty then UInt8.ofNat n.length else fi) n.length cur ln) := by
  have htake : (n ++ tl).take n.length = n := List.take_left' rfl
  have hadd := add_pth e (n ++ tl) true fi n.length (by simp) (by rw [htake]; exact nameOk_nosep n hn)
  rw [htake] at hadd
  unfold St.commit
  simp only [St.name, head_pth, htake, hnc, hadd]
  simp

/-- the name is complete (`=` read): commit it and read the value -/
theorem nameThenData_line (cfg : Cfg) (hdf : DataFmt cfg.fmt)
    (e : List (List UInt8)) (n tl : List UInt8) (fi : UInt8) (ln : Nat) (eAdd : Err)
    (post tr rest : List UInt8) (ov : Option (List UInt8)) (src : Src)
    (hn : n.all nameChar = true) (hnc : ncheck n cfg.opt = none)
    (hpost : post.all isBlank = true) (htr : trailOk tr = true) (hval : OptValOk ov)
    (hsrc : src.rest = post ++ valueText ov ++ tr ++ 10 :: rest) :
    ∃ s' src', nameThenData cfg (Stt e (n ++ tl) true fi n.length (Flag.option ||| Flag.name) ln) src eAdd
        = ((if (valueOf ov).isEmpty then 3 else 7 : Int), s', src')
      ∧ OptRead e n ov s' ∧ src'.rest = rest := by
  obtain ⟨s', src', hpd, hval', hrest⟩ := parseData_value hdf (e ++ [n])
    (if e.isEmpty then UInt8.ofNat n.length else fi) (Flag.option ||| Flag.name) ln post tr rest ov src hpost htr
    hval hsrc
  refine ⟨s', src', ?_, ⟨_, hval'⟩, hrest⟩
  unfold nameThenData
  simp only [commit_name e n tl fi _ ln cfg.opt .BadType eAdd hn hnc, invalidate_pth, hpd]
  cases hv : valueOf ov with
  | nil => rfl
  | cons a r =>
    have h1 : ¬ ((r.length : Int) + 1 < 0) := by omega
    have h2 : ¬ ((r.length : Int) + 1 = 0) := by omega
    simp [Flag.option, Flag.data, h1, h2]


theorem Ready.lead {e : List (List UInt8)} {s : St} {src : Src} {J txt : List UInt8} (dl : LineDecor)
    (hr : Ready e s src J (dl.before ++ dl.indent ++ txt)) (hd : dl.ok = true) :
    Ready e s src (J ++ dl.before ++ dl.indent) txt :=
  ⟨hr.clean, hr.valid, visSkip_lead J dl hr.junk hd, by rw [hr.src]; simp only [List.append_assoc]⟩

theorem optionLine_eq (dl : LineDecor) (n : List UInt8) (v : Option (List UInt8)) (rest : List UInt8) :
    optionLine dl n v ++ rest
      = dl.before ++ dl.indent ++ (n ++ dl.pre ++ 61 :: (dl.post ++ valueText v ++ dl.trail ++ 10 :: rest)) := by
  have : optionLine dl n v
      = dl.before ++ dl.indent ++ n ++ dl.pre ++ [61] ++ dl.post ++ valueText v ++ dl.trail ++ [10] := by
    cases v <;> rfl
  rw [this]
  simp only [List.append_assoc, List.cons_append, List.nil_append]



/-- `mpt_parse_format_enc`, one character for section start and end, not directly behind a section end -/
theorem parseFormatEnc_same (cfg : Cfg) (prev : Nat) (s : St) (src : Src)
    (hse : (cfg.fmt.sstart == cfg.fmt.send) = true) (hp : (prev == Flag.sectEnd) = false) :
    parseFormatEnc cfg prev s src =
      match nextvis cfg.fmt s src with
      | (none, s1, src1) =>
        if cfg.eof != -2 then err .BadArgument { s1 with curr := 0 } src1 else (0, { s1 with curr := 0 }, src1)
      | (some c, s1, src1) =>
        if !s1.path.elems.isEmpty && c == cfg.fmt.sstart then (Flag.sectEnd, { s1 with curr := Flag.sectEnd }, src1)
        else if c != cfg.fmt.sstart then encOption cfg s1 c src1
        else encSection cfg s1 src1 := by
  unfold parseFormatEnc
  simp only [hse, hp, ↓reduceIte, Bool.false_eq_true]
  obtain ⟨_ | c, s1, src1⟩ := nextvis cfg.fmt s src <;> rfl

/-- … directly behind a section end: the name of the next section -/
theorem parseFormatEnc_behind_end (cfg : Cfg) (s : St) (src : Src) (hse : (cfg.fmt.sstart == cfg.fmt.send) = true) :
    parseFormatEnc cfg Flag.sectEnd s src = encSection cfg s src := by
  unfold parseFormatEnc
  simp only [hse, ↓reduceIte, beq_self_eq_true]

/-- `mpt_parse_format_enc`, different characters for section start and end -/
theorem parseFormatEnc_diff (cfg : Cfg) (prev : Nat) (s : St) (src : Src)
    (hse : (cfg.fmt.sstart == cfg.fmt.send) = false) :
    parseFormatEnc cfg prev s src =
      match nextvis cfg.fmt s src with
      | (none, s1, src1) =>
        if ({ s1 with curr := Flag.name } : St).path.elems.isEmpty && cfg.eof == -2 then (0, { s1 with curr := Flag.name }, src1)
        else err .MissingData { s1 with curr := Flag.name } src1
      | (some c, s1, src1) =>
        if !s1.path.elems.isEmpty && cfg.fmt.send != 0 && c == cfg.fmt.send then
          (Flag.sectEnd, { s1 with curr := Flag.sectEnd }, src1)
        else if c != cfg.fmt.sstart then encOption cfg s1 c src1 else encSection cfg s1 src1 := by
  unfold parseFormatEnc
  simp only [hse, ↓reduceIte, Bool.false_eq_true]
  obtain ⟨_ | c, s1, src1⟩ := nextvis cfg.fmt s src <;> rfl

/-- `mpt_parse_format_sep`, not directly behind a section end -/
theorem parseFormatSep_vis (cfg : Cfg) (prev : Nat) (s : St) (src : Src)
    (hp : (prev &&& 0xf == Flag.sectEnd) = false) :
    parseFormatSep cfg prev s src =
      match nextvis cfg.fmt s src with
      | (none, s1, src1) =>
        if cfg.eof == -2 then (0, s1, src1) else err .BadArgument { s1 with curr := Flag.name } src1
      | (some c, s1, src1) =>
        if c != cfg.fmt.sstart then
          if c != cfg.fmt.ostart then
            parseOption cfg ({ s1 with curr := Flag.name, path := s1.path.addchar c }).markValid src1
          else parseOption cfg s1 src1
        else if !s1.path.elems.isEmpty then (Flag.sectEnd, { s1 with curr := Flag.sectEnd }, src1)
        else sepFirst cfg { s1 with curr := Flag.section_ } src1 := by
  unfold parseFormatSep
  simp only [hp, ↓reduceIte, Bool.false_eq_true]
  obtain ⟨_ | c, s1, src1⟩ := nextvis cfg.fmt s src <;> rfl
/-- `mpt_parse_format_sep` directly behind a section end: the name of the next section -/
theorem parseFormatSep_behind_end (cfg : Cfg) (prev : Nat) (s : St) (src : Src)
    (hp : (prev &&& 0xf == Flag.sectEnd) = true) :
    parseFormatSep cfg prev s src = sepFirst cfg { s with curr := Flag.section_ } src := by
  unfold parseFormatSep
  simp only [hp, ↓reduceIte]

/-- where an element function may meet the end of the text and report it (code 0): `mpt_parse_format_pre`,
    `mpt_parse_option` and `mpt_parse_format_enc` with two delimiters outside of sections only; with one delimiter, and
    `mpt_parse_format_sep`, anywhere but directly behind a section end (there the name of a section is due) -/
def AtEnd (k : Kind) (cfg : Cfg) (prev : Nat) (s : St) : Prop :=
  match k with
  | .pre => s.path.elems = []
  | .enc => if cfg.fmt.sstart == cfg.fmt.send then (prev == Flag.sectEnd) = false else s.path.elems = []
  | .sep => (prev &&& 0xf == Flag.sectEnd) = false
  | .opt => s.valid = 0 ∧ s.path.elems = []

/-- **the end of the text**: behind insignificant text (its last line may be an open comment) every element function
    reports the regular end marker as code 0 -/
theorem next_eof {k : Kind} {cfg : Cfg} (hf : HashOnly cfg.fmt) (heof : cfg.eof = -2) (s : St) (src : Src) (prev : Nat)
    (junk : List UInt8) (b : Bool) (ht : AtEnd k cfg prev s) (hj : visSkip false junk = some b)
    (hsrc : src.rest = junk) : ∃ s' src', next k cfg prev s src = (0, s', src') := by
  obtain ⟨ln, src1, hnv, _⟩ := nextvis_end hf junk b s src hj hsrc
  have he1 : (cfg.eof != -2) = false := by rw [heof]; rfl
  have he2 : (cfg.eof == -2) = true := by rw [heof]; rfl
  cases k with
  | pre =>
    have hem : s.path.elems.isEmpty = true := by rw [show s.path.elems = [] from ht]; rfl
    exact ⟨{ s with line := ln }, src1, by simp [next, parseFormatPre, hnv, hem, he1]⟩
  | enc =>
    unfold AtEnd at ht
    by_cases hse : (cfg.fmt.sstart == cfg.fmt.send) = true
    · rw [if_pos hse] at ht
      refine ⟨{ s with line := ln, curr := 0 }, src1, ?_⟩
      simp only [next, parseFormatEnc_same cfg prev s src hse ht, hnv, he1]
      rfl
    · rw [if_neg hse] at ht
      have hem : s.path.elems.isEmpty = true := by rw [ht]; rfl
      refine ⟨{ s with line := ln, curr := Flag.name }, src1, ?_⟩
      simp only [next, parseFormatEnc_diff cfg prev s src (by simpa using hse), hnv, hem, he2]
      rfl
  | sep =>
    refine ⟨{ s with line := ln }, src1, ?_⟩
    simp only [next, parseFormatSep_vis cfg prev s src ht, hnv, he2]
    rfl
  | opt =>
    have hem : s.path.elems.isEmpty = true := by rw [ht.2]; rfl
    refine ⟨{ s with line := ln, curr := Flag.option }, src1, ?_⟩
    simp [next, parseOption, optFirst, ht.1, hnv, hem, he1]


/-- option lines through the element function `next k cfg`, called with a previous-operation code in `P` -/
structure OptStyle (k : Kind) (cfg : Cfg) (P : Nat → Prop) : Prop where
  optLine : ∀ (e : List (List UInt8)) (s : St) (src : Src) (prev : Nat) (junk n pre post tr rest : List UInt8)
    (ov : Option (List UInt8)), P prev →
    Ready e s src junk (n ++ pre ++ 61 :: (post ++ valueText ov ++ tr ++ 10 :: rest)) →
    nameOk n = true → ncheck n cfg.opt = none → pre.all isBlank = true → post.all isBlank = true →
    trailOk tr = true → OptValOk ov →
    ∃ s' src', next k cfg prev s src = ((if (valueOf ov).isEmpty then 3 else 7 : Int), s', src')
      ∧ OptRead e n ov s' ∧ src'.rest = rest

/-- a nested section style: start lines written by `openL`, end lines `}`; any previous-operation code -/
structure NestStyle (k : Kind) (cfg : Cfg) (openL : LineDecor → List UInt8 → List UInt8) : Prop
    extends OptStyle k cfg (fun _ => True) where
  openLine : ∀ (e : List (List UInt8)) (s : St) (src : Src) (prev : Nat) (J : List UInt8) (dl : LineDecor)
    (n rest : List UInt8),
    Ready e s src J (openL dl n ++ rest) → dl.ok = true → nameOk n = true → ncheck n cfg.sect = none →
    ∃ s' src' J', next k cfg prev s src = (1, s', src') ∧ SectRead e n s'
      ∧ visSkip false J' = some false ∧ src'.rest = J' ++ rest
  closeLine : ∀ (e : List (List UInt8)) (m : List UInt8) (s : St) (src : Src) (prev : Nat) (junk rest : List UInt8),
    Ready (e ++ [m]) s src junk (125 :: rest) →
    ∃ s1 src1, next k cfg prev s src = (2, s1, src1) ∧ s1.path.elems = e ++ [m] ∧ s1.curr = Flag.sectEnd
      ∧ src1.rest = rest
  /-- the text ends outside of sections -/
  eof : ∀ (s : St) (src : Src) (prev : Nat) (junk : List UInt8) (b : Bool),
    Clean [] s.path → visSkip false junk = some b → src.rest = junk →
    ∃ s' src', next k cfg prev s src = (0, s', src')

/-- previous-operation codes that occur in front of a line or at the end of the text in a flat style:
    start (1), behind a section header (9), behind an option (11) -/
def PrevOpt (prev : Nat) : Prop := prev = 1 ∨ prev = 9 ∨ prev = 11

/-- none of them is a section end, as `mpt_parse_format_enc` and `mpt_parse_format_sep` test for it -/
theorem PrevOpt.not_end {prev : Nat} (h : PrevOpt prev) :
    (prev == Flag.sectEnd) = false ∧ (prev &&& 0xf == Flag.sectEnd) = false := by
  rcases h with h | h | h <;> subst h <;> decide

/-- a flat section style: header lines `open_ name close`, options below them -/
structure SectStyle (k : Kind) (cfg : Cfg) (open_ close : List UInt8) : Prop extends OptStyle k cfg PrevOpt where
  /-- the header while no section is open: one call -/
  headFirst : ∀ (s : St) (src : Src) (prev : Nat) (junk n tr rest : List UInt8), PrevOpt prev →
    Ready [] s src junk (open_ ++ n ++ close ++ tr ++ 10 :: rest) → nameOk n = true →
    ncheck n cfg.sect = none → headTrailOk tr = true →
    ∃ s' src' J', next k cfg prev s src = (1, s', src') ∧ SectRead [] n s'
      ∧ visSkip false J' = some false ∧ src'.rest = J' ++ rest
  /-- the header while a section is open: the opening character ends that section … -/
  headEnd : ∀ (m : List UInt8) (s : St) (src : Src) (prev : Nat) (junk R : List UInt8), PrevOpt prev →
    Ready [m] s src junk (open_ ++ R) →
    ∃ s1 src1, next k cfg prev s src = (2, s1, src1) ∧ s1.path = s.path ∧ s1.curr = Flag.sectEnd ∧ src1.rest = R
  /-- … and the next call reads the name -/
  headNext : ∀ (s : St) (src : Src) (n tr rest : List UInt8),
    Ready [] s src [] (n ++ close ++ tr ++ 10 :: rest) → nameOk n = true → ncheck n cfg.sect = none →
    headTrailOk tr = true →
    ∃ s' src' J', next k cfg 2 s src = (1, s', src') ∧ SectRead [] n s'
      ∧ visSkip false J' = some false ∧ src'.rest = J' ++ rest
  /-- the text ends, inside a section or outside -/
  eof : ∀ (s : St) (src : Src) (prev : Nat) (junk : List UInt8) (b : Bool), PrevOpt prev →
    visSkip false junk = some b → src.rest = junk →
    ∃ s' src', next k cfg prev s src = (0, s', src')

end Mpt.Parse
