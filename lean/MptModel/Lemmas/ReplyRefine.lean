/-
  C12, requester side: the slot-array model (Requester) simulates the abstract pending-set spec
  (ReplySpec.ReqSt): same handler calls for every message, ids accepted by the spec as fresh.
  The spec state is a function of the model state (`absS`, `rel_iff`), so each refinement is an equation: the spec's
  operation on `absS x` yields the model's calls and `absS` of the model's next state (`deliver_abs` for `process`,
  `deliverAll_abs` for `drain` — there with the input queue emptied —, `awaitReplies_abs` for the loop of `sync`,
  `await_abs` for a new request).  The spec side is evaluated through the `pendingOf_*` lemmas and `deliver_marked`.
-/
import MptModel.Lemmas.ReplyRequester
namespace Mpt.Requester
open Mpt.ReplySpec (ReqSt deliver deliverAll awaitReplies decode unmarkS freshId fits)

/-- the waiting requests as the spec sees them: (id, handler tag) in array order -/
def pendingOf (es : List Slot) : List (Nat × Nat) := (active es).map fun e => (e.id, e.tag.getD 0)

/-- the spec state `sp` is what the requester `x` stands for (`rel_iff`: `sp = absS x`), and the waiting ids are distinct -/
structure Rel (x : St) (sp : ReqSt) : Prop where
  w : sp.w = x.idlen
  pending : sp.pending = pendingOf (x.arr.getD [])
  cur : sp.cur = x.cid
  inq : sp.inq = x.inq
  distinct : Distinct x

/-- a handler call as the spec logs it -/
def callS (c : Call) : Option Nat × List Byte := (c.tag, c.msg.getD [])

theorem pendingOf_find (es : List Slot) (rid : Nat) :
    (pendingOf es).find? (·.1 == rid) = (findActive es rid).map fun t => (rid, t) := by
  rw [findActive_eq]
  unfold pendingOf
  have hact : ∀ e ∈ active es, e.tag.isSome = true := by
    intro e he; exact (List.mem_filter.mp he).2
  generalize active es = l at hact
  induction l with
  | nil => rfl
  | cons e r ih =>
    have he := hact e (List.mem_cons_self ..)
    have ih' := ih (fun x hx => hact x (List.mem_cons_of_mem _ hx))
    by_cases h : (e.id == rid) = true
    · have hid : e.id = rid := by simpa using h
      cases ht : e.tag with
      | none => simp [ht] at he
      | some t => simp [ht, hid]
    · simp only [List.map_cons, List.find?_cons, h]
      simpa using ih'

theorem pendingOf_active (es : List Slot) : pendingOf (active es) = pendingOf es := by
  simp [pendingOf, active_active]

/-- `Rel` without the input queue -/
structure Rel0 (x : St) (sp : ReqSt) : Prop where
  w : sp.w = x.idlen
  pending : sp.pending = pendingOf (x.arr.getD [])
  cur : sp.cur = x.cid
  distinct : Distinct x

theorem Rel.rel0 {x : St} {sp : ReqSt} (h : Rel x sp) : Rel0 x sp := ⟨h.w, h.pending, h.cur, h.distinct⟩

/-- the spec state a requester stands for -/
def absS (x : St) : ReqSt := { w := x.idlen, pending := pendingOf (x.arr.getD []), cur := x.cid, inq := x.inq }

theorem absS_w (x : St) : (absS x).w = x.idlen := rfl
theorem absS_pending (x : St) : (absS x).pending = pendingOf (x.arr.getD []) := rfl

theorem rel_iff (x : St) (sp : ReqSt) : Rel x sp ↔ sp = absS x ∧ Distinct x := by
  constructor
  · rintro ⟨h1, h2, h3, h4, h5⟩
    obtain ⟨w, p, c, q⟩ := sp
    simp only at h1 h2 h3 h4
    subst h1 h2 h3 h4
    exact ⟨rfl, h5⟩
  · rintro ⟨rfl, h⟩
    exact ⟨rfl, rfl, rfl, rfl, h⟩

theorem pendingOf_release (x : St) (rid : Nat) (hd : Distinct x) :
    pendingOf ((x.arr.map (deactivate · rid)).getD []) = (pendingOf (x.arr.getD [])).filter (·.1 != rid) := by
  rw [pendingOf, active_release x.arr rid hd, pendingOf, List.filter_map]
  rfl

theorem absS_release (x : St) (rid : Nat) (hd : Distinct x) :
    absS { x with arr := x.arr.map (deactivate · rid) } =
      { absS x with pending := (pendingOf (x.arr.getD [])).filter (·.1 != rid) } := by
  simp only [absS, pendingOf_release x rid hd]

theorem deliver_abs (x : St) (m : List Byte) (hd : Distinct x) :
    deliver (absS x) m = ((process x m).2.map callS, absS (process x m).1) := by
  unfold process deliver
  simp only [absS_w, absS_pending]
  by_cases h0 : x.idlen = 0
  · simp [h0, callS]
  · by_cases hm : ((m.take x.idlen).headD 0).toNat ≥ 128
    · simp only [h0, hm, if_true, if_false]
      rw [← Reply.unmark_eq]
      rcases buf2id_decode_cases (Reply.unmark (m.take x.idlen)) with ⟨rid, u, hb, hdec⟩ | ⟨hb, hdec⟩
      · rw [hb, hdec]
        simp only []
        rw [pendingOf_find]
        cases hf : findActive (x.arr.getD []) rid with
        | none => rfl
        | some t => simp [callS, absS, pendingOf_release x rid hd]
      · rw [hb, hdec]; rfl
    · simp only [h0, hm, if_false]; rfl

theorem map_callS_append (lm : List Call) (o : Option Call) :
    (lm ++ o.toList).map callS = lm.map callS ++ (o.map callS).toList := by
  cases o <;> simp

theorem deliverAll_abs (q : List (List Byte)) (x : St) (lm : List Call) (hd : Distinct x) :
    deliverAll q (absS x) (lm.map callS) = ({ absS (drain q x lm).1 with inq := [] }, (drain q x lm).2.map callS) := by
  induction q generalizing x lm with
  | nil => rfl
  | cons m ms ih =>
    unfold drain deliverAll
    simp only [deliver_abs x m hd, ← map_callS_append]
    exact ih _ _ (distinct_process x m hd)

theorem pendingOf_reserve (arr : Option (List Slot)) (idlen tag : Nat) (a : List Slot) (i : Nat)
    (h : reserve arr idlen tag = some (a, i)) : pendingOf a = pendingOf (arr.getD []) ++ [(i, tag)] := by
  simp [pendingOf, (reserve_spec arr idlen tag a i h).2.2.2.2]

theorem await_abs (x : St) (tag : Nat) (x' : St) (i : Nat) (ha : await x tag = some (x', i)) :
    freshId (absS x) i = true ∧ absS x' = { absS x with pending := (absS x).pending ++ [(i, tag)], cur := i } := by
  obtain ⟨a, hr, rfl⟩ := await_eq x tag x' i ha
  obtain ⟨hw0, hi1, himax, hfree, _⟩ := reserve_spec x.arr x.idlen tag a i hr
  have hfit : fits i x.idlen = true := by
    have := idMax_fits x.idlen hw0
    simp only [fits, decide_eq_true_eq]; omega
  have hnot : (pendingOf (x.arr.getD [])).any (·.1 == i) = false := by
    simpa [pendingOf] using hfree
  exact ⟨by simp [freshId, absS, hi1, hfit, hnot], by simp [absS, pendingOf_reserve x.arr x.idlen tag a i hr]⟩

theorem pendingOf_ids (es : List Slot) : (pendingOf es).map (·.1) = activeIds es := by
  simp [pendingOf, activeIds, Function.comp_def]

theorem deliver_marked (sp : ReqSt) (m : List Byte) (rid : Nat) (hw : sp.w ≠ 0)
    (hmk : ((m.take sp.w).headD 0).toNat ≥ 128) (hdec : decode (unmarkS (m.take sp.w)) = some rid) :
    deliver sp m = match sp.pending.find? (·.1 == rid) with
      | some (_, t) => (some (some t, m.drop sp.w), { sp with pending := sp.pending.filter (·.1 != rid) })
      | none => (none, sp) := by
  unfold deliver
  simp only [hw, if_false, hmk, if_true, hdec]
  cases sp.pending.find? (·.1 == rid) with
  | none => rfl
  | some p => obtain ⟨a, t⟩ := p; rfl

theorem followUp_none (s : St) (t : Nat) : followUp noFollow s t = s := rfl

theorem pendingOf_isEmpty (x : St) : (absS x).pending.isEmpty = decide ((active (x.arr.getD [])).length = 0) := by
  cases h : active (x.arr.getD []) <;> simp [absS, pendingOf, h]

/-- the loop of `mpt_stream_sync` against the spec's wait.  `n` is the loop's count of waiting handlers; the spec tests
    `pending.isEmpty` instead, hence `hn`. -/
theorem awaitReplies_abs (fails : Nat → Bool) (q : List (List Byte)) (x : St) (n : Nat) (lm : List Call) (fuel : Nat)
    (hd : Distinct x) (hn : n = (active (x.arr.getD [])).length) (hw : x.idlen ≠ 0) (hfuel : q.length < fuel) :
    awaitReplies fails fuel q (absS x) (lm.map callS) =
      (absS (syncLoop fails noFollow q x n lm).1, (syncLoop fails noFollow q x n lm).2.1.map callS) := by
  induction q generalizing x n lm fuel with
  | nil =>
    cases fuel with
    | zero => simp at hfuel
    | succ f => cases n <;> rfl
  | cons m ms ih =>
    cases fuel with
    | zero => simp at hfuel
    | succ f =>
      have hf' : ms.length < f := by simp at hfuel; omega
      have hemp := pendingOf_isEmpty x
      rw [← hn] at hemp
      cases n with
      | zero =>
        simp only [syncLoop, awaitReplies, hemp, decide_true, true_or, if_true]; rfl
      | succ k =>
        -- the spec stops exactly where the loop stops: no complete reply id, or one that does not decode
        have key : ((absS x).pending.isEmpty = true ∨ (absS x).w = 0 ∨ m.length < (absS x).w ∨
            ((m.take (absS x).w).headD 0).toNat < 128 ∨ (decode (unmarkS (m.take (absS x).w))).isNone = true) ↔
            ((m.length < x.idlen ∨ ((m.take x.idlen).headD 0).toNat < 128) ∨ decode (unmarkS (m.take x.idlen)) = none) := by
          simp [hemp, absS_w, hw, or_assoc]
        by_cases hstop : m.length < x.idlen ∨ ((m.take x.idlen).headD 0).toNat < 128
        · simp only [syncLoop, awaitReplies, if_pos hstop, if_pos (key.2 (Or.inl hstop))]; rfl
        · have hmk : ((m.take x.idlen).headD 0).toNat ≥ 128 := by omega
          rcases buf2id_decode_cases (Reply.unmark (m.take x.idlen)) with ⟨rid, u, hb, hdec⟩ | ⟨hb, hdec⟩
          · rw [Reply.unmark_eq] at hdec
            have hs2 := fun a => (key.1 a).elim hstop (by simp [hdec])
            simp only [syncLoop, awaitReplies, if_neg hstop, if_neg hs2, hb]
            rw [deliver_marked (absS x) m rid hw hmk hdec, absS_pending,
              pendingOf_find]
            cases hfa : findActive (x.arr.getD []) rid with
            | none =>
              simp only [Option.map_none, Option.toList_none, List.append_nil]
              exact ih x (k + 1) lm f hd hn hw hf'
            | some t =>
              simp only [Option.map_some, Option.toList_some, followUp_none, ← absS_release x rid hd]
              have e : lm.map callS ++ [(some t, m.drop (absS x).w)] =
                  (lm ++ [(⟨some t, some (m.drop x.idlen)⟩ : Call)]).map callS := by simp [callS, absS]
              rw [e]
              by_cases hfl : fails t = true
              · simp only [hfl, if_true]; rfl
              · simp only [hfl, if_false, Bool.false_eq_true]
                exact ih _ _ _ f (distinct_release x rid hd) rfl hw hf'
          · rw [Reply.unmark_eq] at hdec
            simp only [syncLoop, awaitReplies, if_neg hstop, if_pos (key.2 (Or.inr hdec)), hb]; rfl

theorem awaitReplies_stop (fails : Nat → Bool) (fuel : Nat) (q : List (List Byte)) (sp : ReqSt) (ls : List (Option Nat × List Byte))
    (h : sp.pending.isEmpty = true ∨ sp.w = 0) :
    awaitReplies fails fuel q sp ls = ({ sp with inq := q }, ls) := by
  cases fuel with
  | zero => simp [awaitReplies]
  | succ f =>
    cases q with
    | nil => simp [awaitReplies]
    | cons m ms =>
      have : (sp.pending.isEmpty = true ∨ sp.w = 0 ∨ m.length < sp.w ∨ ((m.take sp.w).headD 0).toNat < 128 ∨
          (decode (unmarkS (m.take sp.w))).isNone = true) := by
        rcases h with a | a
        · exact Or.inl a
        · exact Or.inr (Or.inl a)
      simp only [awaitReplies, if_pos this]

end Mpt.Requester
