/-
  Lemmas about Spec/Float.lean: a number whose magnitude does not exceed the largest finite value of a format rounds
  to a finite value of that format (no saturation); an integer that fits the significand is kept as it is
  (`roundFin_small`) and reads back as itself (`ofInt_toInt`).
-/
import MptModel.Spec.Float
namespace Mpt.Flt

theorem pow2_pos (n : Nat) : 0 < pow2 n := Nat.two_pow_pos n
theorem pow2_add (a b : Nat) : pow2 (a + b) = pow2 a * pow2 b := Nat.pow_add 2 a b
theorem pow2_mono {a b : Nat} (h : a ≤ b) : pow2 a ≤ pow2 b := Nat.pow_le_pow_right (by decide) h

/-- the format facts `roundFin_finite` and `roundFin_small` need; true for binary32, binary64 and the x87 extended
    format -/
structure Fmt.Sane (f : Fmt) : Prop where
  p_pos : 1 ≤ f.p
  emax_ge : ((f.p - 1 : Nat) : Int) ≤ f.emax
  emin_lt : f.emin < f.emax

theorem sane32 : binary32.Sane := ⟨by decide, by decide, by decide⟩
theorem sane64 : binary64.Sane := ⟨by decide, by decide, by decide⟩
theorem sane80 : x87ext.Sane := ⟨by decide, by decide, by decide⟩

/-- exponent of the last bit of the largest binade -/
def Fmt.e0 (f : Fmt) : Nat := (f.emax - ((f.p - 1 : Nat) : Int)).toNat

theorem Fmt.maxInt_eq (f : Fmt) : f.maxInt = (pow2 f.p - 1) * pow2 f.e0 := rfl

theorem lead_le_emax (f : Fmt) (hs : f.Sane) (m : Nat) (e : Int) (hm : m ≠ 0)
    (hb : m * pow2 e.toNat ≤ f.maxInt * pow2 (-e).toNat) : ((Nat.log2 m : Nat) : Int) + e ≤ f.emax := by
  apply Int.not_lt.mp
  intro h
  have hE0 : (f.e0 : Int) = f.emax - ((f.p - 1 : Nat) : Int) := Int.toNat_of_nonneg (Int.sub_nonneg_of_le hs.emax_ge)
  have hp := hs.p_pos
  have hexp : f.e0 + f.p + (-e).toNat ≤ Nat.log2 m + e.toNat := by omega
  have hmax : f.maxInt * pow2 (-e).toNat < pow2 (f.e0 + f.p + (-e).toNat) := by
    rw [Fmt.maxInt_eq, pow2_add, pow2_add, Nat.mul_comm (pow2 f.e0)]
    exact (Nat.mul_lt_mul_right (pow2_pos _)).mpr
      ((Nat.mul_lt_mul_right (pow2_pos _)).mpr (Nat.sub_lt (pow2_pos _) Nat.one_pos))
  exact Nat.lt_irrefl _ (calc
    pow2 (f.e0 + f.p + (-e).toNat) ≤ pow2 (Nat.log2 m + e.toNat) := pow2_mono hexp
    _ = pow2 (Nat.log2 m) * pow2 e.toNat := pow2_add _ _
    _ ≤ m * pow2 e.toNat := Nat.mul_le_mul_right _ (Nat.log2_self_le hm)
    _ ≤ f.maxInt * pow2 (-e).toNat := hb
    _ < pow2 (f.e0 + f.p + (-e).toNat) := hmax)

/-- a significand that is rounded up into the binade above the largest one exceeds `maxInt` -/
theorem exceeds_of_carry (f : Fmt) {m sh : Nat} {e : Int} (hkeep : m / pow2 sh + 1 = pow2 f.p) (hrem : 1 ≤ m % pow2 sh)
    (hexp : sh + e.toNat = f.e0 + (-e).toNat) : f.maxInt * pow2 (-e).toNat < m * pow2 e.toNat := by
  have hdm := Nat.div_add_mod m (pow2 sh)
  have hgt : (pow2 f.p - 1) * pow2 sh < m := by
    rw [← hkeep, Nat.add_sub_cancel, Nat.mul_comm]; omega
  calc f.maxInt * pow2 (-e).toNat = (pow2 f.p - 1) * pow2 sh * pow2 e.toNat := by
        rw [Fmt.maxInt_eq, Nat.mul_assoc, Nat.mul_assoc, ← pow2_add, ← pow2_add, hexp]
    _ < m * pow2 e.toNat := (Nat.mul_lt_mul_right (pow2_pos _)).mpr hgt

/-- exponent bookkeeping of a carry out of the largest binade: the shift makes up the difference to `e0` -/
theorem carry_shift {p sh e0 : Nat} {q e emax : Int} (hp : 1 ≤ p) (hqp : q + ((p - 1 : Nat) : Int) ≤ emax)
    (hov : (p : Int) + q > emax) (he0 : (e0 : Int) = emax - ((p - 1 : Nat) : Int)) (hsh : (q - e).toNat = sh)
    (hqe : ¬ q ≤ e) : sh + e.toNat = e0 + (-e).toNat := by
  have he := Int.toNat_sub_toNat_neg e
  -- the two `toNat`s as atoms: `he` is all `omega` needs of them, and it need not split on the sign of `e`
  generalize e.toNat = a at he ⊢
  generalize (-e).toNat = b at he ⊢
  omega

theorem roundFin_finite (f : Fmt) (hs : f.Sane) (neg : Bool) (m : Nat) (e : Int)
    (hb : m * pow2 e.toNat ≤ f.maxInt * pow2 (-e).toNat) : ∃ m' e', roundFin f neg m e = .fin neg m' e' := by
  unfold roundFin
  by_cases hm : m = 0
  · exact ⟨0, 0, by simp [hm]⟩
  have hlead := lead_le_emax f hs m e hm hb
  obtain ⟨hp, hemax, hemin⟩ := hs
  simp only [hm, if_false]
  generalize hq : max ((m.log2 : Int) + e - ((f.p - 1 : Nat) : Int)) f.qmin = q
  generalize hsh : (q - e).toNat = sh
  -- the rounded significand: the kept one, or one more if a remainder was cut off
  generalize hm' : (if m % pow2 sh > pow2 (sh - 1) ∨ m % pow2 sh = pow2 (sh - 1) ∧ m / pow2 sh % 2 = 1
    then m / pow2 sh + 1 else m / pow2 sh) = m'
  have hup : m' = m / pow2 sh ∨ m' = m / pow2 sh + 1 ∧ 1 ≤ m % pow2 sh := by
    have hhalf : 1 ≤ pow2 (sh - 1) := pow2_pos _
    rw [← hm']
    split
    · rename_i hu
      exact .inr ⟨rfl, hu.elim (fun h => Nat.le_trans hhalf (Nat.le_of_lt h)) (fun h => h.1 ▸ hhalf)⟩
    · exact .inl rfl
  by_cases hqe : q ≤ e
  · rw [if_pos hqe, if_neg (Int.not_lt.mpr hlead)]; exact ⟨m, e, rfl⟩
  rw [if_neg hqe]
  by_cases hm'0 : m' = 0
  · exact ⟨0, 0, by rw [if_pos hm'0]⟩
  rw [if_neg hm'0]
  by_cases hov : ((Nat.log2 m' : Nat) : Int) + q > f.emax
  · -- the leading bit of `m'` above `emax`: only by a carry out of the largest binade, but then `m` exceeds `maxInt`
    exfalso
    have hkeep : m / pow2 sh < pow2 f.p := by
      apply Nat.div_lt_of_lt_mul
      -- the `clear`s keep the disjunction and the products away from `omega`
      have h1 : Nat.log2 m + 1 ≤ sh + f.p := by clear hup hb hov; omega
      calc m < pow2 (Nat.log2 m + 1) := Nat.lt_log2_self
        _ ≤ pow2 (sh + f.p) := pow2_mono h1
        _ = pow2 sh * pow2 f.p := pow2_add _ _
    have hqp : q + ((f.p - 1 : Nat) : Int) ≤ f.emax := by rw [Fmt.qmin] at hq; clear hup hb hov hkeep; omega
    have hsmall : ¬ m' < pow2 f.p := fun hlt => by
      have := (Nat.log2_lt hm'0).2 hlt; clear hup hb hq hsh; omega
    rcases hup with h | ⟨h, hrem⟩
    · exact hsmall (h ▸ hkeep)
    · have hcarry : m / pow2 sh + 1 = pow2 f.p := Nat.le_antisymm hkeep (h ▸ Nat.not_lt.mp hsmall)
      rw [h, hcarry, show Nat.log2 (pow2 f.p) = f.p from Nat.log2_two_pow] at hov
      have hexp := carry_shift (e0 := f.e0) hp hqp hov (Int.toNat_of_nonneg (Int.sub_nonneg_of_le hemax)) hsh hqe
      exact Nat.not_le.mpr (exceeds_of_carry f hcarry hrem hexp) hb
  · exact ⟨m', q, by rw [if_neg hov]⟩

theorem round_finite (f : Fmt) (hs : f.Sane) (x : FVal) (hx : x.absLe f.maxInt) (hfin : x.isFinite = true) :
    (round f x).isFinite = true := by
  cases x with
  | fin sg m e =>
    obtain ⟨m', e', hr⟩ := roundFin_finite f hs sg m e hx
    simp only [round, hr, FVal.isFinite]
  | _ => cases hfin

theorem roundFin_small (f : Fmt) (hs : f.Sane) (neg : Bool) (m : Nat) (hq : f.qmin ≤ 0) (hm : m < 2 ^ f.p) :
    roundFin f neg m 0 = .fin neg m 0 := by
  obtain ⟨hp, hmax, _⟩ := hs
  unfold roundFin
  by_cases h0 : m = 0
  · simp [h0]
  · have hl : Nat.log2 m < f.p := (Nat.log2_lt h0).2 hm
    simp only [h0, if_false]
    have hq' : max ((Nat.log2 m : Int) + 0 - ((f.p - 1 : Nat) : Int)) f.qmin ≤ 0 := by omega
    have hle : ¬ ((Nat.log2 m : Int) + 0 > f.emax) := by omega
    simp only [hq', hle, if_true, if_false]

theorem ofInt_toInt (v : Int) : (ofInt v).toInt? = some v := by
  unfold ofInt FVal.toInt?
  simp [pow2]
  split <;> omega

theorem den_pos (e : Int) : (0 : Int) < (FVal.den e : Int) := by
  have := pow2_pos (-e).toNat
  simp only [FVal.den]; omega

end Mpt.Flt
