/-
  C07, the generated converter tables (`Generated/ConvInt.lean`).  Guard lists (of the converters and of the text
  parsers alike) as short-circuit scans over any operand evaluator; `conv_of_check`: a call of `conv` is refused for
  every input or runs one `Case` that a checker accepted, so the property theorems only evaluate a checker on the table
  (the evaluation fails when a bound is widened or an `if (dest)` is dropped); a call without destination is the storing
  call with the stored object forgotten (`query_of_check`); `checkCase`, the integer -> integer checker over the interval
  of source values; `mpt_value_convert`, `mpt_iterator_consume` and the variadic call on top of `conv`.
-/
import MptModel.Impl.Convert
namespace Mpt.Conv
open Mpt.Scalar

/-- the property theorems state the conjunction; the checkers' soundness lemmas produce the disjunction -/
theorem notBroken_of_cases {α β} {r : Res (α × β)} {P : α → β → Prop}
    (h : (∃ e, r = .err e) ∨ ∃ o n, r = .ok (o, n) ∧ P o n) :
    verdict r ≠ .broken ∧ ∀ o n, r = .ok (o, n) → P o n := by
  rcases h with ⟨e, rfl⟩ | ⟨o, n, rfl, hP⟩
  · exact ⟨nofun, nofun⟩
  · exact ⟨nofun, fun _ _ h => by cases h; exact hP⟩

theorem cases_of_notBroken {α β} {r : Res (α × β)} {P : α → β → Prop}
    (h : verdict r ≠ .broken ∧ ∀ o n, r = .ok (o, n) → P o n) :
    (∃ e, r = .err e) ∨ ∃ o n, r = .ok (o, n) ∧ P o n := by
  cases r with
  | ok x => exact .inr ⟨x.1, x.2, rfl, h.2 _ _ rfl⟩
  | err e => exact .inl ⟨e, rfl⟩
  | _ => exact absurd rfl h.1

/-- the outcome with the stored object forgotten: what the call without destination gives where the storing call
    gives `r` -/
def forget {β : Type} : Res (Option β × Nat) → Res (Option β × Nat)
  | .ok (_, n) => .ok (none, n)
  | r => r

theorem forget_verdict {β : Type} (r : Res (Option β × Nat)) : verdict (forget r) = verdict r := by cases r <;> rfl

section Guards
variable {α σ : Type}

/-- `a && ..` -/
def allOk (ev : α → Res Bool) : List α → Res Bool
  | [] => .ok true
  | a :: as =>
    match ev a with
    | .ok true => allOk ev as
    | r => r

/-- A list scanned with C's short circuit: an operand that is false lets the scan go on, the first true one ends it with
    `stop a`, the end of the list with `dflt`; a refusal or undefined behaviour of an operand is the result. -/
def scan {β : Type} (ev : α → Res Bool) (stop : α → Res β) (dflt : Res β) : List α → Res β
  | [] => dflt
  | a :: as =>
    match ev a with
    | .ok false => scan ev stop dflt as
    | .ok true => stop a
    | .err e => .err e
    | .null => .null | .oob => .oob | .fault => .fault

/-- `c || ..` -/
def anyOk (ev : α → Res Bool) : List α → Res Bool := scan ev (fun _ => .ok true) (.ok false)

/-- `if (g) return err g; ..` -/
def firstErr (ev : α → Res Bool) (err : α → Err) : List α → Res Unit := scan ev (fun g => .err (err g)) (.ok ())

theorem evalConj_eq (src : CTy) (s : Src) (as : List Atom) : evalConj src s as = allOk (·.eval src s) as := by
  induction as with
  | nil => rfl
  | cons a as ih => simp only [evalConj, allOk, ih]; rfl

theorem evalDisj_eq (src : CTy) (s : Src) (cs : List (List Atom)) : evalDisj src s cs = anyOk (evalConj src s) cs := by
  induction cs with
  | nil => rfl
  | cons c cs ih =>
    simp only [evalDisj, anyOk, scan, ih]
    cases evalConj src s c with
    | ok b => cases b <;> rfl
    | _ => rfl

theorem evalGuards_eq (src : CTy) (s : Src) (gs : List Guard) :
    evalGuards src s gs = firstErr (fun g => evalDisj src s g.conds) (·.err) gs := by
  induction gs with
  | nil => rfl
  | cons g gs ih => simp only [evalGuards, firstErr, scan, ih]; rfl

theorem evalTConj_eq (c : TextCtx) (as : List TextAtom) : evalTConj c as = allOk (·.eval c) as := by
  induction as with
  | nil => rfl
  | cons a as ih => simp only [evalTConj, allOk, ih]; rfl

theorem evalTDisj_eq (c : TextCtx) (cs : List (List TextAtom)) : evalTDisj c cs = anyOk (evalTConj c) cs := by
  induction cs with
  | nil => rfl
  | cons x cs ih =>
    simp only [evalTDisj, anyOk, scan, ih]
    cases evalTConj c x with
    | ok b => cases b <;> rfl
    | _ => rfl

theorem evalTGuards_eq (c : TextCtx) (gs : List TextGuard) :
    evalTGuards c gs = firstErr (fun g => evalTDisj c g.conds) (·.err) gs := by
  induction gs with
  | nil => rfl
  | cons g gs ih => simp only [evalTGuards, firstErr, scan, ih]; rfl

theorem allOk_single (ev : α → Res Bool) (a : α) : allOk ev [a] = ev a := by
  simp only [allOk]
  cases ev a with
  | ok b => cases b <;> rfl
  | _ => rfl

theorem allOk_pair {ev : α → Res Bool} {a₁ a₂ : α} {b₁ b₂ : Bool} (h₁ : ev a₁ = .ok b₁) (h₂ : ev a₂ = .ok b₂) :
    allOk ev [a₁, a₂] = .ok (b₁ && b₂) := by
  rw [allOk, h₁]
  cases b₁
  · rfl
  · exact (allOk_single ev a₂).trans h₂

theorem allOk_defined {ev : α → Res Bool} : ∀ {l : List α}, (∀ a ∈ l, ∃ b, ev a = .ok b) → ∃ b, allOk ev l = .ok b
  | [], _ => ⟨true, rfl⟩
  | a :: l, h => by
    obtain ⟨b, hb⟩ := h a (.head _)
    rw [allOk, hb]
    cases b
    · exact ⟨false, rfl⟩
    · exact allOk_defined fun x hx => h x (.tail _ hx)

variable {β : Type} {ev : α → Res Bool} {stop : α → Res β} {dflt : Res β}

theorem scan_defined : ∀ {l : List α}, (∀ a ∈ l, ∃ b, ev a = .ok b) →
    scan ev stop dflt l = dflt ∨ ∃ a, scan ev stop dflt l = stop a
  | [], _ => .inl rfl
  | a :: l, h => by
    obtain ⟨b, hb⟩ := h a (.head _)
    rw [scan, hb]
    cases b
    · exact scan_defined fun x hx => h x (.tail _ hx)
    · exact .inr ⟨a, rfl⟩

theorem scan_passed {x : β} (hstop : ∀ a, stop a ≠ .ok x) :
    ∀ {l : List α}, scan ev stop (.ok x) l = .ok x → ∀ a ∈ l, ev a = .ok false
  | a :: l, h, c, hc => by
    rw [scan] at h
    cases ha : ev a with
    | ok b =>
      rw [ha] at h
      cases b
      · rcases List.mem_cons.mp hc with rfl | hc
        · exact ha
        · exact scan_passed hstop h c hc
      · exact absurd h (hstop a)
    | _ => simp [ha] at h

/-- Abstract interpretation of a scan: `step` refines an abstract state with "this operand is false" and gives up
    (`none`) where it cannot vouch for the evaluation.  `P` is what the state says about the value at hand. -/
theorem scan_step {step : σ → α → Option σ} {P : σ → Prop}
    (hstep : ∀ st st' a, step st a = some st' → P st → ∃ b, ev a = .ok b ∧ (b = false → P st')) :
    ∀ (l : List α) (st st' : σ), l.foldlM step st = some st' → P st →
      (scan ev stop dflt l = dflt ∧ P st') ∨ ∃ a, scan ev stop dflt l = stop a
  | [], st, st', h, hP => by cases h; exact .inl ⟨rfl, hP⟩
  | a :: l, st, st', h, hP => by
    rw [List.foldlM_cons, Option.bind_eq_bind, Option.bind_eq_some_iff] at h
    obtain ⟨st₁, h₁, h₂⟩ := h
    obtain ⟨b, hb, hb'⟩ := hstep st st₁ a h₁ hP
    rw [scan, hb]
    cases b
    · exact scan_step hstep l st₁ st' h₂ (hb' rfl)
    · exact .inr ⟨a, rfl⟩

theorem anyOk_defined {l : List α} (h : ∀ a ∈ l, ∃ b, ev a = .ok b) : ∃ b, anyOk ev l = .ok b :=
  (scan_defined h).elim (⟨false, ·⟩) fun ⟨_, h⟩ => ⟨true, h⟩

theorem firstErr_defined {err : α → Err} {l : List α} (h : ∀ a ∈ l, ∃ b, ev a = .ok b) :
    firstErr ev err l = .ok () ∨ ∃ e, firstErr ev err l = .err e :=
  (scan_defined h).imp id fun ⟨_, h⟩ => ⟨_, h⟩

theorem anyOk_false {l : List α} (h : anyOk ev l = .ok false) : ∀ c ∈ l, ev c = .ok false :=
  scan_passed (stop := fun _ => .ok true) (x := false) (fun _ => by simp) h

theorem firstErr_ok {err : α → Err} {l : List α} (h : firstErr ev err l = .ok ()) : ∀ g ∈ l, ev g = .ok false :=
  scan_passed (stop := fun g => .err (err g)) (x := ()) (fun _ => nofun) h

/-- the two levels of a guard list together: every disjunct of every guard is interpreted by `step`; the value passes
    all guards and satisfies the final state, or is refused -/
theorem guards_step {γ : Type} {conds : γ → List α} {err : γ → Err} {step : σ → α → Option σ} {P : σ → Prop}
    (hstep : ∀ st st' c, step st c = some st' → P st → ∃ b, ev c = .ok b ∧ (b = false → P st'))
    (gs : List γ) (st st' : σ) (h : gs.foldlM (fun st g => (conds g).foldlM step st) st = some st') (hP : P st) :
    (firstErr (fun g => anyOk ev (conds g)) err gs = .ok () ∧ P st') ∨
    ∃ e, firstErr (fun g => anyOk ev (conds g)) err gs = .err e :=
  (scan_step (fun st st' g hg hst =>
      (scan_step hstep (conds g) st st' hg hst).elim (fun ⟨h, hP'⟩ => ⟨false, h, fun _ => hP'⟩)
        fun ⟨_, h⟩ => ⟨true, h, nofun⟩) gs st st' h hP).imp id fun ⟨_, h⟩ => ⟨_, h⟩

end Guards

def CTy.lo : CTy → Int
  | .i8 => -128 | .i16 => -32768 | .i32 => -2147483648 | .i64 => -9223372036854775808
  | _ => 0
def CTy.hi : CTy → Int
  | .i8 => 127 | .u8 => 255 | .i16 => 32767 | .u16 => 65535
  | .i32 => 2147483647 | .u32 => 4294967295
  | .i64 => 9223372036854775807 | .u64 => 18446744073709551615
  | _ => 0

theorem tgtCTy_lo (ty : Ty) : (tgtCTy ty).lo = ty.lo := by cases ty <;> rfl
theorem tgtCTy_hi (ty : Ty) : (tgtCTy ty).hi = ty.hi := by cases ty <;> rfl
theorem tgtCTy_modulus (ty : Ty) : (tgtCTy ty).modulus = ty.card := by cases ty <;> rfl
theorem tgtCTy_isFloat (ty : Ty) : (tgtCTy ty).isFloat = ty.isFloat := by cases ty <;> rfl

theorem CTy.modulus_eq (t : CTy) (hf : t.isFloat = false) : t.modulus = 256 ^ t.size := by
  cases t <;> cases hf <;> decide

theorem modulus_of_size (st : CTy) (tgt : Ty) (hf : st.isFloat = false) (ht : tgt.isFloat = false)
    (hs : st.size = (tgtCTy tgt).size) : st.modulus = tgt.card := by
  rw [← tgtCTy_modulus, st.modulus_eq hf, CTy.modulus_eq _ (tgtCTy_isFloat tgt ▸ ht), hs]

theorem wrap_id (t : CTy) (v : Int) (hf : t.isFloat = false) (h1 : t.lo ≤ v) (h2 : v ≤ t.hi) : wrap t v = v := by
  cases t <;> cases hf <;> simp only [CTy.lo, CTy.hi] at h1 h2 <;> simp only [wrap] <;>
    rw [Int.emod_eq_of_lt (by omega) (by omega)] <;> omega

theorem range_card (ty : Ty) (hf : ty.isFloat = false) :
    0 ≤ ty.hi ∧ if ty.signed then ty.lo = -(ty.hi + 1) ∧ ty.card = 2 * (ty.hi + 1) else ty.lo = 0 ∧ ty.card = ty.hi + 1 := by
  cases ty <;> cases hf <;> decide

theorem denote_store (tgt : Ty) (v : Int) (ht : tgt.isFloat = false) (h1 : tgt.lo ≤ v) (h2 : v ≤ tgt.hi) :
    denote tgt ((v % tgt.card).toNat) = v := by
  obtain ⟨h0, hs⟩ := range_card tgt ht
  unfold denote
  split at hs
  · -- signed: a negative `v` is stored as `v + card`, which lies above `hi`
    rename_i hsg
    by_cases hv : 0 ≤ v
    · rw [Int.emod_eq_of_lt hv (by omega), Int.toNat_of_nonneg hv, if_neg (by omega)]
    · rw [← Int.add_emod_right, Int.emod_eq_of_lt (by omega) (by omega), Int.toNat_of_nonneg (by omega),
        if_pos ⟨hsg, by omega⟩]
      omega
  · rename_i hsg
    rw [Int.emod_eq_of_lt (by omega) (by omega), Int.toNat_of_nonneg (by omega), if_neg (hsg ·.1)]

structure Iv where
  lo : Int
  hi : Int
  deriving DecidableEq, Repr

def Iv.mem (iv : Iv) (v : Int) : Prop := iv.lo ≤ v ∧ v ≤ iv.hi

def srcIv (src : CTy) : Iv := { lo := src.lo, hi := src.hi }

theorem srcIv_mem {ty : Ty} {v : Int} (hv : inRange ty v) : (srcIv (tgtCTy ty)).mem v := by
  rwa [Iv.mem, srcIv, tgtCTy_lo, tgtCTy_hi]

/-- every value of the interval is unchanged by conversion to `t` -/
def CTy.holdsIv (t : CTy) (iv : Iv) : Bool := !t.isFloat && decide (t.lo ≤ iv.lo) && decide (iv.hi ≤ t.hi)

theorem wrap_iv (t : CTy) (iv : Iv) (v : Int) (h : t.holdsIv iv = true) (hv : iv.mem v) :
    t.isFloat = false ∧ wrap t v = v := by
  simp only [CTy.holdsIv, Bool.and_eq_true, Bool.not_eq_true', decide_eq_true_eq] at h
  obtain ⟨⟨hf, hlo⟩, hhi⟩ := h
  exact ⟨hf, wrap_id t v hf (Int.le_trans hlo hv.1) (Int.le_trans hv.2 hhi)⟩

/-- the part of `iv` on which `v op k` is false; `none` = not supported -/
def Cmp.cut (op : Cmp) (k : Int) (iv : Iv) : Option Iv :=
  match op with
  | .lt => some { iv with lo := max iv.lo k }
  | .le => some { iv with lo := max iv.lo (k + 1) }
  | .gt => some { iv with hi := min iv.hi k }
  | .ge => some { iv with hi := min iv.hi (k - 1) }
  | _ => none

theorem Cmp.cut_sound {op : Cmp} {k v : Int} {iv iv' : Iv} (h : op.cut k iv = some iv') (hv : iv.mem v)
    (hf : op.holds v k = false) : iv'.mem v := by
  cases op <;> cases h <;> simp only [Cmp.holds, decide_eq_false_iff_not] at hf <;> simp only [Iv.mem] at hv ⊢ <;> omega

/-- values of `iv` for which the single-operand conjunction `conj` is false (they continue with the next
    disjunct / the next guard); `none` = shape not supported or possibly undefined behaviour.  `isgraph` is defined on
    0..255 only and true on 33..126. -/
def stepDisjunct (iv : Iv) : List Atom → Option Iv
  | [.cmp op cty k] => if cty.holdsIv iv then op.cut k iv else none
  | [.notIsgraph idx] =>
    if idx.holdsIv iv && decide (0 ≤ iv.lo) && decide (iv.hi ≤ 255) then some { lo := max iv.lo 33, hi := min iv.hi 126 }
    else none
  | _ => none

/-- the guard list interpreted disjunct by disjunct, in the shape `guards_step` asks for -/
def stepGuards (iv : Iv) (gs : List Guard) : Option Iv := gs.foldlM (fun iv g => g.conds.foldlM stepDisjunct iv) iv

theorem stepDisjunct_sound (src : CTy) (iv iv' : Iv) (conj : List Atom) (v : Int)
    (h : stepDisjunct iv conj = some iv') (hv : iv.mem v) :
    ∃ b, evalConj src (.int v) conj = .ok b ∧ (b = false → iv'.mem v) := by
  unfold stepDisjunct at h
  split at h
  · rename_i op cty k
    split at h
    · rename_i hc
      obtain ⟨hf, hw⟩ := wrap_iv _ iv v hc hv
      exact ⟨op.holds v k, by rw [evalConj_eq, allOk_single]; simp [Atom.eval, Atom.evalI, hf, hw], Cmp.cut_sound h hv⟩
    · cases h
  · rename_i idx
    split at h
    · rename_i hc
      simp only [Bool.and_eq_true, decide_eq_true_eq] at hc
      obtain ⟨⟨hidx, h0⟩, h255⟩ := hc
      obtain ⟨_, hw⟩ := wrap_iv _ iv v hidx hv
      have hdom : 0 ≤ v ∧ v ≤ 255 := ⟨Int.le_trans h0 hv.1, Int.le_trans hv.2 h255⟩
      refine ⟨!isgraphC v, by rw [evalConj_eq, allOk_single]; simp [Atom.eval, Atom.evalI, hw, hdom], fun hg => ?_⟩
      cases h
      simp only [isgraphC, Bool.not_eq_false', decide_eq_true_eq] at hg
      simp only [Iv.mem] at hv ⊢
      omega
    · cases h
  · cases h

theorem stepGuards_sound (src : CTy) (gs : List Guard) (iv iv' : Iv) (v : Int)
    (h : stepGuards iv gs = some iv') (hv : iv.mem v) :
    (evalGuards src (.int v) gs = .ok () ∧ iv'.mem v) ∨ (∃ e, evalGuards src (.int v) gs = .err e) := by
  simp only [evalGuards_eq, evalDisj_eq]
  exact guards_step (fun st st' c => stepDisjunct_sound src st st' c v) gs iv iv' h hv

/-- what the caller of the converter finds: the read of the target object after a store -/
def readOut (tgt : Ty) : Res (Option Stored × Nat) → Res (Option Out × Nat)
  | .ok (some st, n) =>
    match readBack tgt st with
    | .ok o => .ok (some o, n)
    | .err e => .err e | .null => .null | .oob => .oob | .fault => .fault
  | .ok (none, n) => .ok (none, n)
  | .err e => .err e
  | .null => .null | .oob => .oob | .fault => .fault

theorem conv_eq (src tgt : Ty) (s : Src) (d : Bool) :
    conv src tgt s d = match fnOf src with
      | none => .err .BadType
      | some f => readOut tgt (f.run tgt.code s d) := rfl

/-- the store is under `if (dest)`, no range test hides in that block, and the store writes an object of the
    target's size -/
def shapeOK (c : Case) (tgt : Ty) : Bool := c.guarded && c.destGuards.isEmpty && c.store.size == (tgtCTy tgt).size

theorem readBack_ok (tgt : Ty) (store : CTy) (s : Src) (h : store.size = (tgtCTy tgt).size) :
    ∃ o, readBack tgt (doStore store s) = .ok o := by
  have sized : ∀ st : Stored, (match st with | .int ty _ | .flt ty _ => ty.size) = (tgtCTy tgt).size →
      ∃ o, readBack tgt st = .ok o := by
    rintro (_ | _) hsz <;> simp only [readBack] at hsz ⊢ <;> rw [if_neg (by omega), if_neg (by omega)] <;> split <;>
      exact ⟨_, rfl⟩
  cases s <;> simp only [doStore] <;> split <;> exact sized _ h

/-- A case of that shape: after the guards, the store (if there is a destination) and the caller's read of the target
    go through, so the destination only decides whether the object `o` is there. -/
theorem readOut_runCase {src : CTy} {c : Case} {tgt : Ty} (hsh : shapeOK c tgt = true) (s : Src) :
    ∃ o, readBack tgt (doStore c.store s) = .ok o ∧ ∀ d, readOut tgt (runCase src c s d) =
      if c.supported src then (evalGuards src s c.guards).bind fun _ => .ok (if d then some o else none, c.ret)
      else .fault := by
  simp only [shapeOK, Bool.and_eq_true, beq_iff_eq, List.isEmpty_iff] at hsh
  obtain ⟨⟨hguarded, hdest⟩, hsize⟩ := hsh
  obtain ⟨o, ho⟩ := readBack_ok tgt c.store s hsize
  refine ⟨o, ho, fun d => ?_⟩
  unfold runCase
  cases c.supported src
  · rfl
  · cases hg : evalGuards src s c.guards <;> cases d <;> simp [hguarded, hdest, evalGuards, readOut, ho, Res.bind]

/-- check of one (source type, target type) pair of the generated tables: the dispatched converter handles values of
    the source's C type, and the selected case (if any; no case = refused) passes `chk` -/
def checkPair (chk : CTy → Case → Ty → Bool) (src tgt : Ty) : Bool :=
  match fnOf src with
  | none => true
  | some f =>
    f.src == tgtCTy src &&
    match f.lookup tgt.code with
    | some c => chk f.src c tgt
    | none => !(f.resolve tgt.code ∈ f.vectors)

def checkTable (chk : CTy → Case → Ty → Bool) (srcs tgts : List Ty) : Bool :=
  srcs.all fun s => tgts.all fun tg => checkPair chk s tg

theorem mem_all (ty : Ty) : ty ∈ Ty.all := by cases ty <;> decide

theorem checkTable_mem {chk : CTy → Case → Ty → Bool} {srcs tgts : List Ty} (h : checkTable chk srcs tgts = true)
    {src tgt : Ty} (hs : src ∈ srcs) (ht : tgt ∈ tgts) : checkPair chk src tgt = true :=
  List.all_eq_true.mp (List.all_eq_true.mp h src hs) tgt ht

theorem conv_of_check {chk : CTy → Case → Ty → Bool} {src tgt : Ty} (h : checkPair chk src tgt = true) :
    (∃ e, ∀ s d, conv src tgt s d = .err e) ∨
    ∃ c, chk (tgtCTy src) c tgt = true ∧ ∀ s d, conv src tgt s d = readOut tgt (runCase (tgtCTy src) c s d) := by
  unfold checkPair at h
  simp only [conv_eq]
  cases hf : fnOf src with
  | none => exact .inl ⟨.BadType, fun _ _ => rfl⟩
  | some f =>
    simp only [hf, Bool.and_eq_true, beq_iff_eq] at h
    obtain ⟨hsrc, h⟩ := h
    simp only [Fn.run, ← hsrc]
    cases hl : f.lookup tgt.code with
    | none =>
      simp only [hl, Bool.not_eq_true', decide_eq_false_iff_not] at h
      exact .inl ⟨f.dflt, fun _ _ => by rw [if_neg h]; rfl⟩
    | some c => exact .inr ⟨c, by rwa [hl] at h, fun _ _ => rfl⟩

theorem query_of_check {src tgt : Ty} (h : checkPair (fun _ c tgt => shapeOK c tgt) src tgt = true) (s : Src) :
    conv src tgt s false = forget (conv src tgt s true) := by
  rcases conv_of_check h with ⟨e, he⟩ | ⟨c, hc, hconv⟩
  · rw [he, he]; rfl
  · obtain ⟨o, _, hrun⟩ := readOut_runCase (src := tgtCTy src) hc s
    rw [hconv, hconv, hrun, hrun]
    split
    · cases evalGuards (tgtCTy src) s c.guards <;> rfl
    · rfl

/-- the case converts every in-range value of integer type `src` that it accepts exactly to the integer
    target `tgt`, tests the destination before storing (and nothing else depends on the destination), stores an
    object of the target's size, returns that size and (target 'c') accepts printable characters only.  A case whose
    guards let no value through (`iv.hi < iv.lo`) passes: it refuses everything. -/
def checkCase (src : CTy) (c : Case) (tgt : Ty) : Bool :=
  !src.isFloat && !tgt.isFloat && shapeOK c tgt && c.ret == tgt.size && !c.store.isFloat &&
  match stepGuards (srcIv src) c.guards with
  | some iv =>
    decide (iv.hi < iv.lo) ||
    (decide (tgt.lo ≤ iv.lo) && decide (iv.hi ≤ tgt.hi) && (tgt != .c || (decide (33 ≤ iv.lo) && decide (iv.hi ≤ 126))))
  | none => false

theorem checkCase_sound {src : CTy} {c : Case} {tgt : Ty} {v : Int} (hc : checkCase src c tgt = true)
    (hv : (srcIv src).mem v) (d : Bool) :
    (∃ e, readOut tgt (runCase src c (.int v) d) = .err e) ∨
    ∃ o n, readOut tgt (runCase src c (.int v) d) = .ok (o, n) ∧ n = tgt.size ∧ (d = false → o = none) ∧
      (d = true → ∃ bits, o = some (.int bits) ∧ denote tgt bits = v ∧ (tgt = .c → isGraph v = true)) := by
  simp only [checkCase, Bool.and_eq_true, Bool.not_eq_true', beq_iff_eq] at hc
  obtain ⟨⟨⟨⟨⟨hsf, htf⟩, hsh⟩, hret⟩, hstf⟩, hiv⟩ := hc
  obtain ⟨o, ho, hrun⟩ := readOut_runCase (src := src) hsh (.int v)
  simp only [hrun, Case.supported, hsf, Bool.false_and, Bool.not_false, if_true]
  split at hiv
  · rename_i iv hst
    rcases stepGuards_sound src c.guards _ iv v hst hv with ⟨hok, hin⟩ | ⟨e, he⟩
    · -- what survives the guards is a value of the target (the interval is not empty: `v` is in it)
      simp only [Bool.or_eq_true, decide_eq_true_eq, Bool.and_eq_true, bne_iff_ne, ne_eq, Iv.mem] at hiv hin
      have hr : tgt.lo ≤ v ∧ v ≤ tgt.hi ∧ (tgt = .c → 33 ≤ v ∧ v ≤ 126) := by
        rcases hiv with _ | ⟨_, hcc⟩
        · omega
        · exact ⟨by omega, by omega, fun htc => hcc.elim (absurd htc) (by omega)⟩
      refine .inr ⟨_, _, by rw [hok]; rfl, hret, by rintro rfl; rfl, ?_⟩
      rintro rfl
      simp only [doStore, hstf, Bool.false_eq_true, if_false, readBack, tgtCTy_isFloat, htf] at ho
      simp only [shapeOK, Bool.and_eq_true, beq_iff_eq] at hsh
      rw [if_neg (by omega), if_neg (by omega)] at ho
      cases ho
      refine ⟨_, rfl, ?_, fun htc => by simpa [isGraph] using hr.2.2 htc⟩
      rw [modulus_of_size c.store tgt hstf htf hsh.2]
      exact denote_store tgt v htf hr.1 hr.2.1
    · exact .inl ⟨e, by rw [he]; rfl⟩
  · cases hiv

/-- `mpt_value_convert` hands on what the converter delivers; where the converter refuses, a value of the identical
    type is copied -/
theorem valueConvert_of_conv {src tgt : Ty} {s : Src} {d : Bool} {P : Option Out → Prop}
    (hraw : src = tgt → P (if d then some (srcOut src s) else none))
    (hc : verdict (conv src tgt s d) ≠ .broken ∧ ∀ o n, conv src tgt s d = .ok (o, n) → P o) :
    verdict (valueConvert src tgt s d) ≠ .broken ∧ ∀ o n, valueConvert src tgt s d = .ok (o, n) → P o := by
  apply notBroken_of_cases
  unfold valueConvert
  rcases cases_of_notBroken hc with ⟨e, he⟩ | ⟨o, n, ho, hP⟩
  · rw [he]
    by_cases hst : src = tgt
    · exact .inr ⟨_, _, if_pos hst, hraw hst⟩
    · exact .inl ⟨_, if_neg hst⟩
  · rw [ho]
    exact .inr ⟨o, _, rfl, hP⟩

theorem valueConvert_verdict (src tgt : Ty) (s : Src) (d : Bool) :
    verdict (valueConvert src tgt s d) =
      match verdict (conv src tgt s d) with
      | .accepted => .accepted
      | .refused => if src = tgt then .accepted else .refused
      | .broken => .broken := by
  unfold valueConvert
  cases conv src tgt s d with
  | err e => by_cases h : src = tgt <;> simp [h, verdict]
  | _ => rfl

theorem consume_of_valueConvert {src tgt : Ty} {s : Src} {d : Bool} {P : Option Out → Prop}
    (hc : verdict (valueConvert src tgt s d) ≠ .broken ∧ ∀ o n, valueConvert src tgt s d = .ok (o, n) → P o) :
    verdict (consume src tgt s d) ≠ .broken ∧ ∀ o n, consume src tgt s d = .ok (o, n) → n = src.code ∧ P o := by
  apply notBroken_of_cases
  unfold consume
  rcases cases_of_notBroken hc with ⟨e, he⟩ | ⟨o, n, ho, hP⟩
  · exact .inl ⟨e, by rw [he]⟩
  · exact .inr ⟨o, _, by rw [ho], rfl, hP⟩

theorem valueConvertNull_verdict (src tgt : Ty) (d : Bool) :
    verdict (valueConvertNull src tgt d) = verdict (convNull src tgt d) := by
  unfold valueConvertNull
  cases convNull src tgt d with
  | err e => by_cases h : src = tgt <;> simp [h, verdict]
  | _ => rfl

/-- the `mpt_value_argv` row for `src` stores an integer type of the size of `src` and fetches an integer type, and
    both hold every value of `src` -/
def checkArgv (src : Ty) : Bool :=
  !src.isFloat &&
  match argvRow src with
  | some (st, va, _) =>
    st.size == (tgtCTy src).size && st.holdsIv (srcIv (tgtCTy src)) && va.holdsIv (srcIv (tgtCTy src))
  | none => false

theorem argvPass_int {src : Ty} {v : Int} (h : checkArgv src = true) (hv : inRange src v) :
    argvPass src (.int v) = .ok (.int v) := by
  unfold checkArgv at h
  unfold argvPass
  split at h
  · rename_i st va _ hrow
    simp only [Bool.and_eq_true, Bool.not_eq_true', beq_iff_eq] at h
    obtain ⟨hsf, ⟨hsz, hst⟩, hva⟩ := h
    obtain ⟨hvaf, hw1⟩ := wrap_iv va _ v hva (srcIv_mem hv)
    obtain ⟨hstf, hw2⟩ := wrap_iv st _ v hst (srcIv_mem hv)
    have hw3 := wrap_id (tgtCTy src) v ((tgtCTy_isFloat src).trans hsf) (srcIv_mem hv).1 (srcIv_mem hv).2
    simp [hrow, hsz, hvaf, hstf, hw1, hw2, hw3]
  · simp at h

end Mpt.Conv
