/-
  The queue functions that leave the data where it lies or move only the tail behind a cut: `mpt_queue_crop` (at the
  front an offset change, `Ring.crop_front`; elsewhere a `memmove` of the tail), the view of `mpt_queue_get/set`,
  `mpt_queue_empty`, `mpt_qpost/qpre`, `mpt_qpush/qunshift/qpop/qshift` — each as the list operation it performs on
  the content.
-/
import MptModel.Lemmas.Ring
namespace Mpt
namespace Ring
variable {r : Ring} {cap : Nat} {d : List Byte}

theorem view_ok (r : Ring) (h : r.WF) (pos n : Nat) (e : Err) (h0 : 0 < n) (hn : pos + n ≤ r.len) :
    ∃ bit base low, r.view pos n e = .ok (bit, base, low, n - low) ∧ low ≤ n ∧
      Parts r.store.length r.off pos base low (n - low) := by
  obtain ⟨h1, h2⟩ := h
  unfold view
  by_cases hp : pos = 0
  · subst hp
    simp only [ne_eq, not_true_eq_false, false_and, ↓reduceIte, max]
    rw [if_neg (by omega)]
    exact ⟨_, _, _, rfl, Nat.min_le_right _ _, .of_min h2 (by omega) (.inl ⟨rfl, h2⟩)⟩
  · simp only [hp, ne_eq, not_false_eq_true, true_and, ↓reduceIte, max]
    obtain ⟨c, hc⟩ := crop_zero_eq r pos (by omega)
    rw [hc]
    simp only []
    rw [if_neg (by omega)]
    exact ⟨_, _, _, rfl, Nat.min_le_right _ _, .of_min h2 (by omega) (by split <;> omega)⟩

/-- a stretch that runs beyond the data is refused with the caller's code `e`; when already `pos` lies beyond it, with
    the `BadArgument` of the crop that positions the view — hence the two codes of `set_refused` -/
theorem view_refused (r : Ring) (h : r.WF) (pos n : Nat) (e : Err) (hn : r.len < pos + n) :
    r.view pos n e = .err e ∨ r.view pos n e = .err .BadArgument := by
  unfold view
  by_cases hp : pos = 0
  · subst hp
    simp only [ne_eq, not_true_eq_false, false_and, ↓reduceIte]
    left; rw [if_pos (by omega)]
  · simp only [hp, ne_eq, not_false_eq_true, true_and, ↓reduceIte]
    by_cases hpl : pos ≤ r.len
    · obtain ⟨c, hc⟩ := crop_zero_eq r pos hpl
      rw [hc]
      simp only []
      left; rw [if_pos (by omega)]
    · right
      unfold crop low
      simp only [↓reduceIte, max]
      rw [if_pos (by have := h.1; omega)]

theorem readParts_ok (s : List Byte) (base low high : Nat) (h1 : base + low ≤ s.length) (h2 : high ≤ s.length) :
    readParts s base low high = .ok (Mem.read s base low ++ Mem.read s 0 high) := by
  unfold readParts
  rw [Mem.rd_ok _ _ _ h1, Mem.rd_ok _ _ _ (show 0 + high ≤ s.length by omega)]
  by_cases hl : low = 0 <;> by_cases hh : high = 0 <;> simp [hl, hh, Mem.read]

/-- `mpt_queue_get` with a target; stated over `r.WF` and `r.len`, not `Holds`, since the call returns no ring -/
theorem get_ok (r : Ring) (h : r.WF) (pos n : Nat) (h0 : 0 < n) (hn : pos + n ≤ r.len) :
    ∃ c, r.get pos n true = .ok (c, (r.content.drop pos).take n) := by
  obtain ⟨bit, base, low, hv, hl, P⟩ := view_ok r h pos n .BadArgument h0 hn
  unfold get
  rw [if_neg (by omega), hv]
  simp only [Bool.not_true, Bool.false_eq_true, ↓reduceIte]
  rw [readParts_ok _ _ _ _ (P.inside h.2).1 (P.inside h.2).2, read_parts _ _ _ _ _ _ h.2 P,
    Nat.add_sub_cancel' hl, read_content r pos n hn]
  exact ⟨_, rfl⟩

theorem get_nodst (r : Ring) (h : r.WF) (pos n : Nat) (h0 : 0 < n) (hn : pos + n ≤ r.len) :
    ∃ c, r.get pos n false = .ok (c, []) := by
  obtain ⟨bit, base, low, hv, _⟩ := view_ok r h pos n .BadArgument h0 hn
  unfold get
  rw [if_neg (by omega), hv]
  exact ⟨_, rfl⟩

theorem get_refused (r : Ring) (h : r.WF) (pos n : Nat) (dst : Bool) (h0 : 0 < n) (hn : r.len < pos + n) :
    r.get pos n dst = .err .BadArgument := by
  unfold get
  rw [if_neg (by omega)]
  rcases view_refused r h pos n .BadArgument hn with hv | hv <;> rw [hv]

theorem get_zero (r : Ring) (pos : Nat) (dst : Bool) : r.get pos 0 dst = .ok (0, []) := by
  rw [get, if_pos rfl]

theorem set_zero (r : Ring) (pos : Nat) (bytes : Option (List Byte)) : r.set pos 0 bytes = .ok (r, 0) := by
  rw [set, if_pos rfl]

theorem setSrc_length (n : Nat) (b : Option (List Byte)) : (setSrc n b).length = n := by
  unfold setSrc
  cases b <;> simp <;> omega

theorem setSrc_zero (b : Option (List Byte)) : setSrc 0 b = [] := by
  cases b <;> simp [setSrc]

theorem setSrc_some (bs : List Byte) {n : Nat} (h : bs.length = n) : setSrc n (some bs) = bs := by
  subst h; unfold setSrc; simp

theorem writeParts_ok (s : List Byte) (base low high : Nat) (src : List Byte)
    (hb : base + low ≤ s.length) (hh : high ≤ s.length) (hs : src.length = low + high) :
    writeParts s base low high src = .ok (Mem.write (Mem.write s base (src.take low)) 0 (src.drop low)) := by
  have hlt : (src.take low).length = low := by rw [List.length_take]; omega
  have e1 : (if low ≠ 0 then Mem.wr s base (src.take low) else Res.ok s) = .ok (Mem.write s base (src.take low)) := by
    split
    · exact Mem.wr_ok _ _ _ (by omega)
    · rw [show low = 0 by omega, List.take_zero, Mem.write_nil]
  rw [writeParts, e1, List.take_of_length_le (l := src.drop low) (i := high) (by rw [List.length_drop]; omega)]
  simp only []
  split
  · refine Mem.wr_ok _ _ _ ?_
    rw [List.length_drop, Mem.write_length _ _ _ (by omega)]; omega
  · rw [List.drop_of_length_le (by omega), Mem.write_nil]

/-- `mpt_queue_set` inside the content replaces that stretch (`len` and `off` stay: the coded queue reads them off) -/
theorem set_ok (H : r.Holds cap d) (pos n : Nat) (bytes : Option (List Byte)) (h0 : n ≠ 0)
    (hn : pos + n ≤ d.length) :
    ∃ r' c, r.set pos n bytes = .ok (r', c) ∧ r'.Holds cap (d.take pos ++ setSrc n bytes ++ d.drop (pos + n))
      ∧ r'.len = r.len ∧ r'.off = r.off := by
  have hlen := H.len
  obtain ⟨h, rfl, rfl⟩ := H
  rw [← hlen] at hn
  obtain ⟨bit, base, low, hv, hl, P⟩ := view_ok r h pos n .MissingBuffer (Nat.pos_of_ne_zero h0) hn
  have hsl := setSrc_length n bytes
  have hlt : ((setSrc n bytes).take low).length = low := by rw [List.length_take]; omega
  have hld : ((setSrc n bytes).drop low).length = n - low := by rw [List.length_drop]; omega
  obtain ⟨hwl, hc⟩ := content_write_parts r h pos base ((setSrc n bytes).take low) ((setSrc n bytes).drop low)
    (by rw [hlt, hld]; exact P) (by rw [hlt, hld]; omega)
  unfold set
  rw [if_neg h0, hv]
  simp only []
  rw [writeParts_ok _ _ _ _ _ (P.inside h.2).1 (P.inside h.2).2 (by omega)]
  refine ⟨_, _, rfl, ⟨⟨by simp only []; rw [hwl]; exact h.1, by simp only []; rw [hwl]; exact h.2⟩, hwl, ?_⟩, rfl, rfl⟩
  rw [hc, List.take_append_drop, Mem.write, hsl]

theorem set_refused (H : r.Holds cap d) (pos n : Nat) (bytes : Option (List Byte)) (h0 : n ≠ 0)
    (hn : ¬ pos + n ≤ d.length) :
    r.set pos n bytes = .err .MissingBuffer ∨ r.set pos n bytes = .err .BadArgument := by
  rw [← H.len] at hn
  unfold set
  rw [if_neg h0]
  rcases view_refused r H.wf pos n .MissingBuffer (by omega) with hv | hv <;> rw [hv]
  · left; rfl
  · right; rfl

/-! `mpt_queue_crop(q, pos, n)` with `pos ≠ 0`: on the unrolled ring every branch is one `memmove` of the tail
down by `n`, cut into chunks where source or target meet the storage end. -/

/-- the chunks that cross the storage end: the target `b` is `low` bytes below the end, the source `n` further -/
theorem cropFill_unroll (s : List Byte) (M off b src post low pb n : Nat) (hM : s.length = M) (ho : off ≤ M)
    (hb : b = off + pb) (hbl : b + low = M) (hsrc : src + M = off + pb + n) (hfit : pb + n + post ≤ M) :
    ∃ s' c, cropFill s b src post low = .ok (s', c) ∧ s'.length = M ∧
      unroll s' off = Mem.move (unroll s off) pb (pb + n) post := by
  subst hb
  unfold cropFill
  split
  · obtain ⟨s', he, hl, hu⟩ := mv_unroll s M off (off + pb) src post pb (pb + n) hM ho
      (.upper (by omega) (by omega)) (.lower (by omega) (by omega))
    rw [he]
    exact ⟨_, _, rfl, hl, hu⟩
  · obtain ⟨s1, he1, hl1, hu1⟩ := mv_unroll s M off (off + pb) src low pb (pb + n) hM ho
      (.upper (by omega) (by omega)) (.lower (by omega) (by omega))
    obtain ⟨s2, he2, hl2, hu2⟩ := mv_unroll s1 M off 0 (src + low) (post - low) (pb + low) (pb + low + n) hl1 ho
      (.lower (by omega) (by omega)) (.lower (by omega) (by omega))
    rw [he1]
    simp only []
    rw [he2]
    refine ⟨_, _, rfl, hl2, ?_⟩
    rw [hu2, hu1, Mem.move_down_chunk _ _ _ _ _ (by rw [unroll_length]; omega), Nat.add_sub_cancel' (by omega)]

/-- the data continue behind the wrap: `low` bytes at `base` (logical position `pos`) reach the storage end, `high`
    more lie at the storage start -/
theorem cropWrapped_unroll (s : List Byte) (M off base low high n pos : Nat) (hM : s.length = M) (ho : off ≤ M)
    (hb : base = off + pos) (hbl : base + low = M) (hh : pos + low + high ≤ M) (hn : n ≤ low + high) :
    ∃ s' c, cropWrapped s base low high n = .ok (s', c) ∧ s'.length = M ∧
      unroll s' off = Mem.move (unroll s off) pos (pos + n) (low + high - n) := by
  unfold cropWrapped
  split
  · -- the rest of the first part moves inside it, the second part follows
    subst hb
    obtain ⟨s1, he1, hl1, hu1⟩ := mv_unroll s M off (off + pos) (off + pos + n) (low - n) pos (pos + n) hM ho
      (.upper (by omega) (by omega)) (.upper (by omega) (by omega))
    obtain ⟨s', c, he, hl', hu⟩ := cropFill_unroll s1 M off (off + pos + (low - n)) 0 (low + high - n - (low - n)) n
      (pos + (low - n)) n hl1 ho (by omega) (by omega) (by omega) (by omega)
    rw [he1]
    refine ⟨s', c, he, hl', ?_⟩
    rw [hu, hu1, Mem.move_down_chunk _ _ _ _ _ (by rw [unroll_length]; omega)]
    congr 1; omega
  · exact cropFill_unroll s M off base (n - low) (low + high - n) low pos n hM ho hb hbl (by omega) (by omega)

/-- the tail lies in one piece, `low` bytes at `base`.  At `n = low` nothing moves, and then `base` need not be an
    index into the storage (it may be its end): the access `P` is asked for only when `n < low` -/
theorem cropLinear_unroll (s : List Byte) (M off base low n pos : Nat) (hM : s.length = M) (ho : off ≤ M)
    (P : n < low → Parts M off pos base low 0) :
    ∃ s' c, cropLinear s base low n = .ok (s', c) ∧ s'.length = M ∧
      unroll s' off = Mem.move (unroll s off) pos (pos + n) (low - n) := by
  unfold cropLinear
  simp only []
  split
  · obtain ⟨hf, hb, _⟩ := P (by omega)
    obtain ⟨s', he, hl, hu⟩ := mv_unroll s M off base (base + n) (low - n) pos (pos + n) hM ho
      ⟨by omega, by omega, .inl rfl⟩ ⟨by omega, by omega, .inl rfl⟩
    rw [he]
    exact ⟨_, _, rfl, hl, hu⟩
  · exact ⟨_, _, rfl, hM, by rw [show low - n = 0 by omega, Mem.move_zero]⟩

theorem crop_ok (H : r.Holds cap d) (pos n : Nat) (hn : pos + n ≤ d.length) :
    ∃ r' c, r.crop pos n = .ok (r', c) ∧ r'.Holds cap (d.take pos ++ d.drop (pos + n)) := by
  by_cases hp : pos = 0
  · subst hp
    obtain ⟨r', c, he, H', _⟩ := crop_front H n (by omega)
    exact ⟨r', c, he, by rwa [List.take_zero, Nat.zero_add, List.nil_append]⟩
  have hlen := H.len
  obtain ⟨⟨h1, h2⟩, rfl, rfl⟩ := H
  rw [← hlen] at hn
  clear hlen
  obtain ⟨hl1, hl2, hl3⟩ := low_spec r ⟨h1, h2⟩
  -- whichever branch runs, the unrolled ring has its tail moved down
  have key : ∃ s' c, (if pos < r.low then cropTail r.store (r.off + pos) (r.low - pos) (r.len - r.low) n
        else if pos - r.low > r.len - r.low then .err .BadArgument
        else cropTail r.store (pos - r.low) (r.len - r.low - (pos - r.low)) 0 n) = .ok (s', c) ∧
      s'.length = r.store.length ∧
      unroll s' r.off = Mem.move (unroll r.store r.off) pos (pos + n) (r.len - (pos + n)) := by
    generalize r.low = L at hl1 hl2 hl3 ⊢
    unfold cropTail
    by_cases hA : pos < L
    · rw [if_pos hA, if_neg (by omega)]
      by_cases hw : r.len - L ≠ 0
      · rw [if_pos hw]
        obtain ⟨s', c, he, hl, hu⟩ := cropWrapped_unroll r.store _ r.off (r.off + pos) (L - pos) (r.len - L) n pos
          rfl h2 rfl (by omega) (by omega) (by omega)
        exact ⟨s', c, he, hl, by rw [hu]; congr 1; omega⟩
      · rw [if_neg hw]
        obtain ⟨s', c, he, hl, hu⟩ := cropLinear_unroll r.store _ r.off (r.off + pos) (L - pos) n pos rfl h2
          (fun _ => .upper rfl (by omega))
        exact ⟨s', c, he, hl, by rw [hu]; congr 1; omega⟩
    · rw [if_neg hA, if_neg (by omega), if_neg (by omega), if_neg (by omega)]
      obtain ⟨s', c, he, hl, hu⟩ := cropLinear_unroll r.store _ r.off (pos - L) (r.len - L - (pos - L)) n pos rfl h2
        (fun _ => .lower (by omega) (by omega))
      exact ⟨s', c, he, hl, by rw [hu]; congr 1; omega⟩
  obtain ⟨s', c, he, hl, hu⟩ := key
  unfold crop
  simp only [hp, ↓reduceIte]
  rw [he]
  exact ⟨_, _, rfl, ⟨by simp only []; omega, by simp only []; omega⟩, hl, content_move_down r ⟨h1, h2⟩ s' pos n hn hu⟩

theorem crop_refused (H : r.Holds cap d) (pos n : Nat) (hn : ¬ pos + n ≤ d.length) :
    r.crop pos n = .err .BadArgument := by
  rw [← H.len] at hn
  obtain ⟨h1, h2⟩ := H.wf
  unfold crop low cropTail
  simp only [max]
  by_cases hp : pos = 0
  · subst hp
    simp only [↓reduceIte]
    rw [if_pos (by omega)]
  · simp only [hp, ↓reduceIte]
    by_cases hA : pos < min (r.store.length - r.off) r.len
    · rw [if_pos hA, if_pos (by omega)]
    · rw [if_neg hA]
      by_cases hB : pos - min (r.store.length - r.off) r.len > r.len - min (r.store.length - r.off) r.len
      · rw [if_pos hB]
      · rw [if_neg hB, if_pos (by omega)]

theorem empty_parts (r : Ring) (h : r.WF) (hfree : r.len < r.store.length) :
    ∃ st low high, r.empty = some (st, low, high) ∧ low + high = r.store.length - r.len ∧
      Parts r.store.length r.off r.len st low high := by
  have := h.2
  unfold empty
  simp only [max]
  rw [if_neg (by omega)]
  split
  · exact ⟨_, _, _, rfl, by omega, by omega, by omega, by omega⟩
  · exact ⟨_, _, _, rfl, by omega, by omega, by omega, by omega⟩

theorem empty_none (r : Ring) (hfull : r.store.length ≤ r.len) : r.empty = none := by
  unfold empty
  simp only [max]
  rw [if_pos (by omega)]

/-- `mpt_qpost` only lengthens the data; what the new bytes hold is `qpush_ok`'s business, so the ring is given
    literally and not through `Holds` -/
theorem qpost_ok (H : r.Holds cap d) (n : Nat) (hn : d.length < cap ∧ n ≤ cap - d.length) :
    ∃ k, r.qpost n = .ok ({ r with len := r.len + n }, k) := by
  rw [← H.len, ← H.cap] at hn
  obtain ⟨st, low, high, he, hs, _⟩ := empty_parts r H.wf hn.1
  unfold qpost
  rw [he]
  simp only []
  rw [if_neg (by omega)]
  exact ⟨_, rfl⟩

theorem qpost_refused (H : r.Holds cap d) (n : Nat) (hn : ¬(d.length < cap ∧ n ≤ cap - d.length)) :
    r.qpost n = .err .MissingBuffer := by
  rw [← H.len, ← H.cap] at hn
  have h := H.wf
  unfold qpost
  by_cases hf : r.len < r.store.length
  · obtain ⟨st, low, high, he, hs, _⟩ := empty_parts r h hf
    rw [he]
    simp only []
    rw [if_pos (by omega)]
  · rw [empty_none r (by omega)]

/-- `mpt_qpre` moves the offset back by `n`: the old content follows `n` new bytes (the storage is untouched, which
    the coded queue needs) -/
theorem qpre_ok (H : r.Holds cap d) (n : Nat) (hn : d.length < cap ∧ n ≤ cap - d.length) :
    ∃ r1 k f, r.qpre n = .ok (r1, k) ∧ f.length = n ∧ r1.Holds cap (f ++ d) ∧ r1.store = r.store := by
  obtain ⟨⟨h1, h2⟩, rfl, rfl⟩ := H
  rw [content_length r h1] at hn
  have key : ∃ r1 k, r.qpre n = .ok (r1, k) ∧ r1.WF ∧ r1.store = r.store ∧ r1.len = r.len + n ∧
      r1.content.drop n = r.content := by
    obtain ⟨st, low, high, he, hs, P⟩ := empty_parts r ⟨h1, h2⟩ hn.1
    have := P.wrap
    unfold qpre
    rw [he]
    simp only [max]
    rw [if_neg (by omega)]
    refine ⟨_, _, rfl, ⟨by simp only []; omega, by simp only []; split <;> (try split) <;> omega⟩, rfl, rfl, ?_⟩
    exact (content_shift r.store _ r.off r.len n (by omega) (by split <;> (try split) <;> omega)).symm
  obtain ⟨r1, k, he, hw1, hs1, hl1, hc1⟩ := key
  refine ⟨r1, k, r1.content.take n, he, ?_, ⟨hw1, by rw [hs1], ?_⟩, hs1⟩
  · rw [List.length_take, content_length r1 hw1.1]; omega
  · rw [← hc1, List.take_append_drop]

theorem qpre_refused (H : r.Holds cap d) (n : Nat) (hn : ¬(d.length < cap ∧ n ≤ cap - d.length)) :
    r.qpre n = .err .MissingBuffer := by
  rw [← H.len, ← H.cap] at hn
  have h := H.wf
  unfold qpre
  by_cases hf : r.len < r.store.length
  · obtain ⟨st, low, high, he, hs, _⟩ := empty_parts r h hf
    rw [he]
    simp only []
    rw [if_pos (by omega)]
  · rw [empty_none r (by omega)]

/-- `mpt_qpop`; `dst` says whether the caller passes a target to copy into.  Without one the bytes are handed out as a
    pointer into the storage, which there is none for when they lie on both sides of the wrap: the second answer -/
theorem qpop_spec (H : r.Holds cap d) (n : Nat) (dst : Bool) :
    (n ≤ d.length → (∃ r', r.qpop n dst = .ok (r', d.drop (d.length - n)) ∧ r'.Holds cap (d.take (d.length - n)))
        ∨ (dst = false ∧ r.qpop n dst = .null)) ∧
    (¬ n ≤ d.length → r.qpop n dst = .null) := by
  have hlen := H.len
  obtain ⟨h, rfl, rfl⟩ := H
  rw [← hlen]
  clear hlen
  obtain ⟨hl1, hl2, hl3⟩ := low_spec r h
  have h1 := h.1
  -- only `len` changes
  have hres : ({ r with len := r.len - n } : Ring).Holds r.store.length (r.content.take (r.len - n)) :=
    ⟨⟨by simp only []; omega, h.2⟩, rfl, content_take r _ (Nat.sub_le _ _)⟩
  unfold qpop
  simp only [max]
  generalize r.low = L at hl1 hl2 hl3 ⊢
  obtain ⟨high, hh⟩ : ∃ high, r.len - L = high := ⟨_, rfl⟩
  have hlen : r.len = L + high := by omega
  rw [hh]
  clear hh hl1
  by_cases hw : high = 0
  · -- contiguous content
    rw [if_pos hw]
    refine ⟨fun hn => Or.inl ⟨_, ?_, hres⟩, fun hn => by rw [if_pos (by omega)]⟩
    rw [if_neg (by omega), Mem.rd_ok _ _ _ (by omega)]
    simp only [Res.bind_ok, Res.pure_eq]
    rw [← read_content_tail r h n hn, read_unroll_upper _ _ _ _ (by omega), show L = r.len by omega]
  · rw [if_neg hw]
    by_cases hb : n > high
    -- the last `n` bytes lie on both sides of the wrap: without a target there is no one pointer to return
    · rw [if_pos hb]
      cases dst
      · refine ⟨fun _ => Or.inr ⟨rfl, ?_⟩, fun _ => ?_⟩ <;> rfl
      · simp only [Bool.not_true, Bool.false_eq_true, ↓reduceIte]
        refine ⟨fun hn => Or.inl ⟨_, ?_, hres⟩, fun hn => by rw [if_pos (by omega)]⟩
        rw [if_neg (by omega), Mem.rd_ok _ _ _ (by omega), Mem.rd_ok _ _ _ (by omega)]
        simp only [Res.bind_ok, Res.pure_eq]
        rw [read_parts _ r.off (r.len - n) _ _ _ h.2 ⟨by omega, by omega, by omega⟩, Nat.sub_add_cancel (by omega),
          read_content_tail r h n hn]
    · rw [if_neg hb]
      refine ⟨fun hn => Or.inl ⟨_, ?_, hres⟩, fun hn => by omega⟩
      rw [Mem.rd_ok _ _ _ (by omega)]
      simp only [Res.bind_ok, Res.pure_eq]
      rw [← read_content_tail r h n hn, read_unroll_lower _ _ _ _ h.2 (by omega) (by omega)]
      congr 3; omega

theorem qpop_ok (H : r.Holds cap d) (n : Nat) (hn : n ≤ d.length) :
    ∃ r', r.qpop n true = .ok (r', d.drop (d.length - n)) ∧ r'.Holds cap (d.take (d.length - n)) :=
  ((qpop_spec H n true).1 hn).resolve_right fun h => Bool.noConfusion h.1

theorem qpop_refused (H : r.Holds cap d) (n : Nat) (dst : Bool) (hn : ¬ n ≤ d.length) : r.qpop n dst = .null :=
  (qpop_spec H n dst).2 hn

/-- `mpt_qshift`; `dst` as for `qpop_spec` -/
theorem qshift_spec (H : r.Holds cap d) (n : Nat) (dst : Bool) :
    (n ≤ d.length → (∃ r', r.qshift n dst = .ok (r', d.take n) ∧ r'.Holds cap (d.drop n))
        ∨ (dst = false ∧ r.qshift n dst = .null)) ∧
    (¬ n ≤ d.length → r.qshift n dst = .null) := by
  have hlen := H.len
  obtain ⟨h, rfl, rfl⟩ := H
  rw [← hlen]
  have hcrop (hn : n ≤ r.len) := crop_front h.holds n (hlen ▸ hn)
  clear hlen
  obtain ⟨hl1, hl2, hl3⟩ := low_spec r h
  have h1 := h.1
  unfold qshift
  simp only []
  generalize r.low = L at hl1 hl2 hl3 ⊢
  -- the first `n` bytes lie in the first part, or on both sides of the wrap (then, as in `qpop_spec`, only with a target);
  -- either way the ring afterwards is `crop_front`'s
  by_cases hl : n ≤ L
  · rw [if_pos hl, Mem.rd_ok _ _ _ (by omega)]
    refine ⟨fun hn => Or.inl ?_, fun hn => by omega⟩
    obtain ⟨r', c, he, H', _⟩ := hcrop hn
    rw [he, ← read_content_head r n hn, read_unroll_upper _ _ _ _ (by omega)]
    exact ⟨r', rfl, H'⟩
  · rw [if_neg hl]
    cases dst
    · refine ⟨fun _ => Or.inr ⟨rfl, ?_⟩, fun _ => ?_⟩ <;> rfl
    · simp only [Bool.not_true, Bool.false_eq_true, ↓reduceIte]
      refine ⟨fun hn => Or.inl ?_, fun hn => by rw [if_pos (by omega)]⟩
      rw [if_neg (by omega), Mem.rd_ok _ _ _ (by omega), Mem.rd_ok _ _ _ (by omega)]
      simp only [Res.bind_ok, Res.pure_eq]
      obtain ⟨r', c, he, H', _⟩ := hcrop hn
      rw [he, read_parts _ r.off 0 _ _ _ h.2 ⟨by omega, by omega, by omega⟩, Nat.add_sub_cancel' (by omega),
        read_content_head r n hn]
      exact ⟨r', rfl, H'⟩

theorem qshift_ok (H : r.Holds cap d) (n : Nat) (hn : n ≤ d.length) :
    ∃ r', r.qshift n true = .ok (r', d.take n) ∧ r'.Holds cap (d.drop n) :=
  ((qshift_spec H n true).1 hn).resolve_right fun h => Bool.noConfusion h.1

theorem qshift_refused (H : r.Holds cap d) (n : Nat) (dst : Bool) (hn : ¬ n ≤ d.length) : r.qshift n dst = .null :=
  (qshift_spec H n dst).2 hn

theorem qpush_ok (H : r.Holds cap d) (n : Nat) (bytes : Option (List Byte)) (hn : d.length < cap ∧ n ≤ cap - d.length) :
    ∃ r' c, r.qpush n bytes = .ok (r', c) ∧ r'.Holds cap (d ++ setSrc n bytes) := by
  obtain ⟨k, hp⟩ := qpost_ok H n hn
  have hlen := H.len
  unfold qpush
  rw [hp]
  simp only []
  by_cases h0 : n = 0
  · subst h0
    rw [set_zero, setSrc_zero, List.append_nil]
    exact ⟨_, _, rfl, H⟩
  · obtain ⟨hw, rfl, rfl⟩ := H
    -- the new bytes are set at the end of the lengthened content
    have hw1 : ({ r with len := r.len + n } : Ring).WF := ⟨by simp only []; omega, hw.2⟩
    have hcl1 := content_length { r with len := r.len + n } hw1.1
    have ht := content_take { r with len := r.len + n } r.len (by simp only []; omega)
    simp only [] at hcl1 ht
    obtain ⟨r', c, he, H', _⟩ := set_ok hw1.holds r.len n bytes h0 (by omega)
    simp only [Nat.add_sub_cancel] at he ⊢
    rw [he]
    rw [← ht, List.drop_of_length_le (by omega), List.append_nil] at H'
    exact ⟨r', c, rfl, H'⟩

theorem qunshift_ok (H : r.Holds cap d) (n : Nat) (bytes : Option (List Byte)) (hn : d.length < cap ∧ n ≤ cap - d.length) :
    ∃ r' c, r.qunshift n bytes = .ok (r', c) ∧ r'.Holds cap (setSrc n bytes ++ d) := by
  obtain ⟨r1, k, f, hp, rfl, H1, _⟩ := qpre_ok H n hn
  unfold qunshift
  rw [hp]
  simp only []
  by_cases h0 : f.length = 0
  · rw [h0, set_zero, setSrc_zero]
    rw [List.eq_nil_of_length_eq_zero h0] at H1
    exact ⟨_, _, rfl, H1⟩
  · obtain ⟨r', c, he, H', _⟩ := set_ok H1 0 f.length bytes h0 (by rw [List.length_append]; omega)
    rw [he]
    rw [List.take_zero, List.nil_append, Nat.zero_add, List.drop_left] at H'
    exact ⟨r', c, rfl, H'⟩

theorem qpush_refused (H : r.Holds cap d) (n : Nat) (bytes : Option (List Byte))
    (hn : ¬(d.length < cap ∧ n ≤ cap - d.length)) :
    r.qpush n bytes = .err .MissingBuffer := by
  unfold qpush
  rw [qpost_refused H n hn]

theorem qunshift_refused (H : r.Holds cap d) (n : Nat) (bytes : Option (List Byte))
    (hn : ¬(d.length < cap ∧ n ≤ cap - d.length)) :
    r.qunshift n bytes = .err .MissingBuffer := by
  unfold qunshift
  rw [qpre_refused H n hn]

end Ring
end Mpt
