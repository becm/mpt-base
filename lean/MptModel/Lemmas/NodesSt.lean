/-
  The operand search of the specification state `Forest.St` (`sibsOf?`, `detached?`, `topOf?`, `find?` over the
  top-level lists) tied to the located form (`SibsAt`, `find?` in one list, permutation of `tops`) the refinement
  theorems are stated in; with it every operation of `Forest.St` is refined by the pointer store (`st_*_refines`).
-/
import MptModel.Lemmas.NodesMove
import MptModel.Lemmas.NodesFree
namespace Mpt.Nodes
open Mpt Mpt.Forest

theorem sibsOf?_sibsAt {p : Nat} {l L : Forest} {j : Nat} (h : Forest.sibsOf? p l = some (L, j)) :
    ∃ par, SibsAt p l L j par ∧ ∀ g, updSibs p g l = applyAt par g l := by
  simp only [Forest.sibsOf?] at h
  cases hi : idx? p l with
  | some j' =>
    simp only [hi, Option.some.injEq, Prod.mk.injEq] at h
    obtain ⟨rfl, rfl⟩ := h
    exact ⟨none, SibsAt.top hi, fun g => by simp [updSibs, hi, applyAt]⟩
  | none =>
    simp only [hi] at h
    cases hq : parentOf? p l with
    | none => simp [hq] at h
    | some q =>
      simp only [hq] at h
      cases hf : Forest.find? q l with
      | none => simp [hf] at h
      | some tq =>
        simp only [hf, Option.map_eq_some_iff, Prod.mk.injEq] at h
        obtain ⟨j', hj', rfl, rfl⟩ := h
        exact ⟨some q, SibsAt.kids hf hj', fun g => by simp [updSibs, hi, hq, applyAt]⟩

theorem SibsAt.mem {p : Nat} {l L : Forest} {j : Nat} {par : Option Nat} (h : SibsAt p l L j par) : p ∈ ids l :=
  h.subset p (idx?_mem h.idx)

theorem sibsOf?_not_mem {p : Nat} {l : Forest} (h : p ∉ ids l) :
    Forest.sibsOf? p l = none ∧ ∀ g, updSibs p g l = l := by
  refine ⟨by simp [Forest.sibsOf?, idx?_none_of_not_mem h, parentOf?_none h], fun g => ?_⟩
  simp [updSibs, idx?_none_of_not_mem h, parentOf?_none h]

theorem SibsAt.find_elem {x : Nat} {l L : Forest} {j : Nat} {par : Option Nat} {t : Tree} (h : SibsAt x l L j par)
    (hnd : (ids l).Nodup) (ht : L[j]? = some t) : Forest.find? x l = some t := by
  cases h with
  | top hi => exact find?_of_idx? hnd hi ht
  | kids hf hi =>
    rw [find?_below hnd hf (idx?_mem hi)]
    exact find?_of_idx? (find?_children_nodup hnd hf).2 hi ht

theorem one_top {tops : List Forest} {l : Forest} (h : l ∈ tops) : ∃ rest, tops.Perm (l :: rest) := by
  obtain ⟨A, B, rfl⟩ := List.append_of_mem h
  exact ⟨A ++ B, List.perm_middle⟩

theorem two_tops {tops : List Forest} {l l' : Forest} (h : l ∈ tops) (h' : l' ∈ tops) (hne : l ≠ l') :
    ∃ rest, tops.Perm (l :: l' :: rest) := by
  obtain ⟨A, B, rfl⟩ := List.append_of_mem h
  have h2 : l' ∈ A ++ B := by
    simp only [List.mem_append, List.mem_cons] at h' ⊢
    rcases h' with h1 | h1 | h1
    · exact Or.inl h1
    · exact absurd h1.symm hne
    · exact Or.inr h1
  obtain ⟨rest, hr⟩ := one_top h2
  exact ⟨rest, List.perm_middle.trans (List.Perm.cons l hr)⟩

theorem uniq_top {tops : List Forest} (hnd : (tops.flatMap ids).Nodup) {l l' : Forest} (h : l ∈ tops) (h' : l' ∈ tops)
    {a : Nat} (ha : a ∈ ids l) (ha' : a ∈ ids l') : l = l' := by
  refine Classical.byContradiction fun hne => ?_
  obtain ⟨rest, hp⟩ := two_tops h h' hne
  have := (hp.flatMap_right ids).nodup_iff.1 hnd
  simp only [List.flatMap_cons] at this
  exact (List.nodup_append.1 this).2.2 a ha a (by simp [ha']) rfl

theorem Realises.disjoint_rest {s : Store} {l : Forest} {rest : List Forest} (h : Realises s (l :: rest)) :
    ∀ r ∈ rest, ∀ a ∈ ids l, a ∉ ids r := by
  intro r hr a ha har
  have := h.nodup
  simp only [List.flatMap_cons] at this
  exact (List.nodup_append.1 this).2.2 a ha a (List.mem_flatMap.2 ⟨r, hr, har⟩) rfl

theorem map_eq_self {α : Type} {l : List α} {F : α → α} (h : ∀ r ∈ l, F r = r) : l.map F = l := by
  conv => rhs; rw [← List.map_id l]
  exact List.map_congr_left h

theorem dropEmpty_cons (l : Forest) (ls : List Forest) :
    Forest.St.dropEmpty (l :: ls) = (if l.isEmpty then [] else [l]) ++ Forest.St.dropEmpty ls := by
  cases l <;> simp [Forest.St.dropEmpty]

theorem dropEmpty_eq_self {ls : List Forest} (h : ∀ r ∈ ls, r ≠ []) : Forest.St.dropEmpty ls = ls :=
  List.filter_eq_self.2 fun r hr => by simpa using h r hr

theorem dropEmpty_perm {ls ls' : List Forest} (h : ls.Perm ls') :
    (Forest.St.dropEmpty ls).Perm (Forest.St.dropEmpty ls') := h.filter _

theorem st_sibsOf? {sp : Forest.St} {p : Nat} {L : Forest} {j : Nat} (h : sp.sibsOf? p = some (L, j)) :
    ∃ l0 ∈ sp.tops, Forest.sibsOf? p l0 = some (L, j) := by
  simp only [Forest.St.sibsOf?] at h
  obtain ⟨l0, hl0, h0⟩ := List.exists_of_findSome?_eq_some h
  exact ⟨l0, hl0, h0⟩

theorem st_find? {sp : Forest.St} {p : Nat} {t : Tree} (h : sp.find? p = some t) :
    ∃ l0 ∈ sp.tops, Forest.find? p l0 = some t := by
  simp only [Forest.St.find?] at h
  obtain ⟨l0, hl0, h0⟩ := List.exists_of_findSome?_eq_some h
  exact ⟨l0, hl0, h0⟩

theorem st_detached? {sp : Forest.St} {x : Nat} {t : Tree} (h : sp.detached? x = some t) : [t] ∈ sp.tops ∧ t.id = x := by
  simp only [Forest.St.detached?] at h
  cases hf : sp.tops.find? (fun l => headId l == some x) with
  | none => simp [hf] at h
  | some l =>
    rw [hf] at h
    have hm := List.mem_of_find?_eq_some hf
    have hp := List.find?_some hf
    match l, h with
    | [t'], h =>
      simp at h; subst h
      exact ⟨hm, by simpa [headId] using hp⟩

theorem eraseTop_perm {s : Store} {sp : Forest.St} {x : Nat} {t : Tree} {others : List Forest} (htid : t.id = x)
    (hp : sp.tops.Perm ([t] :: others)) (hR : Realises s ([t] :: others)) : (sp.eraseTop x).Perm others := by
  simp only [Forest.St.eraseTop]
  refine (hp.filter _).trans ?_
  have h1 : (headId [t] != some x) = false := by simp [headId, htid]
  rw [List.filter_cons_of_neg (by simp [h1])]
  rw [List.filter_eq_self.2]
  intro l hl
  have hne := (hR.real l (by simp [hl])).1
  cases l with
  | nil => exact absurd rfl hne
  | cons u us =>
    cases u with
    | node i n v cs =>
      have hx : x ∉ ids ((.node i n v cs) :: us) := hR.disjoint_rest _ hl x (by cases t; simp [Tree.id] at htid; simp [htid])
      simp only [headId, List.head?_cons, Option.map_some, Tree.id, bne_iff_ne, ne_eq, Option.some.injEq]
      intro h; subst h; simp at hx


theorem placed_tops {s : Store} {sp : Forest.St} {x : Nat} {t : Tree} {l0 : Forest} {rest : List Forest} (F : Forest → Forest)
    (htid : t.id = x) (hp : sp.tops.Perm ([t] :: l0 :: rest)) (hR : Realises s ([t] :: l0 :: rest))
    (hF : ∀ r ∈ rest, F r = r) : ((sp.eraseTop x).map F).Perm (F l0 :: rest) := by
  have h1 := (eraseTop_perm htid hp hR).map F
  refine h1.trans ?_
  rw [List.map_cons, map_eq_self hF]

theorem located_pair {s : Store} {sp : Forest.St} (hR : Realises s sp.tops) {p : Nat} {t : Tree} {l0 : Forest}
    (ht : [t] ∈ sp.tops) (hl0 : l0 ∈ sp.tops) (hp : p ∈ ids l0) (hnp : p ∉ ids [t]) :
    ∃ rest, sp.tops.Perm ([t] :: l0 :: rest) ∧ Realises s ([t] :: l0 :: rest) ∧ ∀ r ∈ rest, p ∉ ids r := by
  have hne : [t] ≠ l0 := by rintro rfl; exact hnp hp
  obtain ⟨rest, hperm⟩ := two_tops ht hl0 hne
  have hR' := hR.perm hperm.symm
  refine ⟨rest, hperm, hR', ?_⟩
  have hR2 : Realises s (l0 :: [t] :: rest) := hR'.perm (List.Perm.swap _ _ _)
  exact fun r hr => hR2.disjoint_rest r (by simp [hr]) p hp

/-- located form of an accepted `St.place`, the operation behind after, before and add -/
theorem st_place_located {s : Store} {sp sp' : Forest.St} (hR : Realises s sp.tops) {p x : Nat}
    {at_ : Forest → Nat → Option Nat} (h : sp.place p x at_ = some sp') :
    ∃ n' v' cs' l j l0 par rest, sp.detached? x = some (.node x n' v' cs') ∧
      Realises s ([.node x n' v' cs'] :: l0 :: rest) ∧ SibsAt p l0 l j par ∧
      sp.tops.Perm ([.node x n' v' cs'] :: l0 :: rest) ∧
      ((at_ l j = none ∧ sp' = sp) ∨
       ∃ k, at_ l j = some k ∧ sp'.tops.Perm (applyAt par (fun l' => l'.insertIdx k (.node x n' v' cs')) l0 :: rest)) := by
  simp only [Forest.St.place] at h
  cases hd : sp.detached? x with
  | none => simp [hd] at h
  | some t =>
    cases hs : sp.sibsOf? p with
    | none => simp [hd, hs] at h
    | some lj =>
      obtain ⟨l, j⟩ := lj
      simp only [hd, hs] at h
      by_cases hc : (ids [t]).contains p
      · simp at hc; simp [hc] at h
      · simp only [hc, Bool.false_eq_true, ↓reduceIte] at h
        obtain ⟨htm, htid⟩ := st_detached? hd
        obtain ⟨l0, hl0, hso⟩ := st_sibsOf? hs
        obtain ⟨par, hat, hupd⟩ := sibsOf?_sibsAt hso
        obtain ⟨rest, hperm, hR', hrest⟩ := located_pair hR htm hl0 hat.mem (by simpa using hc)
        obtain ⟨x', n', v', cs'⟩ := t
        cases htid
        refine ⟨n', v', cs', l, j, l0, par, rest, rfl, hR', hat, hperm, ?_⟩
        cases hk : at_ l j with
        | none => simp only [hk, Option.some.injEq] at h; exact Or.inl ⟨rfl, h.symm⟩
        | some k =>
          simp only [hk, Option.some.injEq] at h
          subst h
          refine Or.inr ⟨k, rfl, ?_⟩
          have := placed_tops (updSibs p fun l' => l'.insertIdx k (.node x' n' v' cs')) rfl hperm hR'
            (fun r hr => (sibsOf?_not_mem (hrest r hr)).2 _)
          rwa [hupd] at this

/-- `St.add` (by position and by name) is refined by `mpt_gnode_add` / `mpt_node_add` -/
theorem st_add_refines {s : Store} {sp sp' : Forest.St} (hR : Realises s sp.tops) {first x : Nat} {pos : Int} {byName : Bool}
    (h : sp.add first pos x byName = some sp') : ∃ s', s.add first pos x byName = .ok s' ∧ Realises s' sp'.tops := by
  simp only [Forest.St.add] at h
  cases hd : sp.detached? x with
  | none => simp [hd] at h
  | some t =>
    simp only [hd] at h
    obtain ⟨n', v', cs', l, j, l0, par, rest, hd', hR', hat, hperm, hcase⟩ := st_place_located hR h
    rw [hd] at hd'
    cases hd'
    obtain ⟨s', h1, h2⟩ := add_at_refines pos byName hR' hat
    refine ⟨s', h1, ?_⟩
    rcases hcase with ⟨hn, rfl⟩ | ⟨k, hk, htops⟩
    · rw [Tree.name] at hn; rw [hn] at h2; exact h2.perm hperm
    · rw [Tree.name] at hk; rw [hk] at h2; exact h2.perm htops

theorem st_after_refines {s : Store} {sp sp' : Forest.St} (hR : Realises s sp.tops) {p x : Nat}
    (h : sp.after p x = some sp') : ∃ s', s.gnodeAfter (some p) x = .ok s' ∧ Realises s' sp'.tops := by
  simp only [Forest.St.after] at h
  by_cases hpx : p = x
  · subst hpx
    simp only [↓reduceIte] at h
    split at h
    · cases h; exact ⟨s, by simp [Store.gnodeAfter], hR⟩
    · cases h
  · simp only [hpx, ↓reduceIte] at h
    obtain ⟨n', v', cs', l, j, l0, par, rest, _, hR', hat, hperm, hcase⟩ := st_place_located hR h
    rcases hcase with ⟨hn, _⟩ | ⟨k, hk, htops⟩
    · cases hn
    · cases hk
      obtain ⟨s', h1, h2⟩ := after_refines hR' hat
      exact ⟨s', h1, h2.perm htops⟩

theorem st_before_refines {s : Store} {sp sp' : Forest.St} (hR : Realises s sp.tops) {p x : Nat}
    (h : sp.before p x = some sp') : ∃ s', s.gnodeBefore (some p) x = .ok s' ∧ Realises s' sp'.tops := by
  simp only [Forest.St.before] at h
  by_cases hpx : p = x
  · subst hpx
    simp only [↓reduceIte] at h
    split at h
    · cases h; exact ⟨s, by simp [Store.gnodeBefore], hR⟩
    · cases h
  · simp only [hpx, ↓reduceIte] at h
    obtain ⟨n', v', cs', l, j, l0, par, rest, _, hR', hat, hperm, hcase⟩ := st_place_located hR h
    rcases hcase with ⟨hn, _⟩ | ⟨k, hk, htops⟩
    · cases hn
    · cases hk
      obtain ⟨s', h1, h2⟩ := before_refines hR' hat
      exact ⟨s', h1, h2.perm htops⟩

theorem nameIdx_nil (f : Nat) (nm : Name) (pos : Int) : nameIdx [] f nm pos = some 0 := by
  simp [nameIdx, namesakes, midx]

theorem addIdx_zero (pos : Int) : addIdx 0 0 pos = 0 := by
  simp only [addIdx]
  split
  · rfl
  · split <;> simp

/-- `St.insert` (by position and by name) is refined by `mpt_gnode_insert` / `mpt_node_insert` -/
theorem st_insert_refines {s : Store} {sp sp' : Forest.St} (hR : Realises s sp.tops) {parent x : Nat} {pos : Int} {byName : Bool}
    (h : sp.insert parent pos x byName = some sp') : ∃ s', s.insert parent pos x byName = .ok s' ∧ Realises s' sp'.tops := by
  simp only [Forest.St.insert] at h
  cases hd : sp.detached? x with
  | none => simp [hd] at h
  | some t =>
    cases hfp : sp.find? parent with
    | none => simp [hd, hfp] at h
    | some pt =>
      simp only [hd, hfp] at h
      by_cases hc : (ids [t]).contains parent
      · simp at hc; simp [hc] at h
      · simp only [hc, Bool.false_eq_true, ↓reduceIte] at h
        obtain ⟨htm, htid⟩ := st_detached? hd
        obtain ⟨l0, hl0, hf⟩ := st_find? hfp
        obtain ⟨rest, hperm, hR', hrest⟩ := located_pair hR htm hl0 (find?_mem hf).1 (by simpa using hc)
        have hnd0 := hR'.ids_nodup (l := l0) (by simp)
        cases t with
        | node x' n' v' cs' =>
          simp only [Tree.id] at htid; subst htid
          have htops : ∀ g, ((sp.eraseTop x').map (modKids parent g)).Perm (modKids parent g l0 :: rest) := fun g =>
            placed_tops (modKids parent g) rfl hperm hR' (fun r hr => modKids_of_not_mem (hrest r hr))
          by_cases hempty : pt.children = []
          · -- first child of a childless parent
            obtain ⟨s', h1, h2⟩ := insert_empty_refines pos byName hR' hf hempty
            have hk : (if byName = true then nameIdx pt.children 0 (Tree.node x' n' v' cs').name pos
                else some (addIdx pt.children.length 0 pos)) = some 0 := by
              rw [hempty]
              cases byName with
              | true => simp [nameIdx_nil]
              | false => simp [addIdx_zero pos]
            simp only [hk, Option.some.injEq] at h
            subst h
            refine ⟨s', h1, h2.perm ?_⟩
            have := htops (fun l => l.insertIdx 0 (.node x' n' v' cs'))
            rwa [modKids_congr (g' := fun _ => [.node x' n' v' cs']) hnd0 hf (by simp [hempty])] at this
          · obtain ⟨s', h1, h2⟩ := insert_at_refines pos byName hR' hf hempty
            refine ⟨s', h1, ?_⟩
            simp only [Tree.name] at h
            cases hk : (if byName = true then nameIdx pt.children 0 n' pos else some (addIdx pt.children.length 0 pos)) with
            | none =>
              simp only [hk, Option.some.injEq] at h h2
              subst h
              exact h2.perm hperm
            | some k =>
              simp only [hk, Option.some.injEq] at h h2
              subst h
              exact h2.perm (htops _)

theorem st_find_in {s : Store} {sp : Forest.St} (hR : Realises s sp.tops) {x : Nat} {t : Tree} (h : sp.find? x = some t)
    {l0 : Forest} (hl0 : l0 ∈ sp.tops) (hx : x ∈ ids l0) : Forest.find? x l0 = some t := by
  obtain ⟨l1, hl1, hf⟩ := st_find? h
  have := uniq_top hR.nodup hl1 hl0 (find?_mem hf).1 hx
  subst this
  exact hf

theorem st_unlink_refines {s : Store} {sp sp' : Forest.St} (hR : Realises s sp.tops) {x : Nat}
    (h : sp.unlink x = some sp') : ∃ r, s.unlink x = .ok r ∧ Realises r.1 sp'.tops := by
  simp only [Forest.St.unlink] at h
  cases hf : sp.find? x with
  | none => simp [hf] at h
  | some t =>
    cases hs : sp.sibsOf? x with
    | none => simp [hf, hs] at h
    | some Lj =>
      obtain ⟨L, j⟩ := Lj
      simp only [hf, hs, Option.some.injEq] at h
      subst h
      obtain ⟨l0, hl0, hso⟩ := st_sibsOf? hs
      obtain ⟨par, hat, hupd⟩ := sibsOf?_sibsAt hso
      obtain ⟨rest, hperm⟩ := one_top hl0
      have hR' := hR.perm hperm.symm
      obtain ⟨tj, htj, htjid⟩ := getElem?_of_idx? hat.idx
      have hteq : tj = t := by
        have := hat.find_elem (hR'.ids_nodup (by simp)) htj
        rw [st_find_in hR hf hl0 hat.mem] at this
        exact (Option.some.inj this).symm
      subst hteq
      obtain ⟨r, h1, h2⟩ := unlink_any_refines hR' hat htj
      refine ⟨r, h1, h2.perm ?_⟩
      have hmap : (sp.tops.map (updSibs x fun l => l.eraseIdx j)).Perm (applyAt par (fun l => l.eraseIdx j) l0 :: rest) := by
        refine (hperm.map _).trans ?_
        rw [List.map_cons, hupd, map_eq_self fun r hr =>
          (sibsOf?_not_mem (hR'.disjoint_rest r hr x hat.mem)).2 _]
      refine (List.perm_append_singleton _ _).trans (List.Perm.cons _ ((dropEmpty_perm hmap).trans ?_))
      rw [dropEmpty_cons, dropEmpty_eq_self fun r hr => (hR'.real r (by simp [hr])).1]

theorem st_clear_refines {s : Store} {sp sp' : Forest.St} (hR : Realises s sp.tops) {x : Nat}
    (h : sp.clear x = some sp') : ∃ s', s.clear s.fuel x = .ok s' ∧ Realises s' sp'.tops := by
  simp only [Forest.St.clear] at h
  cases hf : sp.find? x with
  | none => simp [hf] at h
  | some t =>
    simp only [hf, Option.some.injEq] at h
    subst h
    obtain ⟨l0, hl0, hfx⟩ := st_find? hf
    obtain ⟨rest, hperm⟩ := one_top hl0
    have hR' := hR.perm hperm.symm
    have hrest : ∀ r ∈ rest, x ∉ ids r := fun r hr => hR'.disjoint_rest r hr x (find?_mem hfx).1
    obtain ⟨s1, h1, r1, _⟩ := clear_refines hR' hfx (clear_fuel hR' hfx)
    refine ⟨s1, h1, r1.perm ?_⟩
    refine (hperm.map _).trans ?_
    rw [List.map_cons, map_eq_self fun r hr => modKids_of_not_mem (hrest r hr)]

theorem st_destroy_refines {s : Store} {sp sp' : Forest.St} (hR : Realises s sp.tops) {x : Nat}
    (h : sp.destroy x = some sp') : ∃ r, s.destroy s.fuel x = .ok r ∧ Realises r.1 sp'.tops := by
  simp only [Forest.St.destroy] at h
  cases hd : sp.detached? x with
  | none => simp [hd] at h
  | some t =>
    simp only [hd, Option.some.injEq] at h
    subst h
    obtain ⟨htm, htid⟩ := st_detached? hd
    obtain ⟨rest, hperm⟩ := one_top htm
    have hR' := hR.perm hperm.symm
    cases t with
    | node x' n v cs =>
      simp only [Tree.id] at htid; subst htid
      obtain ⟨s1, h1, r1, _⟩ := destroy_refines hR' (destroy_fuel hR')
      exact ⟨_, h1, r1.perm (eraseTop_perm rfl hperm hR')⟩

theorem st_clone_located {s : Store} {sp sp' : Forest.St} (hR : Realises s sp.tops) {x mode : Nat}
    (h : sp.clone x mode = some sp') : ∃ l i t l0 par rest, l[i]? = some t ∧ t.id = x ∧ SibsAt x l0 l i par ∧
      sp.tops.Perm (l0 :: rest) ∧ Realises s (l0 :: rest) ∧
      sp'.tops = sp.tops ++ [(relabel (if mode = 0 then [.node t.id t.name t.value []] else if mode = 1 then [t]
        else l.drop i) sp.next).1] := by
  simp only [Forest.St.clone] at h
  cases hs : sp.sibsOf? x with
  | none => simp [hs] at h
  | some li =>
    obtain ⟨l, i⟩ := li
    obtain ⟨l0, hl0, hso⟩ := st_sibsOf? hs
    obtain ⟨par, hat, _⟩ := sibsOf?_sibsAt hso
    obtain ⟨t, ht, htid⟩ := getElem?_of_idx? hat.idx
    simp only [hs, ht, Option.some.injEq] at h
    obtain ⟨rest, hperm⟩ := one_top hl0
    exact ⟨l, i, t, l0, par, rest, ht, htid, hat, hperm, hR.perm hperm.symm, by rw [← h]⟩

/-- `St.clone x 1` / `St.clone x 2` are refined by `mpt_tree_clone` / `mpt_list_clone` -/
theorem st_clone_refines {s : Store} {sp sp' : Forest.St} (hR : Realises s sp.tops) (hn : sp.next = s.nodes.length) {x : Nat} :
    (sp.clone x 1 = some sp' → ∃ r, s.treeClone x = .ok r ∧ Realises r.1 sp'.tops) ∧
    (sp.clone x 2 = some sp' → ∃ r, s.listClone s.fuel (some x) = .ok r ∧ Realises r.1 sp'.tops) := by
  constructor
  · intro h
    obtain ⟨l, i, t, l0, par, rest, ht, htid, hat, hperm, hR', htops⟩ := st_clone_located hR h
    obtain ⟨x', n, v, cs⟩ := t
    cases htid
    obtain ⟨s', h1, h2⟩ := treeClone_refines hR' (hat.find_elem (hR'.ids_nodup (by simp)) ht)
    refine ⟨_, h1, ?_⟩
    rw [htops, hn]
    exact h2.perm (List.Perm.append_right _ hperm)
  · intro h
    obtain ⟨l, i, t, l0, par, rest, ht, _, hat, hperm, hR', htops⟩ := st_clone_located hR h
    obtain ⟨s', h1, h2⟩ := listClone_refines hR' hat
    refine ⟨_, h1, ?_⟩
    rw [htops, hn]
    exact h2.perm (List.Perm.append_right _ hperm)

theorem st_clone0_refines {s : Store} {sp sp' : Forest.St} (hR : Realises s sp.tops) (hn : sp.next = s.nodes.length) {x : Nat}
    (h : sp.clone x 0 = some sp') : ∃ r, s.nodeClone x = .ok r ∧ Realises r.1 sp'.tops := by
  obtain ⟨l, i, t, l0, par, rest, ht, htid, hat, hperm, hR', htops⟩ := st_clone_located hR h
  have hrec := Real.rec_idx (hat.real (hR'.real l0 (by simp)).2) ht
  rw [htid] at hrec
  obtain ⟨s', h1, h2⟩ := nodeClone_refines hR (xn := _) ⟨hrec, rfl⟩
  refine ⟨_, h1, ?_⟩
  rw [htops, hn]
  simpa [relabel] using h2

theorem topOf?_spec {sp : Forest.St} (hnd : (sp.tops.flatMap ids).Nodup) {a i : Nat} (h : sp.topOf? a = some i) {l : Forest}
    (hl : l ∈ sp.tops) (ha : a ∈ ids l) :
    sp.tops[i]? = some l ∧ ∀ (c : Nat) (k : Nat), c ∈ ids l → sp.topOf? c = some k → k ≤ i := by
  simp only [Forest.St.topOf?] at h ⊢
  obtain ⟨hlt, hi, hmin⟩ := List.findIdx?_eq_some_iff_getElem.1 h
  have heq : sp.tops[i] = l := uniq_top hnd (List.getElem_mem hlt) hl (by simpa using hi) ha
  refine ⟨by rw [List.getElem?_eq_getElem hlt, heq], ?_⟩
  intro c k hc hk
  obtain ⟨hklt, _, hkmin⟩ := List.findIdx?_eq_some_iff_getElem.1 hk
  refine Nat.le_of_not_lt fun hik => ?_
  exact hkmin i hik (by rw [heq]; simpa using hc)

/-- `St.move` is refined by `mpt_node_move`, wherever the caller keeps the list reference, as long as it is the child
    link of the source list's parent only when the source list has that parent -/
theorem st_move_refines_slot {s : Store} {sp sp' : Forest.St} (hR : Realises s sp.tops) {a b m : Nat}
    (h : sp.move a b = some (sp', m)) (slot : Store.Slot)
    (hslot : ∀ la S i ps, la ∈ sp.tops → SibsAt a la S i ps → ∀ p, slot = .kids p → ps = some p) :
    ∃ r, s.move s.fuel slot (some a) b = .ok r ∧ r.2 = m ∧ Realises r.1 sp'.tops := by
  simp only [Forest.St.move] at h
  cases hta : sp.topOf? a with
  | none => simp [hta] at h
  | some ia =>
  cases htb : sp.topOf? b with
  | none => simp [hta, htb] at h
  | some ib =>
  cases hsa : sp.sibsOf? a with
  | none => simp [hta, htb, hsa] at h
  | some Si =>
  cases hsb : sp.sibsOf? b with
  | none => simp [hta, htb, hsa, hsb] at h
  | some Dd =>
    obtain ⟨S, i⟩ := Si
    obtain ⟨D, d⟩ := Dd
    simp only [hta, htb, hsa, hsb] at h
    by_cases hab : ia = ib
    · simp [hab] at h
    · simp only [hab, ↓reduceIte, Option.some.injEq, Prod.mk.injEq] at h
      obtain ⟨htops, hm⟩ := h
      obtain ⟨la, hla, hsoa⟩ := st_sibsOf? hsa
      obtain ⟨lb, hlb, hsob⟩ := st_sibsOf? hsb
      obtain ⟨ps, hata, hupda⟩ := sibsOf?_sibsAt hsoa
      obtain ⟨pd, hatb, hupdb⟩ := sibsOf?_sibsAt hsob
      -- different indices of `topOf?` mean different top-level lists
      have hne : la ≠ lb := by
        rintro rfl
        have h1 := (topOf?_spec hR.nodup hta hla hata.mem).2 b ib hatb.mem htb
        have h2 := (topOf?_spec hR.nodup htb hla hatb.mem).2 a ia hata.mem hta
        omega
      obtain ⟨rest, hperm⟩ := two_tops hla hlb hne
      have hR' := hR.perm hperm.symm
      obtain ⟨s', h1, h2⟩ := move_refines (slot := slot) hR' hata hatb (hslot la S i ps hla hata)
      refine ⟨(s', _), h1, hm, ?_⟩
      -- the lists the specification produces
      generalize hA : applyAt ps (fun _ => S.take i ++ (merge (S.drop i) D d).1) la = A' at h2
      generalize hB : applyAt pd (fun _ => (merge (S.drop i) D d).2.1) lb = B' at h2
      have hdab : ∀ x ∈ ids la, x ∉ ids lb := fun x hx hx' => hne (uniq_top hR.nodup hla hlb hx hx')
      have hresta : ∀ r ∈ rest, a ∉ ids r := fun r hr => hR'.disjoint_rest r (by simp [hr]) a hata.mem
      have hrestb : ∀ r ∈ rest, b ∉ ids r := by
        have hR2 : Realises s (lb :: la :: rest) := hR'.perm (List.Perm.swap _ _ _)
        exact fun r hr => hR2.disjoint_rest r (by simp [hr]) b hatb.mem
      have hnda := hR'.ids_nodup (l := la) (by simp)
      -- `b` is still in the destination's list (`merge` keeps the elements of `D` in place) and not in the source's:
      -- the second `updSibs` finds it in `B'` only
      have hbB : b ∈ ids B' := by
        obtain ⟨tb, htb', htbid⟩ := getElem?_of_idx? hatb.idx
        have hdlt := (List.getElem?_eq_some_iff.1 htb').1
        obtain ⟨_, hpre⟩ := merge_dst_prefix (S.drop i) D d
        have := hpre d hdlt
        rw [htb'] at this
        cases hq : (merge (S.drop i) D d).2.1[d]? with
        | none => simp [hq] at this
        | some t' =>
          simp [hq] at this
          have hmem : t'.id ∈ ids (merge (S.drop i) D d).2.1 := by cases t'; exact (mem_ids_at hq).1
          rw [this, htbid] at hmem
          have hndb := hR'.ids_nodup (l := lb) (by simp)
          obtain ⟨A2, B2, _, hsplit⟩ := hatb.ids_split hndb
          rw [← hB, hsplit]
          simp [hmem]
      have hbA : b ∉ ids A' := by
        intro hbA
        have hnd := h2.nodup
        rw [List.flatMap_append, flatMap_ids_nonempty, List.flatMap_cons] at hnd
        exact (List.nodup_append.1 hnd).2.2 b hbA b (by simp [hbB]) rfl
      have hmap : ((sp.tops.map (updSibs a fun l' => l'.take i ++ (merge (S.drop i) D d).1)).map
          (updSibs b fun _ => (merge (S.drop i) D d).2.1)).Perm (A' :: B' :: rest) := by
        refine ((hperm.map _).map _).trans ?_
        simp only [List.map_cons, List.map_map]
        have e1 : updSibs b (fun _ => (merge (S.drop i) D d).2.1) (updSibs a (fun l' => l'.take i ++ (merge (S.drop i) D d).1) la) = A' := by
          rw [hupda, applyAt_congr (g' := fun _ => S.take i ++ (merge (S.drop i) D d).1) hata hnda rfl, hA]
          exact (sibsOf?_not_mem hbA).2 _
        have e2 : updSibs b (fun _ => (merge (S.drop i) D d).2.1) (updSibs a (fun l' => l'.take i ++ (merge (S.drop i) D d).1) lb) = B' := by
          rw [(sibsOf?_not_mem (p := a) (l := lb) (fun hx => hdab a hata.mem hx)).2 _, hupdb, hB]
        rw [e1, e2, map_eq_self fun r hr => by
          simp only [Function.comp]
          rw [(sibsOf?_not_mem (hresta r hr)).2 _, (sibsOf?_not_mem (hrestb r hr)).2 _]]
      rw [← htops]
      refine h2.perm ((dropEmpty_perm hmap).trans ?_)
      have hBne : (if B'.isEmpty then [] else [B']) = [B'] := if_neg (by simpa using (h2.real B' (by simp)).1)
      rw [dropEmpty_cons, dropEmpty_cons, dropEmpty_eq_self fun r hr => (h2.real r (by simp [hr])).1, hBne]
      rfl

/-- `St.move` is refined by `mpt_node_move` for some place of the list reference: a variable of the caller always does -/
theorem st_move_refines {s : Store} {sp sp' : Forest.St} (hR : Realises s sp.tops) {a b m : Nat}
    (h : sp.move a b = some (sp', m)) :
    ∃ slot r, s.move s.fuel slot (some a) b = .ok r ∧ r.2 = m ∧ Realises r.1 sp'.tops :=
  ⟨.loc, st_move_refines_slot hR h .loc (by intro _ _ _ _ _ _ p hp; cases hp)⟩

end Mpt.Nodes
