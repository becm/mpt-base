/-
  The state of a COBS encoder between two calls, all four framings.  `WInv`: the encoder seen through a window
  that shows only a suffix of the finished data; what one data call and one terminating call of the encoder do
  to it (`winv_push`, `winv_term`).  `EncInvM`: the window shows everything behind the earlier frames `pre` — the
  case `vis = pre ++ fin` of `WInv`.  `WInv` and its lemmas stand in the namespace of the coded queue (`Mpt.CQ`),
  whose ring windows are the ones that hide a head; everything else here is `Mpt.Codec`.
-/
import MptModel.Lemmas.EncodeLoop
namespace Mpt.CQ
open Mpt.Cobs Mpt.Codec

/-- Window invariant with a hidden head.  The window `win` shows the finished bytes `vis` (a suffix of all
    finished data: earlier bytes may lie outside the window) followed by the open block; `fin` = all
    finished blocks of the message in progress (they may be hidden partly), `ms` = the consumed bytes of the
    message with a cut after every piece.  `run` = the data bytes of the open block; the last conjunct is the
    method: the encoder state is the state of the reference encoder after `ms`, so whatever follows continues
    `fin` from the open block `run`. -/
def WInv (v : Variant) (st : EncState) (win vis fin : List Byte) (ms : List (Byte × Bool)) : Prop :=
  ∃ run, st.done = vis.length ∧ run.length + 1 < v.maxlen ∧
    ((st.scratch = 0 ∧ run = [] ∧ fin = [] ∧ ms = [] ∧ win.take st.done = vis ∧ st.done ≤ win.length) ∨
     (st.scratch = run.length + 1 ∧ win.take (st.done + st.scratch) = vis ++ codeOf run :: run ∧
        st.done + st.scratch ≤ win.length)) ∧
    (∀ rest, encB v [] false (ms ++ rest) = fin ++ encB v run false rest)

theorem WInv.shape {v : Variant} {st : EncState} {win vis fin : List Byte} {ms : List (Byte × Bool)}
    (h : WInv v st win vis fin ms) :
    ∃ run, st.done = vis.length ∧ run.length + 1 < v.maxlen ∧ Shape st win vis run ∧
      ∀ rest, encB v [] false (ms ++ rest) = fin ++ encB v run false rest := by
  obtain ⟨run, h1, h2, h3, h4⟩ := h
  exact ⟨run, h1, h2, h3.imp (fun ⟨a, b, _, _, e, f⟩ => ⟨a, b, e, f⟩) id, h4⟩

theorem WInv.bound {v : Variant} {st : EncState} {win vis fin : List Byte} {ms : List (Byte × Bool)}
    (h : WInv v st win vis fin ms) : st.done + st.scratch ≤ win.length ∧ st.done = vis.length :=
  let ⟨_, h1, _, hsh, _⟩ := h.shape; ⟨hsh.le, h1⟩

theorem WInv.take_vis {v : Variant} {st : EncState} {win vis fin : List Byte} {ms : List (Byte × Bool)}
    (h : WInv v st win vis fin ms) : (win.take (st.done + st.scratch)).take st.done = vis :=
  let ⟨_, h1, _, hsh, _⟩ := h.shape; hsh.take_vis h1

theorem WInv.congr {v : Variant} {st : EncState} {win win' vis fin : List Byte} {ms : List (Byte × Bool)}
    (h : WInv v st win vis fin ms) (hl : st.done + st.scratch ≤ win'.length)
    (ht : win'.take (st.done + st.scratch) = win.take (st.done + st.scratch)) : WInv v st win' vis fin ms := by
  obtain ⟨run, h1, h2, h3, h4⟩ := h
  refine ⟨run, h1, h2, ?_, h4⟩
  rcases h3 with ⟨a, b, c, d, e, f⟩ | ⟨a, b, c⟩
  · rw [a, Nat.add_zero] at ht hl
    exact Or.inl ⟨a, b, c, d, by rw [ht]; exact e, hl⟩
  · exact Or.inr ⟨a, by rw [ht]; exact b, hl⟩

/-- One data call on a window: refusal of an empty piece, request for space, or progress.  The budget: a consumed
    byte takes its own place and at most the code byte of a block it opens; `max st.scratch 1` counts the code byte
    of the first block when none is open yet. -/
theorem winv_push (v : Variant) (st : EncState) (win vis fin : List Byte) (ms : List (Byte × Bool)) (bytes : List Byte)
    (h : WInv v st win vis fin ms) :
    (bytes = [] ∧ encode (.cobs v) st win (some bytes) = .err .BadValue) ∨
    (encode (.cobs v) st win (some bytes) = .err .MissingBuffer ∧ win.length ≤ st.done + max st.scratch 1) ∨
    ∃ o fin', encode (.cobs v) st win (some bytes) = .ok o ∧ o.win.length = win.length ∧ o.ret ≤ bytes.length ∧
      1 ≤ o.st.scratch ∧
      o.st.done + o.st.scratch + 2 * (bytes.length - o.ret) ≤ st.done + max st.scratch 1 + 2 * bytes.length ∧
      (o.ret < bytes.length → win.length ≤ o.st.done + o.st.scratch + 1) ∧
      WInv v o.st o.win (vis ++ fin') (fin ++ fin') (ms ++ markChunk (bytes.take o.ret)) := by
  obtain ⟨run, h1, h2, hsh, h4⟩ := h.shape
  rw [encode_some, encodeCobs_some v st win bytes (hsh.scratch_lt v h2) hsh.le]
  by_cases hb : bytes = []
  · exact Or.inl ⟨hb, if_pos hb⟩
  by_cases hroom : win.length ≤ st.done + max st.scratch 1
  · exact Or.inr (Or.inl ⟨by rw [if_neg hb, if_pos hroom], hroom⟩)
  rw [if_neg hb, if_neg hroom]
  -- the loop starts behind the open block; `Shape.open` supplies the byte `ph` at the place of its code byte
  obtain ⟨hc, ph, hw⟩ := hsh.open (by omega)
  generalize max st.scratch 1 = c at *
  obtain ⟨o, ho, hp⟩ := encLoopM_spec v bytes win _ _ vis ph run hw hc (by omega) h2
  obtain ⟨fin', run', hp4, hp5, hp6, hp7, hp8, hp9⟩ := hp.blocks
  rw [ho]
  have hret : bytes.length - (bytes.length - o.rem) = o.rem := Nat.sub_sub_self hp.rem_le
  have hdc : o.dst - o.code + o.code = o.dst := Nat.sub_add_cancel (by rw [hp6]; exact Nat.le_add_left _ _)
  refine Or.inr (Or.inr ⟨_, fin', rfl, hp.len, Nat.sub_le _ _, by simp only [hp4]; exact Nat.le_add_left 1 _, ?_,
    fun ha => ?_, run', ?_, hp5, Or.inr ⟨hp4, ?_, ?_⟩, fun rest => ?_⟩)
  · simp only [hdc, hret]; exact hp.budget
  · simp only [hdc]; exact hp.full (by simp only at ha; omega)
  · simp only [List.length_append]; omega
  · simp only [hdc, hp8]
  · simp only [hdc, hp.len]; exact hp7
  · simp only
    rw [List.append_assoc, h4, hp9]; simp

theorem winv_term (v : Variant) (st : EncState) (win vis fin : List Byte) (ms : List (Byte × Bool))
    (h : WInv v st win vis fin ms) :
    (encode (.cobs v) st win none = .err .MissingBuffer ∧ win.length ≤ st.done + max st.scratch 1) ∨
    ∃ o tail, encode (.cobs v) st win none = .ok o ∧ TermPost win vis tail o ∧
      encB v [] false ms ++ [0] = fin ++ tail ∧ tail ≠ [] := by
  obtain ⟨run, h1, h2, hsh, h4⟩ := h.shape
  have henc : encB v [] false ms ++ [0] = fin ++ (finalBlock v run ++ [0]) := by
    have := h4 []
    rw [List.append_nil, encB_nil] at this
    rw [this, List.append_assoc]
  unfold encode
  cases ht : v.tail
  · simp only [ht, Bool.false_eq_true, if_false]
    refine (encodeCobs_term v st win vis run h1 h2 hsh).imp id fun ⟨o, ho, hpost⟩ => ?_
    exact ⟨o, finalBlock v run ++ [0], ho, by rw [finalBlock_notail v run ht]; exact hpost, henc, by simp⟩
  · simp only [ht, if_true]
    refine (encodeCobsR_term v ht st win vis run h1 h2 hsh).imp id fun ⟨o, ho, hpost⟩ => ?_
    exact ⟨o, finalBlock v run ++ [0], ho, hpost, henc, by simp⟩

end Mpt.CQ

namespace Mpt.Codec
open Mpt.Cobs

/-- `WInv` for a window that shows the earlier frames `pre` and all of the message in progress; `ms` = the consumed
    bytes with a cut after every piece -/
def EncInvM (v : Variant) (st : EncState) (win pre : List Byte) (ms : List (Byte × Bool)) : Prop :=
  ∃ fin run, st.done = pre.length + fin.length ∧ run.length + 1 < v.maxlen ∧
    ((st.scratch = 0 ∧ run = [] ∧ fin = [] ∧ ms = [] ∧ win.take st.done = pre ∧ st.done ≤ win.length) ∨
     (st.scratch = run.length + 1 ∧ win.take (st.done + st.scratch) = pre ++ fin ++ codeOf run :: run ∧
        st.done + st.scratch ≤ win.length)) ∧
    (∀ rest, encB v [] false (ms ++ rest) = fin ++ encB v run false rest)

open Mpt.CQ

theorem EncInvM.start (v : Variant) (st : EncState) (win pre : List Byte) (hs : st.scratch = 0)
    (hd : st.done = pre.length) (hw : win.take st.done = pre) : EncInvM v st win pre [] := by
  have := v.maxlen_cases
  have hl : st.done ≤ win.length := by have := congrArg List.length hw; rw [List.length_take] at this; omega
  exact ⟨[], [], by simp [hd], by simp; omega, Or.inl ⟨hs, rfl, rfl, rfl, hw, hl⟩, by simp⟩

theorem EncInvM.winv {v : Variant} {st : EncState} {win pre : List Byte} {ms : List (Byte × Bool)}
    (h : EncInvM v st win pre ms) : ∃ fin, WInv v st win (pre ++ fin) fin ms := by
  obtain ⟨fin, run, h1, h2, h3, h4⟩ := h
  refine ⟨fin, run, by rw [h1, List.length_append], h2, h3.imp (fun ⟨a, b, c, d, e, f⟩ => ⟨a, b, c, d, ?_, f⟩) id, h4⟩
  rw [c, List.append_nil]; exact e

theorem EncInvM.of_winv {v : Variant} {st : EncState} {win pre fin : List Byte} {ms : List (Byte × Bool)}
    (h : WInv v st win (pre ++ fin) fin ms) : EncInvM v st win pre ms := by
  obtain ⟨run, h1, h2, h3, h4⟩ := h
  refine ⟨fin, run, by rw [h1, List.length_append], h2, h3.imp (fun ⟨a, b, c, d, e, f⟩ => ⟨a, b, c, d, ?_, f⟩) id, h4⟩
  rw [c, List.append_nil] at e; exact e

theorem EncInvM.congr {v : Variant} {st : EncState} {win win' pre : List Byte} {ms : List (Byte × Bool)}
    (h : EncInvM v st win pre ms) (hl : st.done + st.scratch ≤ win'.length)
    (ht : win'.take (st.done + st.scratch) = win.take (st.done + st.scratch)) : EncInvM v st win' pre ms :=
  let ⟨_, hw⟩ := h.winv; .of_winv (hw.congr hl ht)

theorem EncInvM.le {v : Variant} {st : EncState} {win pre : List Byte} {ms : List (Byte × Bool)}
    (h : EncInvM v st win pre ms) : st.done + st.scratch ≤ win.length :=
  let ⟨_, hw⟩ := h.winv; hw.bound.1

theorem EncInvM.scratch_lt {v : Variant} {st : EncState} {win pre : List Byte} {ms : List (Byte × Bool)}
    (h : EncInvM v st win pre ms) : st.scratch < 256 :=
  let ⟨_, hw⟩ := h.winv
  let ⟨_, _, h2, hsh, _⟩ := hw.shape
  hsh.scratch_lt v h2

theorem EncInvM.fin_nz {v : Variant} {st : EncState} {win pre : List Byte} {ms : List (Byte × Bool)}
    (h : EncInvM v st win pre ms) : ∃ fin, st.done = pre.length + fin.length ∧ win.take st.done = pre ++ fin ∧
      ∀ x ∈ fin, x ≠ 0 := by
  obtain ⟨fin, hw⟩ := h.winv
  obtain ⟨run, h1, _, _, h4⟩ := hw.shape
  refine ⟨fin, by rw [h1, List.length_append], ?_, fun x hx => ?_⟩
  · have := hw.take_vis
    rwa [List.take_take, Nat.min_eq_left (Nat.le_add_right _ _)] at this
  · have h5 := h4 []
    simp only [List.append_nil] at h5
    exact encB_nz v ms [] false (Inv.nil v) x (by rw [h5]; simp [hx])

end Mpt.Codec
