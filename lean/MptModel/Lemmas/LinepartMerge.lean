/-
  C18, the C++ layer (Impl/LinepartArray.lean).  `pushPart` extends a chain by a call or joins the call to its last record
  (`Chain.push`); the merge loop of `linepart::array::apply` on an array prepared by `linepart::array::set` keeps "the output
  is a chain up to the point consumed" (`Inv`, `merge_step`), hence `Good` for the merge path (`merge_good`).  Last the spans
  of the part view (`polyParts_spans`).
-/
import MptModel.Lemmas.LinepartChain
import MptModel.Impl.LinepartArray
namespace Mpt.Linepart
open Mpt.Visible

theorem Chain.push {r : Range} {xs : List Rat} {out : List Part} {c : Nat} {p : Part}
    (hg : Chain r xs 0 out.reverse c) (hc : CallAt r xs c p) :
    Chain r xs 0 (pushPart out p).reverse (c + p.raw) := by
  cases out with
  | nil => cases hg; exact ⟨hc, rfl⟩
  | cons last more =>
    rw [List.reverse_cons, chain_append] at hg
    obtain ⟨m, hm, hl, rfl⟩ := hg
    cases hj : linepartJoin last p with
    | none =>
      rw [show pushPart (last :: more) p = p :: last :: more by simp only [pushPart, hj], List.reverse_cons,
        List.reverse_cons, List.append_assoc]
      exact chain_append.2 ⟨m, hm, hl, hc, rfl⟩
    | some j =>
      rw [show pushPart (last :: more) p = j :: more by simp only [pushPart, hj], List.reverse_cons]
      exact chain_append.2 ⟨m, hm, CallAt.join hl hc hj,
        show _ = _ by rw [(linepartJoin_some last p j hj).1, Nat.add_assoc]⟩

/-- a part as `set` makes it: all points drawn, nothing cut -/
structure Plain (q : Part) : Prop where
  usr_raw : q.usr = q.raw
  pos : 0 < q.raw
  cut : q.cut = 0
  trim : q.trim = 0

theorem arraySetAux_plain (fuel len : Nat) :
    (∀ q ∈ arraySetAux fuel len, Plain q) ∧ (len / 65533 + 1 ≤ fuel → rawSum (arraySetAux fuel len) = len) := by
  induction fuel generalizing len with
  | zero => exact ⟨by intro q hq; simp [arraySetAux] at hq, by intro h; omega⟩
  | succ n ih =>
    unfold arraySetAux
    by_cases h0 : len = 0
    · simp [h0, rawSum]
    · rw [if_neg h0]
      by_cases h1 : len < 65533
      · rw [if_pos h1]
        refine ⟨?_, fun _ => by simp [rawSum]⟩
        intro q hq; simp at hq; subst hq
        exact ⟨rfl, by simp; omega, rfl, rfl⟩
      · rw [if_neg h1]
        obtain ⟨i1, i2⟩ := ih (len - 65533)
        refine ⟨?_, ?_⟩
        · intro q hq
          simp only [List.mem_cons] at hq
          rcases hq with e | e
          · subst e; exact ⟨rfl, by simp, rfl, rfl⟩
          · exact i1 q e
        · intro hf
          rw [rawSum_cons, i2 (by omega)]
          simp only []
          omega

theorem arraySet_plain (len : Nat) : (∀ q ∈ arraySet len, Plain q) ∧ rawSum (arraySet len) = len :=
  ⟨(arraySetAux_plain _ len).1, (arraySetAux_plain _ len).2 (by omega)⟩

/-- loop invariant: `c` points are consumed and covered by the output; the current old part and the
    parts behind it are plain and cover the rest -/
structure Inv (r : Range) (xs : List Rat) (s : MergeSt) (c : Nat) : Prop where
  chain : Chain r xs 0 s.out.reverse c
  fin : s.done = true → c = xs.length
  run : s.done = false → Plain s.old ∧ (∀ q ∈ s.rest, Plain q) ∧ s.vals = xs.drop c ∧
    c + s.old.raw + rawSum s.rest = xs.length

/-- a plain old part has cut and trim 0, so the two tests of `mergeStep` that would take them over (`old.cut > …`,
    `old.trim > …`) fail and the record of the call is pushed as it is -/
theorem mergeStep_plain (range : Option Range) (s : MergeSt) (ho : Plain s.old) (hv : s.old.raw ≤ s.vals.length)
    (p : Part) (hp : p = linepartLinear (s.vals.take s.old.raw) range) (hr : p.raw ≤ s.old.raw) :
    mergeStep range s =
      if p.raw < s.old.raw then
        { s with old := { s.old with raw := s.old.raw - p.raw, usr := s.old.raw - p.raw, cut := 0 },
                 vals := s.vals.drop p.raw, out := pushPart s.out p }
      else { nextOld { s with vals := s.vals.drop p.raw } with out := pushPart s.out p } := by
  obtain ⟨ho1, ho2, ho4, ho5⟩ := ho
  unfold mergeStep
  simp only []
  rw [if_neg (by omega), ho1, if_neg (show ¬ s.vals.length < s.old.raw by omega), ← hp, ho4, ho5]
  simp only [Nat.not_lt_zero, and_false, if_false, gt_iff_lt]
  by_cases hlt : p.raw < s.old.raw
  · rw [if_pos hlt, if_pos hlt]
  · rw [if_neg hlt, if_neg hlt, if_neg (show ¬ s.old.raw < p.raw by omega)]

theorem merge_step (r : Range) (xs : List Rat) (s : MergeSt) (c : Nat) (h : Inv r xs s c) (hd : s.done = false) :
    ∃ c', c < c' ∧ Inv r xs (mergeStep (some r) s) c' := by
  obtain ⟨hg, _, hrun⟩ := h
  obtain ⟨ho, hrest, hvals, hsum⟩ := hrun hd
  have hvl : s.vals.length = xs.length - c := by rw [hvals, List.length_drop]
  obtain ⟨hcall, hraw⟩ := window_call r xs c s.old.raw ho.pos (by omega)
  generalize hp : linepartLinear ((xs.drop c).take s.old.raw) (some r) = p at hcall hraw
  rw [mergeStep_plain (some r) s ho (by omega) p (by rw [hvals, hp]) hraw]
  have hpos := hcall.pos
  have hgood := Chain.push hg hcall
  have hdrop : s.vals.drop p.raw = xs.drop (c + p.raw) := by rw [hvals, List.drop_drop]
  refine ⟨c + p.raw, by omega, ?_⟩
  split
  · -- a partial segment: the rest of the old part stays current
    obtain ⟨ho1, ho2, ho4, ho5⟩ := ho
    exact ⟨hgood, (fun hdn => by rw [hd] at hdn; cases hdn),
      fun _ => ⟨⟨rfl, (by show 0 < s.old.raw - p.raw; omega), rfl, ho5⟩,
        hrest, hdrop, by show c + p.raw + (s.old.raw - p.raw) + rawSum s.rest = xs.length; omega⟩⟩
  · -- the next old part
    cases hr : s.rest with
    | nil =>
      rw [hr, rawSum] at hsum
      exact ⟨hgood, (fun _ => by simp only [List.map_nil, List.sum_nil] at hsum; omega), fun hdn => by
        simp [nextOld] at hdn⟩
    | cons q more =>
      rw [hr, rawSum_cons] at hsum
      rw [hr] at hrest
      exact ⟨by simpa only [nextOld] using hgood, (fun hdn => by simp [nextOld, hd] at hdn),
        fun _ => by
          simp only [nextOld]
          exact ⟨hrest q (List.mem_cons_self ..), fun x hx => hrest x (List.mem_cons_of_mem _ hx), hdrop, by omega⟩⟩

theorem Inv.final {r : Range} {xs : List Rat} {s : MergeSt} {c : Nat} (h : Inv r xs s c)
    (hc : s.done = true ∨ xs.length ≤ c) : Chain r xs 0 s.out.reverse xs.length := by
  cases hd : s.done with
  | true => exact h.fin hd ▸ h.chain
  | false =>
    obtain ⟨⟨_, hp, _⟩, _, _, hs⟩ := h.run hd
    rcases hc with hc | hc
    · rw [hd] at hc; cases hc
    · omega

theorem merge_loop (r : Range) (xs : List Rat) (fuel : Nat) (s : MergeSt) (c : Nat) (h : Inv r xs s c)
    (hf : xs.length ≤ c + fuel) :
    Chain r xs 0 (mergeLoop (some r) fuel s).out.reverse xs.length := by
  induction fuel generalizing s c with
  | zero => exact h.final (.inr hf)
  | succ n ih =>
    rw [mergeLoop]
    split
    · exact h.final (.inl ‹_›)
    · obtain ⟨c', hc, hinv⟩ := merge_step r xs s c h (by simpa using ‹¬ s.done = true›)
      exact ih _ c' hinv (by omega)

theorem merge_good (xs : List Rat) (r : Range) (ps : List Part)
    (h : arrayApply (arraySet xs.length) xs (some r) = some ps) : Good r xs ps xs.length := by
  unfold arrayApply at h
  by_cases h0 : xs.length = 0
  · rw [if_pos h0] at h; cases h
  · rw [if_neg h0] at h
    obtain ⟨hpl, hsum⟩ := arraySet_plain xs.length
    cases hq : arraySet xs.length with
    | nil =>
      rw [hq] at hsum
      exact absurd hsum.symm h0
    | cons p rest =>
      rw [hq] at h hpl hsum
      simp only [Option.some.injEq] at h
      subst h
      rw [rawSum_cons] at hsum
      apply Chain.toGood
      apply merge_loop r xs _ _ 0 _ (by omega)
      -- the invariant at the start: nothing consumed, the parts of `set` ahead
      exact ⟨rfl, (fun hd => nomatch hd), fun _ =>
        ⟨hpl p (List.mem_cons_self ..), fun q hq => hpl q (List.mem_cons_of_mem _ hq), rfl,
          by show 0 + p.raw + rawSum rest = xs.length; omega⟩⟩

/-- the `points()` span of every part starts `[cut ≠ 0]` points into its drawn points and leaves `[trim ≠ 0]`
    points at the end: exactly the positions `ReportedVisible` speaks about -/
theorem polyParts_spans (ps : List Part) (t : Nat) :
    (polyParts ps t).map (fun e => ((e.1 : Int) - e.2.2.1, e.2.1, e.2.2.2)) =
      ps.map (fun p => (((if p.cut ≠ 0 then 1 else 0 : Nat) : Int),
        (p.usr : Int) - (if p.cut ≠ 0 then 1 else 0 : Nat) - (if p.trim ≠ 0 then 1 else 0 : Nat), p.usr)) := by
  induction ps generalizing t with
  | nil => rfl
  | cons p ps ih =>
    simp only [polyParts, List.map_cons, ih, List.cons.injEq, and_true, Prod.mk.injEq]
    by_cases hc : p.cut = 0 <;> by_cases ht : p.trim = 0 <;> simp [hc, ht] <;> omega

end Mpt.Linepart
