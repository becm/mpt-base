/-
  Helper lemmas for C02, encode side: one encoder call through a window that shows the content from some position on,
  the finished bytes in front of it hidden (`winv_call`, `winv_through`, over `WInv` of `EncodeWin`), its instance for a
  window of the ring storage (`encWin_call`), the placement cases of `mpt_queue_push` on the ring model of C13 (one
  `_stage` lemma per branch, outcome `StageOut`; `_call` where a refusal leaves something else), and the representation
  invariant `EInv` of an encode queue, which every push keeps (`queuePush_refines`).
-/
import MptModel.Impl.CodedQueue
import MptModel.Lemmas.EncodeWin
import MptModel.Lemmas.CodedQueueWin
import MptModel.Lemmas.RingAccess
import MptModel.Lemmas.RingStorage
namespace Mpt.CQ
open Mpt.Cobs Mpt.Codec

theorem WInv.window {v : Variant} {st : EncState} {content win vis fin : List Byte} {ms : List (Byte × Bool)}
    (h : WInv v st content vis fin ms) (k : Nat) (hk : k ≤ st.done) (hlen : content.length = st.done + st.scratch)
    (hw : win.take (st.done + st.scratch - k) = content.drop k) (hwl : st.done + st.scratch - k ≤ win.length) :
    WInv v { st with done := st.done - k } win (vis.drop k) fin ms := by
  obtain ⟨run, h1, h2, h3, h4⟩ := h
  refine ⟨run, by simp [h1], h2, ?_, h4⟩
  -- the two shapes of `WInv`: between two messages (no open block), or an open block `run` behind the finished bytes
  rcases h3 with ⟨a, b, c, d, e, f⟩ | ⟨a, b, c⟩
  · left
    refine ⟨a, b, c, d, ?_, by simp only; omega⟩
    simp only
    rw [a, Nat.add_zero] at hw
    rw [hw, ← e, List.take_of_length_le (by omega)]
  · right
    refine ⟨a, ?_, by simp only; omega⟩
    simp only
    rw [show st.done - k + st.scratch = st.done + st.scratch - k by omega, hw]
    rw [List.take_of_length_le (by omega)] at b
    rw [b, List.drop_append_of_le_length (by omega)]

theorem winv_glue {v : Variant} {st1 : EncState} {w1 vis0 fin1 fin1' : List Byte} {ms1 : List (Byte × Bool)}
    (hinv : WInv v st1 w1 (vis0.drop k ++ fin1) fin1' ms1) (hkv : k ≤ vis0.length) (content' : List Byte)
    (hc : content' = vis0.take k ++ w1.take (st1.done + st1.scratch)) :
    WInv v { st1 with done := st1.done + k } content' (vis0 ++ fin1) fin1' ms1 := by
  subst hc
  obtain ⟨run, g1, g2, g3, g4⟩ := hinv
  have hk1 : (vis0.take k).length = k := by rw [List.length_take]; omega
  have hd1 : (vis0.drop k).length + fin1.length = st1.done := by
    rw [g1, List.length_append]
  have hjoin : vis0.take k ++ (vis0.drop k ++ fin1) = vis0 ++ fin1 := by
    rw [← List.append_assoc, List.take_append_drop]
  have hvl : (vis0 ++ fin1).length = st1.done + k := by
    rw [← hjoin, List.length_append, hk1, List.length_append]; omega
  refine ⟨run, by simp only; exact hvl.symm, g2, ?_, g4⟩
  rcases g3 with ⟨a1, b1, c1, d1, e1, f1⟩ | ⟨a1, b1, c1⟩
  · refine Or.inl ⟨a1, b1, c1, d1, ?_, ?_⟩
    · simp only
      rw [a1, Nat.add_zero, e1, hjoin, List.take_of_length_le (by omega)]
    · simp only
      rw [a1, Nat.add_zero, e1, hjoin]; omega
  · right
    rw [b1, ← List.append_assoc, hjoin]
    refine ⟨a1, by simp only; rw [List.take_of_length_le]; rw [List.length_append, hvl, List.length_cons]; omega, ?_⟩
    simp only [List.length_append, hvl, List.length_cons]; omega

/-- progress of the message in progress made by one or more encoder calls: data consumed (`ret` bytes,
    marked with a cut after every piece), or the frame completed -/
def Progress (v : Variant) (src : Option (List Byte)) (vis fin : List Byte) (ms : List (Byte × Bool))
    (vis' fin' : List Byte) (ms' : List (Byte × Bool)) (ret : Nat) : Prop :=
  match src with
  | some bytes => ∃ fin1 ms2, ret ≤ bytes.length ∧ ms2.map Prod.fst = bytes.take ret ∧
      vis' = vis ++ fin1 ∧ fin' = fin ++ fin1 ∧ ms' = ms ++ ms2
  | none => ∃ tail, ret = 0 ∧ encB v [] false ms ++ [0] = fin ++ tail ∧ vis' = vis ++ tail ∧ fin' = [] ∧ ms' = []

/-- a state of `mpt_queue_push` between two encoder calls: with the ring length brought up to date the
    ring is well-formed and its content is the finished bytes `vis` followed by the open block -/
def WorkInv (v : Variant) (st : EncState) (r : Ring) (vis fin : List Byte) (ms : List (Byte × Bool)) : Prop :=
  ({ r with len := st.done + st.scratch } : Ring).WF ∧
  WInv v st ({ r with len := st.done + st.scratch } : Ring).content vis fin ms

theorem workInv_iff {v : Variant} {st : EncState} {r : Ring} {vis fin : List Byte} {ms : List (Byte × Bool)}
    (hlen : r.len = st.done + st.scratch) : WorkInv v st r vis fin ms ↔ r.WF ∧ WInv v st r.content vis fin ms := by
  cases r; simp only at hlen; subst hlen; exact Iff.rfl

theorem winv_take_k {v : Variant} {st : EncState} {content vis fin : List Byte} {ms : List (Byte × Bool)}
    (h : WInv v st content vis fin ms) (k : Nat) (hk : k ≤ st.done) : content.take k = vis.take k := by
  have := h.take_vis
  rw [List.take_take, Nat.min_eq_left (by omega)] at this
  rw [← this, List.take_take, Nat.min_eq_left hk]

theorem winv_idle (v : Variant) {st : EncState} {win vis : List Byte} (hs : st.scratch = 0) (hd : st.done = vis.length)
    (ht : win.take st.done = vis) (hl : st.done ≤ win.length) : WInv v st win vis [] [] := by
  have := v.maxlen_cases
  exact ⟨[], hd, by simp; omega, Or.inl ⟨hs, rfl, rfl, rfl, ht, hl⟩, by simp⟩

/-- one encoder call, data or termination, on a window that satisfies `WInv`.  `Progress` is stated for every `vis0` in
    place of `vis`: the call appends `fin1` to the finished bytes whatever stands in front of them, so `winv_through`
    can put back the finished bytes it had hidden from the encoder. -/
theorem winv_call (v : Variant) (st : EncState) (win vis fin : List Byte) (ms : List (Byte × Bool))
    (src : Option (List Byte)) (h : WInv v st win vis fin ms) :
    (∃ e : Err, encode (.cobs v) st win src = .err e) ∨
    ∃ (o : EncOut) (fin1 fin' : List Byte) (ms' : List (Byte × Bool)),
      encode (.cobs v) st win src = .ok o ∧ o.win.length = win.length ∧
      (∀ vis0, Progress v src vis0 fin ms (vis0 ++ fin1) fin' ms' o.ret) ∧ 0 < o.st.done + o.st.scratch ∧
      WInv v o.st o.win (vis ++ fin1) fin' ms' := by
  cases src with
  | some bytes =>
    rcases winv_push v st win vis fin ms bytes h with ⟨_, he⟩ | ⟨he, _⟩ | ⟨o, fin1, he, hol, hret, hsc, _, _, hpost⟩
    · exact Or.inl ⟨_, he⟩
    · exact Or.inl ⟨_, he⟩
    · exact Or.inr ⟨o, fin1, fin ++ fin1, _, he, hol,
        fun _ => ⟨fin1, markChunk (bytes.take o.ret), hret, markChunk_fst _, rfl, rfl, rfl⟩, by omega, hpost⟩
  | none =>
    rcases winv_term v st win vis fin ms h with ⟨he, _⟩ | ⟨o, tail, he, hpost, hframe, hne⟩
    · exact Or.inl ⟨_, he⟩
    · have ⟨hlen, hsc, hret, hdone, h5, h6⟩ := hpost
      refine Or.inr ⟨o, tail, [], [], he, hlen, fun _ => ⟨tail, hret, hframe, rfl, rfl, rfl⟩, ?_,
        winv_idle v hsc hdone h6 (hlen ▸ h5)⟩
      have : 0 < tail.length := List.length_pos_iff.mpr hne
      rw [List.length_append] at hdone; omega

/-- **one encoder call through a window**: `win` shows the content from position `k` on, the `k` finished bytes in
    front of it are hidden from the encoder (its `done` counts from the window start).  Refused, or the `k` hidden
    bytes followed by the used part of the window continue the content as the reference encoding says. -/
theorem winv_through (v : Variant) (st : EncState) (content vis fin : List Byte) (ms : List (Byte × Bool))
    (src : Option (List Byte)) (h : WInv v st content vis fin ms) (hlen : content.length = st.done + st.scratch)
    (k : Nat) (hk : k ≤ st.done) (win : List Byte)
    (hw : win.take (st.done + st.scratch - k) = content.drop k) (hwl : st.done + st.scratch - k ≤ win.length) :
    (∃ e : Err, encode (.cobs v) { st with done := st.done - k } win src = .err e) ∨
    ∃ (o : EncOut) (vis' fin' : List Byte) (ms' : List (Byte × Bool)),
      encode (.cobs v) { st with done := st.done - k } win src = .ok o ∧ o.win.length = win.length ∧
      Progress v src vis fin ms vis' fin' ms' o.ret ∧
      0 < o.st.done + o.st.scratch ∧ o.st.done + o.st.scratch ≤ win.length ∧
      WInv v { o.st with done := o.st.done + k } (content.take k ++ o.win.take (o.st.done + o.st.scratch)) vis' fin' ms' := by
  rcases winv_call v _ _ _ _ _ src (h.window k hk hlen hw hwl) with he | ⟨o, fin1, fin', ms', he, hol, hprog, hpos, hpost⟩
  · exact Or.inl he
  · refine Or.inr ⟨o, vis ++ fin1, fin', ms', he, hol, hprog vis, hpos, by rw [← hol]; exact hpost.bound.1, ?_⟩
    exact winv_glue hpost (by have := h.bound; omega) _ (by rw [winv_take_k h k hk])

open Ring in
/-- **one encoder call through a window of the ring storage** (data or termination; window = image of the logical
    positions from `k` on, the `k` finished bytes in front of it are hidden from the encoder), from a state whose
    ring length may be stale: refused without any change, or the ring content is continued as the reference
    encoding says -/
theorem encWin_call (v : Variant) (st : EncState) (r : Ring) (k a n : Nat) (vis fin : List Byte)
    (ms : List (Byte × Bool)) (src : Option (List Byte)) (cons : List Nat)
    (hinv : WorkInv v st r vis fin ms) (hk : k ≤ st.done) (hm : Maps r k a n) (hfit : st.done + st.scratch ≤ k + n) :
    (∃ e : Err, encWin (.cobs v) { st with done := st.done - k } r a n src cons
        = .ok { st := { st with done := st.done - k }, ring := r, push := e.code, cons := cons }) ∨
    ∃ (o : EncOut) (vis' fin' : List Byte) (ms' : List (Byte × Bool)),
      encWin (.cobs v) { st with done := st.done - k } r a n src cons
        = .ok { st := o.st, ring := { r with store := Mem.write r.store a o.win }, push := (o.ret : Nat),
                cons := if src.isSome then cons ++ [o.ret] else cons } ∧
      Progress v src vis fin ms vis' fin' ms' o.ret ∧
      (Mem.write r.store a o.win).length = r.store.length ∧
      WorkInv v { o.st with done := o.st.done + k } { r with store := Mem.write r.store a o.win } vis' fin' ms' := by
  obtain ⟨hwf, hw⟩ := hinv
  have hwl : ((r.store.drop a).take n).length = n := by
    rw [List.length_take, List.length_drop]; have := hm.in_store; omega
  have hwc := window_content { r with len := st.done + st.scratch } hwf k a n hm (by simp only; omega) hfit
  unfold encWin
  rw [if_neg (by have := hm.in_store; omega)]
  rcases winv_through v st _ vis fin ms src hw (content_length _ hwf.1) k hk ((r.store.drop a).take n) hwc
      (by rw [hwl]; omega) with
    ⟨e, he⟩ | ⟨o, vis', fin', ms', he, hol, hprog, _, hfit', hpost⟩
  · left; exact ⟨e, by rw [he]⟩
  · right
    have hw1 : o.win.length = n := by rw [hol, hwl]
    have hsl := Mem.write_length r.store a o.win (by rw [hw1]; exact hm.in_store)
    refine ⟨o, vis', fin', ms', by rw [he, Mem.write, hw1], hprog, hsl, ⟨?_, ?_⟩⟩
    · unfold WF; simp only [hsl]
      exact ⟨by have := hm.1; omega, hwf.2⟩
    · -- storing the window back replaces the content from `k` on
      show WInv v _ ({ r with store := Mem.write r.store a o.win, len := o.st.done + k + o.st.scratch } : Ring).content _ _ _
      rw [content_splice { r with len := st.done + st.scratch } hwf k a n hm o.win hw1 (o.st.done + k + o.st.scratch)
        (by simp only; omega) (by omega) (by omega),
        show o.st.done + k + o.st.scratch - k = o.st.done + o.st.scratch by omega]
      exact hpost

/-- a stage of `mpt_queue_push` that started with finished bytes `vis`, finished blocks `fin` and consumed message
    bytes `ms` made progress: `push` bytes consumed resp. the frame completed, the work state continues the content -/
def Advanced (v : Variant) (src : Option (List Byte)) (vis fin : List Byte) (ms : List (Byte × Bool)) (w : Work) : Prop :=
  ∃ (vis' fin' : List Byte) (ms' : List (Byte × Bool)) (ret : Nat), w.push = (ret : Int) ∧
    Progress v src vis fin ms vis' fin' ms' ret ∧ WorkInv v w.st w.ring vis' fin' ms'

/-- outcome of a stage: refused (nothing consumed, the content is the same, the ring length is up to date), or
    progress.  The stages differ in what a refusal leaves (`encUpper_call`: state and ring untouched;
    `encSecond_call`: the invariant, with a ring length that may be stale). -/
def StageOut (v : Variant) (src : Option (List Byte)) (M : Nat) (vis fin : List Byte) (ms : List (Byte × Bool))
    (w : Work) : Prop :=
  w.ring.store.length = M ∧
  ((w.push < 0 ∧ w.ring.len = w.st.done + w.st.scratch ∧ WorkInv v w.st w.ring vis fin ms) ∨ Advanced v src vis fin ms w)

/-- the window call without hidden bytes (aligned data, lower part) -/
theorem encWin_stage0 (v : Variant) (st : EncState) (r : Ring) (a n : Nat) (vis fin : List Byte)
    (ms : List (Byte × Bool)) (src : Option (List Byte)) (cons : List Nat)
    (hinv : WorkInv v st r vis fin ms) (hlen : r.len = st.done + st.scratch) (hm : Maps r 0 a n) (hfit : st.done + st.scratch ≤ n) :
    ∃ w, encWin (.cobs v) st r a n src cons = .ok w ∧ StageOut v src r.store.length vis fin ms w ∧ w.ring.off = r.off := by
  have := encWin_call v st r 0 a n vis fin ms src cons hinv (by omega) hm (by omega)
  rw [show ({ st with done := st.done - 0 } : EncState) = st from rfl] at this
  rcases this with ⟨e, he⟩ | ⟨o, vis', fin', ms', he, hp, hl, hw⟩
  · exact ⟨_, he, ⟨rfl, Or.inl ⟨err_code_neg e, hlen, hinv⟩⟩, rfl⟩
  · exact ⟨_, he, ⟨hl, Or.inr ⟨vis', fin', ms', o.ret, rfl, hp, by simpa using hw⟩⟩, rfl⟩

/-- "encode in upper part" (the ring length may be stale) -/
theorem encUpper_call (v : Variant) (st : EncState) (r : Ring) (vis fin : List Byte)
    (ms : List (Byte × Bool)) (src : Option (List Byte)) (cons : List Nat)
    (hinv : WorkInv v st r vis fin ms) (hoff : r.off ≤ r.store.length)
    (hd : r.store.length - r.off ≤ st.done) (hfit : st.done + st.scratch ≤ r.store.length) :
    ∃ w, encUpper (.cobs v) st r src cons = .ok w ∧ w.ring.store.length = r.store.length ∧
      ((w.push < 0 ∧ w.st = st ∧ w.ring = r) ∨ Advanced v src vis fin ms w) := by
  unfold encUpper
  simp only [Ring.max]
  rcases encWin_call v st r (r.store.length - r.off) 0 r.off vis fin ms src cons hinv hd (Maps.upper r hoff) (by omega) with
    ⟨e, he⟩ | ⟨o, vis', fin', ms', he, hp, hl, hw⟩
  · rw [he]
    refine ⟨_, rfl, rfl, Or.inl ⟨err_code_neg e, ?_, rfl⟩⟩
    simp only
    rw [show st.done - (r.store.length - r.off) + (r.store.length - r.off) = st.done by omega]
  · rw [he]
    exact ⟨_, rfl, hl, Or.inr ⟨vis', fin', ms', o.ret, rfl, hp, hw⟩⟩

/-- "encode in upper part" as first attempt -/
theorem encUpper_stage (v : Variant) (st : EncState) (r : Ring) (vis fin : List Byte)
    (ms : List (Byte × Bool)) (src : Option (List Byte)) (cons : List Nat)
    (hinv : WorkInv v st r vis fin ms) (hlen : r.len = st.done + st.scratch) (hoff : r.off ≤ r.store.length)
    (hd : r.store.length - r.off ≤ st.done) (hfit : st.done + st.scratch ≤ r.store.length) :
    ∃ w, encUpper (.cobs v) st r src cons = .ok w ∧ StageOut v src r.store.length vis fin ms w := by
  obtain ⟨w, he, hl, hc⟩ := encUpper_call v st r vis fin ms src cons hinv hoff hd hfit
  refine ⟨w, he, hl, ?_⟩
  rcases hc with ⟨hneg, hst, hr⟩ | hok
  · left; rw [hst, hr]; exact ⟨hneg, hlen, hinv⟩
  · right; exact hok

/-- encoder call after `mpt_queue_align(&qu->data, 0)`; the ring length is up to date -/
theorem encAligned_stage (v : Variant) (st : EncState) (r : Ring) (vis fin : List Byte)
    (ms : List (Byte × Bool)) (src : Option (List Byte)) (cons : List Nat)
    (hinv : WorkInv v st r vis fin ms) (hlen : r.len = st.done + st.scratch) :
    ∃ w, encAligned (.cobs v) st r src cons = .ok w ∧ StageOut v src r.store.length vis fin ms w := by
  obtain ⟨hwf, hw⟩ := (workInv_iff hlen).mp hinv
  obtain ⟨r1, ha, H1, ho1⟩ := Ring.align_spec hwf.holds 0
  have hl1 : r1.len = r.len := H1.len.trans hwf.holds.len.symm
  unfold encAligned
  rw [ha]
  simp only [Ring.max]
  have hinv1 : WorkInv v st r1 vis fin ms := (workInv_iff (hl1.trans hlen)).mpr ⟨H1.wf, by rw [H1.content]; exact hw⟩
  obtain ⟨w, hw1, hw2, _⟩ := encWin_stage0 v st r1 0 r1.store.length vis fin ms src cons hinv1 (hl1.trans hlen)
    (Maps.aligned r1 (ho1 rfl)) (by have := H1.wf.1; omega)
  rw [H1.cap] at hw2
  exact ⟨w, hw1, hw2⟩

open Ring in
/-- "try out-of-band wrapping": the open block crosses the storage end -/
theorem encOob_stage (v : Variant) (st : EncState) (r : Ring) (vis fin : List Byte)
    (ms : List (Byte × Bool)) (src : Option (List Byte))
    (hinv : WorkInv v st r vis fin ms) (hlen : r.len = st.done + st.scratch) (hs0 : 0 < st.scratch) (hs1 : st.scratch < 256) :
    ∃ w, encOob (.cobs v) st r src = .ok w ∧ StageOut v src r.store.length vis fin ms w ∧ w.ring.off = r.off := by
  obtain ⟨hwf, hw⟩ := (workInv_iff hlen).mp hinv
  have hcl := content_length r hwf.1
  have hM : st.done + st.scratch ≤ r.store.length := by have := hwf.1; omega
  obtain ⟨c, hget⟩ := get_ok r hwf st.done st.scratch hs0 (by omega)
  have hgot : (r.content.drop st.done).take st.scratch = r.content.drop st.done := by
    rw [List.take_of_length_le (by rw [List.length_drop]; omega)]
  have hgl : (r.content.drop st.done).length = st.scratch := by rw [List.length_drop]; omega
  unfold encOob
  simp only [hget, hgot, hgl, Ring.max]
  generalize hbuf : r.content.drop st.done ++ List.replicate (min (r.store.length - st.done) 256 - st.scratch) 0 = buf
  have hbl : buf.length = min (r.store.length - st.done) 256 := by
    rw [← hbuf, List.length_append, hgl, List.length_replicate]; omega
  -- the buffer is a window that shows the content from `done` on: the open block
  have hthrough := winv_through v st r.content vis fin ms src hw (by omega) st.done (Nat.le_refl _) buf
    (by rw [← hbuf, Nat.add_sub_cancel_left, List.take_left' hgl]) (by rw [hbl]; omega)
  rw [Nat.sub_self] at hthrough
  rcases hthrough with ⟨e, he⟩ | ⟨o, vis', fin', ms', he, hol, hprog, hpos, hb, hpost⟩
  · rw [he]; exact ⟨_, rfl, ⟨rfl, Or.inl ⟨err_code_neg e, hlen, hinv⟩⟩, rfl⟩
  rw [he]
  -- the used part of the buffer is stored back behind the finished bytes
  have hfit : st.done + (o.st.done + o.st.scratch) ≤ r.store.length := by rw [hbl] at hb; omega
  have hwf1 : ({ r with len := st.done + (o.st.done + o.st.scratch) } : Ring).WF := ⟨hfit, hwf.2⟩
  obtain ⟨r2, c2, hset, H2, hl2, hoff2⟩ := set_ok hwf1.holds st.done (o.st.done + o.st.scratch)
    (some (o.win.take (o.st.done + o.st.scratch))) (by omega) (by rw [content_length _ hwf1.1]; exact Nat.le_refl _)
  have hc2 := H2.content
  have htl : (o.win.take (o.st.done + o.st.scratch)).length = o.st.done + o.st.scratch := by
    rw [List.length_take]; omega
  rw [setSrc_some _ htl, content_take_len r _ st.done (by omega) (by omega),
    List.drop_of_length_le (by rw [content_length _ hwf1.1]; exact Nat.le_refl _), List.append_nil] at hc2
  have hwi : WorkInv v { o.st with done := o.st.done + st.done } r2 vis' fin' ms' :=
    (workInv_iff (by rw [hl2]; simp only; omega)).mpr ⟨H2.wf, by rw [hc2]; exact hpost⟩
  simp only
  rw [if_neg (by omega), show setOr { r with len := st.done + (o.st.done + o.st.scratch) } st.done (o.st.done + o.st.scratch)
    (o.win.take (o.st.done + o.st.scratch)) = r2 by unfold setOr; rw [hset], Nat.add_comm st.done o.st.done]
  exact ⟨_, rfl, ⟨H2.cap, Or.inr ⟨vis', fin', ms', o.ret, rfl, hprog, hwi⟩⟩, hoff2⟩

/-- "start encoding in lower part", first attempt -/
theorem encLowerFirst_stage (v : Variant) (st : EncState) (r : Ring) (vis fin : List Byte)
    (ms : List (Byte × Bool)) (src : Option (List Byte))
    (hinv : WorkInv v st r vis fin ms) (hlen : r.len = st.done + st.scratch) (hoff : r.off ≤ r.store.length)
    (hd : st.done < r.store.length - r.off) :
    ∃ w, encLowerFirst (.cobs v) st r src = .ok w ∧ StageOut v src r.store.length vis fin ms w ∧ w.ring.off = r.off := by
  unfold encLowerFirst
  simp only [Ring.max]
  by_cases h1 : r.store.length - r.off - st.done ≥ st.scratch
  · rw [if_pos h1]
    exact encWin_stage0 v st r r.off (r.store.length - r.off) vis fin ms src [] hinv hlen (Maps.lower r hoff) (by omega)
  · rw [if_neg h1]
    by_cases h2 : st.scratch ≥ 256
    · rw [if_pos h2]
      exact ⟨_, rfl, ⟨rfl, Or.inl ⟨by simp only; decide, hlen, hinv⟩⟩, rfl⟩
    · rw [if_neg h2]
      exact encOob_stage v st r vis fin ms src hinv hlen (by omega) (by omega)

theorem Progress.seq {v : Variant} {bytes : List Byte} {vis fin vis1 fin1 vis2 fin2 : List Byte}
    {ms ms1 ms2 : List (Byte × Bool)} {n1 n2 : Nat}
    (h1 : Progress v (some bytes) vis fin ms vis1 fin1 ms1 n1)
    (h2 : Progress v (some (bytes.drop n1)) vis1 fin1 ms1 vis2 fin2 ms2 n2) :
    Progress v (some bytes) vis fin ms vis2 fin2 ms2 (n1 + n2) := by
  obtain ⟨f1, m1, a1, b1, c1, d1, e1⟩ := h1
  obtain ⟨f2, m2, a2, b2, c2, d2, e2⟩ := h2
  refine ⟨f1 ++ f2, m1 ++ m2, ?_, ?_, by rw [c2, c1, List.append_assoc], by rw [d2, d1, List.append_assoc],
    by rw [e2, e1, List.append_assoc]⟩
  · rw [List.length_drop] at a2; omega
  · rw [List.map_append, b1, b2, List.take_add]

/-- second push for the rest of the input -/
theorem encSecond_call (v : Variant) (w : Work) (M off0 : Nat) (vis fin : List Byte)
    (ms : List (Byte × Bool)) (rest : List Byte)
    (hM : w.ring.store.length = M) (hinv : WorkInv v w.st w.ring vis fin ms) (hoff : w.ring.off = off0) (hoM : off0 ≤ M) :
    ∃ w2, encSecond (.cobs v) w (M - off0) rest = .ok w2 ∧ w2.ring.store.length = M ∧
      ((w2.push < 0 ∧ WorkInv v w2.st w2.ring vis fin ms) ∨ Advanced v (some rest) vis fin ms w2) := by
  unfold encSecond
  by_cases hd : w.st.done < M - off0
  · rw [if_pos hd]
    obtain ⟨w2, he, hl, hc⟩ := encAligned_stage v w.st { w.ring with len := w.st.done + w.st.scratch } vis fin ms
      (some rest) w.cons hinv rfl
    simp only at hl
    refine ⟨w2, he, by rw [hl, hM], ?_⟩
    rcases hc with ⟨a, _, c⟩ | hok
    · exact Or.inl ⟨a, c⟩
    · exact Or.inr hok
  · rw [if_neg hd]
    have hfit : w.st.done + w.st.scratch ≤ w.ring.store.length := by
      have := hinv.1.1; simp only at this; omega
    obtain ⟨w2, he, hl, hc⟩ := encUpper_call v w.st w.ring vis fin ms (some rest) w.cons hinv
      (by rw [hoff, hM]; exact hoM) (by rw [hoff, hM]; omega) hfit
    refine ⟨w2, he, by rw [hl, hM], ?_⟩
    rcases hc with ⟨a, b, c⟩ | hok
    · left; rw [b, c]; exact ⟨a, hinv⟩
    · exact Or.inr hok

/-- the second attempt of the lower part: retry on aligned data after a refusal, or a second call for the
    rest of the input (on aligned data, or in the upper part) -/
theorem encLowerSecond_stage (v : Variant) (w : Work) (M off0 : Nat) (vis fin : List Byte)
    (ms : List (Byte × Bool)) (src : Option (List Byte))
    (hw : StageOut v src M vis fin ms w) (hoff : w.ring.off = off0) (hoM : off0 ≤ M) :
    ∃ w', encLowerSecond (.cobs v) w (M - off0) src = .ok w' ∧ StageOut v src M vis fin ms w' := by
  obtain ⟨hM, hcase⟩ := hw
  unfold encLowerSecond
  rcases hcase with ⟨hneg, hlen, hinv⟩ | ⟨vis', fin', ms', ret, hpush, hprog, hinv⟩
  · -- C: "bad encoding attempt"
    rw [if_pos hneg]
    have := encAligned_stage v w.st w.ring vis fin ms src w.cons hinv hlen
    rwa [hM] at this
  · rw [if_neg (by omega)]
    cases src with
    | none => exact ⟨w, rfl, hM, Or.inr ⟨vis', fin', ms', ret, hpush, hprog, hinv⟩⟩
    | some bytes =>
      simp only
      have hret : w.push.toNat = ret := by omega
      by_cases hlt : w.push.toNat < bytes.length
      · rw [if_pos hlt, hret]
        -- C: "incomlete append action"
        obtain ⟨w2, he2, hM2, hc2⟩ := encSecond_call v w M off0 vis' fin' ms' (bytes.drop ret) hM hinv hoff hoM
        rw [he2]
        refine ⟨_, rfl, by simpa [addPush] using hM2, Or.inr ?_⟩
        rcases hc2 with ⟨hneg2, hinv2⟩ | ⟨vis2, fin2, ms2, ret2, hpush2, hprog2, hinv2⟩
        · exact ⟨vis', fin', ms', ret, by simp only [addPush]; rw [if_neg (by omega)]; exact hpush, hprog, hinv2⟩
        · by_cases hz : ret2 = 0
          · subst hz
            exact ⟨vis2, fin2, ms2, ret, by simp only [addPush]; rw [if_neg (by omega)]; exact hpush,
              Nat.add_zero ret ▸ Progress.seq hprog hprog2, hinv2⟩
          · exact ⟨vis2, fin2, ms2, ret + ret2, by simp only [addPush]; rw [if_pos (by omega)]; omega,
              Progress.seq hprog hprog2, hinv2⟩
      · rw [if_neg hlt]
        exact ⟨w, rfl, hM, Or.inr ⟨vis', fin', ms', ret, hpush, hprog, hinv⟩⟩

/-- representation invariant of an encode queue with framing `v`: the ring is well-formed, its length is
    `done + scratch`, and its content is the finished bytes `vis` (complete frames and finished blocks,
    not yet taken) followed by the open block; `fin`/`ms` describe the message in progress -/
structure EInv (v : Variant) (q : EncodeQueue) (vis fin : List Byte) (ms : List (Byte × Bool)) : Prop where
  codec : q.codec = some (.cobs v)
  len : q.ring.len = q.st.done + q.st.scratch
  inv : WorkInv v q.st q.ring vis fin ms

theorem EInv.wf {v : Variant} {q : EncodeQueue} {vis fin : List Byte} {ms : List (Byte × Bool)}
    (h : EInv v q vis fin ms) : q.ring.WF := by
  exact ((workInv_iff h.len).mp h.inv).1

theorem EInv.winv {v : Variant} {q : EncodeQueue} {vis fin : List Byte} {ms : List (Byte × Bool)}
    (h : EInv v q vis fin ms) : WInv v q.st q.ring.content vis fin ms := by
  exact ((workInv_iff h.len).mp h.inv).2

theorem EInv.fresh (v : Variant) (store : List Byte) (off : Nat) (h : off ≤ store.length) :
    EInv v { ring := { store := store, len := 0, off := off }, codec := some (.cobs v) } [] [] [] := by
  exact ⟨rfl, rfl, ⟨by simp, h⟩, winv_idle v rfl rfl (by simp) (by simp)⟩

/-- the invariant speaks of the ring through its content only -/
theorem EInv.ring_congr {v : Variant} {q : EncodeQueue} {vis fin : List Byte} {ms : List (Byte × Bool)}
    (h : EInv v q vis fin ms) (r' : Ring) (hwf' : r'.WF) (hl' : r'.len = q.ring.len) (hc' : r'.content = q.ring.content) :
    EInv v { q with ring := r' } vis fin ms :=
  ⟨h.codec, by simp only; rw [hl', h.len], (workInv_iff (by rw [hl', h.len])).mpr ⟨hwf', by rw [hc']; exact h.winv⟩⟩

theorem EInv.empty {v : Variant} {q : EncodeQueue} {vis fin : List Byte} {ms : List (Byte × Bool)}
    (h : EInv v q vis fin ms) (h0 : q.ring.len = 0) : vis = [] ∧ fin = [] := by
  have hl := h.len
  obtain ⟨run, g1, _, g3, _⟩ := h.winv
  -- no data: not the shape with an open block (its code byte alone is data), and between two messages `fin = []`
  rcases g3 with ⟨_, _, c, _, _, _⟩ | ⟨a, _, _⟩
  · exact ⟨List.length_eq_zero_iff.mp (by omega), c⟩
  · omega

theorem EInv.frame_rest {v : Variant} {q : EncodeQueue} {vis fin : List Byte} {ms : List (Byte × Bool)}
    (h : EInv v q vis fin ms) : ∃ tail, encB v [] false ms ++ [0] = fin ++ (tail ++ [0]) := by
  obtain ⟨run, _, _, _, g⟩ := h.winv.shape
  have := g []
  rw [List.append_nil] at this
  exact ⟨encB v run false [], by rw [this, List.append_assoc]⟩

/-- the three placement cases of `mpt_queue_push`: aligned data, upper part, lower part (with its second attempt) -/
theorem pushWork_stage (v : Variant) (q : EncodeQueue) (vis fin : List Byte) (ms : List (Byte × Bool))
    (src : Option (List Byte)) (h : EInv v q vis fin ms) :
    ∃ w, pushWork (.cobs v) q src = .ok w ∧ StageOut v src q.ring.store.length vis fin ms w := by
  have hwf := h.wf
  unfold pushWork
  simp only [Ring.max]
  by_cases h0 : q.ring.off = 0
  · rw [if_pos h0]
    obtain ⟨w, a, b, _⟩ := encWin_stage0 v q.st q.ring 0 q.ring.store.length vis fin ms src [] h.inv h.len
      (Maps.aligned q.ring h0) (by have := hwf.1; have := h.len; omega)
    exact ⟨w, a, b⟩
  · rw [if_neg h0]
    by_cases hd : q.st.done ≥ q.ring.store.length - q.ring.off
    · rw [if_pos hd]
      exact encUpper_stage v q.st q.ring vis fin ms src [] h.inv h.len hwf.2 hd (by have := hwf.1; have := h.len; omega)
    · rw [if_neg hd]
      obtain ⟨w, he, hs, ho⟩ := encLowerFirst_stage v q.st q.ring vis fin ms src h.inv h.len hwf.2 (by omega)
      rw [he]
      exact encLowerSecond_stage v w q.ring.store.length q.ring.off vis fin ms src hs ho hwf.2

/-- **`mpt_queue_push` refines the flat encoder**, any ring state (capacity, wrap offset, fill, data wrapped
    or not), data or termination: the call never leaves the storage and never aborts; it is either refused
    (negative return, content and message in progress unchanged) or makes `Progress`: for data, `ret ≤ len`
    bytes are consumed and the content is continued by the reference encoding of the consumed bytes; for
    termination, the frame of the message is completed. -/
theorem queuePush_refines (v : Variant) (q : EncodeQueue) (vis fin : List Byte) (ms : List (Byte × Bool))
    (src : Option (List Byte)) (h : EInv v q vis fin ms) :
    ∃ out, queuePush q src = .ok out ∧ out.q.ring.store.length = q.ring.store.length ∧
      ((out.ret < 0 ∧ EInv v out.q vis fin ms) ∨
       (∃ (vis' fin' : List Byte) (ms' : List (Byte × Bool)) (ret : Nat), out.ret = (ret : Int) ∧
          Progress v src vis fin ms vis' fin' ms' ret ∧ EInv v out.q vis' fin' ms')) := by
  obtain ⟨w, he, hM, hc⟩ := pushWork_stage v q vis fin ms src h
  unfold queuePush
  rw [h.codec]
  simp only [he]
  have hfit : ∀ vis' fin' ms', WorkInv v w.st w.ring vis' fin' ms' → ¬ (w.st.done + w.st.scratch > w.ring.max) := by
    intro _ _ _ hi
    have := hi.1.1; simp only [Ring.max] at *; omega
  rcases hc with ⟨hneg, _, hinv⟩ | ⟨vis', fin', ms', ret, hpush, hprog, hinv⟩
  · rw [if_neg (hfit _ _ _ hinv)]
    exact ⟨_, rfl, hM, Or.inl ⟨hneg, rfl, rfl, hinv⟩⟩
  · rw [if_neg (hfit _ _ _ hinv)]
    exact ⟨_, rfl, hM, Or.inr ⟨vis', fin', ms', ret, hpush, hprog, rfl, rfl, hinv⟩⟩

end Mpt.CQ
