/-
  C12, requester side: ids handed out by mpt_command_reserve are not in use, and a reply is
  delivered to the one handler waiting for its id, after which nobody waits for that id (`reserve_spec`,
  `reserve_fresh`, `process_cases`).  `Distinct` — the ids of the waiting handlers are pairwise different — is kept by every
  step of a requester history (`distinct_rrun`: await, send, dispatch, sync, with failing commands and follow-up requests).
-/
import MptModel.Lemmas.ReplyId
namespace Mpt.Requester

def activeIds (es : List Slot) : List Nat := (active es).map (·.id)

theorem foldl_max_ge (es : List Slot) (a : Nat) : a ≤ es.foldl (fun m e => Nat.max m e.id) a := by
  induction es generalizing a with
  | nil => simp
  | cons e r ih =>
    simp only [List.foldl_cons]
    exact Nat.le_trans (Nat.le_max_left a e.id) (ih _)

theorem foldl_max_mem (es : List Slot) (a : Nat) (e : Slot) (h : e ∈ es) :
    e.id ≤ es.foldl (fun m e => Nat.max m e.id) a := by
  induction es generalizing a with
  | nil => simp at h
  | cons x r ih =>
    simp only [List.foldl_cons]
    rcases List.mem_cons.mp h with rfl | h
    · exact Nat.le_trans (Nat.le_max_right a e.id) (foldl_max_ge r _)
    · exact ih _ h

theorem freeId_spec (act : List Slot) (fuel i r : Nat) (h : freeId act fuel i = some r) :
    act.any (·.id == r) = false ∧ i ≤ r := by
  induction fuel generalizing i with
  | zero => simp [freeId] at h
  | succ n ih =>
    unfold freeId at h
    split at h
    · have := ih (i + 1) h
      exact ⟨this.1, by omega⟩
    · rename_i hn
      cases h
      exact ⟨by simpa using hn, Nat.le_refl _⟩

theorem active_active (es : List Slot) : active (active es) = active es := by
  simp [active, List.filter_filter]

theorem findActive_eq (es : List Slot) (id : Nat) :
    findActive es id = ((active es).find? fun e => e.id == id).bind (·.tag) := by
  simp [findActive, active, List.find?_filter, Bool.beq_eq_decide_eq]

theorem reserve_spec (arr : Option (List Slot)) (idlen tag : Nat) (a : List Slot) (i : Nat)
    (h : reserve arr idlen tag = some (a, i)) :
    idlen ≠ 0 ∧ 1 ≤ i ∧ i ≤ idMax idlen ∧ (∀ e ∈ active (arr.getD []), e.id ≠ i) ∧
    active a = active (arr.getD []) ++ [⟨i, some tag⟩] := by
  unfold reserve at h
  split at h
  · cases h
  · rename_i hw
    refine ⟨hw, ?_⟩
    cases arr with
    | none =>
      simp only [Option.some.injEq, Prod.mk.injEq] at h
      obtain ⟨rfl, rfl⟩ := h
      refine ⟨Nat.le_refl _, ?_, by simp [active], by simp [active]⟩
      cases idlen with
      | zero => exact absurd rfl hw
      | succ n => show 1 ≤ idMax (n + 1); unfold idMax; split <;> simp_all <;> omega
    | some es =>
      simp only at h
      split at h
      · rename_i j hid
        split at h
        · cases h
        · simp only [Option.some.injEq, Prod.mk.injEq] at h
          obtain ⟨rfl, rfl⟩ := h
          -- the id chosen is either the first one `freeId` found unused among the active entries, or one above every id in the array
          have hfresh : (∀ e ∈ active es, e.id ≠ j) ∧ 1 ≤ j := by
            split at hid
            · have := freeId_spec _ _ _ _ hid
              exact ⟨fun e he hej => by simpa [hej] using List.any_eq_false.1 this.1 e he, this.2⟩
            · cases hid
              exact ⟨fun e he hej => by have := foldl_max_mem es 0 e (List.mem_filter.mp he).1; omega, by omega⟩
          exact ⟨hfresh.2, by omega, hfresh.1, by simp [active, List.filter_append, List.filter_filter]⟩
      · cases h

/-- `idMax w` is `2^(8w-1) - 1` up to `w = 8` and `2^63 - 1` beyond: an id up to it leaves the mark bit of a `w`-byte header free -/
theorem idMax_fits (w : Nat) (hw : w ≠ 0) : idMax w < 2 ^ (8 * w - 1) := by
  match w, hw with
  | 1, _ => decide
  | 2, _ => decide
  | 3, _ => decide
  | 4, _ => decide
  | 5, _ => decide
  | 6, _ => decide
  | 7, _ => decide
  | n + 8, _ =>
    have h1 : idMax (n + 8) = 9223372036854775807 := by unfold idMax; rfl
    have h2 : (2 : Nat) ^ 63 ≤ 2 ^ (8 * (n + 8) - 1) := Nat.pow_le_pow_right (by decide) (by omega)
    have h3 : (2 : Nat) ^ 63 = 9223372036854775808 := by decide
    omega

theorem reserve_fresh (arr : Option (List Slot)) (idlen tag : Nat) (a : List Slot) (i : Nat)
    (hn : ∀ es, arr = some es → (activeIds es).Nodup)
    (h : reserve arr idlen tag = some (a, i)) :
    1 ≤ i ∧ i ≤ idMax idlen ∧ (∀ es, arr = some es → i ∉ activeIds es) ∧ (activeIds a).Nodup ∧ i ∈ activeIds a := by
  obtain ⟨_, h1, h2, hfree, hact⟩ := reserve_spec arr idlen tag a i h
  have hnot : i ∉ activeIds (arr.getD []) := fun hm => by
    obtain ⟨e, he, hei⟩ := List.mem_map.1 hm
    exact hfree e he hei
  have hnd : (activeIds (arr.getD [])).Nodup := by
    cases arr with
    | none => simp [activeIds, active]
    | some es => exact hn es rfl
  refine ⟨h1, h2, fun es he => by subst he; exact hnot, ?_, by simp [activeIds, hact]⟩
  simp only [activeIds, hact, List.map_append, List.map_cons, List.map_nil]
  rw [List.nodup_append]
  exact ⟨hnd, by simp, fun x hx y hy hxy => hnot (by simp at hy; rw [← hy, ← hxy]; exact hx)⟩

theorem active_deactivate (es : List Slot) (id : Nat) (h : (activeIds es).Nodup) :
    active (deactivate es id) = (active es).filter (·.id != id) := by
  induction es with
  | nil => rfl
  | cons e r ih =>
    unfold deactivate
    by_cases h1 : e.tag.isSome = true
    · have hnd : (e.id :: activeIds r).Nodup := by simpa [activeIds, active, List.filter_cons, h1] using h
      by_cases h2 : (e.id == id) = true
      · -- the entry found: no later entry has this id
        have hid : e.id = id := by simpa using h2
        have hrest : (active r).filter (·.id != id) = active r := by
          rw [List.filter_eq_self]
          intro x hx
          simp only [bne_iff_ne, ne_eq]
          intro hxe
          exact (List.nodup_cons.mp hnd).1 (List.mem_map.mpr ⟨x, hx, hxe.trans hid.symm⟩)
        simp [active, h1, hid] at hrest ⊢
        exact hrest.symm
      · have := ih (List.nodup_cons.mp hnd).2
        have hne : (e.id != id) = true := by simpa using h2
        simp only [h1, h2, Bool.true_and, Bool.false_eq_true, if_false]
        simp only [active, List.filter_cons, h1, if_true, hne] at this ⊢
        rw [this]
    · have := ih (by simpa [activeIds, active, List.filter_cons, h1] using h)
      simp only [h1, Bool.false_and, Bool.false_eq_true, if_false]
      simp only [active, List.filter_cons, h1, Bool.false_eq_true, if_false] at this ⊢
      exact this

/-- releasing a registration in the `_wait` array (which may not exist yet) -/
theorem active_release (arr : Option (List Slot)) (rid : Nat) (h : (activeIds (arr.getD [])).Nodup) :
    active ((arr.map (deactivate · rid)).getD []) = (active (arr.getD [])).filter (·.id != rid) := by
  cases arr with
  | none => rfl
  | some es => exact active_deactivate es rid h

theorem activeIds_release (arr : Option (List Slot)) (rid : Nat) (h : (activeIds (arr.getD [])).Nodup) :
    activeIds ((arr.map (deactivate · rid)).getD []) = (activeIds (arr.getD [])).filter (· != rid) := by
  rw [activeIds, active_release arr rid h, activeIds, List.filter_map]
  rfl

theorem activeIds_active (es : List Slot) : activeIds (active es) = activeIds es := by
  simp [activeIds, active_active]

def Distinct (s : St) : Prop := (activeIds (s.arr.getD [])).Nodup

theorem distinct_release (s : St) (rid : Nat) (h : Distinct s) : Distinct { s with arr := s.arr.map (deactivate · rid) } := by
  show (activeIds ((s.arr.map (deactivate · rid)).getD [])).Nodup
  rw [activeIds_release s.arr rid h]
  exact List.Nodup.sublist List.filter_sublist h

theorem process_cases (s : St) (m : List Byte) :
    (∃ rid u t, ((m.take s.idlen).headD 0).toNat ≥ 128 ∧ MsgId.buf2id (Reply.unmark (m.take s.idlen)) = .ok (rid, u) ∧
      findActive (s.arr.getD []) rid = some t ∧
      process s m = ({ s with arr := s.arr.map (deactivate · rid) }, some ⟨some t, some (m.drop s.idlen)⟩)) ∨
    ((process s m).1 = s ∧ ∀ t p, (process s m).2 ≠ some ⟨some t, p⟩) := by
  unfold process
  by_cases h0 : s.idlen = 0
  · exact Or.inr (by simp [h0])
  · by_cases hm : ((m.take s.idlen).headD 0).toNat ≥ 128
    · simp only [h0, hm, if_true, if_false]
      rcases buf2id_decode_cases (Reply.unmark (m.take s.idlen)) with ⟨rid, u, hb, _⟩ | ⟨hb, _⟩
      · cases hf : findActive (s.arr.getD []) rid with
        | none => exact Or.inr (by simp [hb, hf])
        | some t => exact Or.inl ⟨rid, u, t, trivial, hb, hf, by simp [hb, hf]⟩
      · exact Or.inr (by simp [hb])
    · exact Or.inr (by simp only [h0, hm, if_false]; simp)

theorem distinct_process (s : St) (m : List Byte) (h : Distinct s) : Distinct (process s m).1 := by
  rcases process_cases s m with ⟨rid, _, _, _, _, _, hp⟩ | ⟨hp, _⟩
  · rw [hp]; exact distinct_release s rid h
  · rw [hp]; exact h

theorem await_eq (s : St) (tag : Nat) (s' : St) (i : Nat) (ha : await s tag = some (s', i)) :
    ∃ a, reserve s.arr s.idlen tag = some (a, i) ∧ s' = { s with arr := some a, cid := i } := by
  unfold await at ha
  split at ha
  · rename_i a j hr
    simp only [Option.some.injEq, Prod.mk.injEq] at ha
    obtain ⟨rfl, rfl⟩ := ha
    exact ⟨a, hr, rfl⟩
  · cases ha

theorem distinct_await (s : St) (tag : Nat) (s' : St) (i : Nat) (h : Distinct s) (ha : await s tag = some (s', i)) :
    Distinct s' := by
  obtain ⟨a, hr, rfl⟩ := await_eq s tag s' i ha
  obtain ⟨_, _, _, hnd, _⟩ := reserve_fresh s.arr s.idlen tag a i (by intro es he; simpa [Distinct, he] using h) hr
  simpa [Distinct] using hnd

theorem distinct_followUp (follow : Nat → Option Nat) (s : St) (t : Nat) (h : Distinct s) : Distinct (followUp follow s t) := by
  unfold followUp
  cases follow t with
  | none => exact h
  | some t' =>
    simp only []
    cases ha : await s t' with
    | none => exact h
    | some pr => obtain ⟨s', i⟩ := pr; exact distinct_await s t' s' i h ha

theorem distinct_processF (follow : Nat → Option Nat) (s : St) (m : List Byte) (h : Distinct s) :
    Distinct (processF follow s m).1 := by
  unfold processF
  have hp := distinct_process s m h
  generalize process s m = r at hp
  obtain ⟨s1, c⟩ := r
  cases c with
  | none => exact hp
  | some c =>
    obtain ⟨tg, msg⟩ := c
    cases tg with
    | none => exact hp
    | some t => exact distinct_followUp follow _ t hp

theorem distinct_drainF (follow : Nat → Option Nat) (q : List (List Byte)) (s : St) (log : List Call) (h : Distinct s) :
    Distinct (drainF follow q s log).1 := by
  induction q generalizing s log with
  | nil => simpa [drainF, Distinct] using h
  | cons m ms ih =>
    unfold drainF
    exact ih _ _ (distinct_processF follow s m h)

/-- without follow-up requests `processF` and `drainF` — what a history (`rstep`) runs — are `process` and `drain` -/
theorem processF_noFollow (s : St) (m : List Byte) : processF noFollow s m = process s m := by
  unfold processF
  generalize process s m = r
  obtain ⟨s1, c⟩ := r
  cases c with
  | none => rfl
  | some c => obtain ⟨tg, msg⟩ := c; cases tg <;> rfl

theorem drainF_noFollow (q : List (List Byte)) (s : St) (log : List Call) : drainF noFollow q s log = drain q s log := by
  induction q generalizing s log with
  | nil => rfl
  | cons m ms ih => unfold drainF drain; rw [processF_noFollow]; exact ih _ _

theorem distinct_drain (q : List (List Byte)) (s : St) (log : List Call) (h : Distinct s) : Distinct (drain q s log).1 := by
  rw [← drainF_noFollow]; exact distinct_drainF noFollow q s log h

theorem distinct_syncLoop (fails : Nat → Bool) (follow : Nat → Option Nat) (q : List (List Byte)) (s : St) (n : Nat)
    (log : List Call) (h : Distinct s) :
    Distinct (syncLoop fails follow q s n log).1 := by
  induction q generalizing s n log with
  | nil => cases n <;> simpa [syncLoop, Distinct] using h
  | cons m ms ih =>
    cases n with
    | zero => simpa [syncLoop, Distinct] using h
    | succ n =>
      unfold syncLoop
      split
      · simpa [Distinct] using h
      · rcases buf2id_decode_cases (Reply.unmark (m.take s.idlen)) with ⟨rid, u, hb, _⟩ | ⟨hb, _⟩ <;> rw [hb]
        · simp only []
          cases hf : findActive (s.arr.getD []) rid with
          | none => exact ih _ _ _ h
          | some t =>
            have hd2 := distinct_followUp follow _ t (distinct_release s rid h)
            simp only []
            split
            · simpa [Distinct] using hd2
            · exact ih _ _ _ hd2
        · simpa [Distinct] using h

theorem distinct_sync (fails : Nat → Bool) (follow : Nat → Option Nat) (s : St) (h : Distinct s) :
    Distinct (sync fails follow s).1 := by
  unfold sync
  cases ha : s.arr with
  | none => simpa [Distinct, ha] using h
  | some es =>
    simp only []
    split
    · simpa [Distinct, ha] using h
    · have hl := distinct_syncLoop fails follow s.inq s (active es).length [] h
      split
      · simp only [Distinct, Option.getD_some]
        rw [activeIds_active]
        exact hl
      · exact hl

theorem distinct_rstep (fails : Nat → Bool) (follow : Nat → Option Nat) (s : St) (op : ROp) (h : Distinct s) :
    Distinct (rstep fails follow s op).1 := by
  cases op with
  | await tag =>
    simp only [rstep]
    cases ha : await s tag with
    | none => exact h
    | some pr => obtain ⟨s', i⟩ := pr; exact distinct_await s tag s' i h ha
  | send d => simpa [rstep, send, Distinct] using h
  | answer fs => exact distinct_drainF follow _ s [] h
  | sync fs => exact distinct_sync fails follow _ (by simpa [Distinct] using h)

theorem distinct_rrun (fails : Nat → Bool) (follow : Nat → Option Nat) (s : St) (ops : List ROp) (h : Distinct s) :
    Distinct (rrun fails follow s ops).1 := by
  induction ops generalizing s with
  | nil => exact h
  | cons op ops ih => simp only [rrun]; exact ih _ (distinct_rstep fails follow s op h)

end Mpt.Requester
