/-
  Helper lemmas for C02, decode side: the representation invariant `DInv` of a decode queue (well-formed ring, decoder
  offsets inside the data) and the queue operations on the ring model for arbitrary data — the decoder call on the two
  parts of the data, `mpt_queue_shift`, feeding, growth, the `MissingBuffer` recovery of `mpt_queue_recv` (`retryQ`,
  `recvRetry_eq`).  Each keeps `DInv`; shift and recovery show the decoder the same as before (`SameView`).
-/
import MptModel.Impl.CodedQueue
import MptModel.Lemmas.DecodeView
import MptModel.Lemmas.CodedQueueWin
import MptModel.Lemmas.RingAccess
import MptModel.Lemmas.RingStorage
namespace Mpt.CQ
open Mpt.Cobs Mpt.Codec Mpt.Ring

theorem flat_segsOf (r : Ring) (h : r.WF) (base : Nat) : flat (segsOf r base) = r.content := by
  obtain ⟨h1, h2⟩ := h
  unfold segsOf content
  simp only [Ring.max]
  split
  · rename_i hw
    simp only [flat, List.flatMap_cons, List.flatMap_nil, List.append_nil]
    have e1 : (r.store.drop r.off).take r.len = r.store.drop r.off :=
      List.take_of_length_le (by rw [List.length_drop]; omega)
    have e2 : (r.store.take r.off).take (r.len - (r.store.length - r.off)) = r.store.take (r.len - (r.store.length - r.off)) := by
      rw [List.take_take, Nat.min_eq_left (by omega)]
    rw [List.take_append, e1, List.length_drop, e2]
  · rename_i hw
    simp only [flat, List.flatMap_cons, List.flatMap_nil, List.append_nil]
    rw [List.take_append_of_le_length (by rw [List.length_drop]; omega)]

theorem putContent_spec (r : Ring) (h : r.WF) (bytes : List Byte) (hl : bytes.length = r.len) :
    (putContent r bytes).length = r.store.length ∧
    ({ r with store := putContent r bytes } : Ring).content = bytes := by
  have hlo := (low_spec r h).1
  have hl1 : (bytes.take r.low).length = r.low := by rw [List.length_take]; omega
  have hl2 : (bytes.drop r.low).length = r.len - r.low := by rw [List.length_drop]; omega
  -- the two parts of the data are written one after the other
  obtain ⟨hlen, hc⟩ := content_write_parts r h 0 r.off (bytes.take r.low) (bytes.drop r.low)
    (by rw [hl1, hl2]; exact parts_low r h) (by rw [hl1, hl2]; omega)
  refine ⟨hlen, hc.trans ?_⟩
  rw [List.take_append_drop, Mem.write, List.take_zero, List.nil_append, Nat.zero_add,
    List.drop_of_length_le (by rw [content_length r h.1]; omega), List.append_nil]

/-- representation invariant of a decode queue: well-formed ring, consistent decoder offsets inside the
    queue data -/
structure DInv (q : DecodeQueue) : Prop where
  wf : q.ring.WF
  bnd : Bnd q.ring.len q.st

theorem DInv.fresh (store : List Byte) (off : Nat) (h : off ≤ store.length) (c : Option Variant) (base : Nat) :
    DInv { ring := { store := store, len := 0, off := off }, codec := c, base := base } :=
  ⟨⟨by simp, h⟩, ⟨by simp, by simp, by intro m hh; cases hh⟩⟩

/-- what every operation of `mpt_queue_recv` / `mpt_queue_peek` keeps of a queue; nothing is said of `ring.len` or of
    the decoder state -/
structure Kept (q q' : DecodeQueue) : Prop where
  inv : DInv q'
  cap : q'.ring.store.length = q.ring.store.length
  codec : q'.codec = q.codec

theorem Kept.trans {a b c : DecodeQueue} (h1 : Kept a b) (h2 : Kept b c) : Kept a c :=
  ⟨h2.inv, h2.cap.trans h1.cap, h2.codec.trans h1.codec⟩

theorem decCall_inv (v : Variant) (q : DecodeQueue) (h : DInv q) :
    Kept q (decCall v q).1 ∧ (decCall v q).1.ring.len = q.ring.len ∧ (decCall v q).2 ≠ .oob ∧ (decCall v q).2 ≠ .clobber := by
  have hflat := flat_segsOf q.ring h.wf q.base
  have hcl := content_length q.ring h.wf.1
  have htot : (flat (if false = true then (segsOf q.ring q.base).take 1 else segsOf q.ring q.base)).length = q.ring.len := by
    simp [hflat, hcl]
  have hb := decodeV_bnd v q.st (segsOf q.ring q.base) false (by rw [htot]; exact h.bnd)
  have hs := decodeV_safe v q.st (segsOf q.ring q.base) false h.bnd.msg
  rw [htot] at hb
  have hsl := hs.len
  rw [htot] at hsl
  obtain ⟨hpl, hpc⟩ := putContent_spec q.ring h.wf _ hsl
  unfold decCall
  refine ⟨⟨⟨⟨by simp only; rw [hpl]; exact h.wf.1, by simp only; rw [hpl]; exact h.wf.2⟩, hb⟩, hpl, rfl⟩, rfl, hs.nofault.1, hs.nofault.2⟩

theorem decCall_content (v : Variant) (q : DecodeQueue) (h : DInv q) :
    flat (segsOf q.ring q.base) = q.ring.content ∧ Bnd q.ring.content.length q.st ∧
    (decCall v q).1.ring.content = (decodeV v q.st (segsOf q.ring q.base) false).store := by
  have hflat := flat_segsOf q.ring h.wf q.base
  have hcl := content_length q.ring h.wf.1
  have hsl : (decodeV v q.st (segsOf q.ring q.base) false).store.length = q.ring.len := by
    have := (decodeV_safe v q.st (segsOf q.ring q.base) false h.bnd.msg).len; simpa [hflat, hcl] using this
  exact ⟨hflat, by rw [hcl]; exact h.bnd, (putContent_spec q.ring h.wf _ hsl).2⟩

theorem queueShift_eff (q : DecodeQueue) (h : DInv q) :
    ∃ q', queueShift q = .ok q' ∧ Kept q q' ∧ SameView q.st q'.st q.ring.content q'.ring.content := by
  have hle := h.bnd.le
  have htot := h.bnd.tot
  have hcl := content_length q.ring h.wf.1
  -- when nothing is removed the queue is returned as it is
  have hsame : ∃ q', Res.ok q = .ok q' ∧ Kept q q' ∧ SameView q.st q'.st q.ring.content q'.ring.content :=
    ⟨q, rfl, ⟨h, rfl, rfl⟩, rfl, rfl, rfl, by omega, rfl, rfl, fun _ => Nat.le_refl _⟩
  unfold queueShift
  simp only
  by_cases hc : q.st.curr = 0
  · rw [if_pos hc]; exact hsame
  rw [if_neg hc]
  generalize hcut : (if q.st.pos ≠ 0 ∨ q.st.len ≠ 0 ∨ q.st.ctx ≠ 0 then
      if q.st.pos < q.st.curr then (q.st.pos, 0) else (q.st.curr, q.st.pos - q.st.curr)
    else (q.st.curr, q.st.pos)) = cut
  -- either everything in front of the decoded bytes goes, or (nothing decoded, no open block) everything consumed
  have hcut1 : cut.1 ≤ q.st.curr ∧ cut.2 + q.st.len ≤ q.st.curr - cut.1 ∧
      ((cut.1 ≤ q.st.pos ∧ cut.2 = q.st.pos - cut.1) ∨ (q.st.len = 0 ∧ q.st.ctx = 0)) := by
    rw [← hcut]
    split
    · split
      · exact ⟨by simp only; omega, by simp only; omega, Or.inl ⟨by simp, by simp⟩⟩
      · exact ⟨by simp, by simp only; omega, Or.inl ⟨by simp only; omega, by simp⟩⟩
    · exact ⟨by simp, by simp only; omega, Or.inr (by omega)⟩
  by_cases h0 : cut.1 = 0
  · rw [if_pos h0]; exact hsame
  rw [if_neg h0]
  obtain ⟨r', c, he, H', hs'⟩ := crop_front h.wf.holds cut.1 (by rw [hcl]; omega)
  have hl' : r'.len = q.ring.len - cut.1 := by rw [H'.len, List.length_drop, hcl]
  rw [he]
  refine ⟨_, rfl, ⟨⟨H'.wf, ⟨by simp only; omega, by simp only; omega, h.bnd.msg⟩⟩, by rw [hs'], rfl⟩, ?_⟩
  simp only
  rw [H'.content]
  exact SameView.drop q.st q.ring.content cut.1 cut.2 (by omega) hcut1.1 hcut1.2.2

theorem view_bit_nonneg (r : Ring) (pos len : Nat) (e : Err) (b : Int) (base low high : Nat)
    (h : r.view pos len e = .ok (b, base, low, high)) : 0 ≤ b := by
  unfold Ring.view at h
  simp only at h
  -- every `.ok` exit of `view` returns a literal 0 or 1 (or an `if` between them) as its first component
  repeat' split at h
  all_goals first
    | (cases h; done)
    | (simp only [Res.ok.injEq, Prod.mk.injEq] at h; obtain ⟨rfl, _⟩ := h; first | decide | (split <;> decide))

/-- the return code of `mpt_queue_set` / `mpt_qpush` on success is a (non-negative) fragmentation flag -/
theorem set_code_nonneg (r : Ring) (pos n : Nat) (b : Option (List Byte)) (r' : Ring) (c : Int)
    (h : r.set pos n b = .ok (r', c)) : 0 ≤ c := by
  unfold Ring.set at h
  split at h
  · cases h; decide
  · split at h
    · rename_i bit1 base low high hv
      have hb := view_bit_nonneg r pos n _ bit1 base low high hv
      split at h
      · simp only [Res.ok.injEq, Prod.mk.injEq] at h
        obtain ⟨_, rfl⟩ := h
        split <;> omega
      · cases h
    all_goals cases h

theorem qpush_code_nonneg (r : Ring) (n : Nat) (b : Option (List Byte)) (r' : Ring) (c : Int)
    (h : r.qpush n b = .ok (r', c)) : 0 ≤ c := by
  unfold Ring.qpush at h
  split at h
  · exact set_code_nonneg _ _ _ _ _ _ h
  all_goals cases h

theorem queueFeed_inv (q : DecodeQueue) (bytes : List Byte) (h : DInv q) :
    ∃ q' c, queueFeed q bytes = .ok (q', c) ∧ Kept q q' ∧ q'.st = q.st ∧
      ((c < 0 ∧ q' = q) ∨ (0 ≤ c ∧ q'.ring.content = q.ring.content ++ bytes)) := by
  unfold queueFeed
  have H := h.wf.holds
  by_cases hc : q.ring.content.length < q.ring.store.length ∧ bytes.length ≤ q.ring.store.length - q.ring.content.length
  · obtain ⟨r', c, he, H'⟩ := qpush_ok H bytes.length (some bytes) hc
    rw [he]
    rw [setSrc_some bytes rfl] at H'
    have hl' : r'.len = q.ring.len + bytes.length := by rw [H'.len, List.length_append, H.len]
    exact ⟨_, c, rfl, ⟨⟨H'.wf, h.bnd.mono (by simp only; omega)⟩, H'.cap, rfl⟩, rfl,
      Or.inr ⟨qpush_code_nonneg _ _ _ _ _ he, H'.content⟩⟩
  · rw [qpush_refused H bytes.length (some bytes) hc]
    exact ⟨q, _, rfl, ⟨h, rfl, rfl⟩, rfl, Or.inl ⟨err_code_neg _, rfl⟩⟩

theorem drop_write_after (s : List Byte) (d : Nat) (b : List Byte) (a : Nat) (h : d + b.length ≤ a) (hd : d ≤ s.length) :
    (Mem.write s d b).drop a = s.drop a := by
  have e : (s.take d ++ b).length = d + b.length := by rw [List.length_append, List.length_take]; omega
  rw [Mem.write, List.drop_append, e, List.drop_of_length_le (l := s.take d ++ b) (by omega), List.nil_append,
    List.drop_drop]
  congr 1; omega

/-- the decoded data is moved to the start of the enlarged work area (`left` bytes from `pos + shift` down to
    `pos`, in parts of at most 256, the size of the buffer in `mpt_queue_recv`); altogether one `memmove` -/
theorem moveBackLoop_content (shift : Nat) : ∀ (fuel left : Nat) (r : Ring) (pos : Nat), left ≤ fuel → r.WF →
    pos + shift + left ≤ r.len →
    ∃ r', moveBackLoop shift fuel r pos left = .ok r' ∧ r'.WF ∧ r'.store.length = r.store.length ∧ r'.len = r.len ∧
      r'.off = r.off ∧ r'.content = Mem.move r.content pos (pos + shift) left := by
  intro fuel
  induction fuel with
  | zero =>
    intro left r pos hl hwf _
    have : left = 0 := by omega
    subst this
    exact ⟨r, rfl, hwf, rfl, rfl, rfl, (Mem.move_zero _ _ _).symm⟩
  | succ fuel ih =>
    intro left r pos hf hwf hfit
    unfold moveBackLoop
    by_cases h0 : left = 0
    · rw [if_pos h0]; subst h0; exact ⟨r, rfl, hwf, rfl, rfl, rfl, (Mem.move_zero _ _ _).symm⟩
    rw [if_neg h0]
    simp only
    generalize hpart : min left 256 = part
    have hcl := content_length r hwf.1
    obtain ⟨c, hget⟩ := get_ok r hwf (pos + shift) part (by omega) (by omega)
    obtain ⟨r1, c1, hset, H1, hl1, ho1⟩ := set_ok hwf.holds pos part
      (some (Mem.read r.content (pos + shift) part)) (by omega) (by omega)
    have hwf1 := H1.wf
    have hs1 := H1.cap
    have hc1 := H1.content
    have hbl := Mem.read_length r.content (pos + shift) part (by omega)
    rw [setSrc_some _ hbl] at hc1
    have hm1 : r1.content = Mem.move r.content pos (pos + shift) part := by rw [hc1, Mem.move, Mem.write, hbl]
    rw [hget]
    simp only
    rw [show (r.content.drop (pos + shift)).take part = Mem.read r.content (pos + shift) part from rfl, hset]
    simp only
    obtain ⟨r', he, hwf', hs', hl', ho', hc'⟩ := ih (left - part) r1 (pos + part) (by omega) hwf1 (by rw [hl1]; omega)
    refine ⟨r', he, hwf', by rw [hs', hs1], by rw [hl', hl1], by rw [ho', ho1], ?_⟩
    -- the part moved in this round and the rest are one move
    rw [hc', hm1, Mem.move_down_chunk r.content pos shift part (left - part) (by omega), show part + (left - part) = left by omega]

theorem moveBack_content (shift left : Nat) (r : Ring) (pos : Nat) (hwf : r.WF) (hfit : pos + shift + left ≤ r.len) :
    ∃ r', moveBack r shift pos left = .ok r' ∧ r'.WF ∧ r'.store.length = r.store.length ∧ r'.len = r.len ∧
      r'.off = r.off ∧ r'.content = Mem.move r.content pos (pos + shift) left :=
  moveBackLoop_content shift left left r pos (Nat.le_refl _) hwf hfit

/-- what growing the storage to `n` bytes (`queueGrow`) keeps of a decode queue -/
structure Grown (q q' : DecodeQueue) (n : Nat) : Prop where
  inv : DInv q'
  codec : q'.codec = q.codec
  st : q'.st = q.st
  content : q'.ring.content = q.ring.content
  len : q'.ring.len = q.ring.len
  cap : q.ring.store.length < n → q'.ring.store.length = n

theorem queueGrow_inv (q : DecodeQueue) (n : Nat) (h : DInv q) : ∃ q', queueGrow q n = .ok q' ∧ Grown q q' n := by
  unfold queueGrow
  simp only [Ring.max]
  by_cases hn : n ≤ q.ring.store.length
  · rw [if_pos hn]; exact ⟨q, rfl, h, rfl, rfl, rfl, rfl, fun hlt => absurd hn (by omega)⟩
  rw [if_neg hn]
  obtain ⟨r', he, H'⟩ := resize_spec h.wf.holds n
  rw [he]
  have hsub : q.ring.content.length - n = 0 := by have := h.wf.holds.le; omega
  rw [hsub, List.drop_zero] at H'
  have hs' := H'.cap
  have hl' : r'.len = q.ring.len := H'.len.trans h.wf.holds.len.symm
  exact ⟨_, rfl, ⟨H'.wf, by simp only; rw [hl']; exact h.bnd⟩, rfl, rfl, H'.content, hl', fun _ => hs'⟩

/-- what follows a decoder call in `mpt_queue_recv` when the decoder did not ask for space -/
def afterCall (q1 : DecodeQueue) (ret : DecRet) : Res (DecodeQueue × Int) :=
  match ret with
  | .val _ => recvDone q1
  | .err e => .ok (q1, e.code)
  | .oob => .oob
  | .clobber => .oob

/-- the queue after the `MissingBuffer` recovery has enlarged the work area (before the retry); the arms that return `q`
    are not reached from a state with `DInv` and free space (`recvRetry_eq`) -/
def retryQ (q : DecodeQueue) : DecodeQueue :=
  match q.ring.qpre (q.ring.max - q.ring.len) with
  | .ok (r1, _) =>
    match moveBack r1 (q.ring.max - q.ring.len) q.st.pos q.st.len with
    | .ok r2 => { q with ring := r2, st := { q.st with curr := q.st.curr + (q.ring.max - q.ring.len) } }
    | _ => q
  | _ => q

/-- `MissingBuffer` recovery on a queue that is not full: all free space goes in front of the data, the decoded
    bytes stay at their offset, the unread input keeps its distance to the end — the decoder sees the same with a
    larger work area; then the call is repeated -/
theorem recvRetry_eq (v : Variant) (q : DecodeQueue) (h : DInv q) (hfree : q.ring.len < q.ring.store.length) :
    recvRetry v q = afterCall (decCall v (retryQ q)).1 (decCall v (retryQ q)).2 ∧ Kept q (retryQ q) ∧
    (retryQ q).st = { q.st with curr := q.st.curr + (q.ring.store.length - q.ring.len) } ∧
    SameView q.st (retryQ q).st q.ring.content (retryQ q).ring.content := by
  have hle := h.bnd.le
  have htot := h.bnd.tot
  have hcl := content_length q.ring h.wf.1
  generalize hadd : q.ring.store.length - q.ring.len = add
  obtain ⟨r1, kk, f, he, hf, H1, hs1⟩ := qpre_ok h.wf.holds add ⟨by omega, by omega⟩
  have hwf1 := H1.wf
  have hl1 : r1.len = q.ring.len + add := by rw [H1.len, List.length_append, hf, hcl, Nat.add_comm]
  have hc1 : r1.content.drop add = q.ring.content := by rw [H1.content, ← hf, List.drop_left]
  obtain ⟨r2, hmv, hwf2, hs2, hl2, ho2, hc2⟩ := moveBack_content add q.st.len r1 q.st.pos hwf1 (by rw [hl1]; omega)
  have hq : retryQ q = { q with ring := r2, st := { q.st with curr := q.st.curr + add } } := by
    unfold retryQ
    simp only [Ring.max, hadd, he, hmv]
  have hold : ∀ k, r1.content.drop (k + add) = q.ring.content.drop k := by
    intro k; rw [Nat.add_comm, ← List.drop_drop, hc1]
  have hcl1 := content_length r1 hwf1.1
  have hcl2 := content_length r2 hwf2.1
  have hM := Mem.read_length r1.content (q.st.pos + add) q.st.len (by omega)
  rw [hq]
  refine ⟨?_, ⟨⟨hwf2, ⟨by simp only; omega, by simp only; omega, h.bnd.msg⟩⟩, by simp only; rw [hs2, hs1], rfl⟩, rfl,
    { ctx := rfl, msg := rfl, len := rfl, curr := by simp only; rw [hcl2, hl2, hl1]; omega, unread := ?_, region := ?_,
      room := fun _ => Nat.sub_le_sub_right (Nat.le_add_right _ _) _ }⟩
  · unfold recvRetry afterCall
    simp only [Ring.max, hadd, he, hmv]
    generalize decCall v { q with ring := r2, st := { q.st with curr := q.st.curr + add } } = dc
    obtain ⟨q3, ret⟩ := dc
    cases ret <;> rfl
  · simp only
    rw [hc2, Mem.move, drop_write_after _ _ _ _ (by rw [hM]; omega) (by omega), hold]
  · show Mem.read r2.content q.st.pos q.st.len = Mem.read q.ring.content q.st.pos q.st.len
    rw [hc2, Mem.read_move_same _ _ _ _ (by omega) (by omega), Mem.read, hold, Mem.read]

theorem queueRecv_unfold (v : Variant) (q : DecodeQueue) (hc : q.codec = some v) (h0 : q.ring.len ≠ 0) :
    queueRecv q =
      if (decCall v q).2 = .err .MissingBuffer ∧ (decCall v q).1.ring.len < (decCall v q).1.ring.max then
        recvRetry v (decCall v q).1
      else afterCall (decCall v q).1 (decCall v q).2 := by
  unfold queueRecv afterCall
  rw [if_neg h0, hc]
  simp only
  generalize decCall v q = dc
  obtain ⟨q1, ret⟩ := dc
  cases ret with
  | val n => simp
  | err e =>
    simp only
    by_cases he : e = .MissingBuffer
    · subst he
      simp only [ne_eq, not_true_eq_false, if_false, true_and]
      by_cases hf : q1.ring.len ≥ q1.ring.max
      · rw [if_pos hf, if_neg (by omega)]
      · rw [if_neg hf, if_pos (by omega)]
    · rw [if_pos he, if_neg (by intro hh; exact he (by cases hh.1; rfl))]
  | oob => simp
  | clobber => simp

end Mpt.CQ
