/-
  C04: `mpt_printf` appends the text (two slices of computed length, `vsnprintf`, adjustment of the used size).
-/
import MptModel.Lemmas.HeapOps
namespace Mpt.Heap

theorem data_take_of_padTo {z : Buf} {v : List Byte} {m used : Nat} (zu : z.used ≤ z.size) (zc : z.content = Vec.padTo v m)
    (hu : used ≤ v.length) : z.data.take used = v.take used := by
  have zl : used ≤ z.used := by
    have := congrArg List.length zc
    rw [content_length z zu, padTo_length] at this
    omega
  rw [← padTo_take v m used hu, ← zc, Buf.content, List.take_take, Nat.min_eq_left zl]

/-- `buf->_used = used + n` on an owned buffer of characters -/
theorem finish_own {s : State} {h nb : Nat} {z : Buf} (inv : Inv s) (o : Own s h nb z)
    (e1 : esize z.traits = 1) (used n : Nat) (fit : used + n ≤ z.size) :
    ∃ s3, printfFinish s h used n = .ok s3 n ∧ Kept s h s3 ∧ s3.abs h = z.data.take (used + n) := by
  unfold printfFinish setUsedH
  rw [o.hh]
  simp only [o.hb]
  obtain ⟨inv3, _, abs3, oth3, len3⟩ := o.update inv { z with used := used + n } o.ref rfl fit
    (inv.plain nb z o.hb) (esize_one_mod _ e1 _)
  exact ⟨_, rfl, ⟨inv3, len3, oth3⟩, abs3⟩

/-- `vsnprintf` into an owned buffer of characters and the adjustment of the used size, when the text fits -/
theorem print_on_own {s : State} {h nb : Nat} {z : Buf} (inv : Inv s) (o : Own s h nb z)
    (e1 : esize z.traits = 1) (used L : Nat) (text : List Byte) (L0 : L ≠ 0) (fit : used + L ≤ z.size) (nl : text.length < L) :
    ∃ s2 s3, snprintfAt s h used L text = .ok s2 () ∧ printfFinish s2 h used text.length = .ok s3 text.length ∧
      Kept s h s3 ∧ s3.abs h = z.data.take used ++ text := by
  have tk : text.take (L - 1) = text := List.take_of_length_le (by omega)
  unfold snprintfAt
  rw [if_neg L0, tk, poke_eq o.hh o.hb used (text ++ [0]) (by simp; omega)]
  have wl : (Mem.write z.data used (text ++ [0])).length = z.data.length :=
    Mem.write_length _ _ _ (by simp; simp only [Buf.size] at fit; omega)
  obtain ⟨inv2, o2, _, oth2, len2⟩ := o.update inv { z with data := Mem.write z.data used (text ++ [0]) } o.ref rfl
    (by simp only [Buf.size, wl]; exact inv.used nb z o.hb) (inv.plain nb z o.hb) (esize_one_mod _ e1 _)
  obtain ⟨s3, q, st3, abs3⟩ := finish_own inv2 o2 e1 used text.length
    (by simp only [Buf.size, wl]; simp only [Buf.size] at fit; omega)
  refine ⟨_, s3, rfl, q, Kept.trans ⟨inv2, len2, oth2⟩ st3, ?_⟩
  rw [abs3]
  exact take_write_text _ _ _ (by simp only [Buf.size] at fit; omega)

theorem printfRetry_own {s : State} {h nb : Nat} {z : Buf} {ct : Traits} (inv : Inv s) (hlt : h < s.hs.length) (o : Own s h nb z)
    (zt : z.traits = some ct) (c1 : ct.size = 1) (used len : Nat) (text : List Byte) (n0 : text.length ≠ 0) (hu : used ≤ z.used) :
    ∃ s5, printfRetry s h used len text = .ok s5 text.length ∧ Kept s h s5 ∧ s5.abs h = z.data.take used ++ text := by
  have e1 : esize z.traits = 1 := by rw [zt]; exact c1
  have zused := inv.used nb z o.hb
  unfold printfRetry
  simp only
  -- of the retry length (C: `while (len <= rval) len += 64`) only `text.length < L` is used
  generalize hL : max len ((text.length / 64 + 1) * 64) = L
  have nL : text.length < L := by omega
  obtain ⟨ss, st⟩ := arraySlice_post inv hlt used L
  generalize arraySlice s h used L = r at ss st
  cases r with
  | fault w => exact ss.elim
  | fail s3 e => exact (st nb z o e1).elim
  | ok s3 v =>
    obtain ⟨st3, abs3⟩ := ss.kept
    obtain ⟨_, nb3, z3, o3, fit3, z3t⟩ := st
    have z3t' : z3.traits = some ct := by rw [z3t, o.hh]; simp [o.hb, zt]
    have z3u := st3.inv.used nb3 z3 o3.hb
    have c3 : z3.content = Vec.padTo z.content (used + L) := by
      rw [← State.abs_of o3.hh o3.hb, abs3, State.abs_of o.hh o.hb]; rfl
    have pre3 : z3.data.take used = z.data.take used := by
      rw [data_take_of_padTo z3u c3 (by rw [content_length z zused]; exact hu), Buf.content, List.take_take,
        Nat.min_eq_left hu]
    obtain ⟨s4, s5, q1, q2, st5, abs5⟩ := print_on_own st3.inv o3 (by rw [z3t']; exact c1)
      used L text (by omega) fit3 nL
    simp only
    rw [q1]
    simp only [if_neg n0]
    exact ⟨s5, q2, st3.trans st5, by rw [abs5, pre3]⟩

/-- `mpt_vprintf` behind the type check: on a handle whose buffer (if any) holds characters -/
theorem printfTail_sem {s : State} (inv : Inv s) {h : Nat} (hlt : h < s.hs.length) (ct : Traits) (c1 : ct.size = 1) (used len : Nat)
    (text : List Byte) (ht : ((s.handle h).bind s.buf?).bind (·.traits) = some ct) (hl : (s.abs h).length = used) :
    Sem s h (fun v v' => v' = Vec.append v text) (printfTail s h used len text) := by
  unfold printfTail
  simp only
  obtain ⟨ss, st⟩ := arraySlice_post inv hlt used len
  generalize arraySlice s h used len = r at ss st
  cases r with
  | fault w => exact ss
  | fail s1 e => exact ss
  | ok s1 v =>
    obtain ⟨st1, abs1⟩ := ss.kept
    obtain ⟨_, nb, z, o, fit, zt⟩ := st
    rw [ht] at zt
    have e1 : esize z.traits = 1 := by rw [zt]; exact c1
    have zp := st1.inv.plain nb z o.hb
    have zu := st1.inv.used nb z o.hb
    have hlt1 : h < s1.hs.length := by rw [st1.len]; exact hlt
    have zc : z.content = Vec.padTo (s.abs h) (used + len) := by
      rw [← State.abs_of o.hh o.hb, abs1]; rfl
    have zlen : z.used = used + len := by
      have := congrArg List.length zc
      rw [content_length z zu, padTo_length, hl] at this
      omega
    have pre : z.data.take used = s.abs h := by
      rw [data_take_of_padTo zu zc (by omega)]; exact List.take_of_length_le (by omega)
    simp only
    by_cases L0 : len = 0
    · -- no room at all: nothing is printed in the first attempt
      subst L0
      simp only [snprintfAt, if_true]
      by_cases n0 : text.length = 0
      · rw [if_pos (Or.inl n0)]
        rw [List.eq_nil_of_length_eq_zero n0, List.length_nil]
        obtain ⟨s3, q, st3, abs3⟩ := finish_own st1.inv o e1 used 0 (by omega)
        rw [q]
        refine (st1.trans st3).sem_ok ?_ _
        rw [abs3, Nat.add_zero, pre]
        simp [Vec.append]
      · rw [if_neg (by omega)]
        obtain ⟨s5, q, st5, abs5⟩ := printfRetry_own st1.inv hlt1 o zt c1 used 0 text n0 (by omega)
        rw [q]
        exact (st1.trans st5).sem_ok (by rw [abs5, pre]; rfl) _
    · by_cases fits : text.length = 0 ∨ text.length < len
      · have nl : text.length < len := by omega
        obtain ⟨s2, s3, q1, q2, st3, abs3⟩ := print_on_own st1.inv o e1 used len text L0 fit nl
        rw [q1]
        simp only [if_pos fits]
        rw [q2]
        exact (st1.trans st3).sem_ok (by rw [abs3, pre]; rfl) _
      · -- truncated first attempt, then the retry
        unfold snprintfAt
        rw [if_neg L0, poke_eq o.hh o.hb used (text.take (len - 1) ++ [0]) (by simp; omega)]
        have wl : (Mem.write z.data used (text.take (len - 1) ++ [0])).length = z.data.length :=
          Mem.write_length _ _ _ (by simp; simp only [Buf.size] at fit; omega)
        obtain ⟨inv2, o2, _, oth2, len2⟩ := o.update st1.inv { z with data := Mem.write z.data used (text.take (len - 1) ++ [0]) }
          o.ref rfl (by simp only [Buf.size, wl]; exact zu) zp (esize_one_mod _ e1 _)
        simp only [if_neg fits]
        obtain ⟨s5, q, st5, abs5⟩ := printfRetry_own inv2 (by rw [len2]; exact hlt1) o2 zt c1 used len text (by omega)
          (by show used ≤ z.used; omega)
        rw [q]
        refine ((st1.trans ⟨inv2, len2, oth2⟩).trans st5).sem_ok ?_ _
        rw [abs5]
        show (Mem.write z.data used (text.take (len - 1) ++ [0])).take used ++ text = _
        rw [take_write_le _ _ _ _ (Nat.le_refl _) (by simp only [Buf.size] at fit; omega), pre]; rfl

end Mpt.Heap
