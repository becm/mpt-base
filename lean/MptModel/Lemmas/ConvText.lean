/-
  C07, text sources.  What the scanner of the `strtoimax/strtoumax` model consumes with base 0, if anything, is a numeral
  in the sense of `Spec/Scalar.lean`, and its value is returned; a verified checker for the generated integer parsers
  (`checkParser`, `runParser_sound`); `mpt_convert_string` as a blank-skipping wrapper over any number conversion
  (`skipBlanks`); the character target and its specification `CharOK`.
-/
import MptModel.Lemmas.Convert
import MptModel.Lemmas.ListFacts
namespace Mpt.Conv
open Mpt.Scalar Mpt.Flt

theorem head_takeWhile_ne_nil {α} (p : α → Bool) (l : List α) (h : l.takeWhile p ≠ []) :
    (l.takeWhile p).head? = l.head? := by
  cases l with
  | nil => simp at h
  | cons a l =>
    by_cases hp : p a
    · simp [hp]
    · simp [hp] at h

theorem dropWhile_take_of_head {α} (p : α → Bool) (l : List α) (k : Nat) (h : ∀ x, l.head? = some x → p x = false) :
    (l.take k).dropWhile p = l.take k := by
  cases l with
  | nil => simp
  | cons x l =>
    cases k with
    | zero => simp
    | succ k =>
      have := h x (by simp)
      simp [List.take_succ_cons, this]

theorem head_dropWhile {α} (p : α → Bool) (l : List α) (x : α) (hx : (l.dropWhile p).head? = some x) : p x = false := by
  have := List.head?_dropWhile_not p l
  rwa [hx] at this

theorem digitRunValue_eq_horner (base : Nat) (ds : List Nat) : digitRunValue base ds = horner base ds := rfl

theorem scanDigits_value (base : Nat) (s : List Nat) (h : s.takeWhile (isDigitOf base) ≠ []) :
    digitsValue base (s.takeWhile (isDigitOf base)) = some (scanDigits base s).1 := by
  simp [digitsValue, h, scanDigits, digitRunValue_eq_horner]

theorem isDigitOf_le {b b' : Nat} (h : b ≤ b') (c : Nat) (hd : isDigitOf b c = true) : isDigitOf b' c = true := by
  unfold isDigitOf at *
  cases hv : digitVal c with
  | none => simp [hv] at hd
  | some d => simp [hv] at hd ⊢; omega

theorem not_x_of_digit10 (c : Nat) (hd : isDigitOf 10 c = true) : ¬ (c = 120 ∨ c = 88) := by
  intro h
  rcases h with h | h <;> subst h <;> simp [isDigitOf, digitVal] at hd

theorem magnitude_digits (ds : List Nat) (hall : ds.all (isDigitOf 10) = true) (hne : ds ≠ []) :
    magnitude ds = if ds.head? = some 48 then digitsValue 8 ds else digitsValue 10 ds := by
  match ds, hne with
  | [a], _ =>
    simp only [magnitude, List.head?_cons]
    by_cases ha : a = 48
    · subst ha; decide
    · simp [ha]
  | a :: b :: rest, _ =>
    have hb : isDigitOf 10 b = true := by simp [List.all_cons] at hall; exact hall.2.1
    have hnx := not_x_of_digit10 b hb
    simp only [magnitude, List.head?_cons]
    by_cases ha : a = 48
    · simp [ha, hnx]
    · simp [ha]

theorem scanBody_prefix (s : List Nat) (base : Nat) :
    ∃ pre, pre <+: s ∧ (scanBody s base).2 = pre.length ∧
      (base = 0 → pre ≠ [] → magnitude pre = some (scanBody s base).1) := by
  -- the plain (no hex prefix) branch: a run of digits; with base 0 octal or decimal, as the first digit selects
  have plain : ∀ (hp : scanBody s base =
      scanDigits (if base = 0 then (if s.head? = some 48 then 8 else 10) else base) s),
      ∃ pre, pre <+: s ∧ (scanBody s base).2 = pre.length ∧
        (base = 0 → pre ≠ [] → magnitude pre = some (scanBody s base).1) := by
    intro hp
    rw [hp]
    refine ⟨_, List.takeWhile_prefix _, rfl, ?_⟩
    rintro rfl hne
    simp only [if_true] at hne ⊢
    generalize hb : (if s.head? = some 48 then 8 else 10) = b at hne ⊢
    have hall10 : (s.takeWhile (isDigitOf b)).all (isDigitOf 10) = true :=
      List.all_eq_true.mpr fun x hx =>
        isDigitOf_le (by rw [← hb]; split <;> omega) x (List.all_eq_true.mp List.all_takeWhile x hx)
    rw [magnitude_digits _ hall10 hne, head_takeWhile_ne_nil _ _ hne, ← scanDigits_value b s hne, ← hb]
    split <;> rfl
  match s with
  | [] => exact plain (by simp [scanBody])
  | [a] => exact plain (by simp [scanBody])
  | a :: b :: rest =>
    by_cases hx : (base = 0 ∨ base = 16) ∧ a = 48 ∧ (b = 120 ∨ b = 88)
    · have hb : scanBody (a :: b :: rest) base =
          (if (scanDigits 16 rest).2 = 0 then (0, 1) else ((scanDigits 16 rest).1, (scanDigits 16 rest).2 + 2)) := by
        simp [scanBody, hx]
      rw [hb]
      by_cases h0 : (scanDigits 16 rest).2 = 0
      · exact ⟨[48], ⟨b :: rest, by rw [hx.2.1]; rfl⟩, by simp [h0], fun _ _ => by simp only [h0, if_true]; decide⟩
      · refine ⟨a :: b :: rest.takeWhile (isDigitOf 16), ?_, by rw [if_neg h0]; rfl, fun _ _ => ?_⟩
        · exact List.cons_prefix_cons.mpr ⟨rfl, List.cons_prefix_cons.mpr ⟨rfl, List.takeWhile_prefix _⟩⟩
        · have hne : rest.takeWhile (isDigitOf 16) ≠ [] := fun h => h0 (by simp [scanDigits, h])
          simp [magnitude, hx.2, h0, scanDigits_value 16 rest hne]
    · exact plain (by simp [scanBody, hx])

/-- the signed number a scanner result `(negative, magnitude, consumed)` stands for -/
def scanned (r : Bool × Nat × Nat) : Int := if r.1 then -(r.2.1 : Int) else r.2.1

theorem scanSigned_prefix (s : List Nat) (base : Nat) :
    ∃ pre, pre <+: s ∧ (scanSigned s base).2.2 = pre.length ∧
      (base = 0 → pre ≠ [] → signedMagnitude pre = some (scanned (scanSigned s base))) := by
  match s with
  | [] => exact ⟨[], List.nil_prefix, rfl, fun _ h => absurd rfl h⟩
  | c :: rest =>
    by_cases hsg : c = 45 ∨ c = 43
    · have hs : scanSigned (c :: rest) base =
          (decide (c = 45), (scanBody rest base).1, if (scanBody rest base).2 = 0 then 0 else (scanBody rest base).2 + 1) := by
        rcases hsg with rfl | rfl <;> simp [scanSigned]
      rw [hs]
      obtain ⟨pre, hpre, hk, hval⟩ := scanBody_prefix rest base
      by_cases h0 : (scanBody rest base).2 = 0
      · exact ⟨[], List.nil_prefix, by simp [h0], fun _ h => absurd rfl h⟩
      · refine ⟨c :: pre, List.cons_prefix_cons.mpr ⟨rfl, hpre⟩, by rw [if_neg h0, hk]; rfl, fun hb _ => ?_⟩
        have hval := hval hb fun h => h0 (by rw [hk, h]; rfl)
        rcases hsg with rfl | rfl <;> simp [signedMagnitude, scanned, hval]
    · rw [not_or] at hsg
      have hs : scanSigned (c :: rest) base = (false, scanBody (c :: rest) base) := by simp [scanSigned, hsg]
      rw [hs]
      obtain ⟨pre, hpre, hk, hval⟩ := scanBody_prefix (c :: rest) base
      refine ⟨pre, hpre, hk, fun hb hne => ?_⟩
      -- `pre` starts with `c`, which is no sign
      match pre, hpre, hne, hval hb hne with
      | c' :: pre', hpre, _, hval =>
        obtain ⟨rfl, _⟩ := List.cons_prefix_cons.mp hpre
        simp [signedMagnitude, scanned, hsg, hval]

theorem length_ws_add (s : List Nat) : (s.takeWhile isSpace).length + (s.dropWhile isSpace).length = s.length := by
  rw [← List.length_append, List.takeWhile_append_dropWhile]

theorem take_ws_add (s : List Nat) (k : Nat) :
    s.take ((s.takeWhile isSpace).length + k) = s.takeWhile isSpace ++ (s.dropWhile isSpace).take k := by
  have := List.take_length_add_append (l₁ := s.takeWhile isSpace) (l₂ := s.dropWhile isSpace) k
  rwa [List.takeWhile_append_dropWhile] at this

theorem numeral_take (s : List Nat) (k : Nat) :
    numeral (s.take ((s.takeWhile isSpace).length + k)) = signedMagnitude ((s.dropWhile isSpace).take k) := by
  unfold numeral
  rw [take_ws_add, List.dropWhile_append_of_pos (List.all_eq_true.mp List.all_takeWhile)]
  exact congrArg signedMagnitude (dropWhile_take_of_head isSpace _ k (head_dropWhile isSpace s))

theorem scanNumber_spec (s : List Nat) (h : (scanNumber s 0).2.2 ≠ 0) :
    numeral (s.take (scanNumber s 0).2.2) = some (scanned (scanNumber s 0)) := by
  obtain ⟨pre, hpre, hk, hval⟩ := scanSigned_prefix (s.dropWhile isSpace) 0
  simp only [scanNumber] at h ⊢
  by_cases h0 : (scanSigned (s.dropWhile isSpace) 0).2.2 = 0
  · simp [h0] at h
  · simp only [if_neg h0]
    rw [numeral_take, hk, ← List.prefix_iff_eq_take.mp hpre]
    exact hval rfl fun hn => h0 (by rw [hk, hn]; rfl)

theorem scanNumber_le (s : List Nat) (base : Nat) : (scanNumber s base).2.2 ≤ s.length := by
  obtain ⟨pre, hpre, hk, _⟩ := scanSigned_prefix (s.dropWhile isSpace) base
  simp only [scanNumber, hk]
  have := hpre.length_le
  have := length_ws_add s
  split <;> omega

theorem noConversion_ok (tgt : Ty) (s : List Nat) (d : Bool) (o : Option Nat) (n : Nat)
    (h : noConversion s = .ok (o, n)) : TextOK tgt s d o n := by
  unfold noConversion at h
  split at h
  · rename_i hall
    simp at h; obtain ⟨rfl, rfl⟩ := h
    exact ⟨by simp, Or.inl ⟨rfl, rfl, hall⟩⟩
  · simp at h

theorem strtoimax_spec (s : List Nat) (base : Nat) :
    (strtoimax s base).consumed = (scanNumber s base).2.2 ∧ (srcIv .i64).mem (strtoimax s base).value ∧
    ((strtoimax s base).erange = false → (strtoimax s base).consumed ≠ 0 →
      (strtoimax s base).value = scanned (scanNumber s base)) := by
  simp only [strtoimax, scanned, srcIv, Iv.mem, CTy.lo, CTy.hi]
  split
  · simp_all
  -- by sign and by overflow; on overflow `strtoimax` saturates to `INTMAX_MIN` or `INTMAX_MAX` with ERANGE: only `erange = false`
  -- makes the value the scanned number
  · split <;> split <;> simp <;> omega

theorem strtoumax_spec (s : List Nat) (base : Nat) :
    (strtoumax s base).consumed = (scanNumber s base).2.2 ∧ (srcIv .u64).mem (strtoumax s base).value ∧
    ((strtoumax s base).erange = false → (strtoumax s base).consumed ≠ 0 → (scanNumber s base).1 = false →
      (strtoumax s base).value = scanned (scanNumber s base)) := by
  simp only [strtoumax, scanned, srcIv, Iv.mem, CTy.lo, CTy.hi]
  split
  · simp_all
  · split
    · simp
    -- with a minus sign `strtoumax` returns `(2^64 - m) % 2^64`, not the number: that branch is what `r.1 = false` excludes
    · split <;> simp_all <;> omega

/-- values of `iv` for which the conjunction is false; `none` = shape not supported.  A conjunction that starts with a
    test of the optional `range` argument is false: the argument is NULL in every call considered. -/
def stepTDisjunct (iv : Iv) (conj : List TextAtom) : Option Iv :=
  match conj with
  | [.erange] => some iv
  | [.minus] => some iv
  | .rangeArg :: _ => some iv
  | [.val a] => stepDisjunct iv [a]
  | _ => none

def stepTGuards (iv : Iv) (gs : List TextGuard) : Option Iv := gs.foldlM (fun iv g => g.conds.foldlM stepTDisjunct iv) iv

theorem stepTDisjunct_sound (c : TextCtx) (v : Int) (hc : c.tmp = .int v) (iv iv' : Iv) (conj : List TextAtom)
    (h : stepTDisjunct iv conj = some iv') (hv : iv.mem v) :
    ∃ b, evalTConj c conj = .ok b ∧ (b = false → iv'.mem v) := by
  unfold stepTDisjunct at h
  split at h
  · cases h; exact ⟨c.erange, by rw [evalTConj_eq, allOk_single]; rfl, fun _ => hv⟩
  · cases h; exact ⟨c.minus, by rw [evalTConj_eq, allOk_single]; rfl, fun _ => hv⟩
  · cases h; exact ⟨false, rfl, fun _ => hv⟩
  · rename_i a
    obtain ⟨b, hb, hb'⟩ := stepDisjunct_sound c.ty iv iv' [a] v h hv
    rw [evalConj_eq, allOk_single] at hb
    exact ⟨b, by rw [evalTConj_eq, allOk_single]; simpa [TextAtom.eval, hc] using hb, hb'⟩
  · cases h

theorem stepTGuards_sound (c : TextCtx) (v : Int) (hc : c.tmp = .int v) (gs : List TextGuard) (iv iv' : Iv)
    (h : stepTGuards iv gs = some iv') (hv : iv.mem v) :
    (evalTGuards c gs = .ok () ∧ iv'.mem v) ∨ (∃ e, evalTGuards c gs = .err e) := by
  simp only [evalTGuards_eq, evalTDisj_eq]
  exact guards_step (fun st st' x => stepTDisjunct_sound c v hc st st' x) gs iv iv' h hv

def hasSingle (gs : List TextGuard) (a : TextAtom) : Bool := gs.any fun g => g.conds.any fun c => c == [a]

theorem hasSingle_false (c : TextCtx) (gs : List TextGuard) (a : TextAtom) (hs : hasSingle gs a = true)
    (h : evalTGuards c gs = .ok ()) : a.eval c = .ok false := by
  simp only [hasSingle, List.any_eq_true, beq_iff_eq] at hs
  obtain ⟨g, hg, x, hx, rfl⟩ := hs
  rw [evalTGuards_eq] at h
  have := anyOk_false (evalTDisj_eq c _ ▸ firstErr_ok h g hg) _ hx
  rwa [evalTConj_eq, allOk_single] at this

/-- the parser `p`, called with width `vlen`, reads exactly the numerals of numbers of the integer type `tgt`:
    overflow of `strto*` is refused, `strtoumax` is not given a minus sign, the range tests leave values of `tgt`
    only (or none at all), the store is under `if (val)` and has the target's size.  The minus test is asked of
    `strtoumax` only: it accepts "-1" and negates modulo 2^64, where `strtoimax` returns the negative number. -/
def checkParser (p : TextParser) (vlen : Nat) (tgt : Ty) : Bool :=
  !tgt.isFloat &&
  ((p.strto == "strtoimax" && p.tmpTy == .i64) ||
   (p.strto == "strtoumax" && p.tmpTy == .u64 && hasSingle p.guards .minus)) &&
  hasSingle p.guards .erange &&
  match stepTGuards (srcIv p.tmpTy) p.guards with
  | none => false
  | some iv1 =>
    match p.widths.find? (·.size = vlen) with
    | none => true
    | some w =>
      w.guarded && !w.store.isFloat && w.store.size == (tgtCTy tgt).size &&
      match stepTGuards iv1 w.guards with
      | none => false
      | some iv2 => decide (iv2.hi < iv2.lo) || (decide (tgt.lo ≤ iv2.lo) && decide (iv2.hi ≤ tgt.hi))

def dropValue : TextRes → TextRes
  | .ok (_, n) => .ok (none, n)
  | r => r

/-- `dropValue` is `forget` at stored type `Nat`; the lemmas about blank skipping are stated once, with `forget` -/
theorem dropValue_eq (r : TextRes) : dropValue r = forget r := by cases r <;> rfl

theorem dropValue_verdict (r : TextRes) : verdict (dropValue r) = verdict r := by
  rw [dropValue_eq, forget_verdict]

theorem noConversion_query (s : List Nat) : noConversion s = dropValue (noConversion s) := by
  unfold noConversion; split <;> rfl

theorem noConversion_notBroken (s : List Nat) : verdict (noConversion s) ≠ .broken := by
  unfold noConversion; split <;> simp [verdict]

/-- what the property says of a text -> integer conversion `f` (text, destination) for the target `tgt`: it never has
    undefined behaviour, what it accepts meets `TextOK`, and without destination it is the storing call with the value
    dropped.  `C07.text_int_exact`, `text_string_exact` and `text_wrapper_exact` write it out for their `f`. -/
def TextSound (tgt : Ty) (f : List Nat → Bool → TextRes) : Prop :=
  ∀ s d, verdict (f s d) ≠ .broken ∧ (∀ o n, f s d = .ok (o, n) → TextOK tgt s d o n) ∧
    f s false = dropValue (f s true)

theorem runParser_eq {p : TextParser} {vlen base : Nat} {s : List Nat} {r : StrTo} (hs : s ≠ [])
    (hr : strtoResult p s base = some r) (hc : r.consumed ≠ 0) (d : Bool) :
    runParser p vlen s base d = (evalTGuards (intCtx p r (scanNumber s base).1) p.guards).bind fun _ =>
      match p.widths.find? (·.size = vlen) with
      | none => .err p.dflt
      | some w => (evalTGuards (intCtx p r (scanNumber s base).1) w.guards).bind fun _ =>
        if d then .ok (some (r.value % w.store.modulus).toNat, r.consumed)
        else if w.guarded then .ok (none, r.consumed) else .fault := by
  simp only [runParser, hs, hr, hc, if_false]
  cases evalTGuards (intCtx p r (scanNumber s base).1) p.guards with
  | ok u =>
    cases p.widths.find? (·.size = vlen) with
    | none => rfl
    | some w => dsimp only; cases evalTGuards (intCtx p r (scanNumber s base).1) w.guards <;> rfl
  | _ => rfl

theorem runParser_sound {p : TextParser} {vlen : Nat} {tgt : Ty} (hc : checkParser p vlen tgt = true) :
    TextSound tgt (runParser p vlen · 0) := by
  intro s d
  simp only [checkParser, Bool.and_eq_true, Bool.not_eq_true', Bool.or_eq_true, beq_iff_eq] at hc
  obtain ⟨⟨⟨htf, hkind⟩, hser⟩, hrest⟩ := hc
  -- the strto* result with its value range and its meaning
  have hstr : ∃ r, strtoResult p s 0 = some r ∧ (srcIv p.tmpTy).mem r.value ∧ r.consumed ≤ s.length ∧
      (r.consumed ≠ 0 → r.erange = false → (p.strto = "strtoumax" → (scanNumber s 0).1 = false) →
        numeral (s.take r.consumed) = some r.value) := by
    rcases hkind with ⟨hk, hty⟩ | ⟨⟨hk, hty⟩, _⟩
    · obtain ⟨hcons, hrange, hval⟩ := strtoimax_spec s 0
      refine ⟨strtoimax s 0, by simp [strtoResult, hk], hty ▸ hrange, hcons ▸ scanNumber_le s 0, fun h0 he _ => ?_⟩
      rw [hval he h0, hcons]; exact scanNumber_spec s (hcons ▸ h0)
    · obtain ⟨hcons, hrange, hval⟩ := strtoumax_spec s 0
      refine ⟨strtoumax s 0, by simp [strtoResult, hk], hty ▸ hrange, hcons ▸ scanNumber_le s 0, fun h0 he hm => ?_⟩
      rw [hval he h0 (hm hk), hcons]; exact scanNumber_spec s (hcons ▸ h0)
  obtain ⟨r, hr, hmem, hle, hnum⟩ := hstr
  by_cases hs0 : s = []
  · subst hs0
    exact ⟨nofun, fun o n h => by cases h; exact ⟨Nat.le_refl _, .inl ⟨rfl, rfl, rfl⟩⟩, rfl⟩
  by_cases hc0 : r.consumed = 0
  · simp only [runParser, hs0, hr, hc0, if_true, if_false]
    exact ⟨noConversion_notBroken s, fun o n h => noConversion_ok tgt s d o n h, noConversion_query s⟩
  simp only [runParser_eq hs0 hr hc0]
  generalize hctx : intCtx p r (scanNumber s 0).1 = ctx
  have hctmp : ctx.tmp = .int r.value := by rw [← hctx]; rfl
  split at hrest
  · cases hrest
  rename_i iv1 hst1
  rcases stepTGuards_sound ctx r.value hctmp p.guards (srcIv p.tmpTy) iv1 hst1 hmem with ⟨hok1, hin1⟩ | ⟨e, he⟩
  · -- past the common guards: no ERANGE, no minus sign for `strtoumax`, so the value is the numeral's
    have her : r.erange = false := by
      have := hasSingle_false ctx p.guards .erange hser hok1
      rw [← hctx] at this
      simp [TextAtom.eval, intCtx] at this
      exact this.1
    have hmin : p.strto = "strtoumax" → (scanNumber s 0).1 = false := by
      intro hk
      rcases hkind with ⟨hk', _⟩ | ⟨_, hsm⟩
      · rw [hk] at hk'; simp at hk'
      · have := hasSingle_false ctx p.guards .minus hsm hok1
        rw [← hctx] at this
        simpa [TextAtom.eval, intCtx] using this
    have hnumeral := hnum hc0 her hmin
    rw [hok1]
    split
    · exact ⟨nofun, nofun, rfl⟩
    rename_i w hw
    simp only [hw, Bool.and_eq_true, Bool.not_eq_true', beq_iff_eq] at hrest
    obtain ⟨⟨⟨hwg, hwf⟩, hwsz⟩, hrest⟩ := hrest
    split at hrest
    · cases hrest
    rename_i iv2 hst2
    rcases stepTGuards_sound ctx r.value hctmp w.guards iv1 iv2 hst2 hin1 with ⟨hok2, hin2⟩ | ⟨e, he⟩
    · -- past the range tests of the width case: the value is one of the target
      simp only [Bool.or_eq_true, decide_eq_true_eq, Bool.and_eq_true, Iv.mem] at hrest hin2
      have hrange : inRange tgt r.value := by
        rcases hrest with hemp | ⟨hlo, hhi⟩
        · omega
        · exact ⟨by omega, by omega⟩
      rw [hok2]
      simp only [hwg, if_true]
      refine ⟨by cases d <;> nofun, fun o n h => ?_, rfl⟩
      have hn : n = r.consumed := by cases d <;> cases h <;> rfl
      subst hn
      refine ⟨hle, .inr ⟨r.value, hnumeral, hrange, ?_⟩⟩
      cases d <;> cases h
      · exact .inr ⟨rfl, rfl⟩
      · refine .inl ⟨rfl, _, rfl, ?_⟩
        rw [modulus_of_size w.store tgt hwf htf hwsz]
        exact denote_store tgt _ htf hrange.1 hrange.2
    · rw [he]
      exact ⟨nofun, nofun, rfl⟩
  · rw [he]
    exact ⟨nofun, nofun, rfl⟩

def textTargets : List Ty := [.b, .y, .n, .q, .i, .u, .x, .t]

/-- `mpt_convert_number` reaches a checked parser with base 0 for the target (or refuses the target) -/
def checkTextTarget (tgt : Ty) : Bool :=
  match numberTarget tgt with
  | .ok (p, size, base) => base == 0 && checkParser p size tgt
  | .err _ => true
  | _ => false

theorem convertNumber_sound {tgt : Ty} (ht : tgt ∈ textTargets) (hc : checkTextTarget tgt = true) :
    TextSound tgt (convertNumber tgt) := by
  intro s d
  have hnc : tgt ≠ .c := by intro h; subst h; simp [textTargets] at ht
  unfold checkTextTarget at hc
  simp only [convertNumber, hnc, if_false]
  cases hn : numberTarget tgt with
  | ok v =>
    obtain ⟨p, size, base⟩ := v
    simp only [hn, Bool.and_eq_true, beq_iff_eq] at hc
    obtain ⟨hb, hp⟩ := hc
    subst hb
    exact runParser_sound hp s d
  | err e => exact ⟨nofun, nofun, rfl⟩
  | _ => simp [hn] at hc

section Blanks
variable {β : Type}

/-- `mpt_convert_string` over any number conversion `f` -/
def skipBlanks (f : List Nat → Res (Option β × Nat)) (s : List Nat) : Res (Option β × Nat) :=
  if s = [] then .ok (none, 0) else
  match f (s.dropWhile isSpace) with
  | .ok (o, n) => if n = 0 then .ok (none, 0) else .ok (o, (s.takeWhile isSpace).length + n)
  | r => r

theorem convertString_eq (tgt : Ty) (s : List Nat) (d : Bool) :
    convertString tgt s d = skipBlanks (convertNumber tgt · d) s := by
  simp only [convertString, skipBlanks]
  split
  · rfl
  · cases convertNumber tgt (s.dropWhile isSpace) d <;> rfl

theorem skipBlanks_notBroken {f : List Nat → Res (Option β × Nat)} {s : List Nat}
    (h : verdict (f (s.dropWhile isSpace)) ≠ .broken) : verdict (skipBlanks f s) ≠ .broken := by
  unfold skipBlanks
  split
  · nofun
  · cases hf : f (s.dropWhile isSpace) with
    | ok v => simp only; split <;> nofun
    | err e => nofun
    | _ => simp [hf, verdict] at h

theorem skipBlanks_query {f g : List Nat → Res (Option β × Nat)} {s : List Nat}
    (h : g (s.dropWhile isSpace) = forget (f (s.dropWhile isSpace))) : skipBlanks g s = forget (skipBlanks f s) := by
  unfold skipBlanks
  rw [h]
  split
  · rfl
  · cases f (s.dropWhile isSpace) with
    | ok v => simp only [forget]; split <;> rfl
    | _ => rfl

theorem skipBlanks_ok {f : List Nat → Res (Option β × Nat)} {s : List Nat} {o : Option β} {n : Nat}
    (h : skipBlanks f s = .ok (o, n)) :
    (o = none ∧ n = 0 ∧ (s = [] ∨ ∃ o', f (s.dropWhile isSpace) = .ok (o', 0))) ∨
    ∃ k, k ≠ 0 ∧ f (s.dropWhile isSpace) = .ok (o, k) ∧ n = (s.takeWhile isSpace).length + k := by
  unfold skipBlanks at h
  split at h
  · rename_i hs
    cases h; exact .inl ⟨rfl, rfl, .inl hs⟩
  · split at h
    · rename_i o' k hf
      split at h <;> cases h
      · rename_i hk
        exact .inl ⟨rfl, rfl, .inr ⟨o', hk ▸ hf⟩⟩
      · rename_i hk
        exact .inr ⟨k, hk, hf, rfl⟩
    · rename_i hne
      exact absurd h (hne _ _)

end Blanks

theorem all_of_dropWhile {s : List Nat} (h : (s.dropWhile isSpace).all isSpace = true) : s.all isSpace = true := by
  rw [← List.takeWhile_append_dropWhile (p := isSpace) (l := s), List.all_append, List.all_takeWhile, h]; rfl

theorem convertString_sound {tgt : Ty} (hnum : TextSound tgt (convertNumber tgt)) :
    TextSound tgt (convertString tgt) := by
  intro s d
  obtain ⟨hnb, hok, hq⟩ := hnum (s.dropWhile isSpace) d
  refine ⟨convertString_eq tgt s d ▸ skipBlanks_notBroken hnb, fun o n h => ?_, ?_⟩
  · rcases skipBlanks_ok (convertString_eq tgt s d ▸ h) with ⟨rfl, rfl, h0⟩ | ⟨k, hk, hf, rfl⟩
    · refine ⟨Nat.zero_le _, .inl ⟨rfl, rfl, ?_⟩⟩
      rcases h0 with rfl | ⟨o', hf⟩
      · rfl
      · -- nothing consumed behind the blanks: the rest is blank too (the empty prefix is no numeral)
        rcases (hok _ _ hf).2 with ⟨_, _, hall⟩ | ⟨v, hv, _⟩
        · exact all_of_dropWhile hall
        · simp [numeral, signedMagnitude] at hv
    · obtain ⟨hle, hcase⟩ := hok _ _ hf
      refine ⟨by have := length_ws_add s; omega, ?_⟩
      rcases hcase with ⟨_, hk0, _⟩ | ⟨v, hv, hin, hval⟩
      · exact absurd hk0 hk
      · refine .inr ⟨v, ?_, hin, hval⟩
        rw [numeral_take]
        unfold numeral at hv
        rwa [dropWhile_take_of_head isSpace _ k (head_dropWhile isSpace s)] at hv
  · rw [convertString_eq, convertString_eq, dropValue_eq]
    exact skipBlanks_query (hq.trans (dropValue_eq _))

/-- outcome of an accepted text -> 'c' conversion: blank text and nothing stored, or blanks followed by a printable
    character, which is what is stored -/
def CharOK (s : List Nat) (d : Bool) (o : Option Nat) (n : Nat) : Prop :=
  n ≤ s.length ∧
  ((o = none ∧ n = 0 ∧ s.all isSpace = true) ∨
   (∃ c, 1 ≤ n ∧ s[n - 1]? = some c ∧ isGraph c = true ∧ (s.take (n - 1)).all isSpace = true ∧
      (if d then o = some c else o = none)))

theorem convertChar_ok (s : List Nat) (d : Bool) (o : Option Nat) (n : Nat) (h : convertChar s d = .ok (o, n)) :
    CharOK s d o n := by
  unfold convertChar at h
  have hl := length_ws_add s
  split at h
  · rename_i hnil
    cases h
    exact ⟨Nat.zero_le _, .inl ⟨rfl, rfl, all_of_dropWhile (by rw [hnil]; rfl)⟩⟩
  · rename_i c rest hcons
    split at h
    · rename_i hg
      cases h
      rw [hcons, List.length_cons] at hl
      refine ⟨by omega, .inr ⟨c, by omega, ?_, by simp [isGraph]; omega, ?_, by cases d <;> rfl⟩⟩
      · rw [Nat.add_sub_cancel, ← List.takeWhile_append_dropWhile (p := isSpace) (l := s),
          List.getElem?_append_right (by simp), List.takeWhile_append_dropWhile, hcons]
        simp
      · rw [Nat.add_sub_cancel, take_length_takeWhile]
        exact List.all_takeWhile
    · cases h

theorem convertChar_query (s : List Nat) : convertChar s false = dropValue (convertChar s true) := by
  unfold convertChar
  split
  · rfl
  · split <;> rfl

theorem convertChar_notBroken (s : List Nat) (d : Bool) : verdict (convertChar s d) ≠ .broken := by
  unfold convertChar
  split
  · simp [verdict]
  · split <;> simp [verdict]

/-- for the character target the blank-skipping of `mpt_convert_string` changes nothing: `mpt_convert_number` skips
    the blanks itself -/
theorem convertString_char (s : List Nat) (d : Bool) : convertString .c s d = convertChar s d := by
  simp only [convertString, convertNumber, if_true]
  by_cases hs : s = []
  · subst hs; rfl
  · rw [if_neg hs]
    cases hx : s.dropWhile isSpace with
    | nil => simp [convertChar, hx]
    | cons c rest =>
      have hc : isSpace c = false := head_dropWhile isSpace s c (by rw [hx]; rfl)
      simp only [convertChar, hx, List.takeWhile_cons, List.dropWhile_cons, hc, Bool.false_eq_true, if_false]
      by_cases hg : 33 ≤ c ∧ c ≤ 126 <;> simp [hg]

end Mpt.Conv
