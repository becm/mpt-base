/-
  Bytes as vectors (C04): what a prefix of written memory is (`Buf.content` is `data.take used`), in the end in the terms
  of the vector spec `Spec/Vec.lean` (`take_write_set`: zero the gap, store the bytes = `Vec.write`); `Vec.write`,
  `Vec.insert`, `Vec.sub`, `Vec.padTo` on list level; the byte position `mpt_array_set` computes (`setAt_of_pos`,
  `setPos_mod`); the list facts of printf (`take_write_text`) and of slice-write (`sub_write_end`, `move_front_take`, …).
  Nothing here mentions a state or a buffer.
-/
import MptModel.Impl.Heap
import MptModel.Spec.Vec
import MptModel.Lemmas.Mem
namespace Mpt.Heap

theorem take_write_zero (d : List Byte) (bytes : List Byte) : (Mem.write d 0 bytes).take bytes.length = bytes := by
  have := Mem.take_write_end d bytes 0 (Nat.zero_le _)
  rwa [Nat.zero_add, List.take_zero, List.nil_append] at this

theorem take_write_ge (d : List Byte) (p n : Nat) (b : List Byte) (hp : p ≤ d.length) (hn : p + b.length ≤ n) :
    (Mem.write d p b).take n = d.take p ++ b ++ (d.drop (p + b.length)).take (n - (p + b.length)) := by
  have l : (d.take p ++ b).length = p + b.length := by rw [List.length_append, List.length_take, Nat.min_eq_left hp]
  unfold Mem.write
  rw [List.take_append, l, List.take_of_length_le (by rw [l]; exact hn)]

theorem take_write_le (d : List Byte) (p n : Nat) (b : List Byte) (hn : n ≤ p) (hp : p ≤ d.length) :
    (Mem.write d p b).take n = d.take n := by
  unfold Mem.write
  rw [List.append_assoc, List.take_append_of_le_length (by rw [List.length_take]; omega), List.take_take,
    Nat.min_eq_left hn]

theorem drop_write (d : List Byte) (p : Nat) (b : List Byte) (hp : p ≤ d.length) :
    (Mem.write d p b).drop p = b ++ d.drop (p + b.length) := by
  unfold Mem.write
  rw [List.append_assoc, List.drop_left' (by rw [List.length_take]; omega)]

theorem take_write_gap (d : List Byte) (used pos : Nat) (bytes : List Byte) (hu : used ≤ pos)
    (hs : pos + bytes.length ≤ d.length) :
    (Mem.write (Mem.write d used (zeros (pos - used))) pos bytes).take (pos + bytes.length)
      = d.take used ++ zeros (pos - used) ++ bytes := by
  generalize hZ : zeros (pos - used) = Z
  have hp : pos = used + Z.length := by rw [← hZ, zeros, List.length_replicate]; omega
  rw [Mem.take_write_end _ _ _ (by rw [Mem.write_length _ _ _ (by omega)]; omega), hp,
    Mem.take_write_end _ _ _ (by omega)]

theorem padTo_length (v : List Byte) (m : Nat) : (Vec.padTo v m).length = max v.length m := by
  simp [Vec.padTo, Vec.zeros]; omega

theorem padTo_take (v : List Byte) (m k : Nat) (hk : k ≤ v.length) : (Vec.padTo v m).take k = v.take k :=
  List.take_append_of_le_length hk

theorem padTo_take_self (v : List Byte) (pos : Nat) (h : v.length ≤ pos) :
    (Vec.padTo v pos).take pos = v ++ zeros (pos - v.length) :=
  List.take_of_length_le (by rw [padTo_length]; omega)

theorem take_write_set (d : List Byte) (used pos : Nat) (bytes : List Byte)
    (hu : used ≤ d.length) (hs : pos + bytes.length ≤ d.length) :
    (Mem.write (Mem.write d used (zeros (pos - used))) pos bytes).take (max used (pos + bytes.length))
      = Vec.write (d.take used) pos bytes := by
  have lv : (d.take used).length = used := by rw [List.length_take]; exact Nat.min_eq_left hu
  unfold Vec.write
  by_cases h : used ≤ pos
  · rw [Nat.max_eq_right (by omega), take_write_gap d used pos bytes h hs, padTo_take_self _ _ (by omega), lv,
      List.drop_of_length_le (by omega), List.append_nil]
  · have z : pos - used = 0 := by omega
    have m : max used (pos + bytes.length) - (pos + bytes.length) = used - (pos + bytes.length) := by omega
    rw [z, zeros, List.replicate_zero, Mem.write_nil, take_write_ge _ _ _ _ (by omega) (Nat.le_max_right _ _), m,
      padTo_take _ _ _ (by omega), List.take_take, Nat.min_eq_left (by omega), List.drop_take]

theorem take_write_text (d : List Byte) (off : Nat) (t : List Byte) (fit : off + t.length + 1 ≤ d.length) :
    (Mem.write d off (t ++ [0])).take (off + t.length) = d.take off ++ t := by
  have h1 := Mem.take_write_end d (t ++ [0]) off (by omega)
  have h2 := congrArg (List.take (off + t.length)) h1
  rw [List.take_take, Nat.min_eq_left (by simp)] at h2
  rw [h2, ← List.append_assoc, List.take_append_of_le_length (by simp [List.length_take]; omega)]
  apply List.take_of_length_le
  simp [List.length_take]; omega

theorem vec_write_mid (v : List Byte) (p : Nat) (b : List Byte) (hp : p ≤ v.length) :
    Vec.write v p b = v.take p ++ b ++ v.drop (p + b.length) := by
  rw [Vec.write, padTo_take v p p hp]

theorem vec_write_end (v b : List Byte) : Vec.write v v.length b = v ++ b := by
  rw [vec_write_mid v _ b (Nat.le_refl _), List.take_length, List.drop_of_length_le (Nat.le_add_right _ _), List.append_nil]

theorem vec_write_length (v : List Byte) (p : Nat) (b : List Byte) (hp : p ≤ v.length) :
    (Vec.write v p b).length = max v.length (p + b.length) := by
  rw [vec_write_mid v p b hp]
  simp only [List.length_append, List.length_take, List.length_drop]
  omega

theorem vec_insert_end (v : List Byte) (n : Nat) : Vec.insert v v.length (zeros n) = Vec.padTo v (v.length + n) := by
  simp [Vec.insert, Vec.padTo, Vec.zeros, zeros]

theorem drop_take_of_take (X : List Byte) (M off n : Nat) (h : off + n ≤ M) : ((X.take M).drop off).take n = (X.drop off).take n := by
  rw [List.drop_take, List.take_take, Nat.min_eq_left (by omega)]

theorem sub_write_end (v : List Byte) (off len : Nat) (b : List Byte) (h : off + len ≤ v.length) :
    Vec.sub (Vec.write v (off + len) b) off (len + b.length) = Vec.sub v off len ++ b := by
  rw [vec_write_mid v _ b h, Vec.sub, Vec.sub, List.append_assoc,
    List.drop_append_of_le_length (by rw [List.length_take]; omega), List.drop_take, Nat.add_sub_cancel_left]
  have l1 : ((v.drop off).take len).length = len := by rw [List.length_take, List.length_drop]; omega
  rw [← List.append_assoc, List.take_append_of_le_length (by rw [List.length_append, l1]; exact Nat.le_refl _)]
  exact List.take_of_length_le (by rw [List.length_append, l1]; exact Nat.le_refl _)

theorem move_front_take (d : List Byte) (off len : Nat) (h : off + len ≤ d.length) :
    (Mem.move d 0 off len).take len = (d.drop off).take len := by
  simpa [Mem.read] using Mem.read_move_same d 0 off len h (Nat.zero_le _)

theorem sub_length (v : List Byte) (off len : Nat) (h : off + len ≤ v.length) : (Vec.sub v off len).length = len := by
  simp [Vec.sub]; omega

theorem sub_all (A B : List Byte) : Vec.sub (A ++ B) 0 (A.length + B.length) = A ++ B := by
  simp only [Vec.sub, List.drop_zero]
  exact List.take_of_length_le (by simp)

/-- the byte position of `mpt_array_set` as the code computes it -/
theorem setAt_of_pos {v : Vec.Vec} {esz : Nat} {off p : Int} (bs : List Byte)
    (hp : (if off < 0 then off * Int.ofNat esz + Int.ofNat v.length else off * Int.ofNat esz) = p) :
    Vec.setAt v esz off bs = if p < 0 then none else some (Vec.write v p.toNat bs) := by
  rw [← hp, Vec.setAt, Int.add_comm]

theorem setPos_mod {off p : Int} {n u : Nat} (hu : u % n = 0)
    (hp : (if off < 0 then off * Int.ofNat n + Int.ofNat u else off * Int.ofNat n) = p) (h : ¬ p < 0) : p.toNat % n = 0 := by
  have e : p % (n : Int) = 0 := by
    have h1 : (Int.ofNat u) % (n : Int) = 0 := by
      show ((u : Int) % (n : Int)) = 0
      exact_mod_cast hu
    have h2 : off * Int.ofNat n % (n : Int) = 0 := Int.mul_emod_left off n
    rw [← hp]
    split
    · rw [Int.add_emod, h1, h2]; rfl
    · exact h2
  obtain ⟨z, hz⟩ := Int.eq_ofNat_of_zero_le (Int.not_lt.mp h)
  rw [hz] at e ⊢
  rw [Int.toNat_natCast]
  exact_mod_cast e

end Mpt.Heap
