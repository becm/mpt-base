/-
  Storage reorganisation: `mpt_memrev` (block rotation), `mpt_queue_align`, `mpt_queue_resize`,
  `mpt_queue_string`, `mpt_queue_prepare`.
-/
import MptModel.Lemmas.Ring
namespace Mpt
namespace Ring
variable {r : Ring} {cap : Nat} {d : List Byte}
open Mpt.Mem (rotate rotate_frame)

theorem rotateTmp_eq (s : List Byte) (pos pre post : Nat) (h : pos + pre + post ≤ s.length) :
    rotateTmp s pos pre post = .ok (rotate s pos pre post) := by
  have hl : (Mem.read s (pos + pre) post ++ Mem.read s pos pre).length = post + pre := by
    rw [List.length_append, Mem.read_length _ _ _ (by omega), Mem.read_length _ _ _ (by omega)]
  rw [rotateTmp, Mem.rd_ok _ _ _ (by omega), Mem.rd_ok _ _ _ (by omega)]
  exact Mem.wr_ok _ _ _ (by omega)

theorem memswap_adjacent (s : List Byte) (a len : Nat) (h : a + len + len ≤ s.length) :
    memswap s a (a + len) len = .ok (rotate s a len len) := by
  have hl := Mem.read_length s (a + len) len (by omega)
  rw [memswap, Mem.rd_ok _ _ _ (by omega), Mem.rd_ok _ _ _ (by omega)]
  simp only []
  rw [Mem.wr_ok _ _ _ (by omega)]
  simp only []
  rw [Mem.wr_ok _ _ _ (by rw [Mem.write_length _ _ _ (by omega), Mem.read_length _ _ _ (by omega)]; omega),
    rotate, Mem.write_append _ _ _ _ (by omega), hl]

/-- on a storage `A ++ X ++ Y ++ B` the loop exchanges `X` and `Y`.  Along the function: one side empty; one side
    fits the temporary (two cases); `pre < post`: `X` is swapped with the first `pre` bytes of `Y` and the loop goes on
    behind them; otherwise the last `post` bytes of `X` are swapped with `Y` and the loop goes on before them; the
    swaps cannot fail (the two remaining cases) -/
theorem memrevLoop_frame (s : List Byte) (data pre post : Nat) :
    ∀ A X Y B : List Byte, s = A ++ (X ++ (Y ++ B)) → A.length = data → X.length = pre → Y.length = post →
      memrevLoop s data pre post = .ok (A ++ (Y ++ (X ++ B))) := by
  fun_induction memrevLoop s data pre post with
  | case1 s data pre post h0 =>
    intro A X Y B hs hA hX hY
    rcases h0 with h0 | h0 <;> subst h0
    · rw [List.eq_nil_of_length_eq_zero hX] at hs ⊢; simpa using hs
    · rw [List.eq_nil_of_length_eq_zero hY] at hs ⊢; simpa using hs
  | case2 s data pre post _ _ | case3 s data pre post _ _ _ =>
    intro A X Y B hs hA hX hY
    rw [rotateTmp_eq s data pre post (by simp [hs]; omega), hs, rotate_frame A X Y B _ _ _ hA hX hY]
  | case4 s data pre post h0 h1 h2 hlt s1 he ih =>
    intro A X Y B hs hA hX hY
    rw [memswap_adjacent s data pre (by simp [hs]; omega)] at he
    cases he
    have hs1 : rotate s data pre pre = (A ++ Y.take pre) ++ (X ++ (Y.drop pre ++ B)) := by
      rw [hs, ← List.take_append_drop pre Y, List.append_assoc,
        rotate_frame A X (Y.take pre) _ _ _ _ hA hX (by simp; omega)]
      simp
    rw [ih _ _ _ _ hs1 (by simp; omega) hX (by simp; omega), List.append_assoc,
      ← List.append_assoc (Y.take pre), List.take_append_drop]
  | case5 s data pre post h0 h1 h2 hlt hne =>
    intro A X Y B hs hA hX hY
    exact absurd (memswap_adjacent s data pre (by simp [hs]; omega)) (hne _)
  | case6 s data pre post h0 h1 h2 hlt s1 he ih =>
    intro A X Y B hs hA hX hY
    have e : data + pre = data + (pre - post) + post := by omega
    rw [e, memswap_adjacent s (data + (pre - post)) post (by simp [hs]; omega)] at he
    cases he
    have hs1 : rotate s (data + (pre - post)) post post =
        A ++ (X.take (pre - post) ++ (Y ++ (X.drop (pre - post) ++ B))) := by
      rw [hs, ← List.take_append_drop (pre - post) X, List.append_assoc, ← List.append_assoc A,
        rotate_frame (A ++ X.take (pre - post)) (X.drop (pre - post)) Y B _ _ _ (by simp; omega) (by simp; omega) hY]
      simp
    rw [ih _ _ _ _ hs1 hA (by simp; omega) hY, ← List.append_assoc (X.take (pre - post)), List.take_append_drop]
  | case7 s data pre post h0 h1 h2 hlt hne =>
    intro A X Y B hs hA hX hY
    have e : data + pre = data + (pre - post) + post := by omega
    rw [e] at hne
    exact absurd (memswap_adjacent s (data + (pre - post)) post (by simp [hs]; omega)) (hne _)

theorem memrevLoop_eq (s : List Byte) (data pre post : Nat) (h : data + pre + post ≤ s.length) :
    memrevLoop s data pre post = .ok (rotate s data pre post) := by
  obtain ⟨A, W, B, rfl, hA, hW⟩ := Mem.frame s data (pre + post) (by omega)
  rw [← List.take_append_drop pre W, List.append_assoc,
    memrevLoop_frame _ _ _ _ A (W.take pre) (W.drop pre) B rfl hA (by simp; omega) (by simp; omega),
    rotate_frame A (W.take pre) (W.drop pre) B _ _ _ hA (by simp; omega) (by simp; omega)]

theorem memrev_eq (s : List Byte) (pos pre len : Nat) (hp : pre ≤ len) (h : pos + len ≤ s.length) :
    memrev s pos pre len = .ok (rotate s pos pre (len - pre)) := by
  rw [memrev, if_neg (by omega), memrevLoop_eq _ _ _ _ (by omega)]

theorem read_rotate_fst (s : List Byte) (pos pre post : Nat) (h : pos + pre + post ≤ s.length) :
    Mem.read (rotate s pos pre post) pos post = Mem.read s (pos + pre) post := by
  have hl := Mem.read_length s (pos + pre) post (by omega)
  rw [rotate, Mem.write_append _ _ _ _ (by omega), hl,
    Mem.read_write_before _ _ _ _ _ (by omega) (by rw [Mem.write_length _ _ _ (by omega)]; omega)]
  conv => lhs; arg 3; rw [← hl]
  rw [Mem.read_write_same _ _ _ (by omega)]

theorem read_rotate_snd (s : List Byte) (pos pre post : Nat) (h : pos + pre + post ≤ s.length) :
    Mem.read (rotate s pos pre post) (pos + post) pre = Mem.read s pos pre := by
  have hl := Mem.read_length s (pos + pre) post (by omega)
  have hx := Mem.read_length s pos pre (by omega)
  rw [rotate, Mem.write_append _ _ _ _ (by omega), hl]
  conv => lhs; arg 3; rw [← hx]
  rw [Mem.read_write_same _ _ _ (by rw [Mem.write_length _ _ _ (by omega)]; omega)]

theorem content_rotate_zero (s : List Byte) (pre post len : Nat) (hlen : len = post + pre) (hl : len ≤ s.length) :
    (Ring.mk (rotate s 0 pre post) len 0).content = Mem.read s pre post ++ Mem.read s 0 pre := by
  subst hlen
  have hr := Mem.rotate_length s 0 pre post (by omega)
  rw [content_contig _ _ _ (by omega), Mem.read_append, read_rotate_fst _ _ _ _ (by omega), Nat.zero_add,
    read_rotate_snd _ _ _ _ (by omega)]

theorem alignFlat_spec (H : r.Holds cap d) (hf : r.store.length - r.len < r.off) :
    ∃ r1, r.alignFlat = .ok r1 ∧ r1.Holds cap d ∧ r1.off = 0 := by
  obtain ⟨⟨h1, h2⟩, rfl, rfl⟩ := H
  obtain ⟨s, len, off⟩ := r
  simp only [] at h1 h2 hf ⊢
  unfold alignFlat
  simp only [max]
  -- `up` bytes of data lie at `off`, up to the storage end; the other `pre` at the storage start
  obtain ⟨up, hup⟩ : ∃ up, s.length - off = up := ⟨_, rfl⟩
  obtain ⟨pre, hpre⟩ : ∃ pre, off - (s.length - len) = pre := ⟨_, rfl⟩
  have hM : s.length = off + up := by omega
  have hL : len = pre + up := by omega
  have hpo : pre ≤ off := by omega
  rw [content_wrapped s len off h1 h2 (by omega), hup, hpre, show len - up = pre by omega]
  by_cases hpv : s.length - len ≠ 0
  · -- the data above the gap is pulled down to the data at the storage start, then the two pieces are exchanged
    rw [if_pos hpv]
    clear hup hpre hf hpv h1 h2
    have hl1 := Mem.move_length s pre off up (by omega) (by omega)
    have hl2 := Mem.rotate_length (Mem.move s pre off up) 0 pre up (by omega)
    rw [Mem.mv_ok _ _ _ _ (by omega) (by omega)]
    simp only []
    rw [memrev_eq _ _ _ _ (by omega) (by omega), show len - pre = up by omega]
    refine ⟨_, rfl, ⟨.mk (by omega) (Nat.zero_le _), by rw [hl2, hl1], ?_⟩, rfl⟩
    rw [content_rotate_zero _ _ _ _ (by omega) (by omega), Mem.read_move_before _ _ _ _ 0 pre (by omega) (by omega),
      Mem.read_move_same _ _ _ _ (by omega) (by omega)]
  · -- no gap: the pieces are adjacent already
    rw [if_neg hpv]
    have hop : off = pre := by omega
    clear hup hpre hf hpv h1 h2
    subst hop
    have hl2 := Mem.rotate_length s 0 off up (by omega)
    simp only []
    rw [memrev_eq _ _ _ _ (by omega) (by omega), show len - off = up by omega]
    exact ⟨_, rfl, ⟨.mk (by omega) (Nat.zero_le _), hl2, content_rotate_zero _ _ _ _ (by omega) (by omega)⟩, rfl⟩

theorem alignMove_spec (H : r.Holds cap d) (pos : Nat) (hc : r.off + r.len ≤ r.store.length)
    (hp : pos ≤ r.store.length) :
    ∃ r1, r.alignMove pos = .ok r1 ∧ r1.Holds cap d ∧ r1.off = pos := by
  obtain ⟨-, rfl, rfl⟩ := H
  obtain ⟨s, len, off⟩ := r
  simp only [] at hc hp ⊢
  unfold alignMove
  simp only [max]
  rw [content_contig s len off hc]
  by_cases hfit : s.length - len ≥ pos
  · have hml := Mem.move_length s pos off len (by omega) (by omega)
    rw [if_pos hfit, Mem.mv_ok _ _ _ _ (by omega) (by omega)]
    refine ⟨_, rfl, ⟨.mk (by omega) (by omega), hml, ?_⟩, rfl⟩
    rw [content_contig _ _ _ (by omega), Mem.read_move_same _ _ _ _ (by omega) (by omega)]
  · -- the target wraps `pv` bytes behind `pos`: the data is rotated in place so that its first `pv` bytes come last,
    -- these go up to `[pos, max)`, the other `lo` go down to the storage start
    obtain ⟨pv, hpv⟩ : ∃ pv, s.length - pos = pv := ⟨_, rfl⟩
    obtain ⟨lo, hlo⟩ : ∃ lo, len - pv = lo := ⟨_, rfl⟩
    have hM : s.length = pos + pv := by omega
    have hL : len = pv + lo := by omega
    rw [if_neg hfit, hpv, hlo, show off + len - pv = off + lo by omega]
    clear hfit hpv hlo hp
    generalize hs1 : rotate s off pv lo = s1
    have hl1 : s1.length = s.length := hs1 ▸ Mem.rotate_length s off pv lo (by omega)
    generalize hs2 : Mem.move s1 pos (off + lo) pv = s2
    have hl2 : s2.length = s.length := by rw [← hs2, Mem.move_length _ _ _ _ (by omega) (by omega), hl1]
    have hl3 := Mem.move_length s2 0 off lo (by omega) (by omega)
    rw [memrev_eq _ _ _ _ (by omega) (by omega), show len - pv = lo by omega, hs1]
    simp only []
    rw [Mem.mv_unless _ s1 pos (off + lo) pv (by omega) (by omega) (by omega), hs2]
    simp only []
    rw [Mem.mv_unless _ s2 0 off lo (by omega) (by omega) (by omega)]
    refine ⟨_, rfl, ⟨.mk (by omega) (by omega), by rw [hl3, hl2], ?_⟩, rfl⟩
    rw [content_wrapped _ _ _ (by omega) (by omega) (by omega), hl3, hl2,
      show s.length - pos = pv by omega, show len - pv = lo by omega,
      Mem.read_move_after _ _ _ _ _ _ (by omega) (by omega) (by omega), Mem.read_move_same _ _ _ _ (by omega) (by omega),
      ← hs2, Mem.read_move_same _ _ _ _ (by omega) (by omega), Mem.read_move_before _ _ _ _ _ _ (by omega) (by omega),
      ← hs1, read_rotate_snd _ _ _ _ (by omega), read_rotate_fst _ _ _ _ (by omega), ← Mem.read_append, hL]

theorem align_spec (H : r.Holds cap d) (pos : Nat) :
    ∃ r1, r.align pos = .ok r1 ∧ r1.Holds cap d ∧ (pos = 0 → r1.off = 0) := by
  have hcap := H.cap
  obtain ⟨h1, h2⟩ := H.wf
  unfold align
  simp only [max]
  by_cases hp : pos > r.store.length
  · rw [if_pos hp]
    exact ⟨r, rfl, H, by omega⟩
  · rw [if_neg hp]
    by_cases hl : r.len = 0
    · rw [if_pos hl]
      refine ⟨_, rfl, ⟨⟨h1, Nat.zero_le _⟩, hcap, ?_⟩, fun _ => rfl⟩
      rw [← H.content, content_nil r hl]
      exact content_nil _ hl
    · rw [if_neg hl]
      unfold frag
      simp only [max, decide_eq_true_eq]
      by_cases hf : r.store.length - r.len < r.off
      -- a wrapped content is first made flat at offset 0, then moved to `pos` like one that does not wrap
      · rw [if_pos hf]
        obtain ⟨r1, he, H1, ho1⟩ := alignFlat_spec H hf
        rw [he]
        simp only []
        by_cases hz : pos = 0
        · rw [if_pos hz]
          exact ⟨r1, rfl, H1, fun _ => ho1⟩
        · rw [if_neg hz]
          have := H1.wf.1
          obtain ⟨r2, he2, H2, ho2⟩ := alignMove_spec H1 pos (by omega) (by rw [H1.cap, ← hcap]; omega)
          exact ⟨r2, he2, H2, fun hh => absurd hh hz⟩
      · rw [if_neg hf]
        by_cases hz : pos = r.off
        · rw [if_pos hz]
          exact ⟨r, rfl, H, fun hh => by omega⟩
        · rw [if_neg hz]
          obtain ⟨r2, he2, H2, ho2⟩ := alignMove_spec H pos (by omega) (by omega)
          exact ⟨r2, he2, H2, fun hh => by omega⟩

/-- `mpt_queue_align(q, 0)` where the data may wrap: afterwards it does not, and `k` free bytes follow it.  The test
    `c` is a parameter because the two callers ask differently (`resize`: `frag`; `string`: no room behind the data);
    all that matters is what holds when the call is skipped (`hc`) -/
theorem align_if (H : r.Holds cap d) (c : Prop) [Decidable c] (k : Nat) (hk : d.length + k ≤ cap)
    (hc : ¬c → r.off + r.len + k ≤ r.store.length) :
    ∃ r2, (if c then r.align 0 else .ok r) = .ok r2 ∧ r2.Holds cap d ∧ r2.off + r2.len + k ≤ r2.store.length := by
  by_cases hcc : c
  · obtain ⟨r2, he2, H2, ho2⟩ := align_spec H 0
    rw [if_pos hcc]
    exact ⟨r2, he2, H2, by rw [ho2 rfl, H2.len, H2.cap]; omega⟩
  · rw [if_neg hcc]
    exact ⟨r, rfl, H, hc hcc⟩

theorem resize_spec (H : r.Holds cap d) (n : Nat) :
    ∃ r', r.resize n = .ok r' ∧ r'.Holds n (d.drop (d.length - n)) := by
  have hlen := H.len
  have hcap := H.cap
  have h1 := H.wf.1
  unfold resize
  simp only [max, Bool.not_true, Bool.false_eq_true, ↓reduceIte]
  by_cases hn0 : n = 0
  · subst hn0
    rw [if_pos rfl, Nat.sub_zero, List.drop_length]
    exact ⟨_, rfl, ⟨Nat.le_refl _, Nat.le_refl _⟩, rfl, rfl⟩
  · rw [if_neg hn0]
    by_cases hlt : n < r.store.length
    -- shrinking: the oldest bytes that do not fit are dropped, the rest is aligned to offset 0, the storage is cut
    · rw [if_pos hlt]
      have hr1 : ∃ r1 : Ring, r.dropFront n = r1 ∧ r1.Holds cap (d.drop (d.length - n)) := by
        unfold dropFront
        by_cases hc : n < r.len
        · rw [if_pos hc]
          obtain ⟨r', c, he, H', _⟩ := crop_front H (d.length - n) (Nat.sub_le _ _)
          rw [← hlen] at he
          rw [he]
          exact ⟨r', rfl, H'⟩
        · rw [if_neg hc, show d.length - n = 0 by omega, List.drop_zero]
          exact ⟨r, rfl, H⟩
      obtain ⟨r1, he1, H1⟩ := hr1
      obtain ⟨r2, he2, H2, ho2⟩ := align_spec H1 0
      rw [he1, he2]
      have ho := ho2 rfl
      have hl2 := H2.len
      have hc2 := H2.cap
      rw [List.length_drop] at hl2
      refine ⟨_, rfl, ⟨?_, ?_⟩, ?_, ?_⟩
      · simp only [List.length_take]; omega
      · simp only [List.length_take]; omega
      · simp only [List.length_take]; omega
      · rw [← H2.content, content_contig r2.store r2.len r2.off (by omega),
          content_contig _ _ _ (by simp only [List.length_take]; omega), ho, Mem.read, Mem.read, List.drop_zero,
          List.drop_zero, List.take_take]
        congr 1; omega
    · rw [if_neg hlt]
      rw [show d.length - n = 0 by have := H.le; omega, List.drop_zero]
      by_cases hgt : n > r.store.length
      -- growing: a wrapped content is aligned to offset 0 first, so the bytes added at the storage end are free space
      · rw [if_pos hgt]
        obtain ⟨r2, he2, H2, hfit⟩ := align_if H (r.frag = true) 0 H.le (by
          unfold frag; simp only [max, decide_eq_true_eq]; omega)
        rw [he2]
        have hc2 := H2.cap
        refine ⟨_, rfl, ⟨?_, ?_⟩, ?_, ?_⟩
        · simp only [List.length_append, List.length_replicate]; omega
        · simp only [List.length_append, List.length_replicate]; omega
        · simp only [List.length_append, List.length_replicate]; omega
        · rw [← H2.content, content_contig r2.store r2.len r2.off hfit,
            content_contig _ _ _ (by simp only [List.length_append, List.length_replicate]; omega),
            Mem.read, Mem.read, List.drop_append_of_le_length (by omega),
            List.take_append_of_le_length (by rw [List.length_drop]; omega)]
      · rw [if_neg hgt]
        exact ⟨r, rfl, H.wf, by omega, H.content⟩

theorem string_spec (H : r.Holds cap d) (hfree : d.length < cap) :
    ∃ r', r.string = .ok (r', d) ∧ r'.Holds cap d := by
  have hlen := H.len
  have hcap := H.cap
  unfold string
  simp only [max]
  rw [if_neg (by omega)]
  obtain ⟨r1, he1, H1, hfit⟩ := align_if H (r.store.length - r.len ≤ r.off) 1 (by omega) (by omega)
  rw [he1]
  simp only []
  have hwl := Mem.write_length r1.store (r1.off + r1.len) [0] (by simp only [List.length_singleton]; omega)
  -- the terminator goes behind the data, which does not wrap: what is read back is the content, untouched
  have hout : Mem.read (Mem.write r1.store (r1.off + r1.len) [0]) r1.off r1.len = d := by
    rw [Mem.read_write_before _ _ _ _ _ (Nat.le_refl _) (by omega), ← content_contig r1.store r1.len r1.off (by omega)]
    exact H1.content
  rw [Mem.wr_ok _ _ _ (by simp only [List.length_singleton]; omega)]
  simp only []
  rw [Mem.rd_ok _ _ _ (by omega), hout]
  refine ⟨_, rfl, .mk (by omega) (by omega), hwl.trans H1.cap, ?_⟩
  rw [content_contig _ _ _ (by omega)]
  exact hout

theorem string_refused (H : r.Holds cap d) (hfull : ¬ d.length < cap) : r.string = .null := by
  rw [← H.len, ← H.cap] at hfull
  unfold string
  simp only [max]
  rw [if_pos (by omega)]

theorem prepare_spec (H : r.Holds cap d) (n : Nat) :
    ∃ r' left cap', r.prepare n = .ok (r', left) ∧ r'.Holds cap' d ∧ left = cap' - d.length ∧ n ≤ left := by
  have hlen := H.len
  have hcap := H.cap
  have hle := H.le
  unfold prepare
  simp only [max]
  by_cases hn : n > r.store.length - r.len
  · obtain ⟨r', he, H'⟩ := resize_spec H (alignSize (n - (r.store.length - r.len) + r.store.length))
    have hge : n - (r.store.length - r.len) + r.store.length ≤
        alignSize (n - (r.store.length - r.len) + r.store.length) := by unfold alignSize; omega
    rw [show d.length - alignSize (n - (r.store.length - r.len) + r.store.length) = 0 by omega, List.drop_zero] at H'
    rw [if_pos hn, he]
    exact ⟨r', _, _, rfl, H', by rw [H'.cap, H'.len], by rw [H'.cap, H'.len]; omega⟩
  · rw [if_neg hn]
    exact ⟨r, _, cap, rfl, H, by rw [hcap, hlen], by omega⟩

end Ring
end Mpt
