/-
  Histories of array operations (C04): the execution of the operations `Op` (Spec/ArrayOps.lean) on the
  implementation model (`exec`), the vector spec of each operation (`specRel`), `exec_sem` relating the two, and
  what is needed to lift it to histories over any number of handles.
-/
import MptModel.Lemmas.HeapOps
namespace Mpt.Heap

/-- handles exist; element traits passed in have no callbacks and a non-zero size -/
def Op.wf (nh : Nat) : Op → Prop
  | .set h t _ _ _ => h < nh ∧ PlainT (some t)
  | .clone d s => d < nh ∧ s < nh
  | .reserve h _ t => h < nh ∧ PlainT t
  | op => op.handle < nh

theorem Op.handle_lt {nh : Nat} {op : Op} (wf : op.wf nh) : op.handle < nh := by
  cases op <;> first | exact wf | exact wf.1

def exec (s : State) : Op → Out Unit
  | .append h bytes => Out.mapv (fun _ => ()) (arrayAppend s h bytes)
  | .insert h pos bytes => Out.mapv (fun _ => ()) (insertOp s h pos bytes)
  | .set h t off bytes hasSrc => Out.mapv (fun _ => ()) (arraySet s h (some t) bytes hasSrc off)
  | .slice h off len => Out.mapv (fun _ => ()) (arraySlice s h off len)
  | .cut h off len => Out.mapv (fun _ => ()) (cutOp s h off len)
  | .bset h pos bytes hasSrc => Out.mapv (fun _ => ()) (bsetOp s h pos bytes hasSrc)
  | .clone d src => Out.mapv (fun _ => ()) (arrayClone s d (some src))
  | .drop h => Out.mapv (fun _ => ()) (arrayClone s h none)
  | .detach h n => Out.mapv (fun _ => ()) (detachOp s h n)
  | .reduce h => Out.mapv (fun _ => ()) (arrayReduce s h)
  | .reserve h n t => Out.mapv (fun _ => ()) (arrayReserve s h n t)

/-- S: what the operation does to the value read through its own handle (`v` before, `v'` after); the other handles
    keep their values.  `Vec.cut`/`Vec.setAt` = `none` means the arguments fall outside the data. -/
def specRel (s : State) : Op → Vec.Vec → Vec.Vec → Prop
  | .append _ bytes, v, v' => v' = Vec.append v bytes
  | .insert _ pos bytes, v, v' => v' = Vec.insert v pos bytes
  | .set _ t off bytes _, v, v' => Vec.setAt v t.size off bytes = some v'
  | .slice _ off len, v, v' => v' = Vec.slice v off len
  | .cut _ off len, v, v' => Vec.cut v off len = some v'
  | .bset _ pos bytes _, v, v' => v' = Vec.write v pos bytes
  | .clone _ src, _, v' => v' = s.abs src
  | .drop _, _, v' => v' = []
  | .detach h n, v, v' => v' = v ∨ (ownerImmutable s h = true ∧ ∃ k, n ≤ k ∧ k < v.length ∧ v' = v.take k)
  | .reduce _, v, v' => v' = v
  | .reserve h _ t, v, v' => v' = v ∨ (typeDiffers s h t = true ∧ v' = [])

/-- the relation the theorems prove is membership in the list of alternatives the run checks -/
theorem specRel_iff_alts (s : State) (op : Op) (v v' : Vec.Vec) : specRel s op v v' ↔ v' ∈ specAlts s op v := by
  cases op with
  | append h bytes => simp [specRel, specAlts]
  | insert h pos bytes => simp [specRel, specAlts]
  | set h t off bytes hasSrc => simp [specRel, specAlts, Option.mem_toList, eq_comm]
  | slice h off len => simp [specRel, specAlts]
  | cut h off len => simp [specRel, specAlts, Option.mem_toList, eq_comm]
  | bset h pos bytes hasSrc => simp [specRel, specAlts]
  | clone d src => simp [specRel, specAlts]
  | drop h => simp [specRel, specAlts]
  | reduce h => simp [specRel, specAlts]
  | reserve h n t =>
    simp only [specRel, specAlts, List.mem_cons]
    cases typeDiffers s h t <;> simp
  | detach h n =>
    simp only [specRel, specAlts, List.mem_cons]
    cases ownerImmutable s h with
    | false => simp
    | true =>
      simp only [true_and, if_true, List.mem_map, List.mem_range]
      constructor
      · rintro (e | ⟨k, h1, h2, e⟩)
        · exact Or.inl e
        · exact Or.inr ⟨k - n, by omega, by rw [e]; congr 1; omega⟩
      · rintro (e | ⟨i, hi, e⟩)
        · exact Or.inl e
        · exact Or.inr ⟨n + i, by omega, by omega, e.symm⟩

theorem exec_sem {s : State} (inv : Inv s) (op : Op) (wf : op.wf s.hs.length) :
    Sem s op.handle (specRel s op) (exec s op) := by
  cases op with
  | append h bytes => exact (append_sem inv wf bytes).mapv _
  | insert h pos bytes => exact (insert_sem inv wf pos bytes).mapv _
  | set h t off bytes hasSrc => exact (set_sem inv wf.1 t wf.2 bytes hasSrc off).mapv _
  | slice h off len => exact (slice_sem inv wf off len).mapv _
  | cut h off len => exact (cut_sem inv h off len).mapv _
  | bset h pos bytes hasSrc => exact (bset_sem inv h pos bytes hasSrc).mapv _
  | clone d src => exact (clone_sem inv wf.1 (some src)).mapv _
  | drop h => exact (clone_sem inv wf none).mapv _
  | detach h n => exact (detachOp_sem inv n).mapv _
  | reduce h => exact (reduce_sem inv).mapv _
  | reserve h n t => exact (reserve_sem inv wf.1 n t wf.2).mapv _

def absAll (s : State) : List Vec.Vec := (List.range s.hs.length).map s.abs

/-- one step of a history on the values (`vs' = vs`: a refusal); `s` is the state BEFORE the step (`specRel` of clone,
    detach, reserve reads it) -/
def specStep (s : State) (op : Op) (vs vs' : List Vec.Vec) : Prop :=
  vs' = vs ∨ ∃ v', specRel s op (vs.getD op.handle []) v' ∧ vs' = vs.set op.handle v'

/-- M: run a history; refused operations are skipped with the state the code leaves; `none` = a fault -/
def run : State → List Op → Option State
  | s, [] => some s
  | s, op :: rest =>
    match exec s op with
    | .ok s' _ => run s' rest
    | .fail s' _ => run s' rest
    | .fault _ => none

/-- every step from `s` to the last state is a `specStep` of the state it starts from -/
inductive Explained : State → List Op → State → Prop where
  | nil (s : State) : Explained s [] s
  | cons {s s1 s2 : State} {op : Op} {rest : List Op} :
      specStep s op (absAll s) (absAll s1) → Explained s1 rest s2 → Explained s (op :: rest) s2

theorem absAll_set {s s' : State} (h : Nat) (hlen : s'.hs.length = s.hs.length) (hlt : h < s.hs.length)
    (oth : ∀ h', h' ≠ h → s'.abs h' = s.abs h') : absAll s' = (absAll s).set h (s'.abs h) := by
  unfold absAll
  rw [hlen]
  apply List.ext_getElem?
  intro i
  rw [List.getElem?_set]
  by_cases e : h = i
  · subst e
    simp [hlt]
  · rw [if_neg e]
    by_cases il : i < s.hs.length
    · simp [il, oth i (fun x => e x.symm)]
    · have : s.hs.length ≤ i := by omega
      simp [this]

theorem absAll_same {s s' : State} (hlen : s'.hs.length = s.hs.length) (same : ∀ h', s'.abs h' = s.abs h') :
    absAll s' = absAll s := by
  unfold absAll
  rw [hlen]
  apply List.map_congr_left
  intro a _; exact same a

theorem absAll_getD (s : State) (h : Nat) (hlt : h < s.hs.length) : (absAll s).getD h [] = s.abs h := by
  simp [absAll, List.getD, List.getElem?_range hlt]

end Mpt.Heap
