/-
  What the receivers get.  A call between two messages on a complete frame delivers the reference decoding of the frame
  or asks for work area (`decodeV_one`, `decodeV_frame`).  The receivers `arrive` (pieces appended to one segment) and
  `arriveSegs` (an iovec array, empty segments included) keep `Pend` from call to call, so a first delivery is the
  machine run on a prefix of the stream (`Got`), hence the reference decoding of its first frame.
-/
import MptModel.Lemmas.DecodeCall
namespace Mpt.Codec
open Mpt.Cobs

theorem decodeV_one (v : Variant) (st : DecState) (segs : List Seg) (pre junk : List Byte) (hf : Fresh st)
    (hin : (flat segs).drop st.curr = pre ++ 0 :: junk) (hnz : ∀ x ∈ pre, x ≠ 0)
    (h1 : (decodeV v st segs false).ret = .val 1) :
    dec v (pre ++ [0]) = some (decodeV v st segs false).region ∧
    (decodeV v st segs false).st.msg = some (decodeV v st segs false).st.len ∧
    (decodeV v st segs false).st.ctx = 0 ∧
    (decodeV v st segs false).st.curr = st.curr + pre.length + 1 ∧
    (decodeV v st segs false).store.drop (decodeV v st segs false).st.curr = junk := by
  cases pre with
  | nil =>
    -- a leading delimiter is never a message, also for the tail framings
    obtain ⟨a, _, c⟩ := (start_call v segs st hf).zero junk hin
    rw [decodeV_of_ret v st segs false c] at h1
    exact absurd h1 a
  | cons c0 body =>
    cases hprep : decPrep st segs (flat segs) false with
    | inl es => rw [decodeV_err v hprep] at h1; cases h1
    | inr sl =>
      have hc0 : c0 ≠ 0 := hnz c0 (by simp)
      have hout := fresh_entry v segs st hprep hf c0 _ hin hc0
      obtain ⟨hd, hctx, hm⟩ := hout.one h1
      have hU1 : (flat segs).drop (st.curr + 1) = body ++ 0 :: junk := by rw [← List.drop_drop, hin]; rfl
      obtain ⟨hcurr, hrest⟩ := hout.scan.frame h1 hU1 (fun x hx => hnz x (by simp [hx]))
      exact ⟨hd.frame (rest := []) (junk := junk) hc0 (by simp) hnz, hm, hctx, by rw [hcurr, List.length_cons]; omega, hrest⟩

/-- 15: at most 15 bytes of the head room go to the alignment offset (`FreshEntry.room`) and a block implies at most
    two zeros (`Ran.live`), while the code byte, which `pre` counts, is not stored and its place is work area
    (15 + 2 - 1 - 1) -/
theorem decodeV_frame (v : Variant) (st : DecState) (segs : List Seg) (pre junk msg : List Byte)
    (hb : Bnd (flat segs).length st) (hf : Fresh st)
    (hin : (flat segs).drop st.curr = pre ++ 0 :: junk) (hnz : ∀ x ∈ pre, x ≠ 0)
    (hdec : dec v (pre ++ [0]) = some msg) :
    (((decodeV v st segs false).ret = .val 1 ∧ (decodeV v st segs false).region = msg) ∨
      (decodeV v st segs false).ret = .err .MissingBuffer) ∧
    (st.pos + st.len + pre.length + 15 ≤ st.curr →
      (decodeV v st segs false).ret = .val 1 ∧ (decodeV v st segs false).region = msg) := by
  cases pre with
  | nil => simp [dec] at hdec
  | cons c0 body =>
  have hc0 : c0 ≠ 0 := hnz c0 (by simp)
  have hnzb : ∀ x ∈ body, x ≠ 0 := fun x hx => hnz x (by simp [hx])
  have hU : (flat segs).drop st.curr = c0 :: (body ++ 0 :: junk) := by simpa using hin
  have hU1 : (flat segs).drop (st.curr + 1) = body ++ 0 :: junk := by rw [← List.drop_drop, hU]; rfl
  have hv := fresh_call v segs st _ rfl hb hf c0 _ hU hc0
  obtain ⟨hcase, hno⟩ := hv.live (slackOk_ctx0 v st hf.ctx) body junk hU1 hnzb
  have hcases : ((decodeV v st segs false).ret = .val 1 ∧ (decodeV v st segs false).region = msg) ∨
      (decodeV v st segs false).ret = .err .MissingBuffer := by
    rcases hcase with h1 | hmb | hmd
    · have e1 := (decodeV_one v st segs (c0 :: body) junk hf hin hnz h1).1
      rw [hdec] at e1
      exact Or.inl ⟨h1, (Option.some.inj e1).symm⟩
    · exact Or.inr hmb
    · -- the decoder stands on an inline zero and has no tail rule: the reference decoder rejects the frame
      exfalso
      obtain ⟨ht, code, pos, em⟩ := hv.md hmd
      have hnone := mach_dec_zeroIn v (rest := []) hc0 hnzb (List.append_nil _) em ht
      rw [show dec v (c0 :: body ++ [0]) = some msg from hdec] at hnone
      cases hnone
  exact ⟨hcases, fun hroom => hcases.resolve_right (hno (by simp only [List.length_cons] at hroom; omega))⟩

theorem flat_addArrival (segs : List Seg) (x : Arrival) : flat (addArrival segs x) = flat segs ++ x.bytes := by
  unfold addArrival
  cases hl : segs.getLast? with
  | none => simp [flat]
  | some last =>
    cases hn : x.newSeg with
    | true => simp [flat]
    | false =>
      obtain ⟨ys, rfl⟩ := List.getLast?_eq_some_iff.mp hl
      simp [flat]

theorem flat_reseg (segs : List Seg) : ∀ (store : List Byte), store.length = (flat segs).length →
    flat (reseg segs store) = store := by
  induction segs with
  | nil => intro store h; simp [flat] at h; simp [reseg, flat, h]
  | cons sg rest ih =>
    intro store h
    obtain ⟨a, bs⟩ := sg
    have hl : (flat ((a, bs) :: rest)).length = bs.length + (flat rest).length := by simp [flat]
    simp only [reseg]
    have := ih (store.drop bs.length) (by simp; omega)
    have hc : flat ((a, store.take bs.length) :: reseg rest (store.drop bs.length))
        = store.take bs.length ++ flat (reseg rest (store.drop bs.length)) := by simp [flat]
    rw [hc, this, List.take_append_drop]

theorem decodeV_len (v : Variant) (st : DecState) (segs : List Seg) (hwf : st.WF) :
    (decodeV v st segs false).store.length = (flat segs).length := by
  have := (decodeV_safe v st segs false hwf).len
  simpa using this

def arrBytes (xs : List Arrival) : List Byte := (xs.map (·.bytes)).flatten

/-- the receiver between two calls: `W` = the bytes of the frame at the input position that have arrived — still
    unread between two messages, or behind the first code byte `c0` a machine run in progress (`Hist`) -/
def Pend (v : Variant) (W : List Byte) (st : DecState) (store : List Byte) : Prop :=
  (Fresh st ∧ st.curr ≤ store.length ∧ W = store.drop st.curr) ∨
  ∃ c0 U, c0 ≠ 0 ∧ W = c0 :: U ∧ Hist v c0.toNat U st store

/-- a delivery for the arrived bytes `W` of a frame -/
def Got (v : Variant) (W region : List Byte) : Prop := ∃ c0 U, c0 ≠ 0 ∧ W = c0 :: U ∧ Delivered v c0.toNat U region

theorem Pend.wf {v : Variant} {W : List Byte} {st : DecState} {store : List Byte} (h : Pend v W st store) :
    st.WF := by
  rcases h with ⟨hf, _⟩ | ⟨_, _, _, _, hh⟩
  · exact hf.hsome
  · intro m hm; rw [hh.msg] at hm; cases hm

theorem Got.frame {v : Variant} {W rest pre junk region : List Byte} (h : Got v W region)
    (he : W ++ rest = pre ++ 0 :: junk) (hnz : ∀ x ∈ pre, x ≠ 0) : Cobs.dec v (pre ++ [0]) = some region := by
  obtain ⟨c0, U, hc0, rfl, hd⟩ := h
  exact hd.frame hc0 he hnz

theorem recv_step (v : Variant) (st : DecState) (segs : List Seg) (store piece W : List Byte)
    (hflat : flat segs = store ++ piece) (h : Pend v W st store) :
    ((decodeV v st segs false).ret = .val 0 → Pend v (W ++ piece) (decodeV v st segs false).st (decodeV v st segs false).store) ∧
    ((decodeV v st segs false).ret = .val 1 → Got v (W ++ piece) (decodeV v st segs false).region) := by
  cases hprep : decPrep st segs (flat segs) false with
  | inl es => rw [decodeV_err v hprep]; exact ⟨fun h0 => (nomatch h0), fun h1 => (nomatch h1)⟩
  | inr sl =>
  rcases h with ⟨hf, hcur, rfl⟩ | ⟨c0, U, hc0, rfl, hh⟩
  · -- between two messages, by what stands at the input position: nothing, a delimiter, the first code byte
    obtain ⟨s1, s2⟩ := start_call v segs st hf
    rw [hflat, List.drop_append_of_le_length hcur] at s1 s2
    cases hX : store.drop st.curr ++ piece with
    | nil =>
      obtain ⟨hn1, hmd, hn0⟩ := s1 hX
      rw [decodeV_of_ret v st segs false hmd]
      refine ⟨fun h0 => ?_, fun h1 => absurd h1 hn1⟩
      obtain ⟨hf', hc', hs'⟩ := hn0 h0
      refine Or.inl ⟨hf', by rw [hc', hs', List.length_append]; omega, ?_⟩
      rw [hc', hs', List.drop_append_of_le_length hcur, hX]
    | cons b tl =>
      by_cases hb : b = 0
      · subst hb
        obtain ⟨hn1, hn0, hmd⟩ := s2 tl hX
        rw [decodeV_of_ret v st segs false hmd]
        exact ⟨fun h0 => absurd h0 hn0, fun h1 => absurd h1 hn1⟩
      · have hv := fresh_entry v segs st hprep hf b tl (by rw [hflat, List.drop_append_of_le_length hcur]; exact hX) hb
        exact ⟨fun h0 => Or.inr ⟨b, tl, hb, rfl, hv.hist (by rw [h0]; simp)⟩, fun h1 => ⟨b, tl, hb, rfl, (hv.one h1).1⟩⟩
  · have hv := mid_entry v segs st store piece c0.toNat U hflat hprep hh
    exact ⟨fun h0 => Or.inr ⟨c0, U ++ piece, hc0, rfl, hv.hist (by rw [h0]; simp)⟩, fun h1 => ⟨c0, U ++ piece, hc0, rfl, (hv.one h1).1⟩⟩

theorem arrive_pend (v : Variant) (a : Nat) (pieces : List (List Byte)) : ∀ (st : DecState) (store W : List Byte) (o : DecOut),
    Pend v W st store → arrive v a st store pieces = some o → o.ret = .val 1 →
    ∃ W' rest, Got v W' o.region ∧ W' ++ rest = W ++ pieces.flatten := by
  induction pieces with
  | nil => intro st store W o _ h; cases h
  | cons p ps ih =>
    intro st store W o hp h h1
    obtain ⟨hz, ho⟩ := recv_step v st [(a, store ++ p)] store p W (flat_single _ _) hp
    simp only [arrive] at h
    by_cases h0 : (decodeV v st [(a, store ++ p)] false).ret = .val 0
    · rw [if_pos h0] at h
      obtain ⟨W', rest, hg, he⟩ := ih _ _ _ o (hz h0) h h1
      exact ⟨W', rest, hg, by rw [he]; simp⟩
    · rw [if_neg h0] at h
      cases h
      exact ⟨W ++ p, ps.flatten, ho h1, by simp⟩

theorem arriveSegs_pend (v : Variant) (xs : List Arrival) : ∀ (st : DecState) (segs : List Seg) (W : List Byte) (o : DecOut),
    Pend v W st (flat segs) → arriveSegs v st segs xs = some o → o.ret = .val 1 →
    ∃ W' rest, Got v W' o.region ∧ W' ++ rest = W ++ arrBytes xs := by
  induction xs with
  | nil => intro st segs W o _ h; cases h
  | cons x xs ih =>
    intro st segs W o hp h h1
    obtain ⟨hz, ho⟩ := recv_step v st (addArrival segs x) (flat segs) x.bytes W (flat_addArrival segs x) hp
    simp only [arriveSegs] at h
    by_cases h0 : (decodeV v st (addArrival segs x) false).ret = .val 0
    · rw [if_pos h0] at h
      have hfl := flat_reseg (addArrival segs x) _ (decodeV_len v st (addArrival segs x) hp.wf)
      obtain ⟨W', rest, hg, he⟩ := ih _ _ _ o (by rw [hfl]; exact hz h0) h h1
      exact ⟨W', rest, hg, by rw [he]; simp [arrBytes]⟩
    · rw [if_neg h0] at h
      cases h
      exact ⟨W ++ x.bytes, arrBytes xs, ho h1, by simp [arrBytes]⟩

end Mpt.Codec
