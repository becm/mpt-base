/-
  C18, record lists.  A list is a `Chain` when every record is what a call leaves at the position where its predecessors
  end (`CallAt`); a chain has the five facts the theorems of C18 state of a record list (consumption, progress, every visible
  point drawn once, visible interiors, a drawn end outside the range marked by a non-zero code: `Chain.goodFrom`, from
  position 0 the structure `Good`: `Chain.toGood`), hence `Good` for the repeated calls, whose records form a chain
  (`parts_chain`, `parts_good`).  The join of two neighbours is again what a call leaves (`CallAt.join`).  Last what `Good`
  means for the consumer (`reported_visible`).  `CallAt` and `Good` say nothing in the other direction: they do not bound `usr` by the data and
  allow a non-zero code at a visible end.
-/
import MptModel.Lemmas.LinepartCrossing
namespace Mpt.Linepart
open Mpt.Visible

theorem linepartJoin_some (to post j : Part) (h : linepartJoin to post = some j) :
    j.raw = to.raw + post.raw ∧ j.usr = to.usr + post.usr ∧ j.cut = to.cut ∧ j.trim = post.trim ∧
    (to.raw ≤ 65535 → to.usr ≤ 65535 → j.raw ≤ 65535 ∧ j.usr ≤ 65535) ∧
    to.usr = to.raw ∧ to.trim = 0 ∧ post.cut = 0 := by
  unfold linepartJoin at h
  have hu : u16max = 65535 := rfl
  split at h; · cases h
  split at h; · cases h
  split at h; · cases h
  cases h
  -- `simp only []` reduces the projections of the record literal, which `omega` would take as atoms
  refine ⟨rfl, rfl, rfl, rfl, ?_, ?_, ?_, ?_⟩ <;> first | omega | (simp only []; omega)

theorem linepartJoin_eq {to post j : Part} (h : linepartJoin to post = some j) :
    j = ⟨to.raw + post.raw, to.usr + post.usr, to.cut, post.trim⟩ ∧ to.usr = to.raw ∧ to.trim = 0 ∧ post.cut = 0 := by
  obtain ⟨h1, h2, h3, h4, _, h6, h7, h8⟩ := linepartJoin_some to post j h
  obtain ⟨a, b, c, d⟩ := j
  cases h1; cases h2; cases h3; cases h4
  exact ⟨rfl, h6, h7, h8⟩

theorem drawnCount_join (to post j : Part) (rest : List Part) (start i : Nat)
    (h : linepartJoin to post = some j) :
    drawnCount (j :: rest) start i = drawnCount (to :: post :: rest) start i := by
  obtain ⟨h1, h2, _, _, _, h6, _, _⟩ := linepartJoin_some to post j h
  simp only [drawnCount]
  rw [h1, h2, h6, ← Nat.add_assoc start to.raw post.raw]
  by_cases a : start ≤ i ∧ i < start + (to.raw + post.usr)
  · by_cases b : start ≤ i ∧ i < start + to.raw
    · rw [if_pos a, if_pos b, if_neg (by omega)]; omega
    · rw [if_pos a, if_neg b, if_pos (by omega)]; omega
  · rw [if_neg a, if_neg (by omega), if_neg (by omega)]; omega

def rawSum (ps : List Part) : Nat := (ps.map (·.raw)).sum

theorem rawSum_append (A B : List Part) : rawSum (A ++ B) = rawSum A + rawSum B := by
  simp [rawSum]

theorem rawSum_cons (p : Part) (A : List Part) : rawSum (p :: A) = p.raw + rawSum A := by
  simp [rawSum]

theorem drawnCount_append (A B : List Part) (s i : Nat) :
    drawnCount (A ++ B) s i = drawnCount A s i + drawnCount B (s + rawSum A) i := by
  induction A generalizing s with
  | nil => simp [drawnCount, rawSum]
  | cons p A ih =>
    simp only [List.cons_append, drawnCount, ih, rawSum_cons, Nat.add_assoc]

theorem interior_append (r : Range) (xs : List Rat) (A B : List Part) (s : Nat) :
    InteriorVisible r xs (A ++ B) s ↔ InteriorVisible r xs A s ∧ InteriorVisible r xs B (s + rawSum A) := by
  induction A generalizing s with
  | nil => simp [InteriorVisible, rawSum]
  | cons p A ih =>
    simp only [List.cons_append, InteriorVisible, ih, rawSum_cons, Nat.add_assoc, and_assoc]

theorem flagged_append (r : Range) (xs : List Rat) (A B : List Part) (s : Nat) :
    Flagged r xs (A ++ B) s ↔ Flagged r xs A s ∧ Flagged r xs B (s + rawSum A) := by
  induction A generalizing s with
  | nil => simp [Flagged, rawSum]
  | cons p A ih =>
    simp only [List.cons_append, Flagged, ih, rawSum_cons, Nat.add_assoc, and_assoc]

/-- what the theorems of C18 state of a record list that covers the first `c` points of `xs` (an end outside the range has
    a non-zero code; not the converse) -/
structure Good (r : Range) (xs : List Rat) (ps : List Part) (c : Nat) : Prop where
  sum : rawSum ps = c
  pos : ∀ p ∈ ps, 0 < p.raw
  drawn : ∀ i, insideAt r xs i → drawnCount ps 0 i = if i < c then 1 else 0
  interior : InteriorVisible r xs ps 0
  flagged : Flagged r xs ps 0

/-- what one call on the window of `xs` that starts at point `c` guarantees, in positions of `xs` -/
structure CallAt (r : Range) (xs : List Rat) (c : Nat) (p : Part) : Prop where
  pos : 0 < p.raw
  usr_raw : p.usr ≤ p.raw + 1
  interior : ∀ i, c < i → i + 1 < c + p.usr → insideAt r xs i
  hidden : ∀ i, c + p.usr ≤ i → i < c + p.raw → ¬ insideAt r xs i
  last : p.raw < p.usr → ¬ insideAt r xs (c + p.raw)
  cutF : 0 < p.usr → ¬ insideAt r xs c → 0 < p.cut
  trimF : 0 < p.usr → ¬ insideAt r xs (c + p.usr - 1) → 0 < p.trim

theorem core_at (r : Range) (xs ys : List Rat) (c : Nat) (hne : 0 < ys.length)
    (hw : ∀ k, k < ys.length → ys[k]? = xs[c + k]?) :
    CallAt r xs c (linearCore r ys) ∧ (linearCore r ys).raw ≤ ys.length := by
  have hs := core_stored r hw hne
  obtain ⟨h1, h2, _, h4, h5, h6, h7, _⟩ := linearCore_ok r ys hne
  generalize linearCore r ys = p at *
  refine ⟨⟨h1, h4, ?_, ?_, ?_, ?_, ?_⟩, h2⟩
  · intro i a b
    obtain ⟨k, rfl⟩ := Nat.exists_eq_add_of_le (Nat.le_of_lt a)
    exact (insideAt_window hw (by omega)).1 (h5 k (by omega) (by omega))
  · intro i a b hi
    obtain ⟨k, rfl⟩ := Nat.exists_eq_add_of_le (Nat.le_trans (Nat.le_add_right c p.usr) a)
    exact h6 k (by omega) (by omega) ((insideAt_window hw (by omega)).2 hi)
  · intro a hi
    exact h7 a ((insideAt_window hw (by omega)).2 hi)
  · intro hu ho
    obtain ⟨_, _, _, _, s⟩ := hs.cut hu ho
    exact s.pos
  · intro hu ho
    obtain ⟨_, _, _, _, s⟩ := hs.trim hu ho
    exact s.pos

theorem window_call (r : Range) (xs : List Rat) (c m : Nat) (hm : 0 < m) (hcm : c + m ≤ xs.length) :
    CallAt r xs c (linepartLinear ((xs.drop c).take m) (some r)) ∧
    (linepartLinear ((xs.drop c).take m) (some r)).raw ≤ m := by
  rw [linear_some, List.take_take]
  have hl : ((xs.drop c).take (min u16max m)).length = min u16max m := by
    rw [List.length_take, List.length_drop]; omega
  obtain ⟨hc, hr⟩ := core_at r xs _ c (by rw [hl]; exact Nat.lt_min.2 ⟨by decide, hm⟩) (window_drop_take xs c _)
  exact ⟨hc, Nat.le_trans hr (by rw [hl]; exact Nat.min_le_right _ _)⟩

theorem CallAt.join {r : Range} {xs : List Rat} {c : Nat} {to p j : Part} (ht : CallAt r xs c to)
    (hp : CallAt r xs (c + to.raw) p) (hj : linepartJoin to p = some j) : CallAt r xs c j := by
  obtain ⟨rfl, hur, htrim, hcut⟩ := linepartJoin_eq hj
  obtain ⟨tpos, _, tint, _, _, tcutF, ttrimF⟩ := ht
  obtain ⟨_, pur, pint, phid, plast, pcutF, ptrimF⟩ := hp
  rw [htrim] at ttrimF; rw [hcut] at pcutF; rw [hur] at tint ttrimF
  -- where the two records meet nothing is cut: the last point of the first and the first drawn point of the second
  -- record are visible
  have hlast : insideAt r xs (c + to.raw - 1) := Decidable.byContradiction fun hn => Nat.lt_irrefl 0 (ttrimF tpos hn)
  have hfirst : 0 < p.usr → insideAt r xs (c + to.raw) := fun h =>
    Decidable.byContradiction fun hn => Nat.lt_irrefl 0 (pcutF h hn)
  rw [hur]
  refine ⟨Nat.add_pos_left tpos _, by show to.raw + p.usr ≤ to.raw + p.raw + 1; omega, fun i h1 h2 => ?_,
    fun i h1 h2 => phid i (by rw [Nat.add_assoc]; exact h1) (by rw [Nat.add_assoc]; exact h2),
    fun h => ?_, fun _ hn => tcutF (hur ▸ tpos) hn, fun _ hn => ?_⟩
  · -- interior of the first, its last point, the first point of the second, interior of the second
    replace h2 : i + 1 < c + (to.raw + p.usr) := h2
    by_cases ha : i + 1 < c + to.raw
    · exact tint i h1 ha
    · by_cases hb : i + 1 = c + to.raw
      · rwa [show c + to.raw - 1 = i by omega] at hlast
      · by_cases hc : i = c + to.raw
        · exact hc ▸ hfirst (by omega)
        · exact pint i (by omega) (by omega)
  · rw [show c + (to.raw + p.raw) = c + to.raw + p.raw from (Nat.add_assoc ..).symm]
    exact plast (Nat.lt_of_add_lt_add_left h)
  · replace hn : ¬ insideAt r xs (c + (to.raw + p.usr) - 1) := hn
    by_cases hu : 0 < p.usr
    · apply ptrimF hu
      rwa [show c + (to.raw + p.usr) - 1 = c + to.raw + p.usr - 1 by omega] at hn
    · -- the second record draws nothing: the last drawn point is the last point of the first
      rw [show p.usr = 0 by omega, Nat.add_zero] at hn
      exact absurd hlast hn

/-- `ps` is a chain of records from point `s` to point `e`: each satisfies `CallAt` where its predecessors end -/
def Chain (r : Range) (xs : List Rat) : Nat → List Part → Nat → Prop
  | s, [], e => s = e
  | s, p :: ps, e => CallAt r xs s p ∧ Chain r xs (s + p.raw) ps e

theorem chain_append {r : Range} {xs : List Rat} {A B : List Part} {s e : Nat} :
    Chain r xs s (A ++ B) e ↔ ∃ m, Chain r xs s A m ∧ Chain r xs m B e := by
  induction A generalizing s with
  | nil => exact ⟨fun h => ⟨s, rfl, h⟩, fun ⟨m, h1, h2⟩ => h1 ▸ h2⟩
  | cons p A ih =>
    simp only [List.cons_append, Chain, ih]
    exact ⟨fun ⟨h, m, a, b⟩ => ⟨m, ⟨h, a⟩, b⟩, fun ⟨m, ⟨h, a⟩, b⟩ => ⟨h, m, a, b⟩⟩

/-- a chain has the five facts of `Good` on the stretch it covers, from position `s` -/
theorem Chain.goodFrom {r : Range} {xs : List Rat} {ps : List Part} {s e : Nat} (h : Chain r xs s ps e) :
    s + rawSum ps = e ∧ (∀ p ∈ ps, 0 < p.raw) ∧
    (∀ i, insideAt r xs i → drawnCount ps s i = if s ≤ i ∧ i < e then 1 else 0) ∧
    InteriorVisible r xs ps s ∧ Flagged r xs ps s := by
  induction ps generalizing s with
  | nil =>
    have h : s = e := h
    exact ⟨h, (fun _ h => nomatch h), fun i _ => (if_neg (by omega)).symm, trivial, trivial⟩
  | cons p ps ih =>
    obtain ⟨hc, ht⟩ := h
    obtain ⟨i1, i2, i3, i4, i5⟩ := ih ht
    have hur := hc.usr_raw
    have hpos := hc.pos
    refine ⟨by rw [rawSum_cons]; omega, fun q hq => (List.mem_cons.1 hq).elim (fun e => e ▸ hpos) (i2 q),
      fun i hin => ?_, ⟨hc.interior, i4⟩, ⟨hc.cutF, hc.trimF, i5⟩⟩
    -- a visible point is drawn by this record exactly when it is among the points the record consumes
    have hd : (s ≤ i ∧ i < s + p.usr) ↔ (s ≤ i ∧ i < s + p.raw) :=
      ⟨fun ⟨a, b⟩ => ⟨a, Decidable.byContradiction fun hn =>
          hc.last (by omega) ((show i = s + p.raw by omega) ▸ hin)⟩,
        fun ⟨a, b⟩ => ⟨a, Decidable.byContradiction fun hn => hc.hidden i (by omega) b hin⟩⟩
    simp only [drawnCount, i3 i hin, hd]
    by_cases h1 : s ≤ i ∧ i < s + p.raw
    · rw [if_pos h1, if_neg (by omega), if_pos (by omega)]
    · rw [if_neg h1]
      by_cases h2 : s + p.raw ≤ i ∧ i < e
      · rw [if_pos h2, if_pos (by omega)]
      · rw [if_neg h2, if_neg (by omega)]

theorem Chain.toGood {r : Range} {xs : List Rat} {ps : List Part} {c : Nat} (h : Chain r xs 0 ps c) :
    Good r xs ps c := by
  obtain ⟨h1, h2, h3, h4, h5⟩ := h.goodFrom
  exact ⟨by omega, h2, fun i hin => by rw [h3 i hin]; simp, h4, h5⟩

theorem parts_chain (xs : List Rat) (r : Range) : Chain r xs 0 (parts xs (some r)) xs.length := by
  refine parts_ind (some r) xs (motive := fun c ps => Chain r xs c ps xs.length) rfl (fun c rest hc _ ih => ⟨?_, ih⟩)
  have hw := (window_call r xs c (xs.length - c) (by omega) (by omega)).1
  rwa [List.take_of_length_le (by rw [List.length_drop]; omega)] at hw

theorem parts_good (xs : List Rat) (r : Range) : Good r xs (parts xs (some r)) xs.length :=
  (parts_chain xs r).toGood

theorem reported_visible (r : Range) (xs : List Rat) (ps : List Part) (s : Nat)
    (hi : InteriorVisible r xs ps s) (hf : Flagged r xs ps s) : ReportedVisible r xs ps s := by
  induction ps generalizing s with
  | nil => trivial
  | cons p ps ih =>
    obtain ⟨i1, i2⟩ := hi
    obtain ⟨f1, f2, f3⟩ := hf
    refine ⟨?_, ih _ i2 f3⟩
    intro j h1 h2
    -- the first drawn point is reported only when no cut is stored, the last only when no trim is: then `Flagged` says
    -- it is visible; the points between are interior
    by_cases hj0 : j = 0
    · subst hj0
      have hc : p.cut = 0 := by
        apply Decidable.byContradiction; intro hn; rw [if_pos hn] at h1; omega
      apply Decidable.byContradiction
      intro hn
      have := f1 (by omega) (by simpa using hn)
      omega
    · by_cases hl : j + 1 < p.usr
      · exact i1 (s + j) (by omega) (by omega)
      · have ht : p.trim = 0 := by
          apply Decidable.byContradiction; intro hn; rw [if_pos hn] at h2; omega
        apply Decidable.byContradiction
        intro hn
        have := f2 (by omega) (by rw [show s + p.usr - 1 = s + j by omega]; exact hn)
        omega

end Mpt.Linepart
