/-
  The byte machine `mach` (Lemmas/DecodeStep.lean) against the reference decoder: on a zero-free body
  followed by the delimiter it computes `decBody` (`mach_spec`); a result does not change when more input follows
  (`mach_append`); hence the result on an arrived part of a frame agrees with `dec` of the frame (`mach_dec`).
-/
import MptModel.Lemmas.DecodeStep
namespace Mpt.Codec
open Mpt.Cobs

theorem mach_data (v : Variant) (code : Nat) (d : List Byte) : ∀ (pos : Nat) (tl : List Byte),
    (∀ x ∈ d, x ≠ 0) → pos + d.length ≤ lenData v code →
    mach v code pos (d ++ tl) = (mach v code (pos + d.length) tl).pre d := by
  induction d with
  | nil => intro pos tl _ _; simp [MRes.pre_nil]
  | cons b d ih =>
    intro pos tl hnz hl
    have hb : b ≠ 0 := hnz b (by simp)
    simp only [List.cons_append, mach]
    rw [if_pos (by simp at hl; omega), if_neg hb]
    rw [ih (pos + 1) tl (fun x hx => hnz x (by simp [hx])) (by simp at hl ⊢; omega)]
    rw [MRes.pre_pre]
    simp only [List.length_cons, List.singleton_append]
    congr 2; omega

/-- the model's block arithmetic (`lenData`, `lenZero` on numbers, Impl/Decode.lean) is the specification's (`dataLen`,
    `zerosAfter` on bytes, Spec/Cobs.lean) -/
theorem lenData_eq (v : Variant) (c : Byte) : lenData v c.toNat = dataLen v c := by
  unfold lenData dataLen
  cases hz : v.isZpe
  · have := v.nozpe_maxlen hz
    have := UInt8.toNat_lt c
    simp only [Bool.false_eq_true, if_false]
    rw [if_pos (by omega)]
  · simp only [if_true]

theorem lenZero_eq (v : Variant) (c n : Byte) :
    List.replicate (lenZero v c.toNat n.toNat) (0 : Byte) = zerosAfter v c (decide (n ≠ 0)) := by
  have hn := toNat_ne_zero n
  have hc := UInt8.toNat_lt c
  have hA : (v.isZpe = true ∧ c.toNat ≥ 0xe0) ↔ v.maxlen < c.toNat := by
    cases hz : v.isZpe
    · have := v.nozpe_maxlen hz; simp; omega
    · have := v.zpe_maxlen hz; simp; omega
  unfold lenZero zerosAfter
  by_cases h0 : v.maxlen < c.toNat
  · rw [if_pos (hA.mpr h0), if_pos h0]; rfl
  · rw [if_neg (mt hA.mp h0), if_neg h0]
    by_cases hB : c.toNat < v.maxlen <;> by_cases h1 : n = 0
    · subst h1; simp
    · have : n.toNat ≠ 0 := hn.mpr h1
      simp [hB, h1, this]
    · subst h1; simp
    · simp [hB]

/-- what the machine result means in terms of the reference decoder -/
def MRes.agrees (v : Variant) (m : MRes) (spec : Option (List Byte)) : Prop :=
  match m with
  | .done out => spec = some out
  | .zeroIn out code _ => spec = if v.tail = true then some (out ++ [UInt8.ofNat code]) else none
  | .more => False

theorem MRes.agrees_pre (v : Variant) (m : MRes) (xs : List Byte) (spec : Option (List Byte))
    (h : m.agrees v spec) : (m.pre xs).agrees v (spec.map (xs ++ ·)) := by
  cases m with
  | done out => simp [MRes.agrees, MRes.pre] at *; simp [h]
  | zeroIn out c p =>
    simp only [MRes.agrees, MRes.pre] at *
    rw [h]; split <;> simp
  | more => simp [MRes.agrees] at h

/-- by induction along the fuel of `decBody`, one block per step: `mach_data` runs over the data bytes of the block, the
    next code byte decides its zeros (`lenZero_eq`) -/
theorem mach_spec (v : Variant) (fuel : Nat) : ∀ (c : Byte) (body junk : List Byte),
    (∀ x ∈ body, x ≠ 0) → body.length + 1 < fuel →
    (mach v c.toNat 0 (body ++ 0 :: junk)).agrees v (decBody v fuel (c :: body)) := by
  induction fuel with
  | zero => intro c body junk _ h; omega
  | succ f ih =>
    intro c body junk hnz hf
    have hld := lenData_eq v c
    by_cases hshort : body.length < dataLen v c
    · -- the block is cut short by the delimiter
      have := mach_data v c.toNat body 0 (0 :: junk) hnz (by omega)
      rw [this]
      simp only [Nat.zero_add, mach]
      rw [if_pos (by omega)]
      simp only [if_true, MRes.pre, List.append_nil, MRes.agrees, decBody]
      rw [if_pos hshort]
      simp
    · have hge : dataLen v c ≤ body.length := by omega
      have hsplit : body = body.take (dataLen v c) ++ body.drop (dataLen v c) := (List.take_append_drop _ _).symm
      have hd_nz : ∀ x ∈ body.take (dataLen v c), x ≠ 0 := fun x hx => hnz x (List.take_subset _ _ hx)
      have hdl : (body.take (dataLen v c)).length = dataLen v c := by simp; omega
      have hm : mach v c.toNat 0 (body ++ 0 :: junk) =
          (mach v c.toNat (dataLen v c) (body.drop (dataLen v c) ++ 0 :: junk)).pre (body.take (dataLen v c)) := by
        conv => lhs; rw [hsplit, List.append_assoc]
        rw [mach_data v c.toNat _ 0 _ hd_nz (by omega)]
        simp [hdl]
      rw [hm]
      have hspec : decBody v (f + 1) (c :: body) =
          (decBody v f (body.drop (dataLen v c))).map fun tl =>
            body.take (dataLen v c) ++ zerosAfter v c (!(body.drop (dataLen v c)).isEmpty) ++ tl := by
        simp only [decBody]; rw [if_neg hshort]
      rw [hspec]
      cases htl : body.drop (dataLen v c) with
      | nil =>
        obtain ⟨g, rfl⟩ : ∃ g, f = g + 1 := ⟨f - 1, by omega⟩
        simp only [List.nil_append, mach]
        rw [if_neg (by omega)]
        simp only [if_true, MRes.pre, MRes.agrees, decBody, Option.map_some, List.isEmpty_nil, Bool.not_true]
        have := lenZero_eq v c 0
        simp only [UInt8.toNat_zero, ne_eq, not_true_eq_false, decide_false] at this
        rw [hld, Nat.add_sub_cancel_left, this]
        simp
      | cons c' tl' =>
        have hc' : c' ≠ 0 := hnz c' (by rw [hsplit, htl]; simp)
        have htl_nz : ∀ x ∈ tl', x ≠ 0 := fun x hx => hnz x (by rw [hsplit, htl]; simp [hx])
        have hlen : tl'.length + 1 < f := by
          have : body.length = dataLen v c + (tl'.length + 1) := by
            conv => lhs; rw [hsplit]
            simp [htl]; omega
          omega
        simp only [List.cons_append, mach]
        rw [if_neg (by omega), if_neg hc']
        have := ih c' tl' junk htl_nz hlen
        have h2 := MRes.agrees_pre v _ (List.replicate (lenData v c.toNat + lenZero v c.toNat c'.toNat - dataLen v c) 0) _ this
        have h3 := MRes.agrees_pre v _ (body.take (dataLen v c)) _ h2
        rw [MRes.pre_pre] at h3 ⊢
        have hz := lenZero_eq v c c'
        simp only [ne_eq, hc', not_false_eq_true, decide_true] at hz
        rw [hld, Nat.add_sub_cancel_left, hz] at h3 ⊢
        simpa [Option.map_map, Function.comp_def, List.append_assoc] using h3

theorem dec_frame (v : Variant) (c : Byte) (body : List Byte) (hc : c ≠ 0) (hnz : ∀ x ∈ body, x ≠ 0) :
    dec v (c :: body ++ [0]) = decBody v (body.length + 2) (c :: body) := by
  unfold dec
  have h1 : (c :: body ++ [0]).dropLast = c :: body := by
    have : c :: body ++ [0] = (c :: body) ++ [0] := rfl
    rw [this, List.dropLast_concat]
  rw [if_pos]
  · rw [h1]; rfl
  · refine ⟨by rw [show c :: body ++ [0] = (c :: body) ++ [0] from rfl, List.getLast?_concat], by rw [h1]; simp, ?_⟩
    rw [h1]
    intro hm
    simp only [List.mem_cons] at hm
    rcases hm with hm | hm
    · exact hc hm.symm
    · exact hnz 0 hm rfl

theorem MRes.pre_eq_more {m : MRes} {xs : List Byte} : m.pre xs = .more ↔ m = .more := by
  cases m <;> simp [MRes.pre]

theorem mach_append (v : Variant) (xs ys : List Byte) : ∀ (c p : Nat),
    mach v c p xs ≠ .more → mach v c p (xs ++ ys) = mach v c p xs := by
  induction xs with
  | nil => intro c p h; exact absurd rfl h
  | cons x xs ih =>
    intro c p h
    simp only [List.cons_append, mach] at h ⊢
    by_cases hd : p < lenData v c <;> by_cases hx : x = 0 <;> simp only [hd, hx, if_true, if_false] at h ⊢
    · rw [ih c (p + 1) (fun hm => h (MRes.pre_eq_more.mpr hm))]
    · rw [ih x.toNat 0 (fun hm => h (MRes.pre_eq_more.mpr hm))]

theorem mach_dec (v : Variant) {c0 : Byte} {U rest body junk : List Byte} (hc0 : c0 ≠ 0) (hnz : ∀ x ∈ body, x ≠ 0)
    (hU : U ++ rest = body ++ 0 :: junk) (hm : mach v c0.toNat 0 U ≠ .more) :
    (mach v c0.toNat 0 U).agrees v (dec v (c0 :: body ++ [0])) := by
  have hms := mach_spec v (body.length + 2) c0 body junk hnz (by omega)
  rwa [← dec_frame v c0 body hc0 hnz, ← hU, mach_append v U rest _ _ hm] at hms

theorem mach_dec_zeroIn (v : Variant) {c0 : Byte} {U rest body junk out : List Byte} {code pos : Nat} (hc0 : c0 ≠ 0)
    (hnz : ∀ x ∈ body, x ≠ 0) (hU : U ++ rest = body ++ 0 :: junk) (hm : mach v c0.toNat 0 U = .zeroIn out code pos)
    (ht : v.tail = false) : dec v (c0 :: body ++ [0]) = none := by
  have hms := mach_dec v hc0 hnz hU (by rw [hm]; simp)
  rw [hm] at hms
  simpa [MRes.agrees, ht] using hms

end Mpt.Codec
