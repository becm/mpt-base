/-
  Lemmas for C16: the comparisons.  The comparison loop finds a difference where there is one (`firstDiffGo_spec`);
  `mpt_identifier_compare` against the first `n` bytes of a buffer (`compare_buf`) and, for an identifier that denotes a
  value, against every operand `(buffer, len)` (`compare_opLen`, `compare_denotes`); the name tests of mpt_node_locate /
  mpt_node_next answer value equality (`locateMatch_spec`, `nextMatch_text`), and the walk of the list search is the
  spec walk (`locateWalk_spec`).
-/
import MptModel.Lemmas.Ident
namespace Mpt.Ident

theorem firstDiffGo_spec (a b : List Byte) (i n : Nat) :
    match firstDiffGo a b i n with
    | none => ∀ j, j < n → a[j]? = b[j]?
    | some r => ∃ j, j < n ∧ r = i + j ∧ a[j]? ≠ b[j]? := by
  induction n generalizing a b i with
  | zero => exact fun j hj => absurd hj (Nat.not_lt_zero j)
  | succ m ih =>
    unfold firstDiffGo
    by_cases hh : a.head? = b.head?
    · rw [if_neg (by simpa using hh)]
      have := ih a.tail b.tail (i + 1)
      cases hr : firstDiffGo a.tail b.tail (i + 1) m with
      | none =>
        rw [hr] at this
        intro j hj
        cases j with
        | zero => simpa [List.head?_eq_getElem?] using hh
        | succ j' => simpa [List.getElem?_tail] using this j' (by omega)
      | some r =>
        rw [hr] at this
        obtain ⟨j, hj, hr', hne⟩ := this
        exact ⟨j + 1, by omega, by omega, by simpa [List.getElem?_tail] using hne⟩
    · rw [if_pos (by simpa using hh)]
      exact ⟨0, by omega, rfl, by simpa [List.head?_eq_getElem?] using hh⟩

theorem firstDiff_none {a b : List Byte} {n : Nat} : firstDiff a b n = none ↔ a.take n = b.take n := by
  have hs := firstDiffGo_spec a b 0 n
  unfold firstDiff
  constructor
  · intro h
    rw [h] at hs
    apply List.ext_getElem?
    intro j
    rw [List.getElem?_take, List.getElem?_take]
    by_cases hj : j < n
    · simp [hj, hs j hj]
    · simp [hj]
  · intro h
    cases hr : firstDiffGo a b 0 n with
    | none => rfl
    | some r =>
      rw [hr] at hs
      obtain ⟨j, hj, _, hne⟩ := hs
      exact absurd (by simpa [List.getElem?_take, hj] using congrArg (·[j]?) h) hne

theorem firstDiff_some {a b : List Byte} {n i : Nat} (h : firstDiff a b n = some i) : i < n ∧ a[i]? ≠ b[i]? := by
  have hs := firstDiffGo_spec a b 0 n
  rw [show firstDiffGo a b 0 n = some i from h] at hs
  obtain ⟨j, hj, rfl, hne⟩ := hs
  rw [Nat.zero_add]
  exact ⟨hj, hne⟩

/-- `buf` is the caller's buffer as the model gets it, terminator included, of which the first `n` bytes are compared
    (`compare_opLen`, `compare_denotes` below, like `set_opLen`, `set_stores`, take the buffer without its terminator and append
    `[0]` themselves) -/
theorem compare_buf {id : Ident} {h : Heap} {k : Nat} {c : List Byte} (hh : Holds id h k utf8 (c ++ [0])) (buf : List Byte)
    (n : Nat) (hn : n ≤ buf.length) :
    ∃ r, compare id h (some buf) n = .ok r ∧ (r = 0 ↔ buf.take n = c) := by
  have hlen : id.len = c.length + 1 := by rw [hh.len]; simp
  have htl : (buf.take n).length = n := by simp; omega
  unfold compare
  have h1 : ¬ ((some buf).isSome = true ∧ id.charset ≠ 1) := by simp [hh.cs, utf8]
  have h3 : ¬ ((n : Int) < 0) := by omega
  have h4 : ¬ (n = 0 ∧ id.len = 0) := by omega
  simp only [h1, if_false, h3, Int.toNat_natCast, h4]
  rw [if_neg (by simp)]
  by_cases hl : n + 1 ≠ id.len
  · rw [if_pos hl]
    exact ⟨_, rfl, iff_of_false (by simp [Err.code]) fun hc => hl (by rw [hlen, ← hc, htl])⟩
  · have htc : (c ++ [0]).take n = c := by rw [show n = c.length by omega, List.take_left' rfl]
    have key : firstDiff (c ++ [0]) buf n = none ↔ buf.take n = c := by rw [firstDiff_none, htc, eq_comm]
    rw [if_neg hl]
    simp only [bind, Except.bind, hh.read]
    rw [if_neg (by omega)]
    cases hfd : firstDiff (c ++ [0]) buf n with
    | some i => exact ⟨_, rfl, iff_of_false (by omega) fun hc => by rw [key.2 hc] at hfd; cases hfd⟩
    | none =>
      have hterm : (c ++ [0])[n]? = some 0 := by rw [show n = c.length by omega]; simp
      simp only [hterm, bne_self_eq_false, Bool.false_eq_true, if_false]
      exact ⟨_, rfl, iff_of_true rfl (key.1 hfd)⟩

theorem compare_nontext {id : Ident} {h : Heap} (hc : id.charset ≠ utf8) (b : List Byte) (n : Int) :
    compare id h (some b) n = .ok Err.BadType.code := by
  -- the model tests the charset against the literal 1, which is what `utf8` unfolds to
  have hc : id.charset ≠ 1 := hc
  unfold compare
  simp [hc, pure, Except.pure]

theorem compare_cstr (id : Ident) (h : Heap) (buf : List Byte) (n : Int) (hn : n < 0) :
    compare id h (some buf) n = compare id h (some buf) (strlen buf) := by
  unfold compare
  have h3 : ¬ ((strlen buf : Int) < 0) := by omega
  simp [hn, h3]

theorem compare_opLen (id : Ident) (h : Heap) (b : List Byte) (len : Int) :
    compare id h (some (b ++ [0])) len = compare id h (some (b ++ [0])) (opLen b len) := by
  unfold opLen
  split
  · rename_i hn
    rw [compare_cstr _ _ _ _ hn, strlen_terminated]
  · rw [Int.toNat_of_nonneg (by omega)]

theorem cmpEq_text {v : Val} (hc : v.charset = utf8) (t : List Byte) : cmpEq v t = decide (t = v.bytes) := by
  simp only [cmpEq, hc, beq_self_eq_true, Bool.true_and]
  rw [Bool.eq_iff_iff, beq_iff_eq, decide_eq_true_eq]
  exact eq_comm

theorem cmpEq_nontext {v : Val} (hc : v.charset ≠ utf8) (t : List Byte) : cmpEq v t = false := by
  simp [cmpEq, hc]

theorem compare_denotes {id : Ident} {h : Heap} {k : Nat} {v : Val} (hd : Denotes id h k v) (b : List Byte) (len : Int)
    (hl : len ≤ b.length) :
    ∃ r, compare id h (some (b ++ [0])) len = .ok r ∧
      (r = 0 ↔ cmpEq v (if len < 0 then cstr b else b.take len.toNat) = true) := by
  rw [compare_opLen, opLen_take]
  have hn := opLen_le hl
  by_cases hc : v.charset = utf8
  · obtain ⟨r, hr, hiff⟩ := compare_buf (hd.text hc) (b ++ [0]) (opLen b len) (by simp; omega)
    refine ⟨r, hr, ?_⟩
    rw [hiff, cmpEq_text hc, decide_eq_true_eq, List.take_append_of_le_length hn]
  · refine ⟨Err.BadType.code, compare_nontext (hd.cs ▸ hc) _ _, ?_⟩
    rw [cmpEq_nontext hc]
    exact ⟨fun h0 => by simp [Err.code] at h0, nofun⟩

theorem locateMatch_spec {id : Ident} {h : Heap} {k : Nat} {v : Val} (hd : Denotes id h k v) (t : List Byte) :
    locateMatch id h t = .ok (cmpEq v t) := by
  unfold locateMatch
  by_cases hc : v.charset = utf8
  · have hh := hd.text hc
    have hlen : id.len = v.bytes.length + 1 := by rw [hh.len]; simp
    rw [cmpEq_text hc, if_neg (by rw [hh.cs]; simp [utf8])]
    by_cases hl : t.length + 1 ≠ id.len
    · rw [if_pos hl, decide_eq_false fun he => hl (by rw [hlen, he])]
      rfl
    · have hbl : t.length = v.bytes.length := by omega
      rw [if_neg hl]
      simp only [bind, Except.bind, hh.read, pure, Except.pure]
      rw [hbl, List.getElem?_concat_length, List.take_left' rfl]
      congr 1
      -- the `!len ||` short-cut of the C test matters for the empty name only, and that has no unequal list of its length
      by_cases he : t = v.bytes
      · simp [he]
      · have h0 : v.bytes.length ≠ 0 := fun h0 =>
          he ((List.eq_nil_of_length_eq_zero (hbl.trans h0)).trans (List.eq_nil_of_length_eq_zero h0).symm)
        simp [he, h0, Ne.symm he]
  · rw [if_pos (by rw [hd.cs]; exact hc), cmpEq_nontext hc]
    rfl

theorem locateWalk_spec {nodes : List (Ident × Nat × Val)} {h : Heap}
    (hd : ∀ n, n ∈ nodes → Denotes n.1 h n.2.1 n.2.2) (t : List Byte) (step : Int) (pos : Nat) (i : Int) :
    locateWalk h t step (nodes.map (·.1)) pos i = .ok (walkS t step (nodes.map (·.2.2)) pos i) := by
  induction nodes generalizing pos i with
  | nil => rfl
  | cons n rest ih =>
    have hhead := hd n (by simp)
    have htail : ∀ m, m ∈ rest → Denotes m.1 h m.2.1 m.2.2 := fun m hm => hd m (by simp [hm])
    simp only [List.map_cons, locateWalk, walkS, bind, Except.bind, locateMatch_spec hhead t]
    cases cmpEq n.2.2 t
    · simp only [Bool.false_eq_true, if_false]
      exact ih htail pos _
    · simp only [if_true]
      split
      · rfl
      · exact ih htail _ _

theorem nextMatch_text {id : Ident} {h : Heap} {k : Nat} {c : List Byte} (hh : Holds id h k utf8 (c ++ [0])) (b : List Byte)
    (hb : ∀ x, x ∈ b → x ≠ 0) :
    nextMatch id h (some (b ++ [0])) = .ok (decide (b = c)) := by
  have hlen : id.len = c.length + 1 := by rw [hh.len]; simp
  have hsl : strlen (b ++ [0]) = b.length := by
    rw [strlen_terminated, cstr, takeWhile_of_all fun x hx => by simpa using hb x hx]
  unfold nextMatch
  simp only [hsl, hh.cs, utf8]
  by_cases hl : b.length + 1 ≠ id.len
  · have : b ≠ c := by intro he; apply hl; rw [hlen, he]
    simp [hl, this, pure, Except.pure]
  · have hbl : b.length = c.length := by omega
    have hl' : b.length + 1 = id.len := by omega
    simp only [hl', ne_eq, not_true_eq_false, false_or, if_false]
    have : ¬ id.len = 0 := by omega
    simp only [this, if_false, bind, Except.bind, hh.read, pure, Except.pure, Option.getD_some]
    rw [← hl']
    simp only [Nat.add_sub_cancel]
    rw [List.take_left' rfl, hbl, List.take_left' rfl]
    congr 1
    by_cases he : b = c
    · subst he; simp
    · have : ¬ c = b := fun hc => he hc.symm
      simp [he, this]

theorem nextMatch_cstr (id : Ident) (h : Heap) (b : List Byte) :
    nextMatch id h (some (b ++ [0])) = nextMatch id h (some (cstr b ++ [0])) := by
  unfold nextMatch
  simp only [strlen_terminated, cstr_idem, Option.getD_some, Nat.add_sub_cancel]
  rw [List.take_append_of_le_length (cstr_le b), take_cstr, List.take_left' rfl]

end Mpt.Ident
