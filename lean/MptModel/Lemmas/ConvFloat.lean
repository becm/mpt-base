/-
  C07 over the generated converter tables, floating targets: they receive the correctly rounded source value, never an
  infinity for a finite one (`checkCaseF`, `checkCaseF_sound`); `mpt_fpoint_set` stores what the 'f' conversion delivers.
-/
import MptModel.Lemmas.Convert
import MptModel.Lemmas.Float
namespace Mpt.Conv
open Mpt.Scalar Mpt.Flt

def Ty.floats : List Ty := [.f, .d, .e]

def precision (tgt : Ty) : Nat := (tgtCTy tgt).fmt.p

/-- the number a source value stands for (`C07.srcVal`) -/
def Src.val : Src → FVal
  | .int v => ofInt v
  | .flt x => x

theorem fmt_sane (t : CTy) : t.fmt.Sane := by
  cases t <;> first | exact sane32 | exact sane64 | exact sane80

theorem int_fits (ct : CTy) (tgt : Ty) (v : Int) (hv : (srcIv ct).mem v) (htf : tgt.isFloat = true) :
    (ofInt v).absLe (tgtCTy tgt).fmt.maxInt := by
  have hct : -2 ^ 64 ≤ ct.lo ∧ ct.hi ≤ 2 ^ 64 := by cases ct <;> decide
  have h64 : v.natAbs ≤ 2 ^ 64 := by simp only [Iv.mem, srcIv] at hv; omega
  have : 2 ^ 64 ≤ (tgtCTy tgt).fmt.maxInt := by cases tgt <;> cases htf <;> decide +kernel
  simpa [ofInt, FVal.absLe, pow2] using Nat.le_trans h64 this

theorem ints_isFloat : ∀ ty ∈ Ty.ints, ty.isFloat = false := by decide
theorem floats_isFloat : ∀ ty ∈ Ty.floats, ty.isFloat = true := by decide

theorem round_ofInt_small (tgt : Ty) (htf : tgt.isFloat = true) (v : Int) (hsmall : v.natAbs < 2 ^ precision tgt) :
    round (tgtCTy tgt).fmt (ofInt v) = ofInt v := by
  refine roundFin_small _ (fmt_sane _) _ _ ?_ hsmall
  cases tgt <;> cases htf <;> decide

def isFloatCmp (src : CTy) : Atom → Bool
  | .cmp _ cty _ => cty.isFloat && decide (src.size ≤ cty.size)
  | .notIsgraph _ => false

theorem floatCmp_eval (src : CTy) (x : FVal) (op : Cmp) (cty : CTy) (k : Int) (h : isFloatCmp src (.cmp op cty k) = true) :
    (Atom.cmp op cty k).eval src (.flt x) = .ok (cmpF op x k) := by
  simp only [isFloatCmp, Bool.and_eq_true, decide_eq_true_eq] at h
  simp [Atom.eval, Atom.evalF, h.1, h.2]

def noFaultF (src : CTy) (gs : List Guard) : Bool := gs.all fun g => g.conds.all fun c => c.all (isFloatCmp src)

theorem noFault_guards (src : CTy) (x : FVal) (gs : List Guard) (h : noFaultF src gs = true) :
    evalGuards src (.flt x) gs = .ok () ∨ ∃ e, evalGuards src (.flt x) gs = .err e := by
  simp only [noFaultF, List.all_eq_true] at h
  rw [evalGuards_eq]
  refine firstErr_defined fun g hg => ?_
  rw [evalDisj_eq]
  refine anyOk_defined fun c hc => ?_
  rw [evalConj_eq]
  refine allOk_defined fun a ha => ?_
  have := h g hg c hc a ha
  cases a with
  | cmp op cty k => exact ⟨_, floatCmp_eval src x op cty k this⟩
  | notIsgraph i => cases this

/-- `[val > F, val <= K]` with `F ≤ B` and `srcMax ≤ K`: refuses every finite value in `(B, srcMax]` -/
def upperTest (src : CTy) (B srcMax : Nat) (c : List Atom) : Bool :=
  match c with
  | [.cmp .gt c1 F, .cmp .le c2 K] =>
    isFloatCmp src (.cmp .gt c1 F) && isFloatCmp src (.cmp .le c2 K) && decide (F ≤ (B : Int)) && decide ((srcMax : Int) ≤ K)
  | _ => false

/-- `[val < F, val >= K]` with `-B ≤ F` and `K ≤ -srcMax`: refuses every finite value in `[-srcMax, -B)` -/
def lowerTest (src : CTy) (B srcMax : Nat) (c : List Atom) : Bool :=
  match c with
  | [.cmp .lt c1 F, .cmp .ge c2 K] =>
    isFloatCmp src (.cmp .lt c1 F) && isFloatCmp src (.cmp .ge c2 K) && decide (-(B : Int) ≤ F) && decide (K ≤ -(srcMax : Int))
  | _ => false

def guardBounds (src : CTy) (B srcMax : Nat) (g : Guard) : Bool :=
  g.conds.any (upperTest src B srcMax) && g.conds.any (lowerTest src B srcMax)

/-- the arithmetic of a range guard `x > F && x <= K`, everything scaled by the denominator `d`: a value `n ≤ S·d`
    that the guard lets through is at most `B·d` -/
theorem le_of_guard_false {n d B S F K : Int} (hd : 0 < d) (hS : n ≤ S * d) (hF : F ≤ B) (hK : S ≤ K)
    (h : ¬ (n > F * d ∧ n ≤ K * d)) : n ≤ B * d := by
  have := Int.mul_le_mul_of_nonneg_right hK (Int.le_of_lt hd)
  have := Int.mul_le_mul_of_nonneg_right hF (Int.le_of_lt hd)
  omega

theorem guardBounds_sound (src : CTy) (B srcMax : Nat) (g : Guard) (sg : Bool) (m : Nat) (e : Int)
    (hgb : guardBounds src B srcMax g = true)
    (hpass : evalDisj src (.flt (.fin sg m e)) g.conds = .ok false)
    (hsrc : (FVal.fin sg m e).absLe srcMax) : (FVal.fin sg m e).absLe B := by
  simp only [guardBounds, Bool.and_eq_true, List.any_eq_true] at hgb
  obtain ⟨⟨cu, hcu, htu⟩, ⟨cl, hcl, htl⟩⟩ := hgb
  rw [evalDisj_eq] at hpass
  have hfu := anyOk_false hpass cu hcu
  have hfl := anyOk_false hpass cl hcl
  rw [evalConj_eq] at hfu hfl
  -- the bounds as integer inequalities scaled by the denominator
  have hden := den_pos e
  have scaled : ∀ A : Nat, (FVal.fin sg m e).absLe A ↔ ((m * pow2 e.toNat : Nat) : Int) ≤ (A : Int) * (FVal.den e : Int) := by
    intro A; simp only [FVal.absLe, FVal.den, ← Int.natCast_mul, Int.ofNat_le]
  rw [scaled] at hsrc ⊢
  cases sg with
  | false =>
    -- positive: the upper test
    unfold upperTest at htu
    split at htu
    · rename_i c1 F c2 K
      simp only [Bool.and_eq_true, decide_eq_true_eq] at htu
      obtain ⟨⟨⟨h1, h2⟩, hF⟩, hK⟩ := htu
      rw [allOk_pair (ev := fun a : Atom => a.eval src _) (floatCmp_eval src _ _ _ _ h1) (floatCmp_eval src _ _ _ _ h2)] at hfu
      have hnum : FVal.num false m e = ((m * pow2 e.toNat : Nat) : Int) := by simp [FVal.num]
      simp only [cmpF, FVal.gtInt, hnum] at hfu
      generalize ((m * pow2 e.toNat : Nat) : Int) = n at hsrc hfu ⊢
      refine le_of_guard_false hden hsrc hF hK fun hn => ?_
      simp [hn.1, Int.not_lt.mpr hn.2] at hfu
    · cases htu
  | true =>
    -- negative: the lower test is the upper test of the negated bounds
    unfold lowerTest at htl
    split at htl
    · rename_i c1 F c2 K
      simp only [Bool.and_eq_true, decide_eq_true_eq] at htl
      obtain ⟨⟨⟨h1, h2⟩, hF⟩, hK⟩ := htl
      rw [allOk_pair (ev := fun a : Atom => a.eval src _) (floatCmp_eval src _ _ _ _ h1) (floatCmp_eval src _ _ _ _ h2)] at hfl
      have hnum : FVal.num true m e = -((m * pow2 e.toNat : Nat) : Int) := by simp [FVal.num]
      simp only [cmpF, FVal.ltInt, hnum] at hfl
      generalize ((m * pow2 e.toNat : Nat) : Int) = n at hsrc hfl ⊢
      refine le_of_guard_false (F := -F) (K := -K) hden hsrc (by omega) (by omega) fun hn => ?_
      rw [Int.neg_mul, Int.neg_mul] at hn
      simp [show -n < F * (FVal.den e : Int) by omega, show ¬ -n < K * (FVal.den e : Int) by omega] at hfl
    · cases htl

/-- the source values a converter for C type `ct` is given: the integers of the type, or the floating data up to its
    largest finite value (and the infinities and NaN); `C07.srcOK src s` gives `s.fits (tgtCTy src)` (`srcIv_mem` for the
    integers) -/
def Src.fits (ct : CTy) : Src → Prop
  | .int v => ct.isFloat = false ∧ (srcIv ct).mem v
  | .flt x => ct.isFloat = true ∧ x.absLe ct.fmt.maxInt

/-- a floating target: the store is under `if (dest)`, of the target's type, the target's size is returned; the guards
    have no undefined behaviour for any source value; and a floating source wider than the target has a guard that
    refuses the finite values beyond the target's range -/
def checkCaseF (src : CTy) (c : Case) (tgt : Ty) : Bool :=
  tgt.isFloat && shapeOK c tgt && c.ret == tgt.size && c.store == tgtCTy tgt &&
  if src.isFloat then
    noFaultF src c.guards &&
    (decide (src.fmt.maxInt ≤ c.store.fmt.maxInt) || c.guards.any (guardBounds src c.store.fmt.maxInt src.fmt.maxInt))
  else (stepGuards (srcIv src) c.guards).isSome

theorem checkCaseF_sound {src : CTy} {c : Case} {tgt : Ty} (hc : checkCaseF src c tgt = true) {s : Src}
    (hs : s.fits src) :
    (∃ e, readOut tgt (runCase src c s true) = .err e) ∨
    ∃ o n, readOut tgt (runCase src c s true) = .ok (o, n) ∧ n = tgt.size ∧
      ∃ y, o = some (.flt y) ∧ y = round (tgtCTy tgt).fmt s.val ∧ (s.val.isFinite = true → y.isFinite = true) := by
  simp only [checkCaseF, Bool.and_eq_true, beq_iff_eq] at hc
  obtain ⟨⟨⟨⟨htf, hsh⟩, hret⟩, hst⟩, hg⟩ := hc
  have hstf : c.store.isFloat = true := by rw [hst, tgtCTy_isFloat, htf]
  obtain ⟨o, ho, hrun⟩ := readOut_runCase (src := src) hsh s
  simp only [hrun, Case.supported, hstf, Bool.not_true, Bool.and_false, Bool.not_false, if_true]
  -- the stored object is the rounded value
  have hval : doStore c.store s = .flt c.store (round c.store.fmt s.val) := by cases s <;> simp [doStore, hstf, Src.val]
  simp only [shapeOK, Bool.and_eq_true, beq_iff_eq] at hsh
  rw [hval, readBack, if_neg (by omega), if_neg (by omega), if_pos (by rw [tgtCTy_isFloat, htf]), hst] at ho
  cases ho
  -- no undefined behaviour in the guards, and what passes them lies within the target's finite range
  have hguards : (∃ e, evalGuards src s c.guards = .err e) ∨
      evalGuards src s c.guards = .ok () ∧ s.val.absLe (tgtCTy tgt).fmt.maxInt := by
    cases s with
    | int v =>
      rw [if_neg (by simp [hs.1])] at hg
      obtain ⟨iv, hiv⟩ := Option.isSome_iff_exists.mp hg
      rcases stepGuards_sound src c.guards _ iv v hiv hs.2 with ⟨hok, _⟩ | he
      · exact .inr ⟨hok, int_fits src tgt v hs.2 htf⟩
      · exact .inl he
    | flt x =>
      simp only [hs.1, if_true, Bool.and_eq_true, Bool.or_eq_true, decide_eq_true_eq, List.any_eq_true, hst] at hg
      rcases noFault_guards src x c.guards hg.1 with hok | he
      · refine .inr ⟨hok, ?_⟩
        cases x with
        | fin sg m e =>
          rcases hg.2 with hwide | ⟨g, hgm, hgb⟩
          · exact Nat.le_trans hs.2 (Nat.mul_le_mul_right _ hwide)
          · rw [evalGuards_eq] at hok
            exact guardBounds_sound src _ _ g sg m e hgb (firstErr_ok hok g hgm) hs.2
        | _ => trivial
      · exact .inl he
  rcases hguards with ⟨e, he⟩ | ⟨hok, hB⟩
  · exact .inl ⟨e, by rw [he]; rfl⟩
  · exact .inr ⟨_, _, by rw [hok]; rfl, hret, _, rfl, rfl, round_finite _ (fmt_sane _) _ hB⟩

/-- A coordinate consumed as 'f' straight into the float member is what the 'f' conversion delivers: the raw copy of
    `mpt_value_convert` is not reached, because the float converter accepts every float for the target 'f' (`hff`, a fact
    of the generated table like `hcode`). -/
theorem fpointCoord_of_conv {k : Nat} {src : Ty} {s : Src} {P : FVal → Prop}
    (hcode : Generated.fpointConsume[k]? = some (Ty.code .f, true)) (hs : ∀ v, s = .int v → src.isFloat = false)
    (hff : ∀ z e, conv .f .f (.flt z) true ≠ .err e)
    (hc : verdict (conv src .f s true) ≠ .broken ∧
      ∀ o n, conv src .f s true = .ok (o, n) → ∃ y, o = some (.flt y) ∧ P y) :
    (∃ e, fpointCoord k src s = .err e) ∨ ∃ y, fpointCoord k src s = .ok y ∧ P y := by
  have hof : Ty.ofCode (Ty.code .f) = some .f := by decide
  simp only [fpointCoord, hcode, hof, consume, valueConvert]
  rcases cases_of_notBroken hc with ⟨e, he⟩ | ⟨o, n, ho, y, rfl, hy⟩
  · rw [he]
    by_cases hsf : src = .f
    · subst hsf
      cases s with
      | int v => cases hs v rfl
      | flt z => exact absurd he (hff z e)
    · exact .inl ⟨.BadType, by simp [hsf]⟩
  · rw [ho]
    exact .inr ⟨y, by simp, hy⟩

end Mpt.Conv
