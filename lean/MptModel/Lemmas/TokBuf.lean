/-
  The buffer-level functions on a buffer of managed elements (constructor + destructor), in terms of slots, events and
  the token counter: `bufferInsert_managed` (a call that went through: `Inserted`) and `bufferSet_managed` (`SetDone`).
-/
import MptModel.Lemmas.TokState
import MptModel.Lemmas.TokLoops
namespace Mpt.Heap

theorem toks_of_used {x : Buf} {t : Traits} (xt : x.traits = some t) (mt : Managed t) {n : Nat} (hu : x.used = n * t.size) :
    x.toks = slotsFrom x.data t.size 0 n := by
  rw [Buf.toks_managed xt mt.2.1 (by have := mt.2.2; omega), hu, Nat.mul_div_cancel n (by have := mt.2.2; omega)]

/-- result of `mpt_buffer_insert(buf, p*sz, l*sz)` on a buffer of `n` managed elements that went through:
    the tail moved up by `l` elements, the gap `n .. p-1` (if any) default-constructed with fresh tokens, the
    inserted elements `p .. p+l-1` left for the caller to construct -/
structure Inserted (s s' : State) (b : Nat) (x x' : Buf) (sz n p l : Nat) : Prop where
  frame : Frame s s' b
  buf : s'.buf? b = some x'
  ref : x'.ref = x.ref
  flags : x'.flags = x.flags
  traits : x'.traits = x.traits
  len : x'.data.length = x.data.length
  used : x'.used = (max n p + l) * sz
  next : s'.next = s.next + (p - n)
  log : ∃ evs, s'.log = s.log ++ evs ∧ Creates [] s.next evs (p - n)
  low : ∀ j, j < min n p → slot x'.data sz j = slot x.data sz j
  gap : s'.next ≤ tokLimit → ∀ j, n ≤ j → j < p → slot x'.data sz j = s.next + (j - n)
  high : ∀ j, p + l ≤ j → j < max n p + l → slot x'.data sz j = slot x.data sz (j - l)

/-- `mpt_buffer_insert` on a buffer of `n` managed elements: refused without a change; nothing to do; gone through
    (`Inserted`); or a constructor of the gap `n .. p-1` was refused, then the buffer ends behind the `m` gap elements
    that were built and the call fails -/
theorem bufferInsert_managed {s : State} {b : Nat} {x : Buf} {t : Traits} (hb : s.buf? b = some x) (xt : x.traits = some t)
    (mt : Managed t) {n : Nat} (hu : x.used = n * t.size) (pos len : Nat) :
    (∃ e, bufferInsert s b pos len = .fail s e) ∨
    (pos = 0 ∧ len = 0 ∧ n = 0 ∧ bufferInsert s b pos len = .ok s 0) ∨
    (∃ p l s' x', pos = p * t.size ∧ len = l * t.size ∧ (max n p + l) * t.size ≤ x.size ∧
      bufferInsert s b pos len = .ok s' pos ∧ Inserted s s' b x x' t.size n p l) ∨
    (∃ p m s' d', pos = p * t.size ∧ n + m < p ∧ bufferInsert s b pos len = .fail s' .null ∧
      (n + m) * t.size ≤ x.size ∧ Built s s' b x t.size n m [] d' ((n + m) * t.size)) := by
  have h4 := mt.2.2
  have szp : 0 < t.size := by omega
  have blt := State.buf?_lt hb
  -- the guards are followed on one copy of the function body (`hr`): unfolded in the goal it would stand once in every
  -- disjunct and be carried through every rewrite (`bufferSet_managed` does the same)
  generalize hr : bufferInsert s b pos len = r
  unfold bufferInsert at hr
  rw [hb] at hr
  simp only at hr
  by_cases t0 : max x.used pos + len = 0
  · rw [if_pos t0] at hr
    refine Or.inr (Or.inl ⟨by omega, by omega, ?_, hr.symm⟩)
    have : n * t.size = 0 := by omega
    rcases Nat.mul_eq_zero.mp this with h | h <;> omega
  rw [if_neg t0] at hr
  by_cases big : max x.used pos + len > x.size
  · rw [if_pos big] at hr; exact Or.inl ⟨_, hr.symm⟩
  rw [if_neg big] at hr
  by_cases imm : x.immutable = true
  · rw [if_pos imm] at hr; exact Or.inl ⟨_, hr.symm⟩
  rw [if_neg imm, xt] at hr
  simp only at hr
  by_cases c4 : t.size = 0 ∨ x.used % t.size ≠ 0 ∨ pos % t.size ≠ 0 ∨ len % t.size ≠ 0
  · rw [if_pos c4] at hr; exact Or.inl ⟨_, hr.symm⟩
  rw [if_neg c4, mt.1, if_pos rfl] at hr
  simp only [not_or, Decidable.not_not] at c4
  -- from here on in element counts: `pos = p` elements, `len = l` elements
  obtain ⟨p, rfl⟩ := eq_mul_of_mod c4.2.2.1
  obtain ⟨l, rfl⟩ := eq_mul_of_mod c4.2.2.2
  have tot : max x.used (p * t.size) + l * t.size = (max n p + l) * t.size := by
    rw [hu, Nat.mul_max_mul_right, Nat.add_mul]
  have totfit : (max n p + l) * t.size ≤ x.data.length := by rw [← tot]; exact Nat.le_of_not_gt big
  clear c4 t0 big imm
  rw [tot, hu, ← Nat.sub_mul, ← Nat.add_mul, iters_aligned n p t.size (by omega), initLoopBreak_eq, move_if] at hr
  have hsrc : (p + (n - p)) * t.size ≤ x.data.length :=
    Nat.le_trans (Nat.mul_le_mul_right _ (by omega)) totfit
  have hdst : (p + l + (n - p)) * t.size ≤ x.data.length :=
    Nat.le_trans (Nat.mul_le_mul_right _ (by omega)) totfit
  generalize hd1 : Mem.move x.data ((p + l) * t.size) (p * t.size) ((n - p) * t.size) = d1 at hr
  have d1l : d1.length = x.data.length := by rw [← hd1]; exact move_slots_length x.data t.size (p + l) p (n - p) hsrc hdst
  have slot1 : ∀ j, slot d1 t.size j = if p + l ≤ j ∧ j < p + l + (n - p) then slot x.data t.size (j - l) else slot x.data t.size j := by
    intro j
    rw [← hd1, slot_move x.data t.size (p + l) p (n - p) h4 hsrc hdst j]
    by_cases c : p + l ≤ j ∧ j < p + l + (n - p)
    · rw [if_pos c, if_pos c, show p + (j - (p + l)) = j - l by omega]
    · rw [if_neg c, if_neg c]
  have frU : Frame s (setUsed s b x d1 ((max n p + l) * t.size)) b := (Frame.refl s b).setBuf _ blt
  have hbU : (setUsed s b x d1 ((max n p + l) * t.size)).buf? b = some { x with data := d1, used := (max n p + l) * t.size } :=
    State.buf?_setBuf_self s b _ blt
  have gfit : (n + (p - n)) * t.size ≤ ({ x with data := d1, used := (max n p + l) * t.size } : Buf).size :=
    Nat.le_trans (Nat.mul_le_mul_right _ (by omega)) (d1l ▸ totfit)
  obtain ⟨s1, d', m, mle, bt, alt⟩ := genInit_spec (fun s1 p => Out.ok s1 p) (fun s p => Out.ok s p) (p - n) _ b n t.size _ hbU h4 gfit
  have blt1 : b < s1.bufs.length := State.buf?_lt bt.buf
  have low : ∀ j, j < n → j < p ∨ n ≤ p → slot d' t.size j = slot x.data t.size j := by
    intro j hj hp
    rw [bt.out j (Or.inl hj), slot1 j, if_neg (by omega)]
  rcases alt with ⟨me, hg⟩ | ⟨ml, hg⟩
  · -- all gap elements constructed
    rw [hg] at hr
    simp only [bt.buf] at hr
    rw [if_neg (Nat.not_lt.mpr (Nat.mul_le_mul_right _ (by omega)))] at hr
    subst hr
    refine Or.inr (Or.inr (Or.inl ⟨p, l, s1, _, rfl, rfl, totfit, rfl, ⟨frU.trans bt.frame, bt.buf, rfl, rfl, rfl, bt.len.trans d1l,
      rfl, by rw [bt.next, me]; rfl, ?_, fun j hj => low j (by omega) (by omega), ?_, ?_⟩⟩))
    · obtain ⟨evs, le, cr⟩ := bt.log
      exact ⟨evs, le, me ▸ cr⟩
    · intro small j h1 h2
      exact bt.inn small j h1 (by omega)
    · intro j h1 h2
      show slot d' t.size j = _
      rw [bt.out j (by omega), slot1 j, if_pos (by omega)]
  · -- a gap constructor was refused
    rw [hg] at hr
    simp only [bt.buf] at hr
    rw [if_pos (Nat.mul_lt_mul_of_pos_right (by omega) szp)] at hr
    subst hr
    refine Or.inr (Or.inr (Or.inr ⟨p, m, _, d', rfl, by omega, rfl, Nat.le_trans (Nat.mul_le_mul_right _ (by omega)) totfit,
      (frU.trans bt.frame).setBuf _ blt1, State.buf?_setBuf_self _ _ _ blt1, bt.len.trans d1l, bt.next, bt.log, fun j hj => ?_, bt.inn⟩))
    rw [bt.out j hj, slot1 j, if_neg (by omega)]

/-- result of `mpt_buffer_set(buf, traits, p*sz, data, k*sz)` on a buffer of `n` managed elements: the
    overwritten elements are destroyed, the gap `n .. p-1` is default-constructed, `m ≤ k` elements are
    constructed at `p ..`; `fatal` = a constructor and its fallback were refused (then the buffer ends behind the
    last constructed element and the old tail behind the range is destroyed).  Order of the log: the constructions,
    then (fatal end) the old tail, last the replaced elements — `mpt_buffer_set` keeps them aside until their
    replacements exist -/
structure SetDone (s s' : State) (b : Nat) (x x' : Buf) (sz n p k m : Nat) (S : List Nat) (fatal : Bool) : Prop where
  frame : Frame s s' b
  buf : s'.buf? b = some x'
  ref : x'.ref = x.ref
  flags : x'.flags = x.flags
  traits : x'.traits = x.traits
  len : x'.data.length = x.data.length
  mle : m ≤ k
  fat : fatal = true → m < k
  nfat : fatal = false → m = k
  used : x'.used = if fatal then (p + m) * sz else (max n (p + k)) * sz
  next : s'.next = s.next + ((p - n) + m)
  log : ∃ cre, Creates S s.next cre ((p - n) + m) ∧
    s'.log = s.log ++ cre ++ (if fatal then (slotsFrom x.data sz (p + k) (n - (p + k))).map Ev.fini else []) ++
      (slotsFrom x.data sz p (min n (p + k) - p)).map Ev.fini
  low : ∀ j, j < min n p → slot x'.data sz j = slot x.data sz j
  gap : s'.next ≤ tokLimit → ∀ j, n ≤ j → j < p → slot x'.data sz j = s.next + (j - n)
  new : s'.next ≤ tokLimit → ∀ j, p ≤ j → j < p + m → slot x'.data sz j = s.next + (p - n) + (j - p)
  high : fatal = false → ∀ j, p + k ≤ j → slot x'.data sz j = slot x.data sz j

/-- `mpt_buffer_set` on a buffer of `n` managed elements: refused without a change; gone through, possibly cut short by a
    fatal constructor failure (`SetDone`); or a constructor of the gap `n .. p-1` was refused, then the buffer ends behind the
    `m` gap elements that were built and the call fails -/
theorem bufferSet_managed {s : State} {b : Nat} {x : Buf} {t : Traits} (hb : s.buf? b = some x) (xt : x.traits = some t)
    (mt : Managed t) {n : Nat} (hu : x.used = n * t.size) (hsz : x.used ≤ x.size) (pos : Nat) (bytes : List Byte)
    (hasSrc : Bool) (S : List Nat)
    (hS : hasSrc = true → ∀ j, j < bytes.length / t.size → slot bytes t.size j ∈ S) :
    (∃ e, bufferSet s b (some t) pos bytes hasSrc = .fail s e) ∨
    (∃ p k m fatal s' x' v, pos = p * t.size ∧ bytes.length = k * t.size ∧ (p + k) * t.size ≤ x.size ∧
      bufferSet s b (some t) pos bytes hasSrc = .ok s' v ∧ SetDone s s' b x x' t.size n p k m S fatal) ∨
    (∃ p m s' d', pos = p * t.size ∧ n + m < p ∧ bufferSet s b (some t) pos bytes hasSrc = .fail s' (.err .BadOperation) ∧
      (n + m) * t.size ≤ x.size ∧ Built s s' b x t.size n m S d' ((n + m) * t.size)) := by
  have h4 := mt.2.2
  generalize hr : bufferSet s b (some t) pos bytes hasSrc = r
  unfold bufferSet at hr
  rw [hb] at hr
  simp only at hr
  by_cases big : pos + bytes.length > x.size
  · rw [if_pos big] at hr; exact Or.inl ⟨_, hr.symm⟩
  rw [if_neg big, xt] at hr
  simp only [bufferSetTyped] at hr
  by_cases c4 : t.size = 0 ∨ pos % t.size ≠ 0 ∨ bytes.length % t.size ≠ 0
  · rw [if_pos c4] at hr; exact Or.inl ⟨_, hr.symm⟩
  rw [if_neg c4, if_neg (fun h => h.1 rfl), if_neg (fun h => by rw [mt.1] at h; cases h.2)] at hr
  simp only [mt.2.1, mt.1, if_true] at hr
  simp only [not_or, Decidable.not_not] at c4
  obtain ⟨p, rfl⟩ := eq_mul_of_mod c4.2.1
  obtain ⟨k, ek⟩ := eq_mul_of_mod c4.2.2
  -- from here on in element counts: `pos = p` elements, `bytes` = `k` elements
  have ual : x.used - x.used % t.size = n * t.size := by rw [hu, Nat.mul_mod_left]; rfl
  have qfit : (p + k) * t.size ≤ x.data.length := by rw [Nat.add_mul, ← ek]; exact Nat.le_of_not_gt big
  have nsz : n * t.size ≤ x.data.length := hu ▸ hsz
  have hS' : hasSrc = true → ∀ j, j < k → slot bytes t.size j ∈ S := by
    rw [ek, Nat.mul_div_cancel k (by omega)] at hS; exact hS
  rw [ual, ek, ← Nat.add_mul, Nat.mul_min_mul_right, iters_aligned p (min n (p + k)) t.size (by omega),
    iters_aligned n p t.size (by omega), iters_aligned p (p + k) t.size (by omega), Nat.add_sub_cancel_left,
    savedToks_eq, setGapLoop_eq] at hr
  clear c4 big hsz hS ual
  -- the gap `n .. p-1`
  have gfit : (n + (p - n)) * t.size ≤ x.size := by
    rcases Nat.le_total n p with h | h
    · rw [Nat.add_sub_cancel' h]; exact Nat.le_trans (Nat.mul_le_mul_right _ (Nat.le_add_right p k)) qfit
    · rw [Nat.sub_eq_zero_of_le h]; exact nsz
  obtain ⟨s2, d2, mg, mgle, bt, alt⟩ := genInit_spec (gapFail b) doneUnit (p - n) s b n t.size x hb h4 gfit
  obtain ⟨evg, leg, crg⟩ := bt.log
  have crg' : Creates S s.next evg mg := crg.mono (fun k hk => nomatch hk)
  rcases alt with ⟨me, hg⟩ | ⟨ml, hg⟩
  · -- the new elements `p .. p+k-1`
    obtain ⟨s3, d3, m, cnt, fatal, hr3, sr⟩ :=
      setInitLoop_spec S t.size (p + k) n p bytes hasSrc true b h4 k s2 p { x with data := d2 } 0 bt.buf rfl
        (bt.len.symm ▸ qfit : _ ≤ d2.length) (bt.len.symm ▸ nsz : _ ≤ d2.length) (fun hs j h1 h2 => hS' hs (j - p) (by omega))
    rw [hg] at hr
    simp only [doneUnit, hr3] at hr
    subst hr
    subst me
    have n2 := bt.next
    have n3 := sr.next
    obtain ⟨evs, crs, les⟩ := sr.log
    refine Or.inr (Or.inl ⟨p, k, m, fatal, _, _, cnt, rfl, ek, qfit, rfl,
      ⟨(bt.frame.trans sr.frame).withLog _, sr.buf, rfl, rfl, rfl, sr.len.trans bt.len, sr.mle, sr.fat, sr.nfat, ?_,
       by rw [n3, n2, Nat.add_assoc], ⟨evg ++ evs, Creates.append crg' (n2 ▸ crs), ?_⟩, fun j hj => ?_, fun small j h1 h2 => ?_,
       fun small j h1 h2 => by rw [sr.inn small j h1 h2, n2], fun h j hj => ?_⟩⟩)
    · cases fatal
      · exact Nat.mul_max_mul_right _ _ _
      · rfl
    · show s3.log ++ _ = _
      rw [les, leg, slotsFrom_congr (d' := d2) (d := x.data) (fun j h1 h2 => bt.out j (by omega))]
      cases fatal <;> simp
    · rw [sr.low j (by omega)]; exact bt.out j (Or.inl (by omega))
    · have small : s3.next ≤ tokLimit := small  -- spelt with `s3` for `omega`
      rw [sr.low j h2]; exact bt.inn (by omega) j h1 (by omega)
    · rw [sr.high h j hj]; exact bt.out j (by omega)
  · -- a gap constructor was refused
    rw [hg] at hr
    simp only [gapFail, bt.buf] at hr
    subst hr
    have bu := bt.setUsed ((n + mg) * t.size)
    exact Or.inr (Or.inr ⟨p, mg, _, d2, rfl, by omega, rfl, Nat.le_trans (Nat.mul_le_mul_right _ (by omega)) qfit,
      bu.frame, bu.buf, bu.len, bu.next, ⟨evg, leg, crg'⟩, bu.out, bu.inn⟩)

end Mpt.Heap
