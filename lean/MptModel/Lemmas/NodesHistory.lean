/-
  Histories: the drivers' choice of the list reference for move is admissible (`slotOf_spec`), every operation of
  `runOp` keeps `Realises s.m s.sp.tops` (by the `st_*_refines` lemmas of NodesSt, `new` by `new_refines`), so every history from the empty store
  runs without a model failure.
-/
import MptModel.Impl.NodesRun
import MptModel.Lemmas.NodesSt
namespace Mpt.Nodes
open Mpt Mpt.Forest

theorem realises_empty : Realises {} [] := ⟨by simp, by simp, by simp, by simp, by simp⟩


theorem slotOf_spec {s : Store} {sp : Forest.St} (hR : Realises s sp.tops) {a : Nat} {la0 S0 : Forest} {i0 : Nat} {ps0 : Option Nat}
    (hla0 : la0 ∈ sp.tops) (hat0 : SibsAt a la0 S0 i0 ps0) :
    ∃ slot, slotOf s a = .ok slot ∧
      ∀ la S i ps, la ∈ sp.tops → SibsAt a la S i ps → ∀ p, slot = .kids p → ps = some p := by
  have hreal0 := (hR.real la0 hla0).2
  obtain ⟨ta, hta, htaid⟩ := getElem?_of_idx? hat0.idx
  have hrec := Real.rec_idx (hat0.real hreal0) hta
  rw [htaid] at hrec
  -- the parent recorded in the node is the parent of every sibling list that holds it
  have hpar : ∀ la S i ps, la ∈ sp.tops → SibsAt a la S i ps → ps = ps0 := by
    intro la S i ps hla hat
    obtain ⟨tb, htb, htbid⟩ := getElem?_of_idx? hat.idx
    have hrec' := Real.rec_idx (hat.real (hR.real la hla).2) htb
    rw [htbid, hrec] at hrec'
    have := Option.some.inj hrec'
    simp only [recOf, Node.mk.injEq] at this
    exact this.2.2.1.symm
  cases hps : ps0 with
  | none =>
    refine ⟨.loc, ?_, fun _ _ _ _ _ _ p hp => by cases hp⟩
    simp only [slotOf, Store.get_ok ⟨hrec, rfl⟩, Res.bind_ok, recOf, hps]
    rfl
  | some p =>
    have hnd0 := hR.ids_nodup hla0
    have hpmem := (hat0.par_not_mem hnd0 p hps).2
    obtain ⟨pn, hpn⟩ := Real.live hreal0 p hpmem
    refine ⟨if pn.children = some a then .kids p else .loc, ?_, ?_⟩
    · simp only [slotOf, Store.get_ok ⟨hrec, rfl⟩, Res.bind_ok, recOf, hps, Store.get_ok hpn]
      rfl
    · intro la S i ps hla hat q hq
      rw [hpar la S i ps hla hat, hps]
      split at hq
      · cases hq; rfl
      · cases hq

/-- the executed branch of `runOp`: the model's call succeeds and its result realises the new specification state -/
theorem runOp_executed {α : Type} {act : Res α} {g : α → Store} {ret : α → Nat} {sp' : Forest.St}
    (h : ∃ r, act = .ok r ∧ Realises (g r) sp'.tops) :
    ∃ s', (act.bind fun r => Res.ok ({ m := g r, sp := sp', ret := ret r } : NSt)) = .ok s' ∧ Realises s'.m s'.sp.tops := by
  obtain ⟨r, h1, h2⟩ := h
  exact ⟨_, by rw [h1]; rfl, h2⟩

/-- a call guarded by the specification: skipped when its precondition does not hold, executed otherwise -/
theorem runOp_guarded {α : Type} {s : NSt} (hR : Realises s.m s.sp.tops) {o : Option Forest.St} {act : Res α}
    {g : α → Store} (h : ∀ sp', o = some sp' → ∃ r, act = .ok r ∧ Realises (g r) sp'.tops) :
    ∃ s', (match o with
      | none => Res.ok s
      | some sp' => act.bind fun r => Res.ok ({ m := g r, sp := sp' } : NSt)) = .ok s' ∧ Realises s'.m s'.sp.tops := by
  cases o with
  | none => exact ⟨s, rfl, hR⟩
  | some sp' => exact runOp_executed (h sp' rfl)

theorem runOp_inv {s : NSt} (hR : Realises s.m s.sp.tops) (op : NOp) :
    ∃ s', runOp s op = .ok s' ∧ Realises s'.m s'.sp.tops := by
  -- `s.spec` is `s.sp` with the next handle taken from the record count; `Realises` does not look at `next`
  have hRs : Realises s.m s.spec.tops := hR
  have hn : s.spec.next = s.m.nodes.length := rfl
  cases op with
  | new n v =>
    refine ⟨_, rfl, ?_⟩
    simpa [NSt.spec, Forest.St.new] using new_refines hR n v
  | after p x => exact runOp_guarded hR fun _ h => st_after_refines hRs h
  | before p x => exact runOp_guarded hR fun _ h => st_before_refines hRs h
  | add f pos x byName => exact runOp_guarded hR fun _ h => st_add_refines hRs h
  | insert p pos x byName => exact runOp_guarded hR fun _ h => st_insert_refines hRs h
  | unlink x => exact runOp_guarded hR fun _ h => st_unlink_refines hRs h
  | clear x => exact runOp_guarded hR fun _ h => st_clear_refines hRs h
  | destroy x => exact runOp_guarded hR fun _ h => st_destroy_refines hRs h
  | move a b =>
    simp only [runOp]
    cases h : s.spec.move a b with
    | none => exact ⟨s, rfl, hR⟩
    | some r0 =>
      obtain ⟨sp', m⟩ := r0
      -- the source list exists (the specification found it)
      obtain ⟨S, i, hsa⟩ : ∃ S i, s.spec.sibsOf? a = some (S, i) := by
        simp only [Forest.St.move] at h
        cases h3 : s.spec.sibsOf? a with
        | none => cases h1 : s.spec.topOf? a <;> cases h2 : s.spec.topOf? b <;> simp [h1, h2, h3] at h
        | some Si => exact ⟨Si.1, Si.2, rfl⟩
      obtain ⟨la, hla, hso⟩ := st_sibsOf? hsa
      obtain ⟨ps, hat, _⟩ := sibsOf?_sibsAt hso
      obtain ⟨slot, hslot, hadm⟩ := slotOf_spec hRs hla hat
      obtain ⟨r, h1, _, h2⟩ := st_move_refines_slot hRs h slot hadm
      simp only [hslot, Res.bind]
      exact runOp_executed ⟨r, h1, h2⟩
  | clone x mode =>
    refine runOp_guarded (g := id) hR fun sp' h => ?_
    by_cases h0 : mode = 0
    · subst h0
      obtain ⟨r, h1, h2⟩ := st_clone0_refines hRs hn h
      exact ⟨r.1, by simp [h1, Res.bind], h2⟩
    · by_cases h1m : mode = 1
      · subst h1m
        obtain ⟨r, h1, h2⟩ := (st_clone_refines hRs hn).1 h
        exact ⟨r.1, by simp [h1, Res.bind], h2⟩
      · -- every other mode is the list clone
        have h' : s.spec.clone x 2 = some sp' := by
          simp only [Forest.St.clone] at h ⊢
          simpa [h0, h1m] using h
        obtain ⟨r, h1, h2⟩ := (st_clone_refines hRs hn).2 h'
        exact ⟨r.1, by simp [h0, h1m, h1, Res.bind], h2⟩

theorem runOps_inv : ∀ (ops : List NOp) {s : NSt}, Realises s.m s.sp.tops →
    ∃ s', runOps s ops = .ok s' ∧ Realises s'.m s'.sp.tops
  | [], s, hR => ⟨s, rfl, hR⟩
  | op :: ops, s, hR => by
    obtain ⟨s1, h1, r1⟩ := runOp_inv hR op
    obtain ⟨s2, h2, r2⟩ := runOps_inv ops r1
    exact ⟨s2, by simp [runOps, h1, h2, Res.bind], r2⟩


end Mpt.Nodes
