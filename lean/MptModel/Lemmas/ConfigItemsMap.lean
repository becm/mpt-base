/-
  The item-array store of the private C++ configuration refines the path -> value map.
  The arrays that assign / remove reach have no unused slot: they are the images `ofC t` of trees, and on those the item
  functions are the tree functions of `Impl/Config.lean` (assign = nodeAssign, query = exact lookup, remove = empty the
  element) — `ilocate_ofC`, `ivalueAt_ofC`, `itemAssign_ofC`, `itemWipe_ofC`.  The argument runs through `ofC` alone.
  `AllUsed` is the notion `C10.map_refinement_items` states the absence of unused slots in (`AllUsed_ofC`); `toC` is the
  reading in the other direction, the tree an array denotes: it is characterised here (`toC_cons_used`, `toC_eq_map`,
  left inverse of `ofC`: `toC_ofC`) and no proof rests on it.
-/
import MptModel.Impl.ConfigItems
import MptModel.Lemmas.ConfigMap
namespace Mpt.Config
open Mpt Mpt.PathMap

abbrev wipeLeaf : List CNode → Nat → CNode → List CNode := fun l i c => l.set i (.mk c.name none [])

/-- tree view of `config::root::remove`: the element at exactly this path loses value and children, keeps its place -/
def wipeC (l : List CNode) (k : Key) : Option (List CNode) := alterAt wipeLeaf l k

theorem valueAt_wipe (k : Key) (hk : k ≠ []) (l : List CNode) (k' : Key) :
    valueAt ((wipeC l k).getD l) k' = if k.isPrefixOf k' then none else valueAt l k' := by
  refine valueAt_alterAt_getD hides_prefix (P := fun _ => True) (fun _ _ _ _ _ => trivial) ?_ k hk l trivial k'
  exact fun l e i c _ hl hc => valueAt_set_node (.mk c.name none []) hl hc rfl fun es' => by
    cases es' <;> simp [valueAt_singleton, valueAt_nil_list, List.isPrefixOf]


/-- no slot of the array, at any level, is unused (`name = none`) -/
def AllUsed : List Item → Prop
  | [] => True
  | (.mk n _ ks) :: ts => n ≠ none ∧ AllUsed ks ∧ AllUsed ts

/-- the tree an item array without unused slots denotes (unused slots would be dropped) -/
def toC : List Item → List CNode
  | [] => []
  | (.mk (some n) v ks) :: ts => .mk n v (toC ks) :: toC ts
  | (.mk none _ _) :: ts => toC ts

theorem AllUsed_cons (c : Item) (ts : List Item) :
    AllUsed (c :: ts) ↔ c.name ≠ none ∧ AllUsed c.elems ∧ AllUsed ts := by
  cases c with
  | mk n v ks => simp [AllUsed, Item.name, Item.elems]

theorem toC_cons_used (n : List Byte) (v : Option (List Byte)) (ks ts : List Item) :
    toC (.mk (some n) v ks :: ts) = .mk n v (toC ks) :: toC ts := by simp [toC]

theorem AllUsed_iff : ∀ (l : List Item), AllUsed l ↔ ∀ c ∈ l, c.name ≠ none ∧ AllUsed c.elems
  | [] => by simp [AllUsed]
  | (.mk n v ks) :: ts => by simp [AllUsed, AllUsed_iff ts, Item.name, Item.elems, and_assoc]

theorem toC_eq_map : ∀ {l : List Item}, (∀ c ∈ l, c.name ≠ none) →
    toC l = l.map fun c => CNode.mk (c.name.getD []) c.value (toC c.elems)
  | [], _ => by simp [toC]
  | (.mk none v ks) :: ts, h => absurd rfl (h _ (List.mem_cons_self ..))
  | (.mk (some n) v ks) :: ts, h => by
    simp [toC, Item.name, Item.value, Item.elems, toC_eq_map fun c hc => h c (List.mem_cons_of_mem _ hc)]

/-- the slot (used, and so are all beneath it) that holds a node -/
def ofN : CNode → Item
  | .mk n v ks => .mk (some n) v (ks.map ofN)

/-- the item array (no unused slot) that holds a tree -/
abbrev ofC (t : List CNode) : List Item := t.map ofN

theorem ofN_eq (c : CNode) : ofN c = .mk (some c.name) c.value (ofC c.kids) := by
  cases c; rw [ofN]; rfl

theorem AllUsed_ofC (t : List CNode) : AllUsed (ofC t) := by
  -- `Uniq.induct`: induction on a tree, with hypotheses for the children and for the tail
  induction t using Uniq.induct with
  | case1 => simp [AllUsed]
  | case2 n v ks ts ih1 ih2 => simp only [ofC, List.map_cons, ofN, AllUsed] at *; exact ⟨nofun, ih1, ih2⟩

theorem toC_ofC (t : List CNode) : toC (ofC t) = t := by
  induction t using Uniq.induct with
  | case1 => simp [toC]
  | case2 n v ks ts ih1 ih2 => simp only [ofC, List.map_cons, ofN, toC] at *; rw [ih1, ih2]

theorem ilocate_ofC (e : List Byte) : ∀ (t : List CNode), ilocate (ofC t) e = locate t e
  | [] => rfl
  | c :: ts => by
    by_cases hn : c.name = e <;> simp [ilocate, locate, ofN_eq, Item.name, hn, ← ilocate_ofC e ts]

theorem iunused_ofC : ∀ (t : List CNode), iunused (ofC t) = none
  | [] => rfl
  | c :: ts => by simp [iunused, ofN_eq, Item.name, iunused_ofC ts]

theorem ofC_set (t : List CNode) (i : Nat) (n : List Byte) (v : Option Value) (ks : List CNode) :
    (ofC t).set i (.mk (some n) v (ofC ks)) = ofC (t.set i (.mk n v ks)) := by
  simp only [List.map_set, ofN]

/-- the value a query of the item store finds at exactly this path -/
def ivalueAt (l : List Item) (k : Key) : Option Value := (itemFind l k).bind Item.value

theorem ivalueAt_ofC : ∀ (k : Key) (t : List CNode), ivalueAt (ofC t) k = valueAt t k
  | [], _ => rfl
  | e :: es, t => by
    simp only [ivalueAt, itemFind, valueAt, findExact, ilocate_ofC, List.getElem?_map]
    cases hl : locate t e with
    | none => rfl
    | some i =>
      dsimp only
      cases hc : t[i]? with
      | none => rfl
      | some c =>
        simp only [Option.map_some, ofN_eq]
        by_cases hes : es.isEmpty
        · simp [hes, Item.value]
        · simpa [hes, Item.elems, ivalueAt, valueAt] using ivalueAt_ofC es c.kids

/-- the missing part of a path is created like the chain of `mpt_node_assign` -/
theorem itemAssign_nil (v : Value) : ∀ (es : Key), itemAssign [] es v = (if es = [] then none else some (ofC (chain es (some v))))
  | [] => rfl
  | [e] => by simp [itemAssign, ilocate, iunused, chain, ofN_eq]
  | e :: e2 :: es => by
    rw [itemAssign]
    simp [ilocate, iunused, itemAssign_nil v (e2 :: es), chain, ofN_eq]

/-- `config::root::assign` is `mpt_node_assign` -/
theorem itemAssign_ofC (v : Value) : ∀ (k : Key) (t : List CNode), itemAssign (ofC t) k v = (nodeAssign t k v).map ofC
  | [], _ => rfl
  | e :: es, t => by
    simp only [itemAssign, nodeAssign, ilocate_ofC, List.getElem?_map, iunused_ofC]
    cases hl : locate t e with
    | some i =>
      dsimp only
      cases hc : t[i]? with
      | none => rfl
      | some c =>
        simp only [Option.map_some, ofN_eq]
        by_cases hes : es.isEmpty
        · simp [hes, Item.name, Item.elems, ofC_set]
        · simp only [hes, Bool.false_eq_true, ↓reduceIte, Item.elems, itemAssign_ofC v es c.kids]
          cases nodeAssign c.kids es v <;> simp [Item.name, Item.value, ofC_set]
    | none =>
      simp only [itemAssign_nil]
      cases es with
      | nil => simp [chain, ofN_eq]
      | cons e2 es2 => simp [chain, ofN_eq]

/-- `config::root::remove` is emptying the node -/
theorem itemWipe_ofC : ∀ (k : Key) (t : List CNode), itemWipe (ofC t) k = (wipeC t k).map ofC
  | [], _ => rfl
  | e :: es, t => by
    simp only [itemWipe, wipeC, alterAt, ilocate_ofC, List.getElem?_map]
    cases hl : locate t e with
    | none => rfl
    | some i =>
      dsimp only
      cases hc : t[i]? with
      | none => rfl
      | some c =>
        simp only [Option.map_some, ofN_eq]
        by_cases hes : es.isEmpty
        · simpa [hes, Item.name, ofC] using ofC_set t i c.name none []
        · have ih := itemWipe_ofC es c.kids
          simp only [wipeC] at ih
          simp only [hes, Bool.false_eq_true, ↓reduceIte, Item.elems, ih]
          cases alterAt wipeLeaf c.kids es <;> simp [Item.name, Item.value, ofC_set]

/-- one step of the item store (assign / remove of `config::root`) -/
def stepI (l : List Item) : Op → List Item
  | .set k v => (itemAssign l k v).getD l
  | .del k => (itemWipe l k).getD l

theorem agreeI_foldl : ∀ (ops : List Op) (t : List CNode) (m : PMap), Agree t m → (∀ op ∈ ops, op.key ≠ []) →
    ∃ t', ops.foldl stepI (ofC t) = ofC t' ∧ Agree t' (ops.foldl stepS m)
  | [], t, m, ha, _ => ⟨t, rfl, ha⟩
  | op :: ops, t, m, ha, hk => by
    have hkey := hk op (by simp)
    have hstep : ∃ t1, stepI (ofC t) op = ofC t1 ∧ Agree t1 (stepS m op) := by
      cases op with
      | set k v =>
        obtain ⟨t1, h1⟩ := nodeAssign_some k t v hkey
        exact ⟨t1, by simp [stepI, itemAssign_ofC, h1], agree_assign ha h1⟩
      | del k =>
        refine ⟨(wipeC t k).getD t, ?_, agree_hide k.isPrefixOf ha (valueAt_wipe k hkey t)⟩
        simp only [stepI, itemWipe_ofC]
        cases wipeC t k <;> rfl
    obtain ⟨t1, h1, ha1⟩ := hstep
    rw [List.foldl_cons, h1]
    exact agreeI_foldl ops t1 _ ha1 (fun o ho => hk o (by simp [ho]))

end Mpt.Config
