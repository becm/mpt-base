/-
  Lemmas for C16, one identifier: cell-level facts about the model (`Impl/Ident.lean`), the well-formedness invariant,
  what the branches of `mpt_identifier_set/copy` do to storage and heap (the old allocation is freed, the new content
  installed: `Holds`; `Stores` is the result of an accepted call); the operand `(buffer, len)` of set/compare (`opLen`) and
  what it means that an identifier denotes a value of Spec/Ident.lean (`Denotes`); the calls.  `mpt_identifier_set` is the
  spec's `setVal` followed by placement (`set_eq_place`); the lemmas to start from are `set_stores` (accepted operand),
  `set_refused`, `copy_spec` and `Wf.holds` (a well-formed identifier that owns its allocation holds something).
-/
import MptModel.Impl.Ident
import MptModel.Spec.Ident
import MptModel.Lemmas.ListFacts
namespace Mpt.Ident

theorem mid_of_three {α} (pre p post : List α) {n m : Nat} (h1 : pre.length = n) (h2 : p.length = m) :
    ((pre ++ p ++ post).drop n).take m = p ∧ (pre ++ p ++ post).take n = pre ∧ (pre ++ p ++ post).drop (n + m) = post := by
  subst h1 h2
  refine ⟨?_, ?_, ?_⟩
  · rw [List.append_assoc, List.drop_left, List.take_left]
  · rw [List.append_assoc, List.take_left]
  · rw [← List.length_append, List.drop_left]

theorem wr_ok {area : List Cell} {off : Nat} {cells : List Cell} (h : off + cells.length ≤ area.length) :
    wr area off cells = .ok (area.take off ++ cells ++ area.drop (off + cells.length)) := by
  simp [wr, h, pure, Except.pure]

theorem wr_length {area a : List Cell} {off : Nat} {cells : List Cell} (h : wr area off cells = .ok a) :
    a.length = area.length := by
  unfold wr at h
  split at h
  · simp only [pure, Except.pure, Except.ok.injEq] at h
    subst h
    simp; omega
  · cases h

@[simp] theorem zeros_length (n : Nat) : (zeros n).length = n := by simp [zeros]
@[simp] theorem bytesC_length (b : List Byte) : (bytesC b).length = b.length := by simp [bytesC]
@[simp] theorem ptrCells_length (t : Nat) : (ptrCells t).length = 8 := by simp [ptrCells]

theorem cellBytes_bytesC (b : List Byte) : cellBytes (bytesC b) = some b := by
  induction b with
  | nil => rfl
  | cons x r ih => simp [bytesC, cellBytes] at ih ⊢; simp [ih]

theorem cellBytes_append (a b : List Cell) :
    cellBytes (a ++ b) = (cellBytes a).bind fun x => (cellBytes b).map (x ++ ·) := by
  induction a with
  | nil => simp [cellBytes]
  | cons c r ih =>
    cases c with
    | byte x =>
      simp only [List.cons_append, cellBytes, ih]
      cases cellBytes r <;> simp
      cases cellBytes b <;> simp
    | ptr t k => simp [cellBytes]
    | undef => simp [cellBytes]

theorem cellBytes_zeros (n : Nat) : cellBytes (zeros n) = some (List.replicate n 0) := by
  have : zeros n = bytesC (List.replicate n 0) := by simp [zeros, bytesC]
  rw [this, cellBytes_bytesC]

theorem cellBytes_length {c : List Cell} {b : List Byte} (h : cellBytes c = some b) : b.length = c.length := by
  induction c generalizing b with
  | nil => simp [cellBytes] at h; subst h; rfl
  | cons x r ih =>
    cases x with
    | byte y =>
      simp only [cellBytes, Option.map_eq_some_iff] at h
      obtain ⟨b', hb', rfl⟩ := h
      simp [ih hb']
    | ptr t k => simp [cellBytes] at h
    | undef => simp [cellBytes] at h

theorem ptrCells_ne_zeros (t : Nat) : ptrCells t ≠ zeros 8 := by
  simp [ptrCells, zeros, List.range, List.range.loop]

theorem ptrCells_head (t : Nat) : (ptrCells t).head? = some (.ptr t 0) := by
  simp [ptrCells, List.range, List.range.loop]

theorem getBase_tok {area : List Cell} {t : Nat} (hl : 12 ≤ area.length) (hc : (area.drop 4).take 8 = ptrCells t) :
    getBase area = .ok (.tok t) := by
  unfold getBase
  have : ¬ area.length < 12 := by omega
  simp only [this, if_false, hc, ptrCells_ne_zeros, ptrCells_head, if_true]
  rfl

theorem getBase_null {area : List Cell} (hl : 12 ≤ area.length) (hc : (area.drop 4).take 8 = zeros 8) :
    getBase area = .ok .null := by
  unfold getBase
  have : ¬ area.length < 12 := by omega
  simp only [this, if_false, hc, if_true]
  rfl

theorem setBase_getBase {area a : List Cell} {t : Nat} (h : setBase area (.tok t) = .ok a) :
    getBase a = .ok (.tok t) ∧ a.length = area.length ∧ a.take 4 = area.take 4 ∧ a.drop 12 = area.drop 12 := by
  unfold setBase at h
  have hl := wr_length h
  unfold wr at h
  simp only [ptrCells_length] at h
  split at h
  · rename_i hb
    simp only [pure, Except.pure, Except.ok.injEq] at h
    subst h
    have h4 : (area.take 4).length = 4 := by simp; omega
    obtain ⟨m1, m2, m3⟩ := mid_of_three (area.take 4) (ptrCells t) (area.drop (4 + 8)) h4 (ptrCells_length t)
    refine ⟨getBase_tok (by rw [hl]; omega) m1, hl, ?_, ?_⟩
    · rw [m2]
    · rw [show 12 = 4 + 8 from rfl, m3]
  · cases h

theorem free_ok {h : Heap} {t who : Nat} {b : Block} (hb : h.blocks[t]? = some b) (hl : b.live = true) (ho : b.owner = who) :
    h.free t who = .ok ⟨h.blocks.set t { b with live := false }⟩ := by
  simp [Heap.free, hb, hl, ho, pure, Except.pure]

/-- a consistent `struct identifier` of slot `k`: the storage reaches beyond the overlaid `_base` (`area[4..12)`), `_max` is
    what `mpt_identifier_init` computes from the storage size, and the content is readable inline bytes or a live block of
    owner `k` of the right length behind `_base` -/
structure Wf (id : Ident) (h : Heap) (k : Nat) : Prop where
  area_len : 12 ≤ id.area.length
  max_eq : id.max = min id.area.length identMax
  len_le : id.len ≤ 65535
  inl : id.len ≤ id.max → ∃ b, cellBytes (id.area.take id.len) = some b
  ext : id.max < id.len → ∃ t b, getBase id.area = .ok (.tok t) ∧ h.blocks[t]? = some b ∧ b.live = true ∧ b.owner = k ∧
    b.data.length = id.len

/-- every live block of owner `k` is the one the identifier points to (nothing leaked) -/
def Own (id : Ident) (h : Heap) (k : Nat) : Prop :=
  ∀ t b, h.blocks[t]? = some b → b.live = true → b.owner = k → id.max < id.len ∧ getBase id.area = .ok (.tok t)

/-- blocks of other owners are untouched -/
def Frame (h h' : Heap) (k : Nat) : Prop :=
  ∀ (t : Nat) (b : Block), b.owner ≠ k → (h.blocks[t]? = some b ↔ h'.blocks[t]? = some b)

theorem Frame.refl (h : Heap) (k : Nat) : Frame h h k := fun _ _ _ => Iff.rfl

/-- no block of owner `k` is live -/
def Released (blocks : List Block) (k : Nat) : Prop :=
  ∀ (t : Nat) (b : Block), blocks[t]? = some b → b.owner = k → b.live = false

theorem Own.released {id : Ident} {h : Heap} {k : Nat} (ho : Own id h k) (hin : ¬ id.max < id.len) : Released h.blocks k := by
  intro t b hb hown
  by_cases hl : b.live = true
  · exact absurd (ho t b hb hl hown).1 hin
  · simpa using hl

theorem Wf.max_le {id : Ident} {h : Heap} {k : Nat} (hw : Wf id h k) : id.max ≤ id.area.length :=
  hw.max_eq ▸ Nat.min_le_left _ _

theorem frame_append {h : Heap} {blocks extra : List Block} {k : Nat}
    (hfr : ∀ (t : Nat) (b : Block), b.owner ≠ k → (h.blocks[t]? = some b ↔ blocks[t]? = some b))
    (hown : ∀ b ∈ extra, b.owner = k) : Frame h ⟨blocks ++ extra⟩ k := by
  intro t b hne
  rw [hfr t b hne]
  by_cases ht : t < blocks.length
  · rw [List.getElem?_append_left ht]
  · rw [List.getElem?_append_right (by omega), List.getElem?_eq_none (by omega)]
    exact ⟨nofun, fun hb => absurd (hown b (List.mem_of_getElem? hb)) hne⟩

/-- `extra`: `setExt` and `copyExt` allocate the new block before they free the old one -/
theorem release_old {id : Ident} {h : Heap} {k : Nat} (hw : Wf id h k) (ho : Own id h k) (extra : List Block)
    (hex : ∀ b ∈ extra, b.owner = k) :
    ∃ p blocks, oldAlloc id = .ok p ∧ freePtr ⟨h.blocks ++ extra⟩ p k = .ok ⟨blocks ++ extra⟩ ∧
      blocks.length = h.blocks.length ∧
      Released blocks k ∧ Frame h ⟨blocks ++ extra⟩ k := by
  unfold oldAlloc
  by_cases hext : id.max < id.len
  · obtain ⟨t, b, hgb, hb, hl, hown, _⟩ := hw.ext hext
    have hlt : t < h.blocks.length := (List.getElem?_eq_some_iff.1 hb).1
    refine ⟨.tok t, h.blocks.set t { b with live := false }, by rw [if_pos hext, hgb], ?_, List.length_set, ?_,
      frame_append ?_ hex⟩
    · rw [← List.set_append_left _ _ hlt]
      exact free_ok (by rw [List.getElem?_append_left hlt]; exact hb) hl hown
    · intro t' b' hb' ho'
      rw [List.getElem?_set] at hb'
      split at hb'
      · cases hb'; rfl
      · rename_i htt
        by_cases hlive : b'.live = true
        · have := (ho t' b' hb' hlive ho').2
          rw [hgb] at this
          cases this; exact absurd rfl htt
        · simpa using hlive
    · intro t' b' hne
      rw [List.getElem?_set]
      rcases Nat.decEq t t' with htt | rfl
      · rw [if_neg htt]
      · rw [if_pos rfl, if_pos hlt, hb]
        constructor
        · intro hc; cases hc; exact absurd hown hne
        · intro hc; cases hc; exact absurd hown hne
  · exact ⟨.null, h.blocks, by rw [if_neg hext]; rfl, rfl, rfl, ho.released hext, frame_append (fun _ _ _ => Iff.rfl) hex⟩

/-- `release_old` for the branches that allocate nothing before they free (inline content, `_identifier_fini`) -/
theorem release_old_nil {id : Ident} {h : Heap} {k : Nat} (hw : Wf id h k) (ho : Own id h k) :
    ∃ p blocks, oldAlloc id = .ok p ∧ freePtr h p k = .ok ⟨blocks⟩ ∧ Released blocks k ∧ Frame h ⟨blocks⟩ k := by
  obtain ⟨p, blocks, hp, hfree, _, hdead, hfr⟩ := release_old hw ho [] nofun
  exact ⟨p, blocks, hp, by simpa using hfree, hdead, by simpa using hfr⟩

/-- the identifier holds `data` with `charset`, is well-formed, and leaks nothing -/
structure Holds (id : Ident) (h : Heap) (k : Nat) (charset : Nat) (data : List Byte) : Prop where
  wf : Wf id h k
  own : Own id h k
  read : readData id h id.len = .ok data
  len : id.len = data.length
  cs : id.charset = charset

/-- the call `r` on identifier `id` (slot `k`, heap `h`) is accepted and leaves it holding `data` with `charset`; capacity and
    storage size stay, blocks of other owners are untouched -/
def Stores (r : M (Ident × Heap × Bool)) (id : Ident) (h : Heap) (k charset : Nat) (data : List Byte) : Prop :=
  ∃ id' h', r = .ok (id', h', true) ∧ Holds id' h' k charset data ∧ Frame h h' k ∧
    id'.max = id.max ∧ id'.area.length = id.area.length

theorem Holds.of_inline {k mx cs : Nat} {blocks : List Block}
    (hdead : Released blocks k) {a : List Cell}
    (hal : 12 ≤ a.length) (hmx : mx = min a.length identMax) {data : List Byte} (hfit : data.length ≤ mx)
    (hcb : cellBytes (a.take data.length) = some data) : Holds ⟨data.length, cs, mx, a⟩ ⟨blocks⟩ k cs data := by
  -- an inline length is at most `identMax` = 252, far below the 16-bit limit of the length field
  have : mx ≤ 252 := hmx ▸ Nat.min_le_right _ _
  refine ⟨⟨hal, hmx, by show data.length ≤ 65535; omega, fun _ => ⟨data, hcb⟩, fun hc => ?_⟩, ?_, ?_, rfl, rfl⟩
  · exact absurd hfit (Nat.not_le.2 hc)
  · intro t b hb hl hown
    rw [hdead t b hb hown] at hl; cases hl
  · simp only [readData]
    rw [if_neg (Nat.not_lt.2 hfit), if_pos (by have := Nat.min_le_left a.length identMax; omega), hcb]
    rfl

theorem Holds.of_block {id : Ident} {h : Heap} {k : Nat} (hw : Wf id h k) {blocks : List Block}
    (hdead : Released blocks k) {a : List Cell} (ha : a.length = id.area.length)
    {data : List Byte} (hbig : id.max < data.length) (hle : data.length ≤ 65535)
    (hgb : getBase a = .ok (.tok blocks.length)) (cs : Nat) :
    Holds { id with len := data.length, charset := cs, area := a } ⟨blocks ++ [⟨data, true, k⟩]⟩ k cs data := by
  have hnew : (blocks ++ [⟨data, true, k⟩])[blocks.length]? = some ⟨data, true, k⟩ := by simp
  refine ⟨⟨ha ▸ hw.area_len, ha ▸ hw.max_eq, hle, fun hc => ?_, fun _ => ⟨_, _, hgb, hnew, rfl, rfl, rfl⟩⟩, ?_, ?_, rfl, rfl⟩
  · exact absurd hbig (Nat.not_lt.2 hc)
  · intro t b hb hl hown
    refine ⟨hbig, ?_⟩
    by_cases ht : t < blocks.length
    · rw [List.getElem?_append_left ht] at hb
      rw [hdead t b hb hown] at hl; cases hl
    · have := (List.getElem?_eq_some_iff.1 hb).1
      rw [List.length_append, List.length_singleton] at this
      rwa [show t = blocks.length by omega]
  · simp only [readData]
    rw [if_pos hbig]
    simp [bind, Except.bind, hgb, pure, Except.pure]

theorem clear_setBase {area : List Cell} {n : Nat} (t : Nat) (hn : n ≤ area.length) (hl : 12 ≤ area.length) :
    ∃ a2, wr area 0 (zeros n) = .ok (zeros n ++ area.drop n) ∧ setBase (zeros n ++ area.drop n) (.tok t) = .ok a2 ∧
      getBase a2 = .ok (.tok t) ∧ a2.length = area.length := by
  refine ⟨_, by rw [wr_ok (by simp; omega)]; simp, by unfold setBase; rw [wr_ok (by simp; omega)], ?_, by simp; omega⟩
  exact getBase_tok (by simp; omega) (by rw [List.append_assoc, List.drop_left' (by simp; omega), List.take_left' (ptrCells_length t)])

theorem zeros_take (n m : Nat) (h : m ≤ n) : (zeros n).take m = zeros m := by
  simp [zeros, List.take_replicate, Nat.min_eq_left h]

/-- the value area after the inline branch of `mpt_identifier_set` -/
theorem inlArea_eq {area : List Cell} {mx : Nat} (src : List Cell) (h1 : src.length ≤ mx) (h2 : mx ≤ area.length) :
    inlArea area mx src = .ok (src ++ zeros (mx - src.length) ++ area.drop mx) := by
  unfold inlArea
  by_cases hz : src.length = 0
  · have : src = [] := List.eq_nil_of_length_eq_zero hz
    subst this
    simp only [List.length_nil, ne_eq, not_true_eq_false, if_false]
    rw [wr_ok (by simp; omega)]; simp
  · simp only [ne_eq, hz, not_false_eq_true, if_true]
    rw [wr_ok (by omega)]
    simp only [List.take_zero, List.nil_append, Nat.zero_add, bind, Except.bind]
    by_cases hp : mx - src.length = 0
    · have : mx = src.length := by omega
      subst this
      simp [pure, Except.pure, zeros]
    · simp only [hp, not_false_eq_true, if_true]
      rw [wr_ok (by simp; omega)]
      congr 1
      simp only [zeros_length]
      rw [List.take_left' rfl, List.drop_append, List.drop_of_length_le (by omega)]
      simp only [List.nil_append, List.drop_drop]
      congr 2
      omega

theorem strlen_terminated (b : List Byte) : strlen (b ++ [0]) = (cstr b).length := by
  unfold strlen cstr
  rw [takeWhile_append_stop _ b [] 0 (by simp)]

theorem cstr_le (b : List Byte) : (cstr b).length ≤ b.length := (List.takeWhile_sublist _).length_le

theorem take_cstr (b : List Byte) : b.take (cstr b).length = cstr b := take_length_takeWhile _ b

/-- number of bytes of the buffer `b` that the operand `(b, len)` of set/compare names: `len`, or for `len < 0` the
    length of the C string in `b` -/
def opLen (b : List Byte) (len : Int) : Nat := if len < 0 then (cstr b).length else len.toNat

theorem opLen_le {b : List Byte} {len : Int} (hl : len ≤ b.length) : opLen b len ≤ b.length := by
  unfold opLen
  split
  · exact cstr_le b
  · omega

theorem opLen_take (b : List Byte) (len : Int) : (if len < 0 then cstr b else b.take len.toNat) = b.take (opLen b len) := by
  unfold opLen
  split
  · rw [take_cstr]
  · rfl

theorem nameOf_text (b : List Byte) (len : Int) : nameOf (some b) len = some (.text (b.take (opLen b len))) := by
  by_cases hneg : len < 0 <;> simp only [nameOf, opLen, hneg, if_true, if_false, take_cstr]

theorem nameOf_whole (b : List Byte) : nameOf (some b) b.length = some (.text b) := by
  rw [nameOf_text, opLen, if_neg (by omega), Int.toNat_natCast, List.take_length]

theorem cstr_zero_free (b : List Byte) : ∀ x, x ∈ cstr b → x ≠ 0 := fun x hx => by
  simpa using List.all_eq_true.1 List.all_takeWhile x hx

theorem cstr_idem (b : List Byte) : cstr (cstr b) = cstr b :=
  takeWhile_of_all (List.all_eq_true.1 List.all_takeWhile)

theorem set_cstr (id : Ident) (h : Heap) (k : Nat) (buf : List Byte) (len : Int) (hn : len < 0) :
    set id h k (some buf) len = set id h k (some buf) (strlen buf) := by
  have h0 : ¬ ((strlen buf : Int) < 0) := by omega
  simp only [set, hn, h0, if_true, if_false]

theorem set_opLen (id : Ident) (h : Heap) (k : Nat) (b : List Byte) (len : Int) :
    set id h k (some (b ++ [0])) len = set id h k (some (b ++ [0])) (opLen b len) := by
  unfold opLen
  split
  · rename_i hn
    rw [set_cstr _ _ _ _ _ hn, strlen_terminated]
  · rw [Int.toNat_of_nonneg (by omega)]

theorem Holds.view {id : Ident} {h : Heap} {k cs : Nat} {d : List Byte} (hh : Holds id h k cs d) : view id h = .ok (cs, d) := by
  simp [Ident.view, hh.read, hh.cs, bind, Except.bind, pure, Except.pure]

/-- stored bytes of a value: a text carries its terminator -/
def Val.stored (v : Val) : List Byte := if v.charset = utf8 then v.bytes ++ [0] else v.bytes

/-- the identifier holds the value `v` of Spec/Ident.lean -/
def Denotes (id : Ident) (h : Heap) (k : Nat) (v : Val) : Prop := Holds id h k v.charset v.stored

theorem Denotes.text {id : Ident} {h : Heap} {k : Nat} {v : Val} (hd : Denotes id h k v) (hc : v.charset = utf8) :
    Holds id h k utf8 (v.bytes ++ [0]) := by
  unfold Denotes Val.stored at hd
  rwa [if_pos hc, hc] at hd

theorem Wf.frame {id : Ident} {h h' : Heap} {j k : Nat} (hw : Wf id h j) (hf : Frame h h' k) (hjk : j ≠ k) : Wf id h' j := by
  refine ⟨hw.area_len, hw.max_eq, hw.len_le, hw.inl, ?_⟩
  intro hext
  obtain ⟨t, b, hgb, hb, hl, hown, hlen⟩ := hw.ext hext
  exact ⟨t, b, hgb, (hf t b (by rw [hown]; exact hjk)).mp hb, hl, hown, hlen⟩

theorem Holds.frame {id : Ident} {h h' : Heap} {j k cs : Nat} {d : List Byte} (hh : Holds id h j cs d)
    (hf : Frame h h' k) (hjk : j ≠ k) : Holds id h' j cs d := by
  refine ⟨hh.wf.frame hf hjk, ?_, ?_, hh.len, hh.cs⟩
  · intro t b hb hl hown
    exact hh.own t b ((hf t b (by rw [hown]; exact hjk)).mpr hb) hl hown
  · have hr := hh.read
    unfold readData at hr ⊢
    by_cases hext : id.max < id.len
    · obtain ⟨t, b, hgb, hb, hl, hown, hlen⟩ := hh.wf.ext hext
      have hb' := (hf t b (by rw [hown]; exact hjk)).mp hb
      simp only [hext, if_true, bind, Except.bind, hgb, hb, hb'] at hr ⊢
      exact hr
    · simp only [hext, if_false] at hr ⊢
      exact hr

/-- `mpt_identifier_copy(dst, src)` between two different identifiers: the source's bytes go inline if they fit the
    target's capacity, else to a new block -/
theorem copy_spec {dst src : Ident} {h : Heap} {k j cs : Nat} {d : List Byte} (hw : Wf dst h k) (ho : Own dst h k)
    (hs : Holds src h j cs d) :
    Stores (copy dst (some src) false h k) dst h k cs d := by
  have hm1 := hw.max_le
  unfold copy
  simp only [Bool.false_eq_true, if_false, bind, Except.bind, hs.read, hs.cs]
  rw [hs.len]
  split
  · rename_i hfit
    obtain ⟨p, blocks, hp, hfree, hdead, hfr⟩ := release_old_nil hw ho
    have hwr : wr dst.area 0 (bytesC d) = .ok (bytesC d ++ dst.area.drop d.length) := by
      rw [wr_ok (by simp; omega)]; simp
    have hl1 : (bytesC d ++ dst.area.drop d.length).length = dst.area.length := by simp; omega
    have hcb : cellBytes ((bytesC d ++ dst.area.drop d.length).take d.length) = some d := by
      rw [List.take_left' (by simp), cellBytes_bytesC]
    exact ⟨_, _, by simp only [copyInl, bind, Except.bind, hp, hwr, hfree, pure, Except.pure],
      Holds.of_inline hdead (hl1 ▸ hw.area_len) (hl1 ▸ hw.max_eq) hfit hcb, hfr, rfl, hl1⟩
  · rename_i hbig
    obtain ⟨p, blocks, hp, hfree, hlen, hdead, hfr⟩ := release_old hw ho [⟨d, true, k⟩] (by simp)
    obtain ⟨a2, hwr, ha2, hgb, hl2⟩ := clear_setBase (n := 4) h.blocks.length (by have := hw.area_len; omega) hw.area_len
    exact ⟨_, _, by simp only [copyExt, Heap.alloc, bind, Except.bind, hp, hfree, hwr, ha2, pure, Except.pure],
      Holds.of_block hw hdead hl2 (Nat.not_le.1 hbig) (hs.len ▸ hs.wf.len_le) (hlen ▸ hgb) cs, hfr, rfl, hl2⟩

theorem copy_self {id : Ident} {h : Heap} {k : Nat} (hw : Wf id h k) :
    copy id (some id) true h k = .ok (id, h, true) := by
  unfold copy oldAlloc
  by_cases hext : id.max < id.len
  · obtain ⟨t, b, hgb, _⟩ := hw.ext hext
    simp [hext, hgb, bind, Except.bind, pure, Except.pure]
  · simp [hext, bind, Except.bind, pure, Except.pure]

theorem Val.stored_pad (v : Val) : v.bytes ++ List.replicate (v.stored.length - v.bytes.length) 0 = v.stored := by
  unfold Val.stored
  split
  · rw [List.length_append, List.length_singleton, Nat.add_sub_cancel_left]; rfl
  · rw [Nat.sub_self]; exact List.append_nil _

/-- the documented limit of a text: 65534 bytes, so that the stored length with the terminator is a 16-bit number -/
theorem setVal_text (b : List Byte) : setVal (.text b) = if b.length ≤ 65534 then some ⟨utf8, b⟩ else none := by
  by_cases h : b.length ≤ 65534
  · rw [if_pos h]; exact if_pos (by omega)
  · rw [if_neg h]; exact if_neg (by omega)

theorem setVal_le {nm : Name} {v : Val} (hs : setVal nm = some v) : v.stored.length ≤ 65535 := by
  cases nm <;> simp only [setVal] at hs <;> split at hs <;> cases hs
  · simp [Val.stored]; omega
  · simpa [Val.stored, utf8]

/-- where `mpt_identifier_set` puts an accepted value: in a new block if the stored bytes exceed the capacity, else
    inline, where only the bytes of `v` are copied and the terminator of a text comes out of the zero padding -/
def place (id : Ident) (h : Heap) (k : Nat) (v : Val) : M (Ident × Heap × Bool) :=
  if v.stored.length > id.max then setExt id h k v.stored v.charset
  else setInl id h k (bytesC v.bytes) v.stored.length v.charset

/-- **`mpt_identifier_set` is `setVal`, then placement**, for every operand the caller may pass -/
theorem set_eq_place (id : Ident) (h : Heap) (k : Nat) (name : Option (List Byte)) (len : Int)
    (hv : ∀ b, name = some b → len ≤ b.length) :
    set id h k (name.map (· ++ [0])) len = ((nameOf name len).bind setVal).elim (pure (id, h, false)) (place id h k) := by
  cases name with
  | none =>
    simp only [Option.map_none, nameOf, set, Option.isSome_none, Bool.false_eq_true, if_false]
    by_cases hneg : len < 0
    · simp only [hneg, if_true, true_or]; rfl
    · simp only [hneg, if_false, false_or, Option.bind_some, setVal]
      by_cases hle : len.toNat ≤ 65535
      · have h1 : ¬ len > 65535 := by omega
        -- charset 0 is not `utf8`, so `stored` is `bytes`, and the `len` zero bytes are the cells `zeros len`
        simp [hle, h1, place, Val.stored, utf8, zeros, bytesC]
      · have h1 : len > 65535 := by omega
        simp only [hle, h1, if_true, if_false]; rfl
  | some b =>
    -- on both levels the operand is `opLen b len` bytes of the buffer
    have hn := opLen_le (hv b rfl)
    rw [Option.map_some, set_opLen, nameOf_text]
    generalize opLen b len = n at hn
    have htl : (b.take n).length = n := by simp; omega
    have h0 : ¬ ((n : Int) < 0) := by omega
    unfold set
    simp only [Option.isSome_some, if_true, h0, if_false, false_or, Option.bind_some, setVal, htl]
    by_cases hle : n + 1 ≤ 65535
    · have h1 : ¬ ((n : Int) + 1 > 65535) := by omega
      have e2 : ((n : Int) + 1).toNat = n + 1 := by omega
      have hl : n ≤ b.length + 1 := by omega
      simp only [hle, h1, if_true, if_false, Int.toNat_natCast, e2, List.length_append, List.length_singleton, hl,
        List.take_append_of_le_length hn, Option.elim, place, Val.stored, htl]
      rfl
    · have h1 : (n : Int) + 1 > 65535 := by omega
      simp only [hle, h1, if_true, if_false]; rfl

theorem place_stores {id : Ident} {h : Heap} {k : Nat} (hw : Wf id h k) (ho : Own id h k) (v : Val)
    (hle : v.stored.length ≤ 65535) : Stores (place id h k v) id h k v.charset v.stored := by
  have hm1 := hw.max_le
  unfold place
  split
  · rename_i hbig
    obtain ⟨p, blocks, hp, hfree, hlen, hdead, hfr⟩ := release_old hw ho [⟨v.stored, true, k⟩] (by simp)
    obtain ⟨a2, hwr, ha2, hgb, hl2⟩ := clear_setBase h.blocks.length hm1 hw.area_len
    exact ⟨_, _, by simp only [setExt, Heap.alloc, bind, Except.bind, hp, hfree, hwr, ha2, pure, Except.pure],
      Holds.of_block hw hdead hl2 hbig hle (hlen ▸ hgb) v.charset, hfr, rfl, hl2⟩
  · rename_i hfit
    obtain ⟨p, blocks, hp, hfree, hdead, hfr⟩ := release_old_nil hw ho
    have hbl : v.bytes.length ≤ v.stored.length := by rw [← v.stored_pad]; simp
    have hl1 : (bytesC v.bytes ++ zeros (id.max - (bytesC v.bytes).length) ++ id.area.drop id.max).length = id.area.length := by
      simp; omega
    have hcb : cellBytes ((bytesC v.bytes ++ zeros (id.max - (bytesC v.bytes).length) ++ id.area.drop id.max).take v.stored.length) =
        some v.stored := by
      rw [List.append_assoc, List.take_append, List.take_of_length_le (by simpa using hbl),
        List.take_append_of_le_length (by simp; omega), zeros_take _ _ (by simp; omega), cellBytes_append,
        cellBytes_bytesC, cellBytes_zeros, bytesC_length, ← v.stored_pad]
      simp
    exact ⟨_, _, by simp only [setInl, bind, Except.bind, hp, inlArea_eq (bytesC v.bytes) (by simp; omega) hm1, hfree, pure, Except.pure],
      Holds.of_inline hdead (hl1 ▸ hw.area_len) (hl1 ▸ hw.max_eq) (Nat.not_lt.1 hfit) hcb, hfr, rfl, hl1⟩

theorem set_refused (id : Ident) (h : Heap) (k : Nat) (name : Option (List Byte)) (len : Int)
    (hv : ∀ b, name = some b → len ≤ b.length) (hs : (nameOf name len).bind setVal = none) :
    set id h k (name.map (· ++ [0])) len = .ok (id, h, false) := by
  rw [set_eq_place id h k name len hv, hs]; rfl

theorem set_stores {id : Ident} {h : Heap} {k : Nat} (hw : Wf id h k) (ho : Own id h k) (name : Option (List Byte)) (len : Int)
    (hv : ∀ b, name = some b → len ≤ b.length) {v : Val} (hs : (nameOf name len).bind setVal = some v) :
    Stores (set id h k (name.map (· ++ [0])) len) id h k v.charset v.stored := by
  rw [set_eq_place id h k name len hv, hs]
  obtain ⟨nm, -, hnm⟩ := Option.bind_eq_some_iff.1 hs
  exact place_stores hw ho v (setVal_le hnm)

/-- `mpt_identifier_set(id, 0, 0)` unsets -/
theorem set_unset {id : Ident} {h : Heap} {k : Nat} (hw : Wf id h k) (ho : Own id h k) :
    Stores (set id h k none 0) id h k 0 [] :=
  set_stores hw ho none 0 nofun (v := Val.unset) rfl

theorem copy_null {dst : Ident} {h : Heap} {k : Nat} (hw : Wf dst h k) (ho : Own dst h k) :
    Stores (copy dst none false h k) dst h k 0 [] :=
  set_unset hw ho

/-- `_identifier_fini`: the allocation is released -/
theorem fini_spec {id : Ident} {h : Heap} {k : Nat} (hw : Wf id h k) (ho : Own id h k) :
    ∃ id' h', fini id h k = .ok (id', h') ∧ Frame h h' k ∧ Released h'.blocks k := by
  obtain ⟨p, blocks, hp, hfree, hdead, hfr⟩ := release_old_nil hw ho
  have hm1 := hw.max_le
  unfold fini
  by_cases hext : id.max < id.len
  · have hwr : wr id.area 0 (zeros id.max) = .ok (zeros id.max ++ id.area.drop id.max) := by
      rw [wr_ok (by simp; omega)]; simp
    simp only [hext, if_true, bind, Except.bind, hp, hfree, hwr, pure, Except.pure]
    exact ⟨_, _, rfl, hfr, hdead⟩
  · simp only [hext, if_false, pure, Except.pure]
    exact ⟨_, _, rfl, Frame.refl h k, ho.released hext⟩

theorem create_spec (size : Nat) (hs : 16 ≤ size) (h : Heap) (k : Nat)
    (hfresh : Released h.blocks k) :
    ∃ id, create size = .ok id ∧ Holds id h k 0 [] ∧ id.max = min (size - 4) identMax := by
  unfold create init rawStorage
  have hmin : min (size - 4) identMax ≤ size - 4 := Nat.min_le_left _ _
  rw [if_neg (by omega)]
  simp only [bind, Except.bind]
  rw [wr_ok (by simp; exact hmin)]
  have hl : (List.take 0 (List.replicate (size - 4) Cell.undef) ++ zeros (min (size - 4) identMax) ++
      List.drop (0 + (zeros (min (size - 4) identMax)).length) (List.replicate (size - 4) Cell.undef)).length = size - 4 := by
    simp; omega
  exact ⟨_, rfl, Holds.of_inline (data := []) hfresh (by omega) (by rw [hl]) (Nat.zero_le _) rfl, rfl⟩

theorem Wf.holds {id : Ident} {h : Heap} {k : Nat} (hw : Wf id h k) (ho : Own id h k) :
    ∃ d, Holds id h k id.charset d := by
  have hm1 := hw.max_le
  by_cases hext : id.max < id.len
  · obtain ⟨t, b, hgb, hb, hl, hown, hlen⟩ := hw.ext hext
    refine ⟨b.data, hw, ho, ?_, hlen.symm, rfl⟩
    simp only [readData, hext, if_true, bind, Except.bind, hgb, hb, hl]
    simp only [Bool.not_true, Bool.false_eq_true, if_false, hlen, Nat.le_refl, if_true, pure, Except.pure]
    rw [← hlen, List.take_length]
  · obtain ⟨b, hb⟩ := hw.inl (by omega)
    have hbl := cellBytes_length hb
    refine ⟨b, hw, ho, ?_, ?_, rfl⟩
    · have : id.len ≤ id.area.length := by omega
      simp only [readData, hext, if_false, this, if_true, hb]
      rfl
    · rw [hbl]; simp; omega

end Mpt.Ident
