/-
  Canonical descriptions (Spec/IterGrammar.lean) are accepted by `mpt_iterator_create` with the denoted
  sequence.  The text of a recognised description is rebuilt from its fields (`fieldsOf_inv`, `trim1_pad`,
  `join_splitC`: `joinC` puts the separator back between the parts, `padL` / `padR` the blanks `trim1` removed); a number
  list of the grammar is a token text (`numbers_toks`), converted number by number (`numbers_reads`); a padded field `g`
  followed by `:` or `)` is consumed by the scanner of its group, which then stands at `padR g`, the blank behind the
  field (`count_field`, `field_reads`, `number_field`, `range_field`);
  `recognise_create` says what each recognised description is handed to; `C19.accepted` and `senseless_refused` read
  the result off.
-/
import MptModel.Lemmas.IterCreate
namespace Mpt.Iter
open Mpt.IterSpec


theorem splitOn_cons (sep c : Char) (cs : List Char) :
    IterSpec.splitOn sep (c :: cs) =
      if c = sep then [] :: IterSpec.splitOn sep cs
      else match IterSpec.splitOn sep cs with
        | [] => [[c]]
        | w :: ws => (c :: w) :: ws := rfl

theorem splitOn_ne_nil (sep : Char) (s : List Char) : IterSpec.splitOn sep s ≠ [] := by
  induction s with
  | nil => simp [IterSpec.splitOn]
  | cons c cs ih =>
    rw [splitOn_cons]
    split
    · simp
    · split <;> simp

def joinC (sep : Char) : List (List Char) → List Char
  | [] => []
  | [t] => t
  | t :: more => t ++ sep :: joinC sep more

theorem joinC_cons (sep : Char) (t : List Char) (more : List (List Char)) (h : more ≠ []) :
    joinC sep (t :: more) = t ++ sep :: joinC sep more := by
  cases more with
  | nil => exact absurd rfl h
  | cons a as => rfl

theorem join_splitC (sep : Char) (s : List Char) : joinC sep (IterSpec.splitOn sep s) = s := by
  induction s with
  | nil => rfl
  | cons c cs ih =>
    rw [splitOn_cons]
    by_cases hc : c = sep
    · rw [if_pos hc, joinC_cons _ _ _ (splitOn_ne_nil sep cs), ih, hc]; rfl
    · rw [if_neg hc]
      cases hq : IterSpec.splitOn sep cs with
      | nil => exact absurd hq (splitOn_ne_nil sep cs)
      | cons w ws =>
        rw [hq] at ih
        simp only []
        cases ws with
        | nil => simp only [joinC] at ih ⊢; rw [ih]
        | cons a as =>
          rw [joinC_cons _ _ _ (by simp)] at ih ⊢
          rw [List.cons_append, ih]

/-! ### number lists of the grammar (`numbers`) are token texts -/

theorem allSome_cons {α} (x : Option α) (xs : List (Option α)) (vs : List α) (h : allSome (x :: xs) = some vs) :
    ∃ v ws, x = some v ∧ allSome xs = some ws ∧ vs = v :: ws := by
  cases x with
  | none => simp [allSome] at h
  | some a =>
    simp only [allSome] at h
    cases hq : allSome xs with
    | none => rw [hq] at h; simp at h
    | some ws => rw [hq] at h; simp at h; exact ⟨a, ws, rfl, rfl, h.symm⟩

theorem allSome_length {α} (l : List (Option α)) (vs : List α) (h : allSome l = some vs) : vs.length = l.length := by
  induction l generalizing vs with
  | nil => simp [allSome] at h; subst h; rfl
  | cons x xs ih =>
    obtain ⟨v, ws, _, hq, rfl⟩ := allSome_cons x xs vs h
    simp [ih ws hq]

theorem numbers_tokens (s : List Char) (vs : List Rat) (h : numbers s = some vs) :
    ∃ toks, s = joinC ' ' toks ∧ toks ≠ [] ∧ allSome (toks.map strictNumber) = some vs :=
  ⟨IterSpec.splitOn ' ' s, (join_splitC ' ' s).symm, splitOn_ne_nil ' ' s, h⟩

theorem numbers_toks (body : List Char) (vs : List Rat) (h : numbers body = some vs) :
    TokS (fun c => c = ' ') body vs := by
  obtain ⟨toks, rfl, hne, ht⟩ := numbers_tokens body vs h
  clear h
  induction toks generalizing vs with
  | nil => exact absurd rfl hne
  | cons t more ih =>
    obtain ⟨v, ws, h1, hm, rfl⟩ := allSome_cons _ _ _ ht
    by_cases hmore : more = []
    · subst hmore
      cases hm
      exact .last h1
    · rw [joinC_cons _ _ _ hmore]
      exact .cons h1 rfl (ih ws hmore hm)

theorem numbers_ne_nil (body : List Char) (vs : List Rat) (h : numbers body = some vs) : vs ≠ [] :=
  (numbers_toks body vs h).ne_nil

theorem numbers_one (x : List Char) (a : Rat) (h : numbers x = some [a]) : strictNumber x = some a := by
  cases numbers_toks x _ h with
  | last ht => exact ht
  | cons _ _ more => exact absurd rfl more.ne_nil

theorem numbers_two (ab : List Char) (a b : Rat) (h : numbers ab = some [a, b]) :
    ∃ ta tb, ab = ta ++ ' ' :: tb ∧ strictNumber ta = some a ∧ strictNumber tb = some b := by
  cases numbers_toks ab _ h with
  | cons ht hc more =>
    subst hc
    cases more with
    | last ht2 => exact ⟨_, _, rfl, ht, ht2⟩
    | cons _ _ m => exact absurd rfl m.ne_nil

theorem numbers_reads (body : List Char) (vs : List Rat) (h : numbers body = some vs) (tail : List Char)
    (hst : Stops tail) : Reads (body ++ tail) vs tail :=
  toks_reads (numbers_toks body vs h) tail hst

/-- a canonical number list begins with a sign or digit: no white space, no colon -/
theorem numbers_head (body : List Char) (vs : List Rat) (h : numbers body = some vs) :
    NoLeadSpace body ∧ body.head? ≠ some ':' := by
  obtain ⟨t, R, v, rfl, h1⟩ := (numbers_toks body vs h).head
  refine ⟨strict_noLead t R v h1, ?_⟩
  obtain ⟨c, cs, _, _, rfl, hc, _⟩ := strict_head t v h1
  simp only [List.cons_append, List.head?_cons, ne_eq, Option.some.injEq]
  rcases hc with e | e | e
  · subst e; decide
  · subst e; decide
  · intro e; subst e; cases e

theorem accept_values (s : List Char) (vs : List Rat)
    (hname : (s.takeWhile isLetter).isEmpty = true) (h : numbers s = some vs) :
    ∃ g, create s = some g ∧ g.all = vs ∧ g.rem = vs ∧ g.WF := by
  have hds := noLead_dropSpace s (numbers_head s vs h).1
  have hr := numbers_reads s vs h [] stops_nil
  rw [List.append_nil] at hr
  obtain ⟨n1, n2⟩ := reads_nums hr
  have n1 : nums s = vs := by rw [n1]; exact List.append_nil vs
  cases vs with
  | nil => exact absurd rfl (numbers_ne_nil s _ h)
  | cons v ws =>
    obtain ⟨r, hc, _⟩ := reads_head hr
    obtain ⟨m1, m2⟩ := nums_step s v r hc
    have hsne : s ≠ [] := by intro e; subst e; cases hc
    refine ⟨.values s (some r) v, ?_, n1, ?_, ⟨v, r, hc⟩, n2, ?_⟩
    · rw [create_values s (by rw [hds]; exact hsne) (by rw [hds]; exact hname), hds, mkValues_ok hc]
    · rw [← n1, m1]; rfl
    · intro s' hs'; cases hs'
      rw [← m2]; exact n2


/-- the blank `trim1` removes in front of a field -/
def padL (g : List Char) : List Char := if g.head? = some ' ' then [' '] else []
/-- the blank `trim1` removes behind a field -/
def padR (g : List Char) : List Char :=
  if (if g.head? = some ' ' then g.tail else g).getLast? = some ' ' then [' '] else []

theorem padL_opt (g : List Char) : OptBlank (padL g) := by
  unfold padL; split
  · exact Or.inr rfl
  · exact Or.inl rfl

theorem padR_opt (g : List Char) : OptBlank (padR g) := by
  unfold padR
  generalize (if g.head? = some ' ' then g.tail else g) = m
  split
  · exact Or.inr rfl
  · exact Or.inl rfl

theorem padL_tail (g : List Char) : padL g ++ (if g.head? = some ' ' then g.tail else g) = g := by
  unfold padL
  split
  · rename_i h
    cases g with
    | nil => cases h
    | cons x xs => cases h; rfl
  · rfl

theorem trim1_pad (g : List Char) : padL g ++ (trim1 g ++ padR g) = g := by
  have h1 := padL_tail g
  unfold trim1 padR
  simp only []
  generalize (if g.head? = some ' ' then g.tail else g) = m at h1 ⊢
  split
  · rename_i h2
    rw [← dropLast_of_getLast? h2]; exact h1
  · rw [List.append_nil]; exact h1

/-- a padded field in front of `c :: t`, split so that behind the trimmed field stands `padR g ++ c :: t`, where the
    scan of the field stops -/
theorem pad_field (g : List Char) (c : Char) (t : List Char) :
    g ++ c :: t = padL g ++ (trim1 g ++ (padR g ++ c :: t)) := by
  rw [← List.append_assoc (trim1 g), ← List.append_assoc, trim1_pad]

theorem fieldsOf_inv (rest : List Char) (fs : List (List Char)) (h : fieldsOf rest = some fs) :
    ∃ a gs, OptBlank a ∧ rest = a ++ '(' :: (joinC ':' gs ++ [')']) ∧ gs.map trim1 = fs := by
  obtain ⟨a, ha, oa⟩ : ∃ a, rest = a ++ (if rest.head? = some ' ' then rest.tail else rest) ∧ OptBlank a :=
    ⟨padL rest, (padL_tail rest).symm, padL_opt rest⟩
  unfold fieldsOf at h
  simp only [] at h
  generalize (if rest.head? = some ' ' then rest.tail else rest) = r at ha h
  split at h
  · cases h
  · rename_i hc
    simp only [not_or, Decidable.not_not] at hc
    obtain ⟨h1, h2⟩ := hc
    split at h <;> cases h
    cases r with
    | nil => cases h1
    | cons x r' =>
      cases h1
      have h3 : r'.getLast? = some ')' := by
        cases r' with
        | nil => simp at h2
        | cons y ys => rw [List.getLast?_cons_cons] at h2; exact h2
      refine ⟨a, IterSpec.splitOn ':' r'.dropLast, oa, ?_, rfl⟩
      rw [ha, join_splitC, ← dropLast_of_getLast? h3]

theorem letter_dropSpace (s : List Char) (h : (s.takeWhile isLetter).isEmpty = false) : dropSpace s = s := by
  cases s with
  | nil => cases h
  | cons c cs =>
    by_cases hc : isLetter c = true
    · exact dropSpace_id c cs (letter_not_space c hc)
    · simp [List.takeWhile, hc] at h

theorem create_fields (s : List Char) (k : Nat) (fs : List (List Char))
    (hname : (s.takeWhile isLetter).isEmpty = false) (hkw : keywordKind (s.takeWhile isLetter) = some k)
    (hf : fieldsOf (s.dropWhile isLetter) = some fs) :
    ∃ a gs, OptBlank a ∧ gs.map trim1 = fs ∧ create s = kindArgs k (a ++ '(' :: (joinC ':' gs ++ [')'])) := by
  obtain ⟨a, gs, oa, hr, hg⟩ := fieldsOf_inv _ _ hf
  refine ⟨a, gs, oa, hg, ?_⟩
  have hd := letter_dropSpace s hname
  rw [create_keyword s (by rw [hd]; exact hname), hd, hkw, hr]
  rfl

/-! ### a padded field followed by a delimiter is consumed by the scanner of its group -/

theorem close_sep : SepChar ')' := by unfold SepChar; decide
theorem colon_sep : SepChar ':' := by unfold SepChar; decide

theorem head_opt_nodigit (b : List Char) (c : Char) (t : List Char) (hb : OptBlank b) (hc : isDigit c = false) :
    ∀ x, (b ++ c :: t).head? = some x → isDigit x = false := by
  intro x hx
  rcases hb with e | e <;> subst e <;> cases hx
  · exact hc
  · decide

theorem count_field (g : List Char) (k : Nat) (c : Char) (t : List Char) (hn : strictCount (trim1 g) = some k)
    (hc : isDigit c = false) : cuint32 (g ++ c :: t) = .ok k (padR g ++ c :: t) ∧ k < 1000000000 := by
  obtain ⟨hu, hlt⟩ := cuint32_strict (trim1 g) (padR g ++ c :: t) k hn (head_opt_nodigit _ c t (padR_opt g) hc)
  rw [pad_field]
  exact ⟨cuint32_opt _ _ k _ (padL_opt g) hu, hlt⟩

theorem field_reads (g : List Char) (vs : List Rat) (c : Char) (t : List Char) (h : numbers (trim1 g) = some vs)
    (hc : SepChar c) : Reads (g ++ c :: t) vs (padR g ++ c :: t) := by
  rw [pad_field]
  exact reads_opt (padL_opt g) (numbers_reads _ vs h _ (stops_opt _ c t (padR_opt g) hc)) (numbers_ne_nil _ vs h)

theorem number_field (g : List Char) (v : Rat) (c : Char) (t : List Char) (h : numbers (trim1 g) = some [v])
    (hc : SepChar c) : cdouble (g ++ c :: t) = .ok v (padR g ++ c :: t) :=
  reads_one (field_reads g _ c t h hc)

theorem range_field (g : List Char) (va vb d1 d2 : Rat) (c : Char) (t : List Char)
    (h : numbers (trim1 g) = some [va, vb]) (hc : SepChar c) :
    parseRange (g ++ c :: t) d1 d2 = some (va, vb, padR g ++ c :: t) :=
  reads_parseRange (field_reads g _ c t h hc) d1 d2

theorem optNumber_field (b g : List Char) (v d : Rat) (c : Char) (t : List Char) (ob : OptBlank b)
    (h : numbers (trim1 g) = some [v]) (hc : SepChar c) :
    optNumber (b ++ ':' :: (g ++ c :: t)) d = some (v, padR g ++ c :: t) := by
  unfold optNumber
  rw [(nextIs_same b ':' _ ob (by decide)).2, List.tail_cons, number_field g v c t h hc]

theorem rangeStep_close (b : List Char) (d : Rat) (ob : OptBlank b) :
    rangeStep (b ++ [')']) d = some (d, b ++ [')']) := by
  rw [rangeStep_eq, nextIs_other b ')' ':' [] ob (by decide) (by decide)]
  rfl

theorem rangeStep_field (b g : List Char) (v d : Rat) (c : Char) (t : List Char) (ob : OptBlank b)
    (h : numbers (trim1 g) = some [v]) (hc : SepChar c) :
    rangeStep (b ++ ':' :: (g ++ c :: t)) d = some (v, padR g ++ c :: t) := by
  rw [rangeStep_eq, (nextIs_same b ':' _ ob (by decide)).1]
  exact optNumber_field b g v d c t ob h hc


theorem linArgs_head (a g1 : List Char) (k : Nat) (c : Char) (t : List Char) (oa : OptBlank a)
    (hn : strictCount (trim1 g1) = some k) (hc : isDigit c = false) :
    linArgs (a ++ '(' :: (g1 ++ c :: t)) =
      (match linRange (padR g1 ++ c :: t) with
       | none => none
       | some (mn, mx, s2) => if !closeOk s2 then none else mkLinear (wrap32 (k + 1)) mn mx) := by
  unfold linArgs
  rw [nextvis_opt a '(' _ oa (by decide)]
  simp only [List.tail_cons, ne_eq, not_true_eq_false, ↓reduceIte]
  rw [(count_field g1 k c t hn hc).1]
  rfl

theorem linArgs_one (a g1 : List Char) (k : Nat) (oa : OptBlank a) (hn : strictCount (trim1 g1) = some k) :
    linArgs (a ++ '(' :: (joinC ':' [g1] ++ [')'])) = mkLinear (wrap32 (k + 1)) 0 1 := by
  show linArgs (a ++ '(' :: (g1 ++ [')'])) = _
  rw [linArgs_head a g1 k ')' [] oa hn (by decide)]
  unfold linRange
  rw [nextIs_other _ ')' ':' [] (padR_opt g1) (by decide) (by decide)]
  simp only [Bool.false_eq_true, ↓reduceIte, closeOk_opt _ (padR_opt g1), Bool.not_true]

theorem linArgs_two (a g1 g2 : List Char) (k : Nat) (va vb : Rat) (oa : OptBlank a)
    (hn : strictCount (trim1 g1) = some k) (hab : numbers (trim1 g2) = some [va, vb]) :
    linArgs (a ++ '(' :: (joinC ':' [g1, g2] ++ [')'])) = mkLinear (wrap32 (k + 1)) va vb := by
  simp only [joinC, List.append_assoc, List.cons_append]
  rw [linArgs_head a g1 k ':' (g2 ++ [')']) oa hn (by decide)]
  unfold linRange
  obtain ⟨n1, n2⟩ := nextIs_same _ ':' (g2 ++ [')']) (padR_opt g1) (by decide)
  rw [n1, n2]
  simp only [↓reduceIte, List.tail_cons, range_field g2 va vb 0 1 ')' [] hab close_sep,
    closeOk_opt _ (padR_opt g2), Bool.not_true, Bool.false_eq_true]

theorem rangeArgs_head (a g1 : List Char) (va vb : Rat) (c : Char) (t : List Char) (oa : OptBlank a)
    (hab : numbers (trim1 g1) = some [va, vb]) (hc : SepChar c) :
    rangeArgs (a ++ '(' :: (g1 ++ c :: t)) =
      (match rangeStep (padR g1 ++ c :: t) ((vb - va) / 10) with
       | none => none
       | some (step, s2) => if !closeOk s2 then none else rangeMake va vb step) := by
  unfold rangeArgs
  rw [nextvis_opt a '(' _ oa (by decide)]
  simp only [List.tail_cons, ne_eq, not_true_eq_false, ↓reduceIte]
  rw [range_field g1 va vb 0 1 c t hab hc]
  rfl

theorem rangeArgs_one (a g1 : List Char) (va vb : Rat) (oa : OptBlank a)
    (hab : numbers (trim1 g1) = some [va, vb]) :
    rangeArgs (a ++ '(' :: (joinC ':' [g1] ++ [')'])) = rangeMake va vb ((vb - va) / 10) := by
  show rangeArgs (a ++ '(' :: (g1 ++ [')'])) = _
  rw [rangeArgs_head a g1 va vb ')' [] oa hab close_sep, rangeStep_close _ _ (padR_opt g1)]
  simp only [closeOk_opt _ (padR_opt g1), Bool.not_true, Bool.false_eq_true, ↓reduceIte]

theorem rangeArgs_two (a g1 g2 : List Char) (va vb vs : Rat) (oa : OptBlank a)
    (hab : numbers (trim1 g1) = some [va, vb]) (hs : numbers (trim1 g2) = some [vs]) :
    rangeArgs (a ++ '(' :: (joinC ':' [g1, g2] ++ [')'])) = rangeMake va vb vs := by
  simp only [joinC, List.append_assoc, List.cons_append]
  rw [rangeArgs_head a g1 va vb ':' (g2 ++ [')']) oa hab colon_sep,
    rangeStep_field _ g2 vs ((vb - va) / 10) ')' [] (padR_opt g1) hs close_sep]
  simp only [closeOk_opt _ (padR_opt g2), Bool.not_true, Bool.false_eq_true, ↓reduceIte]

theorem facArgs_head (a g1 : List Char) (k : Nat) (c : Char) (t : List Char) (oa : OptBlank a)
    (hn : strictCount (trim1 g1) = some k) (hc : isDigit c = false) :
    facArgs (a ++ '(' :: (g1 ++ c :: t)) =
      (match facBase (padR g1 ++ c :: t) with
       | none => none
       | some (base, s2) =>
         match facTail base s2 with
         | none => none
         | some (fact, init, s5) =>
           if !closeOk s5 then none else some (.factor base fact init (wrap32 (k + 1)) 0 init)) := by
  obtain ⟨hu, hlt⟩ := count_field g1 k c t hn hc
  unfold facArgs facCount
  rw [nextvis_opt a '(' _ oa (by decide)]
  simp only [List.tail_cons, ne_eq, not_true_eq_false, ↓reduceIte]
  rw [hu]
  simp only []
  rw [if_neg (by omega)]
  rfl

theorem facBase_field (b g : List Char) (v : Rat) (c : Char) (t : List Char) (ob : OptBlank b)
    (h : numbers (trim1 g) = some [v]) (hc : SepChar c) :
    facBase (b ++ ':' :: (g ++ c :: t)) = some (v, padR g ++ c :: t) := by
  rw [facBase_eq]
  exact rangeStep_field b g v 10 c t ob h hc

theorem facTail_close (k : Nat) (base : Rat) (b : List Char) (ob : OptBlank b) :
    (match facTail base (b ++ [')']) with
     | none => none
     | some (fact, init, s5) =>
       if !closeOk s5 then none else some (Gen.factor base fact init (wrap32 (k + 1)) 0 init))
      = facMake k base base 0 := by
  unfold facTail facMake
  rw [nextIs_other b ')' ':' [] ob (by decide) (by decide)]
  by_cases hv : base < dblMin
  · simp only [hv, Bool.false_eq_true, ↓reduceIte]
  · simp only [hv, Bool.false_eq_true, ↓reduceIte, closeOk_opt b ob, Bool.not_true]

theorem opt_head_not_colon (g : List Char) (v : Rat) (rest : List Char) (h : numbers (trim1 g) = some [v]) :
    ¬ (g ++ rest).head? = some ':' := by
  obtain ⟨⟨x, xs, hx, _⟩, hc⟩ := numbers_head _ _ h
  rw [hx] at hc
  rw [← trim1_pad g, hx]
  rcases padL_opt g with e | e <;> rw [e]
  · simpa using hc
  · simp

theorem facTail_field (base : Rat) (b g : List Char) (vf : Rat) (c : Char) (t : List Char) (ob : OptBlank b)
    (h : numbers (trim1 g) = some [vf]) (hc : SepChar c) :
    facTail base (b ++ ':' :: (g ++ c :: t)) =
      if vf < dblMin then none
      else if nextIs (padR g ++ c :: t) ':' then
        match optNumber (padR g ++ c :: t) 0 with
        | none => none
        | some (init, s4) => some (vf, init, s4)
      else some (vf, 0, padR g ++ c :: t) := by
  unfold facTail facFact
  obtain ⟨n1, n2⟩ := nextIs_same b ':' (g ++ c :: t) ob (by decide)
  rw [n1, n2, List.tail_cons, if_neg (opt_head_not_colon g vf _ h), number_field g vf c t h hc]
  by_cases hv : vf < dblMin
  · simp only [hv, ↓reduceIte]
  · simp only [hv, ↓reduceIte]; rfl

theorem facArgs_one (a g1 : List Char) (k : Nat) (oa : OptBlank a) (hn : strictCount (trim1 g1) = some k) :
    facArgs (a ++ '(' :: (joinC ':' [g1] ++ [')'])) = facMake k 10 10 0 := by
  show facArgs (a ++ '(' :: (g1 ++ [')'])) = _
  rw [facArgs_head a g1 k ')' [] oa hn (by decide), facBase_eq, rangeStep_close _ 10 (padR_opt g1)]
  exact facTail_close k 10 _ (padR_opt g1)

theorem facArgs_two (a g1 g2 : List Char) (k : Nat) (x : Rat) (oa : OptBlank a)
    (hn : strictCount (trim1 g1) = some k) (hx : numbers (trim1 g2) = some [x]) :
    facArgs (a ++ '(' :: (joinC ':' [g1, g2] ++ [')'])) = facMake k x x 0 := by
  simp only [joinC, List.append_assoc, List.cons_append]
  rw [facArgs_head a g1 k ':' (g2 ++ [')']) oa hn (by decide),
    facBase_field _ g2 x ')' [] (padR_opt g1) hx close_sep]
  exact facTail_close k x _ (padR_opt g2)

theorem facArgs_three (a g1 g2 g3 : List Char) (k : Nat) (x y : Rat) (oa : OptBlank a)
    (hn : strictCount (trim1 g1) = some k) (hx : numbers (trim1 g2) = some [x]) (hy : numbers (trim1 g3) = some [y]) :
    facArgs (a ++ '(' :: (joinC ':' [g1, g2, g3] ++ [')'])) = facMake k x y 0 := by
  simp only [joinC, List.append_assoc, List.cons_append]
  rw [facArgs_head a g1 k ':' (g2 ++ ':' :: (g3 ++ [')'])) oa hn (by decide),
    facBase_field _ g2 x ':' (g3 ++ [')']) (padR_opt g1) hx colon_sep]
  simp only []
  rw [facTail_field x _ g3 y ')' [] (padR_opt g2) hy close_sep,
    nextIs_other _ ')' ':' [] (padR_opt g3) (by decide) (by decide)]
  unfold facMake
  by_cases hv : y < dblMin
  · simp only [hv, ↓reduceIte]
  · simp only [hv, Bool.false_eq_true, ↓reduceIte, closeOk_opt _ (padR_opt g3), Bool.not_true]

theorem facArgs_four (a g1 g2 g3 g4 : List Char) (k : Nat) (x y z : Rat) (oa : OptBlank a)
    (hn : strictCount (trim1 g1) = some k) (hx : numbers (trim1 g2) = some [x]) (hy : numbers (trim1 g3) = some [y])
    (hz : numbers (trim1 g4) = some [z]) :
    facArgs (a ++ '(' :: (joinC ':' [g1, g2, g3, g4] ++ [')'])) = facMake k x y z := by
  simp only [joinC, List.append_assoc, List.cons_append]
  rw [facArgs_head a g1 k ':' (g2 ++ ':' :: (g3 ++ ':' :: (g4 ++ [')']))) oa hn (by decide),
    facBase_field _ g2 x ':' (g3 ++ ':' :: (g4 ++ [')'])) (padR_opt g1) hx colon_sep]
  simp only []
  rw [facTail_field x _ g3 y ':' (g4 ++ [')']) (padR_opt g2) hy colon_sep,
    (nextIs_same _ ':' _ (padR_opt g3) (by decide)).1, optNumber_field _ g4 z 0 ')' [] (padR_opt g3) hz close_sep]
  unfold facMake
  by_cases hv : y < dblMin
  · simp only [hv, ↓reduceIte]
  · simp only [hv, ↓reduceIte, closeOk_opt _ (padR_opt g4), Bool.not_true, Bool.false_eq_true]


/-- **a recognised description reaches the creator of its kind with exactly its numbers**; a number list is
    what `numbers` reads (and is handed to `mpt_iterator_values`, see `accept_values`) -/
theorem recognise_create (s : List Char) :
    ∀ d, recognise s = some d →
      match d with
      | .lin k a b => create s = mkLinear (wrap32 (k + 1)) a b
      | .range a b st => create s = rangeMake a b st
      | .fac k base f init => create s = facMake k base f init
      | .values vs => (s.takeWhile isLetter).isEmpty = true ∧ numbers s = some vs ∧ vs ≠ [] := by
  intro d h
  unfold recognise at h
  simp only [] at h
  by_cases hname : (s.takeWhile isLetter).isEmpty = true
  · rw [if_pos hname] at h
    cases hq : numbers s with
    | none => rw [hq] at h; cases h
    | some vs =>
      rw [hq] at h
      simp only [Option.bind_some] at h
      split at h <;> cases h
      rename_i hne
      exact ⟨hname, rfl, by simpa using hne⟩
  · rw [if_neg hname] at h
    have hname : (s.takeWhile isLetter).isEmpty = false := by simpa using hname
    split at h
    · -- lin(n)
      rename_i n hkw hf
      obtain ⟨k, hn, rfl⟩ := Option.map_eq_some_iff.1 h
      obtain ⟨a, gs, oa, hg, hc⟩ := create_fields s 0 _ hname hkw hf
      simp only [List.map_eq_cons_iff, List.map_eq_nil_iff] at hg
      obtain ⟨g1, _, rfl, rfl, rfl⟩ := hg
      exact hc.trans (linArgs_one a g1 k oa hn)
    · -- lin(n : a b)
      rename_i n ab hkw hf
      obtain ⟨a, gs, oa, hg, hc⟩ := create_fields s 0 _ hname hkw hf
      simp only [List.map_eq_cons_iff, List.map_eq_nil_iff] at hg
      obtain ⟨g1, _, rfl, rfl, g2, _, rfl, rfl, rfl⟩ := hg
      split at h <;> cases h
      rename_i k va vb hn hab
      exact hc.trans (linArgs_two a g1 g2 k va vb oa hn hab)
    · -- range(a b)
      rename_i ab hkw hf
      obtain ⟨a, gs, oa, hg, hc⟩ := create_fields s 1 _ hname hkw hf
      simp only [List.map_eq_cons_iff, List.map_eq_nil_iff] at hg
      obtain ⟨g1, _, rfl, rfl, rfl⟩ := hg
      split at h <;> cases h
      rename_i va vb hab
      exact hc.trans (rangeArgs_one a g1 va vb oa hab)
    · -- range(a b : s)
      rename_i ab st hkw hf
      obtain ⟨a, gs, oa, hg, hc⟩ := create_fields s 1 _ hname hkw hf
      simp only [List.map_eq_cons_iff, List.map_eq_nil_iff] at hg
      obtain ⟨g1, _, rfl, rfl, g2, _, rfl, rfl, rfl⟩ := hg
      split at h <;> cases h
      rename_i va vb vs hab hs
      exact hc.trans (rangeArgs_two a g1 g2 va vb vs oa hab hs)
    · -- fac(n)
      rename_i n hkw hf
      obtain ⟨k, hn, rfl⟩ := Option.map_eq_some_iff.1 h
      obtain ⟨a, gs, oa, hg, hc⟩ := create_fields s 2 _ hname hkw hf
      simp only [List.map_eq_cons_iff, List.map_eq_nil_iff] at hg
      obtain ⟨g1, _, rfl, rfl, rfl⟩ := hg
      exact hc.trans (facArgs_one a g1 k oa hn)
    · -- fac(n:b)
      rename_i n b hkw hf
      obtain ⟨a, gs, oa, hg, hc⟩ := create_fields s 2 _ hname hkw hf
      simp only [List.map_eq_cons_iff, List.map_eq_nil_iff] at hg
      obtain ⟨g1, _, rfl, rfl, g2, _, rfl, rfl, rfl⟩ := hg
      split at h <;> cases h
      rename_i k x hn hx
      exact hc.trans (facArgs_two a g1 g2 k x oa hn hx)
    · -- fac(n:b:f)
      rename_i n b f hkw hf
      obtain ⟨a, gs, oa, hg, hc⟩ := create_fields s 2 _ hname hkw hf
      simp only [List.map_eq_cons_iff, List.map_eq_nil_iff] at hg
      obtain ⟨g1, _, rfl, rfl, g2, _, rfl, rfl, g3, _, rfl, rfl, rfl⟩ := hg
      split at h <;> cases h
      rename_i k x y hn hx hy
      exact hc.trans (facArgs_three a g1 g2 g3 k x y oa hn hx hy)
    · -- fac(n:b:f:i)
      rename_i n b f i hkw hf
      obtain ⟨a, gs, oa, hg, hc⟩ := create_fields s 2 _ hname hkw hf
      simp only [List.map_eq_cons_iff, List.map_eq_nil_iff] at hg
      obtain ⟨g1, _, rfl, rfl, g2, _, rfl, rfl, g3, _, rfl, rfl, g4, _, rfl, rfl, rfl⟩ := hg
      split at h <;> cases h
      rename_i k x y z hn hx hy hz
      exact hc.trans (facArgs_four a g1 g2 g3 g4 k x y z oa hn hx hy hz)
    · cases h


/-- 562949953421312 = 2^49 (`rangeTol` is `8·DBL_EPSILON`) -/
theorem rangeTol_eq : rangeTol = 1 / 562949953421312 := by unfold rangeTol; simp

/-- the range check of `_mpt_iterator_range` passes for the ranges the spec gives a meaning -/
theorem range_check (a b st : Rat) (h2 : 0 < st) (h3 : st ≤ b - a) (h4 : (b - a) / 100000 ≤ st) :
    ¬ (¬ (0 < st) ∨ (b - a) * (1 + rangeTol) < st ∨ st < (b - a) * (1 / 1000000)) := by
  intro h
  rw [rangeTol_eq] at h
  -- the three tests contradict `h2`, `h3` (the width is positive, so enlarging it keeps `st` below) and `h4`:
  -- 1/100000 of the width is the bound of the specification (`Desc.den`), ten times the code's 1/1000000
  rcases h with h | h | h <;> grind

theorem range_count (a b st : Rat) (h2 : 0 < st) (h4 : (b - a) / 100000 ≤ st) :
    ((b - a) / st).floor.toNat + 1 < 4294967296 := by
  have hle : (b - a) / st ≤ 100000 := by
    apply Rat.not_lt.1
    intro hc
    rw [Rat.lt_div_iff h2] at hc
    grind
  have hf := Rat.floor_le ((b - a) / st)
  have : (((b - a) / st).floor : Rat) ≤ ((100000 : Int) : Rat) := by
    have : ((100000 : Int) : Rat) = 100000 := by simp
    rw [this]; grind
  have := Rat.intCast_le_intCast.1 this
  omega

/-- where the spec calls the step count settled the tolerance of the implementation does not fire -/
theorem rangeSteps_settled (a b st : Rat) (h2 : 0 < st) (h4 : (b - a) / 100000 ≤ st)
    (h5 : rangeSettled a b st = true) : rangeSteps a b st = ((b - a) / st).floor.toNat := by
  have hc := range_count a b st h2 h4
  unfold rangeSteps
  simp only []
  rw [if_neg]
  intro hle
  unfold rangeSettled at h5
  simp only [Bool.or_eq_true, decide_eq_true_eq] at h5
  generalize (b - a) / st = q at hc hle h5
  generalize q.floor.toNat = k at hc hle h5
  rw [rangeTol_eq] at hle
  rcases h5 with h5 | h5
  · -- a whole number of steps: the gap to the next one is 1, the tolerance `(k + 1)·2^-49` stays below it
    -- because `k + 1 ≤ 2^32` (`range_count`)
    subst h5
    have hk : ((k + 1 : Nat) : Rat) ≤ ((4294967296 : Nat) : Rat) := by exact_mod_cast Nat.le_of_lt hc
    have e : ((k + 1 : Nat) : Rat) = ((k : Nat) : Rat) + 1 := by push_cast; rfl
    have t2 : ((4294967296 : Nat) : Rat) = 4294967296 := by simp
    rw [e] at hle
    rw [e, t2] at hk
    grind
  · exact absurd hle (Rat.not_le.2 h5)

theorem range_den (a b st : Rat) (h2 : 0 < st) (h4 : (b - a) / 100000 ≤ st)
    (h5 : rangeSettled a b st = true) :
    (Gen.linear a st (wrap32 (rangeSteps a b st + 1)) 0).all = (IterSpec.range a b st).elems := by
  have := range_count a b st h2 h4
  rw [rangeSteps_settled a b st h2 h4 h5, wrap32_small _ (by omega)]
  rfl


theorem senseless_refused (s : List Char) (d : Desc) (h : recognise s = some d) (hs : d.senseless = true) :
    create s = none := by
  have hc := recognise_create s d h
  cases d with
  | lin k a b =>
    simp only [Desc.senseless, beq_iff_eq] at hs hc
    subst hs
    rw [hc]
    rfl
  | range a b st =>
    simp only [Desc.senseless, Bool.or_eq_true, decide_eq_true_eq] at hs hc
    rw [hc, rangeMake, if_pos]
    rw [rangeTol_eq]
    -- `b ≤ a`: a positive step exceeds the width, which is not positive, however enlarged; `st ≤ 0`: the first test
    rcases hs with hs | hs
    · by_cases hp : 0 < st
      · right; left; grind
      · left; exact hp
    · left; grind
  | fac k base f init => cases hs
  | values vs => cases hs

end Mpt.Iter
