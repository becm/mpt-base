/-
  The buffer argument iterator (mptcore/array/meta_buffer.c) over an array of NUL-terminated strings (`joinNul`): the
  states `bufAt` (at a string) and `bufEnd` (behind the last one), value / advance / reset on them, and the protocol for
  arbitrary call sequences (`BufRel`).  Defined here, used by the statements of Props/C19: the documented loop
  (`bufWalk`), one call and a call sequence on the model (`BufIt.step`, `BufIt.run`, answers `BOut`) and on the automaton
  over the strings (`lstep`, `lrun`).  States and protocol are those of `mpt_meta_buffer` (`args = false`); of
  `mpt_meta_arguments` (`reset` skips the first string) only the walk and the step behind the last string are covered.
-/
import MptModel.Lemmas.IterScan
import MptModel.Impl.IterArgs
namespace Mpt.Iter
open Mpt.IterSpec

def joinNul : List (List Char) → List Char
  | [] => []
  | s :: more => s ++ nul :: joinNul more

theorem findNul_app (s rest : List Char) (h : nul ∉ s) : findNul (s ++ nul :: rest) = some s.length := by
  induction s with
  | nil => simp [findNul]
  | cons c cs ih =>
    have hc : c ≠ nul := by intro e; apply h; simp [e]
    have := ih (by intro hm; apply h; simp [hm])
    simp [findNul, hc, this]

theorem cstr_app (s rest : List Char) (h : nul ∉ s) : BufIt.cstr (s ++ nul :: rest) = s := by
  induction s with
  | nil => simp [BufIt.cstr]
  | cons c cs ih =>
    have hc : c ≠ nul := by intro e; apply h; simp [e]
    simp [BufIt.cstr, hc, ih (by intro hm; apply h; simp [hm])]

/-- iterator positioned at the string `cur` behind the consumed prefix `pre` -/
def bufAt (args : Bool) (pre cur post : List Char) : BufIt :=
  { data := pre ++ (cur ++ nul :: post), hasBuf := true, off := pre.length, len := cur.length + 1,
    str := some pre.length, args := args }

theorem bufAt_value (args : Bool) (pre cur post : List Char) (h : nul ∉ cur) :
    (bufAt args pre cur post).value = .str cur := by
  unfold BufIt.value bufAt
  simp only [Bool.not_true, Bool.false_eq_true, false_or]
  rw [if_neg (by omega)]
  simp only [List.drop_left]
  rw [cstr_app cur post h]

def bufEnd (data : List Char) : BufIt :=
  { data := data, hasBuf := true, off := data.length, len := 0, str := none, args := false }

theorem bufAt_advance_end (args : Bool) (pre cur : List Char) :
    (bufAt args pre cur []).advance = ({ bufEnd (pre ++ (cur ++ [nul])) with args := args }, .last) := by
  unfold BufIt.advance BufIt.sliceNext bufAt bufEnd
  simp only [Bool.not_true, Bool.false_eq_true, ↓reduceIte, false_or, List.length_append, List.length_cons,
    List.length_nil]
  rw [if_neg (by omega), if_pos ⟨by omega, by omega⟩]

theorem BufIt.advance_str (data : List Char) (off len : Nat) (str : Option Nat) (args : Bool) (A nxt post : List Char)
    (hd : data = A ++ (nxt ++ nul :: post)) (hA : A.length = off + len) (hn : nul ∉ nxt) :
    ({ data := data, hasBuf := true, off := off, len := len, str := str, args := args } : BufIt).advance =
      ({ data := data, hasBuf := true, off := A.length, len := nxt.length + 1, str := some A.length, args := args },
        .more) := by
  subst hd
  unfold BufIt.advance BufIt.sliceNext
  simp only [Bool.not_true, Bool.false_eq_true, ↓reduceIte, false_or, List.length_append, List.length_cons]
  rw [if_neg (by omega), if_neg (by omega), if_neg (by omega), ← hA, List.drop_left,
    List.take_of_length_le (by simp; omega), findNul_app nxt post hn]

theorem bufAt_advance_more (args : Bool) (pre cur nxt post : List Char) (h : nul ∉ nxt) :
    (bufAt args pre cur (nxt ++ nul :: post)).advance = (bufAt args (pre ++ cur ++ [nul]) nxt post, .more) := by
  have hd : pre ++ (cur ++ nul :: (nxt ++ nul :: post)) = (pre ++ cur ++ [nul]) ++ (nxt ++ nul :: post) := by simp
  unfold bufAt
  rw [BufIt.advance_str _ _ _ _ args (pre ++ cur ++ [nul]) nxt post hd (by simp) h, hd]

/-- the documented loop on a buffer iterator -/
def bufWalk : Nat → BufIt → List BufIt.BufVal
  | 0, _ => []
  | fuel + 1, b =>
    match b.value with
    | .null => []
    | v =>
      match b.advance with
      | (b2, .more) => v :: bufWalk fuel b2
      | (_, _) => [v]

theorem bufWalk_from (args : Bool) (cur : List Char) (more : List (List Char)) (pre : List Char) (fuel : Nat)
    (hc : nul ∉ cur) (hm : ∀ s ∈ more, nul ∉ s) (hf : more.length < fuel) :
    bufWalk fuel (bufAt args pre cur (joinNul more)) = (cur :: more).map .str := by
  induction more generalizing cur pre fuel with
  | nil =>
    obtain ⟨f, rfl⟩ : ∃ f, fuel = f + 1 := ⟨fuel - 1, by omega⟩
    simp only [joinNul, bufWalk]
    rw [bufAt_value args pre cur [] hc]
    simp only []
    rw [bufAt_advance_end]
    rfl
  | cons nxt rest ih =>
    obtain ⟨f, rfl⟩ : ∃ f, fuel = f + 1 := ⟨fuel - 1, by omega⟩
    simp only [joinNul, bufWalk]
    rw [bufAt_value args pre cur _ hc]
    simp only []
    rw [bufAt_advance_more args pre cur nxt (joinNul rest) (hm nxt (by simp))]
    simp only []
    rw [ih nxt (pre ++ cur ++ [nul]) f (hm nxt (by simp)) (fun s hs => hm s (by simp [hs])) (by simp at hf; omega)]
    rfl


inductive BOut where
  | val (v : Option (List Char))     -- NULL or the string
  | other                            -- an element that is not a terminated string
  | adv (a : Adv)
  | rst (ok : Bool)
  deriving Repr, DecidableEq

def BufIt.step (b : BufIt) : Call → BufIt × BOut
  | .value => (b, match b.value with | .null => .val none | .str s => .val (some s) | .vec _ => .other)
  | .advance => (b.advance.1, .adv (advClass b.advance.2))
  | .reset => (b.reset.1, .rst (decide (0 ≤ b.reset.2)))

def BufIt.run (b : BufIt) : List Call → List BOut
  | [] => []
  | op :: ops => (b.step op).2 :: BufIt.run (b.step op).1 ops

/-- the same calls on the automaton over the strings -/
def lstep (c : LCur (List Char)) : Call → LCur (List Char) × BOut
  | .value => (c, .val c.value)
  | .advance => (c.advance.1, .adv c.advance.2)
  | .reset => (c.reset, .rst true)

def lrun (c : LCur (List Char)) : List Call → List BOut
  | [] => []
  | op :: ops => (lstep c op).2 :: lrun (lstep c op).1 ops

theorem bufEnd_advance (data : List Char) : (bufEnd data).advance = (bufEnd data, .err .MissingData) := by
  unfold BufIt.advance BufIt.sliceNext bufEnd
  simp

theorem bufEnd_value (data : List Char) : (bufEnd data).value = .null := by
  simp [BufIt.value, bufEnd]

/-- 115 = `'s'`, the type code `bufferReset` returns when the first element is a terminated string -/
theorem buf_reset (b : BufIt) (cur : List Char) (more : List (List Char)) (hc : nul ∉ cur)
    (hd : b.data = joinNul (cur :: more)) (hb : b.hasBuf = true) (ha : b.args = false) :
    b.reset = (bufAt false [] cur (joinNul more), 115) := by
  obtain ⟨data, hasBuf, off, len, str, args⟩ := b
  simp only at hd hb ha
  subst hb; subst ha
  unfold BufIt.reset BufIt.resetPlain
  simp only [Bool.false_eq_true, ↓reduceIte]
  rw [BufIt.advance_str data 0 0 str false [] cur (joinNul more) hd rfl hc, hd]
  rfl

theorem BufIt.create_first (cur : List Char) (more : List (List Char)) (hc : nul ∉ cur) :
    BufIt.create (some (joinNul (cur :: more))) false = bufAt false [] cur (joinNul more) :=
  congrArg Prod.fst (buf_reset _ cur more hc rfl rfl rfl)

/-- reachable states related to the automaton: at a string, or behind the last one -/
inductive BufRel (data : List Char) (all : List (List Char)) : LCur (List Char) → BufIt → Prop
  | here (c : LCur (List Char)) (pre cur : List Char) (more : List (List Char))
      (hd : data = pre ++ joinNul (cur :: more)) (hc : nul ∉ cur) (hm : ∀ s ∈ more, nul ∉ s)
      (hall : c.all = all) (hrem : c.rem = cur :: more) : BufRel data all c (bufAt false pre cur (joinNul more))
  | done (c : LCur (List Char)) (hall : c.all = all) (hrem : c.rem = []) : BufRel data all c (bufEnd data)

/-- `BufRel` says where in the data the iterator stands (`here`: at `cur` behind `pre`; `done`: behind the last
    string), so every call is one of the `bufAt_*` / `bufEnd_*` equations, and `reset` is `buf_reset` from any state -/
theorem bufRel_step (first : List Char) (rest : List (List Char)) (hf : nul ∉ first) (hr : ∀ s ∈ rest, nul ∉ s)
    (c : LCur (List Char)) (b : BufIt) (h : BufRel (joinNul (first :: rest)) (first :: rest) c b) (op : Call) :
    BufRel (joinNul (first :: rest)) (first :: rest) (lstep c op).1 (b.step op).1 ∧ (b.step op).2 = (lstep c op).2 := by
  cases op with
  | value =>
    cases h with
    | here pre cur more hd hc hm hall hrem =>
      refine ⟨BufRel.here _ pre cur more hd hc hm hall hrem, ?_⟩
      simp only [BufIt.step, lstep, bufAt_value false pre cur _ hc, LCur.value, hrem, List.head?_cons]
    | done hall hrem =>
      refine ⟨BufRel.done _ hall hrem, ?_⟩
      simp only [BufIt.step, lstep, bufEnd_value, LCur.value, hrem, List.head?_nil]
  | advance =>
    cases h with
    | here pre cur more hd hc hm hall hrem =>
      cases more with
      | nil =>
        simp only [joinNul] at hd ⊢
        simp only [BufIt.step, lstep, bufAt_advance_end false, LCur.advance, hrem, advClass, List.isEmpty_nil, ↓reduceIte]
        have : pre ++ (cur ++ [nul]) = joinNul (first :: rest) := hd.symm
        rw [this]
        exact ⟨BufRel.done _ hall rfl, trivial⟩
      | cons nxt more' =>
        simp only [joinNul]
        simp only [BufIt.step, lstep, bufAt_advance_more false pre cur nxt (joinNul more') (hm nxt (by simp)),
          LCur.advance, hrem, advClass, List.isEmpty_cons, Bool.false_eq_true, ↓reduceIte]
        refine ⟨BufRel.here _ (pre ++ cur ++ [nul]) nxt more' ?_ (hm nxt (by simp)) (fun s hs => hm s (by simp [hs]))
          hall rfl, trivial⟩
        show joinNul (first :: rest) = _
        rw [hd]; simp [joinNul]
    | done hall hrem =>
      simp only [BufIt.step, lstep, bufEnd_advance, LCur.advance, hrem, advClass]
      exact ⟨BufRel.done _ hall hrem, trivial⟩
  | reset =>
    have hdat : b.data = joinNul (first :: rest) ∧ b.hasBuf = true ∧ b.args = false ∧ c.all = first :: rest := by
      cases h with
      | here pre cur more hd hc hm hall hrem => exact ⟨by rw [hd]; rfl, rfl, rfl, hall⟩
      | done hall hrem => exact ⟨rfl, rfl, rfl, hall⟩
    obtain ⟨h1, h2, h3, h4⟩ := hdat
    have hrs := buf_reset b first rest hf h1 h2 h3
    simp only [BufIt.step, lstep, hrs, LCur.reset]
    refine ⟨BufRel.here _ [] first rest (by simp) hf hr h4 h4, ?_⟩
    simp

theorem bufRel_run (first : List Char) (rest : List (List Char)) (hf : nul ∉ first) (hr : ∀ s ∈ rest, nul ∉ s)
    (ops : List Call) (c : LCur (List Char)) (b : BufIt)
    (h : BufRel (joinNul (first :: rest)) (first :: rest) c b) : b.run ops = lrun c ops := by
  induction ops generalizing c b with
  | nil => rfl
  | cons op ops ih =>
    obtain ⟨h1, h2⟩ := bufRel_step first rest hf hr c b h op
    simp only [BufIt.run, lrun, h2, ih _ _ h1]

end Mpt.Iter
