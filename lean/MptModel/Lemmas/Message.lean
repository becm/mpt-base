/-
  C17: search, token scan, read and append (to an array, to a stream) over a fragment list equal the same operation on the
  flattened bytes.
  A search may be run part by part because its outcome on one part composes over `++` (`List.findIdx?_append`,
  `rfind_append`, `scan_append`; beside the latter the other facts about the scanner `Flat.scan` for any step function);
  the loops over the parts add the lengths of the parts left behind.
  The cursor's read is `readLoop_eq` for any accumulators; its clients quote `read_spec`, and `read_header` for the two-byte
  header.
-/
import MptModel.Impl.Message
namespace Mpt
open Mpt.Flat

theorem foldl_len (frags : List Frag) (a : Nat) :
    frags.foldl (fun acc f => acc + f.length) a = a + frags.flatten.length := by
  induction frags generalizing a with
  | nil => simp
  | cons f fs ih => simp [List.foldl_cons, ih]; omega

theorem sumLen_eq (frags : List Frag) : sumLen frags = frags.flatten.length := by
  simp [sumLen, foldl_len]

theorem length_eq (m : Msg) : m.length = m.flat.length := by
  simp [Msg.length, Msg.flat, foldl_len]

/-- The C code recomputes the offset of a hit from the whole array (`frags.take i`), so the statement carries the
    parts already walked (`pre`) beside those still to search (`suf`); likewise `tokGo_eq`. -/
theorem fGo_eq (frags : List Frag) (p : Byte → Bool) (suf pre : List Frag) (h : frags = pre ++ suf) :
    Iov.fGo frags p suf pre.length = (suf.flatten.findIdx? p).map (· + pre.flatten.length) := by
  induction suf generalizing pre with
  | nil => rfl
  | cons f fs ih =>
    subst h
    rw [Iov.fGo, List.take_left' rfl, sumLen_eq, List.flatten_cons, List.findIdx?_append]
    cases f.findIdx? p with
    | some pos => rfl
    | none =>
      have := ih (pre ++ [f]) (List.append_cons pre f fs)
      simp only [List.length_append, List.length_cons, List.length_nil, List.flatten_append, List.flatten_cons,
        List.flatten_nil, List.append_nil] at this
      rw [Option.none_or, this, Option.map_map]
      dsimp only
      congr 1; funext x; simp only [Function.comp_apply]; omega

theorem memfcn_eq (frags : List Frag) (p : Byte → Bool) : Iov.memfcn frags p = Flat.find p frags.flatten := by
  have := fGo_eq frags p frags [] (by simp)
  simpa [Iov.memfcn, Flat.find] using this

theorem rfind_append (p : Byte → Bool) (a b : List Byte) :
    Flat.rfind p (a ++ b) = match Flat.rfind p b with
      | some i => some (a.length + i)
      | none => Flat.rfind p a := by
  induction a with
  | nil => cases h : Flat.rfind p b <;> simp [Flat.rfind, h]
  | cons c cs ih =>
    simp only [List.cons_append, Flat.rfind, ih]
    cases h : Flat.rfind p b with
    | some i => simp; omega
    | none => simp

theorem rGo_eq (frags : List Frag) (p : Byte → Bool) (i : Nat) :
    Iov.rGo frags p i = Flat.rfind p (frags.take i).flatten := by
  induction i with
  | zero => rfl
  | succ i ih =>
    -- beyond the end of the array `getD` gives the empty part and `take` adds nothing
    have hq : frags[i]?.toList.flatten = frags.getD i [] := by
      rw [List.getD_eq_getElem?_getD]; cases frags[i]? <;> simp
    rw [Iov.rGo, List.take_add_one, List.flatten_append, rfind_append, hq]
    cases Flat.rfind p (frags.getD i []) with
    | some pos => simp [sumLen_eq]; omega
    | none => simp [ih]

theorem memrfcn_eq (frags : List Frag) (p : Byte → Bool) : Iov.memrfcn frags p = Flat.rfind p frags.flatten := by
  rw [Iov.memrfcn, rGo_eq, List.take_length]

theorem scan_append {σ : Type} (step : σ → Byte → Option σ) (s : σ) (a b : List Byte) :
    Flat.scan step s (a ++ b) = match Flat.scan step s a with
      | .found i => .found i
      | .more s' =>
        match Flat.scan step s' b with
        | .found j => .found (a.length + j)
        | .more t => .more t := by
  induction a generalizing s with
  | nil => cases h : Flat.scan step s b <;> simp [Flat.scan, h]
  | cons c cs ih =>
    simp only [List.cons_append, Flat.scan]
    cases hs : step s c with
    | none => simp
    | some s' =>
      simp only [ih]
      cases h1 : Flat.scan step s' cs with
      | found i => simp
      | more t =>
        cases h2 : Flat.scan step t b with
        | found j => simp [h2]; omega
        | more u => simp [h2]

theorem scan_more_inv {σ : Type} {step : σ → Byte → Option σ} {P : σ → Prop}
    (hP : ∀ s c s', P s → step s c = some s' → P s') {s t : σ} {l : List Byte} (hs : P s)
    (h : Flat.scan step s l = .more t) : P t := by
  induction l generalizing s with
  | nil => cases h; exact hs
  | cons c cs ih =>
    rw [Flat.scan] at h
    cases hc : step s c with
    | none => rw [hc] at h; cases h
    | some s' =>
      rw [hc] at h
      simp only [] at h
      cases hr : Flat.scan step s' cs with
      | found i => rw [hr] at h; cases h
      | more u => rw [hr] at h; cases h; exact ih (hP s c s' hs hc) hr

theorem scan_found_lt {σ : Type} (step : σ → Byte → Option σ) (st : σ) (l : List Byte) (i : Nat)
    (h : Flat.scan step st l = .found i) : i < l.length := by
  induction l generalizing st i with
  | nil => simp [Flat.scan] at h
  | cons c cs ih =>
    simp only [Flat.scan] at h
    cases hst : step st c with
    | none => rw [hst] at h; simp only [] at h; cases h; simp
    | some s' =>
      rw [hst] at h
      simp only [] at h
      cases hr : Flat.scan step s' cs with
      | found j => rw [hr] at h; simp only [] at h; cases h; have := ih s' j hr; simp; omega
      | more t => rw [hr] at h; simp only [] at h; cases h

/-- how the byte loop of the model reads off the spec's scanner -/
def outOf : Flat.Scan TokSt → Iov.TokOut
  | .found i => .found i
  | .more s => if s.skip then .comment s.quote s.prev else .more s.quote s.prev

theorem outOf_shift (r : Flat.Scan TokSt) :
    (outOf r).shift = outOf (match r with | .found i => .found (i + 1) | .more t => .more t) := by
  cases r with
  | found i => rfl
  | more s => simp only [outOf]; split <;> rfl

/-- what a byte loop answers after one byte: found here, or the answer for the rest moved on by one -/
def stepOut (k : TokSt → Iov.TokOut) : Option TokSt → Iov.TokOut
  | none => .found 0
  | some s => (k s).shift

theorem outOf_scan_cons (step : TokSt → Byte → Option TokSt) (s : TokSt) (c : Byte) (cs : List Byte) :
    outOf (Flat.scan step s (c :: cs)) = stepOut (fun s' => outOf (Flat.scan step s' cs)) (step s c) := by
  cases h : step s c with
  | none => simp only [Flat.scan, h]; rfl
  | some s' =>
    have : Flat.scan step s (c :: cs) =
        match Flat.scan step s' cs with | .found i => .found (i + 1) | .more t => .more t := by
      simp only [Flat.scan, h]; cases Flat.scan step s' cs <;> rfl
    rw [this]
    exact (outOf_shift _).symm

/-- the hand-written byte loop of `mpt_memtok` = the spec's one-character rule iterated -/
theorem tokBytes_scan (a : TokArgs) (q : Option Byte) (prev : Byte) (inC : Bool) (bs : List Byte) :
    Iov.tokBytes a q prev inC bs = outOf (Flat.scan (tokStep a) ⟨q, prev, inC⟩ bs) := by
  induction bs generalizing q prev inC with
  | nil => cases inC <;> rfl
  | cons c cs ih =>
    rw [outOf_scan_cons, Iov.tokBytes]
    -- unfolding the rule at the state `⟨q, prev, inC⟩` gives the `if` cascade of the byte loop; with `stepOut` pushed to
    -- the leaves both sides are the same cascade
    simp only [tokStep]
    cases h : a.tok <;> cases inC <;> simp only [apply_ite (stepOut _), Bool.false_eq_true, ↓reduceIte] <;>
      simp only [stepOut, ih]

/-- in either mode the loop over the parts hands the part to the byte loop: in comment mode the code tests the first
    byte of a part on its own, which is what the byte loop does with it -/
theorem tokGo_cons (frags : List Frag) (a : TokArgs) (inC : Bool) (q : Option Byte) (prev : Byte) (f : Frag)
    (fs : List Frag) (i : Nat) :
    Iov.tokGo frags a inC q prev (f :: fs) i = match Iov.tokBytes a q prev inC f with
      | .found pos => some (pos + sumLen (frags.take i))
      | .more q' p' => Iov.tokGo frags a false q' p' fs (i + 1)
      | .comment q' p' => Iov.tokGo frags a true q' p' fs (i + 1) := by
  cases inC with
  | false => rw [Iov.tokGo]; rfl
  | true =>
    cases f with
    | nil => rw [Iov.tokGo]; rfl
    | cons c cs =>
      rw [Iov.tokGo, Iov.tokBytes, if_pos rfl, ← apply_ite Iov.TokOut.shift]
      cases (if (c == 10) = true then Iov.tokBytes a q c false cs else Iov.tokBytes a q prev true cs) <;> rfl

/-- the loop of `mpt_memtok` over the parts: as in `fGo_eq`, `pre` are the parts already walked and `suf` those still to
    search; the scanner state `⟨q, prev, inC⟩` is what the parts before left -/
theorem tokGo_eq (frags : List Frag) (a : TokArgs) (inC : Bool) (q : Option Byte) (prev : Byte) (suf pre : List Frag)
    (h : frags = pre ++ suf) :
    Iov.tokGo frags a inC q prev suf pre.length = match Flat.scan (tokStep a) ⟨q, prev, inC⟩ suf.flatten with
      | .found i => some (i + pre.flatten.length)
      | .more _ => none := by
  induction suf generalizing pre inC q prev with
  | nil => cases inC <;> rfl
  | cons f fs ih =>
    subst h
    have hnext := fun (b : Bool) (q' : Option Byte) (p' : Byte) => ih b q' p' (pre ++ [f]) (List.append_cons pre f fs)
    simp only [List.length_append, List.length_cons, List.length_nil, Nat.zero_add] at hnext
    rw [tokGo_cons, tokBytes_scan, List.flatten_cons, scan_append, List.take_left' rfl, sumLen_eq]
    cases Flat.scan (tokStep a) ⟨q, prev, inC⟩ f with
    | found pos => rfl
    | more s =>
      -- the state the part ends in goes on to the next part, in either mode
      obtain ⟨q', p', sk⟩ := s
      cases sk <;> simp only [outOf, if_true, if_false, Bool.false_eq_true] <;> rw [hnext] <;>
        cases Flat.scan (tokStep a) _ fs.flatten <;> simp <;> omega

/-- the one-character rule at the white-space token set, outside a comment: the quotes are the escapes and there is no
    comment character, so no step sets the comment flag -/
theorem tokStep_ws (q : Option Byte) (prev c : Byte) :
    tokStep wsTok ⟨q, prev, false⟩ c =
      if q.isSome = true then some ⟨if (q == some c && prev != 92) = true then none else q, c, false⟩
      else if ([39, 34] : List Byte).contains c = true then some ⟨some c, prev, false⟩
      else if ([9, 32, 10, 13, 11] : List Byte).contains c = true then none
      else some ⟨none, c, false⟩ := by
  cases q <;> rfl

theorem nsBytes_scan (q : Option Byte) (prev : Byte) (bs : List Byte) :
    Iov.nsBytes q prev bs = outOf (Flat.scan (tokStep wsTok) ⟨q, prev, false⟩ bs) := by
  induction bs generalizing q prev with
  | nil => rfl
  | cons c cs ih =>
    -- as in `tokBytes_scan`: the rule at `wsTok` (`tokStep_ws`) is the `if` cascade of `nsBytes`, `stepOut` goes to the leaves
    rw [outOf_scan_cons, tokStep_ws]
    cases q <;> rw [Iov.nsBytes] <;> simp only [apply_ite (stepOut _)] <;> simp [stepOut, ih]

theorem ws_skip_false (bs : List Byte) (q : Option Byte) (prev : Byte) (t : TokSt)
    (h : Flat.scan (tokStep wsTok) ⟨q, prev, false⟩ bs = .more t) : t.skip = false := by
  refine scan_more_inv (P := fun s => s.skip = false) (fun s c s' hs h' => ?_) rfl h
  obtain ⟨q, p, sk⟩ := s
  cases (hs : sk = false)
  -- every leaf of the rule builds its state with the flag `false`
  have key : (tokStep wsTok ⟨q, p, false⟩ c).all (fun s => !s.skip) = true := by
    rw [tokStep_ws]; simp only [apply_ite (Option.all _), Option.all_some, Option.all_none, Bool.not_false, ite_self]
  rw [h'] at key
  simpa using key

theorem nsGo_eq (q : Option Byte) (prev : Byte) (curr : Frag) (cont : List Frag) (pos : Nat) :
    Iov.nsGo q prev curr cont pos = match Flat.scan (tokStep wsTok) ⟨q, prev, false⟩ (curr ++ cont.flatten) with
      | .found i => some (pos + i)
      | .more _ => none := by
  induction cont generalizing q prev curr pos with
  | nil =>
    rw [Iov.nsGo, nsBytes_scan, List.flatten_nil, List.append_nil]
    cases Flat.scan (tokStep wsTok) ⟨q, prev, false⟩ curr with
    | found i => rfl
    | more s => cases hs : s.skip <;> simp [outOf, hs]
  | cons f fs ih =>
    rw [Iov.nsGo, nsBytes_scan, List.flatten_cons, scan_append]
    cases hf : Flat.scan (tokStep wsTok) ⟨q, prev, false⟩ curr with
    | found i => rfl
    | more s =>
      obtain ⟨q', p', sk⟩ := s
      obtain rfl : sk = false := ws_skip_false curr q prev _ hf
      simp only [outOf, Bool.false_eq_true, if_false, ih]
      cases Flat.scan (tokStep wsTok) ⟨q', p', false⟩ (f ++ fs.flatten) <;> simp <;> omega

theorem nextSpace_eq (curr : Frag) (cont : List Frag) :
    Iov.nextSpace curr cont = Flat.tok (curr ++ cont.flatten) wsTok := by
  unfold Iov.nextSpace Flat.tok
  rw [nsGo_eq]
  cases Flat.scan (tokStep wsTok) {} (curr ++ cont.flatten) <;> simp

theorem skipEmpty_flat (b : Frag) (c : List Frag) : (Msg.skipEmpty b c).flat = b ++ c.flatten := by
  induction c generalizing b with
  | nil => cases b <;> simp [Msg.skipEmpty, Msg.flat]
  | cons f fs ih =>
    cases b with
    | nil => simp [Msg.skipEmpty, ih]
    | cons x xs => simp [Msg.skipEmpty, Msg.flat]

theorem skipEmpty_base_nil (b : Frag) (c : List Frag) (h : (Msg.skipEmpty b c).base = []) :
    (Msg.skipEmpty b c).cont = [] := by
  induction c generalizing b with
  | nil => cases b <;> simp_all [Msg.skipEmpty]
  | cons f fs ih =>
    cases b with
    | nil => simp only [Msg.skipEmpty] at h ⊢; exact ih f h
    | cons x xs => simp [Msg.skipEmpty] at h

/-- a read that ends inside the current fragment; stated with the accumulators `out`, `total` of `readLoop_eq`, whose two
    branches that do not recurse it closes as it stands -/
theorem read_inside (base : Frag) (cont : List Frag) (len total : Nat) (out : List Byte) (h : len ≤ base.length) :
    out ++ base.take len = out ++ (base ++ cont.flatten).take len ∧
    (Msg.skipEmpty (base.drop len) cont).flat = (base ++ cont.flatten).drop len ∧
    total + len = total + min len (base ++ cont.flatten).length := by
  rw [skipEmpty_flat, List.take_append_of_le_length h, List.drop_append_of_le_length h, List.length_append,
    Nat.min_eq_left (by omega)]
  exact ⟨rfl, rfl, rfl⟩

theorem readLoop_eq (base : Frag) (cont : List Frag) (len total : Nat) (out : List Byte) :
    (Msg.readLoop base cont len total out).out = out ++ (base ++ cont.flatten).take len ∧
    (Msg.readLoop base cont len total out).msg.flat = (base ++ cont.flatten).drop len ∧
    (Msg.readLoop base cont len total out).total = total + min len (base ++ cont.flatten).length := by
  induction cont generalizing base len total out with
  | nil =>
    rw [Msg.readLoop]
    split
    · rename_i h
      rw [List.flatten_nil, List.append_nil, List.take_of_length_le (Nat.le_of_lt h),
        List.drop_of_length_le (Nat.le_of_lt h), Nat.min_eq_right (Nat.le_of_lt h)]
      exact ⟨rfl, rfl, rfl⟩
    · exact read_inside base [] len total out (by omega)
  | cons f fs ih =>
    rw [Msg.readLoop]
    split
    · rename_i h
      obtain ⟨h1, h2, h3⟩ := ih f (len - base.length) (total + base.length) (out ++ base)
      rw [h1, h2, h3, List.flatten_cons]
      generalize f ++ fs.flatten = rest
      rw [List.take_append, List.drop_append, List.take_of_length_le (Nat.le_of_lt h),
        List.drop_of_length_le (Nat.le_of_lt h), List.length_append, List.append_assoc, List.nil_append]
      exact ⟨rfl, rfl, by rw [Nat.add_assoc, ← Nat.add_min_add_left, Nat.add_sub_cancel' (Nat.le_of_lt h)]⟩
    · exact read_inside base (f :: fs) len total out (by omega)

theorem read_spec (m : Msg) (n : Nat) :
    (m.read n).out = m.flat.take n ∧ (m.read n).msg.flat = m.flat.drop n ∧ (m.read n).total = min n m.flat.length := by
  have h := readLoop_eq m.base m.cont n 0 []
  rw [List.nil_append, Nat.zero_add] at h
  exact h

theorem read_header (m : Msg) :
    (m.read 2).total < 2 ∧ m.flat.length < 2 ∨
    ∃ ty arg, (m.read 2).total = 2 ∧ (m.read 2).out = [ty, arg] ∧ m.flat = ty :: arg :: (m.read 2).msg.flat := by
  obtain ⟨ho, hr, ht⟩ := read_spec m 2
  rw [ho, hr, ht]
  match m.flat with
  | [] => exact .inl ⟨Nat.zero_lt_two, Nat.zero_lt_two⟩
  | [_] => exact .inl ⟨Nat.one_lt_two, Nat.one_lt_two⟩
  | ty :: arg :: payload => exact .inr ⟨ty, arg, by simp, rfl, rfl⟩

theorem append_foldl (a : List Byte) (cont : List Frag) :
    cont.foldl (fun a f => if f.length = 0 then a else a ++ f) a = a ++ cont.flatten := by
  induction cont generalizing a with
  | nil => simp
  | cons f fs ih =>
    simp only [List.foldl_cons, ih, List.flatten_cons]
    split
    · rename_i h
      have : f = [] := List.eq_nil_of_length_eq_zero h
      simp [this]
    · simp

/-- for every capacity `cap` and count `n`: the sizes of `Msg.bufCap` and when `needAlloc` asks for a buffer decide only
    WHICH allocation is the `failAt`-th (what the driver compares), not what is stored -/
theorem appendLoop_spec (failAt : Nat) (fs : List Frag) (cap : Option Nat) (cur : List Byte) (n : Nat) :
    ∃ x, (Msg.appendLoop failAt fs cap cur n).2.1 = cur ++ x ∧
      ((Msg.appendLoop failAt fs cap cur n).1 = true → x = fs.flatten) ∧
      (failAt = 0 → (Msg.appendLoop failAt fs cap cur n).1 = true) := by
  induction fs generalizing cap cur n with
  | nil => exact ⟨[], (List.append_nil _).symm, fun _ => rfl, fun _ => rfl⟩
  | cons f fs ih =>
    -- a fragment that is taken goes to the end of the buffer, whether or not the buffer is renewed for it
    have taken : ∀ cap' n', ∃ x, (Msg.appendLoop failAt fs cap' (cur ++ f) n').2.1 = cur ++ x ∧
        ((Msg.appendLoop failAt fs cap' (cur ++ f) n').1 = true → x = (f :: fs).flatten) ∧
        (failAt = 0 → (Msg.appendLoop failAt fs cap' (cur ++ f) n').1 = true) := fun cap' n' => by
      obtain ⟨x, h1, h2, h3⟩ := ih cap' (cur ++ f) n'
      exact ⟨f ++ x, by rw [h1, List.append_assoc], fun h => by rw [h2 h, List.flatten_cons], h3⟩
    unfold Msg.appendLoop
    split
    · rename_i h0
      rw [List.eq_nil_of_length_eq_zero h0, List.flatten_cons, List.nil_append]
      exact ih cap cur n
    · split
      · split
        · exact ⟨[], (List.append_nil _).symm, (fun h => nomatch h), (fun h => by omega)⟩
        · exact taken _ _
      · exact taken _ _

theorem pushPart_eq (step : Nat → Nat) (fuel : Nat) (f : Frag) (cur : List Byte) (total : Nat) (h : f.length ≤ fuel) :
    Msg.pushPart step fuel f cur total = (cur ++ f, total + f.length) := by
  induction fuel generalizing f cur total with
  | zero =>
    have : f = [] := List.eq_nil_of_length_eq_zero (by omega)
    simp [Msg.pushPart, this]
  | succ n ih =>
    unfold Msg.pushPart
    by_cases h0 : f.length = 0
    · have : f = [] := List.eq_nil_of_length_eq_zero h0
      simp [this]
    · simp only [h0, if_false]
      generalize hk : Nat.max 1 (Nat.min (step f.length) f.length) = k
      have hk1 : 1 ≤ k := by rw [← hk]; exact Nat.le_max_left _ _
      have hk2 : k ≤ f.length := by
        rw [← hk]; apply Nat.max_le.mpr; exact ⟨by omega, Nat.min_le_right _ _⟩
      rw [ih (f.drop k) _ _ (by simp; omega)]
      simp only [List.append_assoc, List.take_append_drop, List.length_drop, Prod.mk.injEq, true_and]
      omega

theorem sappendLoop_eq (step : Nat → Nat) (fs : List Frag) (cur : List Byte) (done : List (List Byte)) (total : Nat) :
    Msg.sappendLoop step fs cur done total = (total + fs.flatten.length, cur ++ fs.flatten, done) := by
  induction fs generalizing cur total with
  | nil => simp [Msg.sappendLoop]
  | cons f fs ih =>
    unfold Msg.sappendLoop
    split
    · rw [pushPart_eq step _ f cur total (Nat.le_refl _)]
      rw [ih]; simp; omega
    · rename_i h
      have : f = [] := List.eq_nil_of_length_eq_zero (by omega)
      rw [ih]; simp [this]

end Mpt
