/-
  C04: `mpt_slice_write` appends whole blocks to the window of a slice; other handles keep their values.
-/
import MptModel.Lemmas.HeapOps
namespace Mpt.Heap

theorem Inv.setWin {s : State} (inv : Inv s) (h : Nat) (w : Option Win) : Inv (s.setWin h w) :=
  ⟨inv.live, inv.ref, inv.used, inv.plain, inv.aligned⟩

theorem State.win_lt {s : State} {h : Nat} {w : Win} (e : s.win h = some w) : h < s.wins.length := by
  unfold State.win at e
  cases hx : s.wins[h]? with
  | none => rw [hx] at e; cases e
  | some v => exact (List.getElem?_eq_some_iff.mp hx).1

theorem State.win_setWin (s : State) (h : Nat) (w : Win) (hlt : h < s.wins.length) : (s.setWin h (some w)).win h = some w := by
  simp [State.win, State.setWin, hlt]

theorem State.setWin_self {s : State} {h : Nat} {w : Win} (e : s.win h = some w) : s.setWin h (some w) = s := by
  have hl := State.win_lt e
  have : s.wins[h] = some w := by
    unfold State.win at e
    rw [List.getElem?_eq_getElem hl] at e
    cases v : s.wins[h] with
    | none => rw [v] at e; cases e
    | some w' => rw [v] at e; cases e; rfl
  show { s with wins := s.wins.set h (some w) } = s
  rw [← this, List.set_getElem_self]

theorem replaceBuf_wins {s : State} {dst : Nat} {set : Option Nat} (buf : Option Nat)
    (hb : ∀ b, buf = some b → ∃ x, s.buf? b = some x ∧ 1 ≤ x.ref ∧ x.used ≤ x.size) :
    ∀ (s3 : State) (v : Int), replaceBuf s dst set buf = .ok s3 v → s3.wins = s.wins := by
  intro s3 v e
  cases buf with
  | none => cases e; rfl
  | some b =>
    obtain ⟨x, hx, hr, hu⟩ := hb b rfl
    obtain ⟨s', he, _, hw, _⟩ := replaceBuf_some dst set hx hr hu
    rw [he] at e
    cases e
    exact hw

/-- `_fast_append` on an owned untyped buffer: as many whole blocks as fit are stored behind the window -/
theorem fastAppend_own {s : State} {h b : Nat} {x : Buf} (inv : Inv s) (o : Own s h b x) (xt : x.traits = none) (w : Win)
    (wfit : w.off + w.len ≤ x.used) (nblk esz : Nat) (bytes : List Byte) (bl : bytes.length = nblk * esz)
    (hwl : h < s.wins.length) :
    ∃ s' k, fastAppend s h b w nblk esz bytes = .ok s' k ∧ k ≤ nblk ∧
      (nblk ≠ 0 → esz ≠ 0 → esz ≤ x.size - (w.off + w.len) → 1 ≤ k) ∧ Kept s h s' ∧
      s'.win h = some { off := w.off, len := w.len + k * esz } ∧
      Vec.sub (s'.abs h) w.off (w.len + k * esz) = Vec.sub x.content w.off w.len ++ Vec.blocks bytes k esz ∧
      (s'.abs h).length - (w.off + (w.len + k * esz)) = x.used - (w.off + w.len) - k * esz := by
  have cl := content_length x (inv.used b x o.hb)
  have absx := State.abs_of o.hh o.hb
  unfold fastAppend
  rw [o.hb]
  simp only
  generalize hk : min nblk ((x.size - (w.off + w.len)) / esz) = k
  have kn : k ≤ nblk := by rw [← hk]; exact Nat.min_le_left _ _
  have kfit : k * esz ≤ x.size - (w.off + w.len) := by
    have : k ≤ (x.size - (w.off + w.len)) / esz := by rw [← hk]; exact Nat.min_le_right _ _
    exact Nat.le_trans (Nat.mul_le_mul_right _ this) (Nat.div_mul_le_self _ _)
  have tl : (bytes.take (k * esz)).length = k * esz := by
    rw [List.length_take, bl]
    exact Nat.min_eq_left (Nat.mul_le_mul_right _ kn)
  have xu := inv.used b x o.hb
  rw [if_neg (by omega)]
  -- the blocks are copied to the end of the window, which lies inside the content
  obtain ⟨st, ab, _⟩ := o.write inv (w.off + w.len) (bytes.take (k * esz)) wfit (by rw [tl]; omega)
    (by rw [xt]; exact Nat.mod_one _)
  rw [tl] at st ab
  refine ⟨_, k, rfl, kn, ?_, ⟨st.inv.setWin _ _, st.len, st.others⟩, State.win_setWin _ _ _ hwl, ?_, ?_⟩
  · intro n0 e0 room
    rw [← hk]
    have : 1 ≤ (x.size - (w.off + w.len)) / esz := Nat.div_pos room (Nat.pos_of_ne_zero e0)
    omega
  · have sw := sub_write_end x.content w.off w.len (bytes.take (k * esz)) (by rw [cl]; exact wfit)
    rw [tl] at sw
    show Vec.sub ((setUsed s b x _ _).abs h) _ _ = _
    rw [ab, absx]; exact sw
  · show ((setUsed s b x _ _).abs h).length - _ = _
    rw [ab, absx, vec_write_length _ _ _ (by rw [cl]; exact wfit), cl, tl]
    generalize k * esz = t
    omega

/-- the move-to-front path: the window data is moved to the start of the owned buffer, which is cut down to it, then
    `_fast_append`; nothing is left behind the window -/
theorem frontAppend_own {s : State} {h b : Nat} {x : Buf} (inv : Inv s) (o : Own s h b x) (xt : x.traits = none) (w : Win)
    (wfit : w.off + w.len ≤ x.used) (nblk esz : Nat) (bytes : List Byte) (bl : bytes.length = nblk * esz)
    (hwl : h < s.wins.length) :
    ∃ s' k, fastAppend (sliceFront s h b x w) h b { off := 0, len := w.len } nblk esz bytes = .ok s' k ∧ k ≤ nblk ∧
      (nblk ≠ 0 → esz ≠ 0 → esz ≤ x.size - (w.off + w.len) + w.off → 1 ≤ k) ∧ Kept s h s' ∧
      s'.win h = some { off := 0, len := w.len + k * esz } ∧
      Vec.sub (s'.abs h) 0 (w.len + k * esz) = Vec.sub x.content w.off w.len ++ Vec.blocks bytes k esz ∧
      (s'.abs h).length - (0 + (w.len + k * esz)) = 0 := by
  have xu := inv.used b x o.hb
  simp only [Buf.size] at xu
  rw [sliceFront, move_if]
  have dlen : (Mem.move x.data 0 w.off w.len).length = x.data.length := Mem.move_length _ _ _ _ (by omega) (by omega)
  obtain ⟨inv1, o1, _, oth1, len1⟩ := o.update inv { x with data := Mem.move x.data 0 w.off w.len, used := w.len }
    o.ref rfl (by simp only [Buf.size, dlen]; omega) (by rw [xt]; exact PlainT.none) (by simp [xt, esize, Nat.mod_one])
  obtain ⟨s', k, q, kn, k1, st, win', sub', len'⟩ := fastAppend_own
    (s := (setUsed s b x (Mem.move x.data 0 w.off w.len) w.len).setWin h (some { off := 0, len := w.len }))
    (inv1.setWin _ _) ⟨o1.hh, o1.hb, o1.ref, o1.wr⟩ xt { off := 0, len := w.len } (by simp) nblk esz bytes bl
    (by simp only [setUsed, State.setWin, State.setBuf, List.length_set]; exact hwl)
  refine ⟨s', k, q, kn, fun n0 e0 room => k1 n0 e0 ?_,
    ⟨st.inv, st.len.trans len1, fun h' ne => (st.others h' ne).trans (oth1 h' ne)⟩, win', ?_, ?_⟩
  · show esz ≤ (Mem.move x.data 0 w.off w.len).length - (0 + w.len)
    rw [dlen]
    simp only [Buf.size] at room
    omega
  · rw [sub']
    simp only [Vec.sub, Buf.content, List.drop_zero, List.take_take, Nat.min_self]
    rw [drop_take_of_take _ _ _ _ wfit, move_front_take _ _ _ (by omega)]
  · rw [len']
    show w.len - (0 + w.len) - k * esz = 0
    omega

/-- outcome of `mpt_slice_write` on the slice handle `h` with window `w`: whole blocks are appended to the window, the
    other handles keep their values, a refusal changes nothing.  Last clause, the data behind the window: none (fresh
    buffer, move to front) or what the `k` blocks did not overwrite (in place) -/
def SliceWritePost (s : State) (h nblk esz : Nat) (bytes : List Byte) (w : Win) (r : Out Nat) : Prop :=
  match r with
  | .fault _ => False
  | .fail s' _ => Inv s' ∧ ∀ h', s'.abs h' = s.abs h'
  | .ok s' k => Inv s' ∧ k ≤ nblk ∧ (nblk ≠ 0 → 1 ≤ k) ∧ (∀ h', h' ≠ h → s'.abs h' = s.abs h') ∧
      ∃ w', s'.win h = some w' ∧
        Vec.sub (s'.abs h) w'.off w'.len = Vec.sub (s.abs h) w.off w.len ++ Vec.blocks bytes k esz ∧
        ((s'.abs h).length - (w'.off + w'.len) = 0 ∨
          (s'.abs h).length - (w'.off + w'.len) = (s.abs h).length - (w.off + w.len) - k * esz)

/-- the slow path of `mpt_slice_write`: a fresh buffer with the window data and all blocks -/
theorem sliceSlow_post {s : State} (inv : Inv s) {h : Nat} (hlt : h < s.hs.length) (hwl : h < s.wins.length) (w : Win) (bx : Option Buf)
    (hbx : bx = (s.handle h).bind s.buf?) (nblk esz : Nat) (bytes : List Byte) (bl : bytes.length = nblk * esz)
    (wfit : w.off + w.len ≤ (s.abs h).length) :
    SliceWritePost s h nblk esz bytes w (sliceSlow s h w bx nblk esz bytes) := by
  subst hbx
  unfold sliceSlow
  simp only
  have hz : (s.newBuf (w.len + nblk * esz) 0).buf? s.bufs.length = some (State.fresh (w.len + nblk * esz) 0 none) := by
    rw [State.buf?_newBuf]; simp
  rw [hz]
  simp only
  generalize hkeep : sliceKeep ((s.handle h).bind s.buf?) w = keep
  have kl : keep.length = w.len ∧ keep = Vec.sub (s.abs h) w.off w.len := by
    rw [← hkeep]
    cases hh : s.handle h with
    | none =>
      rw [State.abs_none hh] at wfit ⊢
      have : w.len = 0 := Nat.eq_zero_of_le_zero (Nat.le_trans (Nat.le_add_left _ _) wfit)
      simp [sliceKeep, this, Vec.sub]
    | some b =>
      obtain ⟨x, hb⟩ := inv.live h b hh
      have xu := inv.used b x hb
      rw [State.abs_of hh hb, content_length x xu] at wfit
      rw [Option.bind_some, hb, State.abs_of hh hb]
      simp only [sliceKeep, Vec.sub, Buf.content]
      exact ⟨by rw [List.length_take, List.length_drop]; simp only [Buf.size] at xu; omega, (drop_take_of_take _ _ _ _ wfit).symm⟩
  rw [if_neg (by simp [kl.1])]
  have tb : bytes.take (nblk * esz) = bytes := List.take_of_length_le (by omega)
  rw [tb]
  have asz := le_allocSize (w.len + nblk * esz)
  -- `s2`: the fresh buffer filled and the window set; handles and the other buffers as in `s`
  generalize hs2 : (setUsed (s.newBuf (w.len + nblk * esz) 0) s.bufs.length (State.fresh (w.len + nblk * esz) 0 none)
      (Mem.write (State.fresh (w.len + nblk * esz) 0 none).data 0 (keep ++ bytes)) (w.len + nblk * esz)).setWin h
        (some { off := 0, len := w.len + nblk * esz }) = s2
  have b2 : ∀ c, s2.buf? c = if c = s.bufs.length then
        some { State.fresh (w.len + nblk * esz) 0 none with
          data := Mem.write (State.fresh (w.len + nblk * esz) 0 none).data 0 (keep ++ bytes), used := w.len + nblk * esz }
      else s.buf? c := by
    intro c
    rw [← hs2]
    show (setUsed (s.newBuf (w.len + nblk * esz) 0) s.bufs.length _ _ _).buf? c = _
    simp only [setUsed]
    rw [State.buf?_setBuf _ _ _ _ (by simp), State.buf?_newBuf]
    split <;> rfl
  have rs := replaceBuf_filled_sem inv hlt (w.len + nblk * esz) (w.len + nblk * esz) (keep ++ bytes)
    (by rw [List.length_append, kl.1, bl]) asz (s2 := s2) (by rw [← hs2]; rfl) b2
  have wn := replaceBuf_wins (s := s2) (dst := h) (set := some s.bufs.length) (s.handle h)
    (by
      intro b eb
      obtain ⟨x, hx⟩ := inv.live h b eb
      have blt := State.buf?_lt hx
      exact ⟨x, by rw [b2, if_neg (by omega)]; exact hx, (inv.ref b x hx).2, inv.used b x hx⟩)
  generalize replaceBuf _ h (some s.bufs.length) (s.handle h) = r at rs wn
  cases r with
  | fault e => exact rs
  | fail s3 e => exact ⟨rs.1, rs.2.2⟩
  | ok s3 v =>
    have sl : (Vec.sub (s.abs h) w.off w.len).length = w.len := sub_length _ _ _ wfit
    obtain ⟨inv3, _, abs3, others⟩ := rs
    refine ⟨inv3, Nat.le_refl _, fun _ => by omega, others, { off := 0, len := w.len + nblk * esz }, ?_, ?_, Or.inl ?_⟩
    · have := wn s3 v rfl
      unfold State.win
      rw [this, ← hs2]
      exact State.win_setWin _ h _ hwl
    · rw [abs3, kl.2, Vec.blocks, List.take_of_length_le (by omega)]
      have sa := sub_all (Vec.sub (s.abs h) w.off w.len) bytes
      rwa [sl, bl] at sa
    · rw [abs3, kl.2, List.length_append, sl, bl]
      show w.len + nblk * esz - (0 + (w.len + nblk * esz)) = 0
      omega

theorem winRepair_ok (w : Win) (used : Nat) (h : w.off + w.len ≤ used) : winRepair w used = w := by
  unfold winRepair
  rw [if_neg (by omega)]

end Mpt.Heap
