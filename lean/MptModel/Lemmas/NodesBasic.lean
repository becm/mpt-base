/-
  Pointer-level facts about the node store model: dereferencing and storing through live pointers, and what
  gnode_after, gnode_before and node_unlink do to the records, stated as "record `i` afterwards = …"
  (`LinkEff`, with the instances `SpliceEff` and `UnlinkEff`).
-/
import MptModel.Impl.Nodes
namespace Mpt.Nodes
open Mpt Mpt.Forest

namespace Store

def Live (s : Store) (i : Nat) (n : Node) : Prop := s.nodes[i]? = some n ∧ n.alive = true

theorem Live.lt {s : Store} {i : Nat} {n : Node} (h : s.Live i n) : i < s.nodes.length := by
  rcases Nat.lt_or_ge i s.nodes.length with h' | h'
  · exact h'
  · have := h.1; simp [List.getElem?_eq_none h'] at this

theorem get_ok {s : Store} {i : Nat} {n : Node} (h : s.Live i n) : s.get i = .ok n := by
  simp [get, h.1, h.2]

def Upd (s s' : Store) (i : Nat) (m : Node) : Prop :=
  s'.freed = s.freed ∧ s'.nodes.length = s.nodes.length ∧ ∀ j, s'.nodes[j]? = if j = i then some m else s.nodes[j]?

theorem modify_ok {s : Store} {i : Nat} {n : Node} (h : s.Live i n) (f : Node → Node) :
    ∃ s', s.modify i f = .ok s' ∧ Upd s s' i (f n) := by
  have hl := h.lt
  refine ⟨{ s with nodes := s.nodes.set i (f n) }, by simp [modify, h.1, h.2], rfl, by simp, ?_⟩
  intro j
  simp [List.getElem?_set]
  grind

theorem Upd.live_same {s s' : Store} {i : Nat} {m : Node} (h : Upd s s' i m) (ha : m.alive = true) : s'.Live i m := by
  refine ⟨?_, ha⟩
  simp [h.2.2 i]

theorem Upd.live_other {s s' : Store} {i j : Nat} {m n : Node} (h : Upd s s' i m) (hj : s.Live j n) (hne : j ≠ i) : s'.Live j n := by
  refine ⟨?_, hj.2⟩
  simp [h.2.2 j, hne, hj.1]

theorem free_ok {s : Store} {i : Nat} {n : Node} (h : s.Live i n) :
    ∃ s', s.free i = .ok s' ∧ s'.freed = s.freed ++ [i] ∧ s'.nodes.length = s.nodes.length ∧
      ∀ j, s'.nodes[j]? = if j = i then some { n with alive := false } else s.nodes[j]? := by
  have hl := h.lt
  refine ⟨{ nodes := s.nodes.set i { n with alive := false }, freed := s.freed ++ [i] }, by simp [Store.free, h.1, h.2], rfl, by simp, ?_⟩
  intro j
  simp [List.getElem?_set]
  grind

/-- an optional store through a neighbour link: `if (o) o->… = …` -/
theorem modify_opt_ok {s : Store} {o : Option Nat} (g : Node → Node) (h : ∀ q, o = some q → ∃ qn, s.Live q qn) :
    ∃ s', (match o with | some q => s.modify q g | none => Res.ok s) = Res.ok s' ∧ s'.freed = s.freed ∧
      s'.nodes.length = s.nodes.length ∧
      ∀ i, s'.nodes[i]? = if some i = o then (s.nodes[i]?).map g else s.nodes[i]? := by
  cases o with
  | none => exact ⟨s, rfl, rfl, rfl, fun i => by simp⟩
  | some q =>
    obtain ⟨qn, hq⟩ := h q rfl
    obtain ⟨s', e, u⟩ := modify_ok hq g
    refine ⟨s', e, u.1, u.2.1, fun i => ?_⟩
    rw [u.2.2 i]
    by_cases hi : i = q
    · subst hi; simp [hq.1]
    · simp [hi]

end Store


/-- The records after the links around `x` were rewritten: `x` itself by `fx`; the predecessor `q` gets the successor
    `a`, the successor `p` gets the predecessor `b`; without a predecessor the parent's child link becomes `a`. -/
def LinkEff (s s' : Store) (x : Nat) (fx : Node → Node) (q p par a b : Option Nat) : Prop :=
  ∀ i, s'.nodes[i]? =
    if i = x then (s.nodes[i]?).map fx
    else if some i = q then (s.nodes[i]?).map (fun qn => { qn with next := a })
    else if some i = p then (s.nodes[i]?).map (fun pn => { pn with prev := b })
    else if q = none ∧ some i = par then (s.nodes[i]?).map (fun rn => { rn with children := a })
    else s.nodes[i]?

/-- `x` linked in between `q` and `p` (either may be missing) under the parent `par`: `gnodeAfter(q, x)` with `p` the
    old successor of `q`, `gnodeBefore(p, x)` with `q` the old predecessor of `p` -/
abbrev SpliceEff (s s' : Store) (x : Nat) (q p par : Option Nat) : Prop :=
  LinkEff s s' x (fun xn => { xn with prev := q, next := p, parent := par }) q p par (some x) (some x)

/-- `x` taken out from between its predecessor `q` and its successor `p`: `unlink(x)` -/
abbrev UnlinkEff (s s' : Store) (x : Nat) (q p par : Option Nat) : Prop :=
  LinkEff s s' x (fun cn => { cn with parent := none, next := none, prev := none }) q p par p q

theorem LinkEff.untouched {s s' : Store} {x i : Nat} {fx : Node → Node} {q p par a b : Option Nat}
    (he : LinkEff s s' x fx q p par a b) (h1 : i ≠ x) (h2 : some i ≠ q) (h3 : some i ≠ p)
    (h4 : q = none → some i ≠ par) : s'.nodes[i]? = s.nodes[i]? := by
  rw [he i, if_neg h1, if_neg h2, if_neg h3, if_neg (fun h => h4 h.1 h.2)]

/-- rewriting links does not change the live flag: the two facts by which this is read off an effect cascade -/
theorem alive_map {o : Option Node} {f : Node → Node} (hf : ∀ n, (f n).alive = n.alive) :
    (o.map f).map Node.alive = o.map Node.alive := by
  cases o <;> simp [hf]

theorem alive_ite {c : Prop} [Decidable c] {a b : Option Node} {o : Option Bool}
    (ha : a.map Node.alive = o) (hb : b.map Node.alive = o) : (if c then a else b).map Node.alive = o := by
  split <;> assumption

theorem LinkEff.alive {s s' : Store} {x : Nat} {fx : Node → Node} {q p par a b : Option Nat}
    (he : LinkEff s s' x fx q p par a b) (hfx : ∀ n, (fx n).alive = n.alive) (i : Nat) :
    (s'.nodes[i]?).map Node.alive = (s.nodes[i]?).map Node.alive := by
  rw [he i]
  exact alive_ite (alive_map hfx) (alive_ite (alive_map fun _ => rfl)
    (alive_ite (alive_map fun _ => rfl) (alive_ite (alive_map fun _ => rfl) rfl)))

namespace Store

/-- The common course of `mpt_gnode_after` / `mpt_gnode_before`: `insert` is written (`fx1`), `position` is written
    (`fp`), `insert` takes over the parent (`fx2`), and the one neighbour `o` of `position` that has to name `insert`,
    if there is one, is written (`g`). -/
theorem link_ok {s : Store} {p x : Nat} {pn xn : Node} (hp : s.Live p pn) (hx : s.Live x xn) (hne : x ≠ p)
    (fx1 fp fx2 g : Node → Node) (h1 : ∀ n, (fx1 n).alive = n.alive) (hfp : ∀ n, (fp n).alive = n.alive)
    (h2 : ∀ n, (fx2 n).alive = n.alive) {o : Option Nat} (ho : ∀ q, o = some q → ∃ qn, s.Live q qn ∧ q ≠ x ∧ q ≠ p) :
    ∃ s1 s2 s3 s4, s.modify x fx1 = .ok s1 ∧ s1.modify p fp = .ok s2 ∧ s2.get p = .ok (fp pn) ∧
      s2.modify x fx2 = .ok s3 ∧ s3.get x = .ok (fx2 (fx1 xn)) ∧
      (match o with | some q => s3.modify q g | none => Res.ok s3) = .ok s4 ∧
      s4.freed = s.freed ∧ s4.nodes.length = s.nodes.length ∧
      ∀ i, s4.nodes[i]? =
        if i = x then (s.nodes[i]?).map (fun n => fx2 (fx1 n)) else if i = p then (s.nodes[i]?).map fp
        else if some i = o then (s.nodes[i]?).map g else s.nodes[i]? := by
  obtain ⟨s1, e1, u1⟩ := modify_ok hx fx1
  obtain ⟨s2, e2, u2⟩ := modify_ok (u1.live_other hp (Ne.symm hne)) fp
  have hp2 : s2.Live p (fp pn) := u2.live_same ((hfp pn).trans hp.2)
  obtain ⟨s3, e3, u3⟩ := modify_ok (u2.live_other (u1.live_same ((h1 xn).trans hx.2)) hne) fx2
  have hx3 : s3.Live x (fx2 (fx1 xn)) := u3.live_same ((h2 _).trans ((h1 xn).trans hx.2))
  have h03 : ∀ i, i ≠ x → i ≠ p → s3.nodes[i]? = s.nodes[i]? := fun i h1 h2 => by
    rw [u3.2.2, if_neg h1, u2.2.2, if_neg h2, u1.2.2, if_neg h1]
  obtain ⟨s4, e4, f4, l4, r4⟩ := modify_opt_ok (s := s3) (o := o) g
    fun q h => (ho q h).imp fun qn h' => ⟨by rw [h03 q h'.2.1 h'.2.2]; exact h'.1.1, h'.1.2⟩
  refine ⟨s1, s2, s3, s4, e1, e2, get_ok hp2, e3, get_ok hx3, e4, by rw [f4, u3.1, u2.1, u1.1],
    by rw [l4, u3.2.1, u2.2.1, u1.2.1], fun i => ?_⟩
  rw [r4]
  by_cases h1 : i = x
  · subst h1
    rw [if_neg (fun h => (ho i h.symm).elim fun _ h' => h'.2.1 rfl), if_pos rfl, hx3.1, hx.1]; rfl
  by_cases h2 : i = p
  · subst h2
    rw [if_neg (fun h => (ho i h.symm).elim fun _ h' => h'.2.2 rfl), if_neg h1, if_pos rfl, u3.2.2, if_neg h1, hp2.1,
      hp.1]; rfl
  · rw [if_neg h1, if_neg h2, h03 i h1 h2]

theorem gnodeAfter_eff {s : Store} {p x : Nat} {pn xn : Node} (hp : s.Live p pn) (hx : s.Live x xn) (hne : x ≠ p)
    (hq : ∀ q, pn.next = some q → ∃ qn, s.Live q qn ∧ q ≠ x ∧ q ≠ p) :
    ∃ s', s.gnodeAfter (some p) x = .ok s' ∧ s'.freed = s.freed ∧ s'.nodes.length = s.nodes.length ∧
      SpliceEff s s' x (some p) pn.next pn.parent := by
  obtain ⟨s1, s2, s3, s4, e1, e2, g2, e3, g3, e4, hf, hl, hc⟩ := link_ok hp hx hne
    (fun n => { n with prev := some p, next := pn.next }) (fun n => { n with next := some x })
    (fun n => { n with parent := pn.parent }) (fun n => { n with prev := some x })
    (fun _ => rfl) (fun _ => rfl) (fun _ => rfl) hq
  refine ⟨s4, ?_, hf, hl, fun i => (hc i).trans (by simp)⟩
  simp only [gnodeAfter, hne, ↓reduceIte, get_ok hp, Res.bind_ok, e1, e2, g2, e3, g3]
  exact e4

theorem gnodeBefore_eff {s : Store} {p x : Nat} {pn xn : Node} (hp : s.Live p pn) (hx : s.Live x xn) (hne : x ≠ p)
    (hq : ∀ q, pn.prev = some q → ∃ qn, s.Live q qn ∧ q ≠ x ∧ q ≠ p)
    (hr : pn.prev = none → ∀ r, pn.parent = some r → ∃ rn, s.Live r rn ∧ r ≠ x ∧ r ≠ p) :
    ∃ s', s.gnodeBefore (some p) x = .ok s' ∧ s'.freed = s.freed ∧ s'.nodes.length = s.nodes.length ∧
      SpliceEff s s' x pn.prev (some p) pn.parent := by
  rcases Option.eq_none_or_eq_some pn.prev with hn | ⟨q, hn⟩
  · obtain ⟨s1, s2, s3, s4, e1, e2, g2, e3, g3, e4, hf, hl, hc⟩ := link_ok hp hx hne
      (fun n => { n with prev := pn.prev, next := some p }) (fun n => { n with prev := some x })
      (fun n => { n with parent := pn.parent }) (fun n => { n with children := some x })
      (fun _ => rfl) (fun _ => rfl) (fun _ => rfl) (hr hn)
    refine ⟨s4, ?_, hf, hl, fun i => (hc i).trans (by simp [hn])⟩
    simp only [gnodeBefore, hne, ↓reduceIte, get_ok hp, Res.bind_ok, e1, e2, g2, e3, g3]
    simp only [hn]
    exact e4
  · obtain ⟨s1, s2, s3, s4, e1, e2, g2, e3, g3, e4, hf, hl, hc⟩ := link_ok hp hx hne
      (fun n => { n with prev := pn.prev, next := some p }) (fun n => { n with prev := some x })
      (fun n => { n with parent := pn.parent }) (fun n => { n with next := some x })
      (fun _ => rfl) (fun _ => rfl) (fun _ => rfl) (o := some q) (fun q' h => hq q' (hn.trans h))
    have hqp : q ≠ p := ((hq q hn).elim fun _ h => h.2.2)
    refine ⟨s4, ?_, hf, hl, fun i => (hc i).trans ?_⟩
    · simp only [gnodeBefore, hne, ↓reduceIte, get_ok hp, Res.bind_ok, e1, e2, g2, e3, g3]
      simp only [hn]
      exact e4
    · by_cases h1 : i = p
      · subst h1; simp [hn, Ne.symm hqp]
      · by_cases h2 : i = q
        · subst h2; simp [hn, h1, (hq i hn).elim fun _ h => h.2.1]
        · simp [hn, h1, h2]

theorem unlink_eff {s : Store} {c : Nat} {cn : Node} (hc : s.Live c cn)
    (hq : ∀ q, cn.next = some q → ∃ qn, s.Live q qn ∧ q ≠ c)
    (hp : ∀ p, cn.prev = some p → ∃ pn, s.Live p pn ∧ p ≠ c ∧ some p ≠ cn.next)
    (hr : cn.prev = none → ∀ r, cn.parent = some r → ∃ rn, s.Live r rn ∧ r ≠ c ∧ some r ≠ cn.next) :
    ∃ s', s.unlink c = .ok (s', cn.next) ∧ s'.freed = s.freed ∧ s'.nodes.length = s.nodes.length ∧
      UnlinkEff s s' c cn.prev cn.next cn.parent := by
  have hcn : some c ≠ cn.next := fun h => (hq c h.symm).elim fun _ h => h.2 rfl
  have hcp : some c ≠ cn.prev := fun h => (hp c h.symm).elim fun _ h => h.2.1 rfl
  have hcr : ¬ (cn.prev = none ∧ some c = cn.parent) := fun h => (hr h.1 c h.2.symm).elim fun _ h => h.2.1 rfl
  -- the successor's `prev`
  obtain ⟨s1, e1, f1, l1, r1⟩ := modify_opt_ok (s := s) (o := cn.next) (fun x => { x with prev := cn.prev })
    fun q h => (hq q h).imp fun _ h => h.1
  have live1 : ∀ {i n}, s.Live i n → some i ≠ cn.next → s1.Live i n := fun h hi =>
    ⟨by rw [r1, if_neg hi]; exact h.1, h.2⟩
  -- the predecessor's `next`, or else the parent's `children`
  have h2 : ∃ s2, unlinkPrev s1 cn cn.next = Res.ok s2 ∧ s2.freed = s1.freed ∧ s2.nodes.length = s1.nodes.length ∧
      ∀ i, s2.nodes[i]? =
        if some i = cn.prev then (s1.nodes[i]?).map (fun pn => { pn with next := cn.next })
        else if cn.prev = none ∧ some i = cn.parent then (s1.nodes[i]?).map (fun rn => { rn with children := cn.next })
        else s1.nodes[i]? := by
    cases hpv : cn.prev with
    | some p =>
      obtain ⟨pn, hp1, -, hpq⟩ := hp p hpv
      obtain ⟨s2, e2, u2⟩ := modify_opt_ok (s := s1) (o := some p) (fun x => { x with next := cn.next })
        fun q h => ⟨pn, by cases h; exact live1 hp1 hpq⟩
      exact ⟨s2, by simp only [unlinkPrev, hpv]; exact e2, by simpa using u2⟩
    | none =>
      obtain ⟨s2, e2, u2⟩ := modify_opt_ok (s := s1) (o := cn.parent) (fun x => { x with children := cn.next })
        fun r h => (hr hpv r h).imp fun _ h' => live1 h'.1 h'.2.2
      exact ⟨s2, by simp only [unlinkPrev, hpv]; exact e2, by simpa using u2⟩
  obtain ⟨s2, e2, f2, l2, r2⟩ := h2
  have hc2 : s2.Live c cn := ⟨by rw [r2, if_neg hcp, if_neg hcr]; exact (live1 hc hcn).1, hc.2⟩
  obtain ⟨s3, e3, u3⟩ := modify_ok hc2 (fun x => { x with parent := none, next := none, prev := none })
  refine ⟨s3, ?_, by rw [u3.1, f2, f1], by rw [u3.2.1, l2, l1], fun i => ?_⟩
  · have e1' : unlinkNext s cn = .ok s1 := e1
    simp only [unlink, get_ok hc, Res.bind_ok, e1', get_ok (live1 hc hcn), e2, e3]
    rfl
  · rw [u3.2.2, r2, r1]
    by_cases hic : i = c
    · rw [if_pos hic, if_pos hic, hic, hc.1]; rfl
    rw [if_neg hic, if_neg hic]
    by_cases hin : some i = cn.next
    · -- the successor is neither the predecessor nor the parent
      have h1 : some i ≠ cn.prev := fun h => (hp i h.symm).elim fun _ h' => h'.2.2 hin
      have h2 : ¬ (cn.prev = none ∧ some i = cn.parent) := fun h => (hr h.1 i h.2.symm).elim fun _ h' => h'.2.2 hin
      rw [if_pos hin, if_neg h1, if_neg h2, if_neg h1, if_pos hin]
    · rw [if_neg hin]
      by_cases h1 : some i = cn.prev
      · rw [if_pos h1, if_pos h1]
      · rw [if_neg h1, if_neg h1, if_neg hin]

end Store
end Mpt.Nodes
