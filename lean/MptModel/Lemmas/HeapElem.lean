/-
  Buffers whose elements have destructors, at byte positions: how a token read (`rdTok`) sees a write, the frames
  `OnlyBuf` / `Frame`, what one destructor call and the finaliser loop do (`finiAt_ok`, `finiLoop_spec`), and the tokens a
  buffer stores (`Buf.toks`).
-/
import MptModel.Lemmas.Heap
namespace Mpt.Heap
open Mpt

/-- the tokens read at the byte positions `pos`, `pos + sz`, …, `n` of them (`savedToks` of the model and, at element positions,
    `slotsFrom` are the same list: `savedToks_eq`, `toksAt_eq`) -/
def toksAt (d : List Byte) (pos sz : Nat) : Nat → List Nat
  | 0 => []
  | n + 1 => rdTok d pos :: toksAt d (pos + sz) sz n

theorem getD_write (d : List Byte) (q : Nat) (bytes : List Byte) (i : Nat) (h : q + bytes.length ≤ d.length) :
    (Mem.write d q bytes).getD i 0 =
      if i < q then d.getD i 0 else if i < q + bytes.length then bytes.getD (i - q) 0 else d.getD i 0 := by
  simp only [List.getD_eq_getElem?_getD]
  rw [Mem.getElem?_write _ _ _ _ h]
  split
  · rfl
  · split <;> rfl

theorem rdTok_congr {d d' : List Byte} {p q : Nat} (h : ∀ k, k < 4 → d'.getD (q + k) 0 = d.getD (p + k) 0) : rdTok d' q = rdTok d p := by
  unfold rdTok
  rw [h 1 (by omega), h 2 (by omega), h 3 (by omega), show d'.getD q 0 = d.getD p 0 from h 0 (by omega)]

theorem rdTok_write_out (d : List Byte) (q : Nat) (bytes : List Byte) (p : Nat) (h : q + bytes.length ≤ d.length)
    (hp : p + 4 ≤ q ∨ q + bytes.length ≤ p) : rdTok (Mem.write d q bytes) p = rdTok d p := by
  refine rdTok_congr fun k hk => ?_
  rw [getD_write _ _ _ _ h]
  rcases hp with l | g
  · rw [if_pos (by omega)]
  · rw [if_neg (by omega), if_neg (by omega)]

theorem rdTok_write_in (d : List Byte) (q : Nat) (bytes : List Byte) (p : Nat) (h : q + bytes.length ≤ d.length)
    (h1 : q ≤ p) (h2 : p + 4 ≤ q + bytes.length) : rdTok (Mem.write d q bytes) p = rdTok bytes (p - q) := by
  refine rdTok_congr fun k hk => ?_
  rw [getD_write _ _ _ _ h, if_neg (by omega), if_pos (by omega), show p + k - q = p - q + k by omega]

theorem rdTok_write_after (d : List Byte) (q : Nat) (bytes : List Byte) (p : Nat) (h : q + bytes.length ≤ d.length)
    (hp : p + 4 ≤ q) : rdTok (Mem.write d q bytes) p = rdTok d p :=
  rdTok_write_out d q bytes p h (Or.inl hp)

theorem toksAt_write_before (d : List Byte) (q : Nat) (bytes : List Byte) (p sz n : Nat) (h : q + bytes.length ≤ d.length)
    (hp : q + bytes.length ≤ p) : toksAt (Mem.write d q bytes) p sz n = toksAt d p sz n := by
  induction n generalizing p with
  | zero => rfl
  | succ n ih =>
    simp only [toksAt]
    rw [rdTok_write_out _ _ _ _ h (Or.inr hp), ih (p + sz) (by omega)]

theorem iters_aligned (a c sz : Nat) (h : sz ≠ 0) : iters (a * sz) (c * sz) sz = c - a := by
  unfold iters
  have hp := Nat.pos_of_ne_zero h
  by_cases le : c ≤ a
  · have : c * sz ≤ a * sz := Nat.mul_le_mul_right _ le
    have e : c * sz - a * sz + sz - 1 = sz - 1 := by omega
    rw [e, Nat.div_eq_of_lt (by omega)]; omega
  · have e : c * sz - a * sz = (c - a) * sz := (Nat.sub_mul _ _ _).symm
    have e2 : (c - a) * sz + sz - 1 = sz * (c - a) + (sz - 1) := by rw [Nat.mul_comm]; omega
    rw [e, e2, Nat.mul_add_div hp, Nat.div_eq_of_lt (by omega)]; simp

theorem iters_mul (k sz : Nat) (h : sz ≠ 0) : iters 0 (k * sz) sz = k := by
  have := iters_aligned 0 k sz h
  rwa [Nat.zero_mul, Nat.sub_zero] at this

/-- `s'` differs from `s` only in buffer `b` and the event log -/
structure OnlyBuf (s s' : State) (b : Nat) : Prop where
  hs : s'.hs = s.hs
  wins : s'.wins = s.wins
  next : s'.next = s.next
  oracle : s'.oracle = s.oracle
  len : s'.bufs.length = s.bufs.length
  other : ∀ c, c ≠ b → s'.buf? c = s.buf? c

theorem OnlyBuf.refl (s : State) (b : Nat) : OnlyBuf s s b := ⟨rfl, rfl, rfl, rfl, rfl, fun _ _ => rfl⟩

theorem OnlyBuf.trans {s s1 s2 : State} {b : Nat} (h1 : OnlyBuf s s1 b) (h2 : OnlyBuf s1 s2 b) : OnlyBuf s s2 b :=
  ⟨h2.hs.trans h1.hs, h2.wins.trans h1.wins, h2.next.trans h1.next, h2.oracle.trans h1.oracle, h2.len.trans h1.len,
   fun c ne => (h2.other c ne).trans (h1.other c ne)⟩

theorem OnlyBuf.setBuf {s s1 : State} {b : Nat} (o : OnlyBuf s s1 b) (y : Buf) (blt : b < s1.bufs.length) :
    OnlyBuf s (s1.setBuf b y) b :=
  ⟨o.hs, o.wins, o.next, o.oracle, (State.setBuf_length s1 b y).trans o.len,
    fun c ne => by rw [State.buf?_setBuf _ _ _ _ blt, if_neg ne]; exact o.other c ne⟩

/-- `s'` differs from `s` only in buffer `b`, the log, the token counter `next` and the schedule `oracle` (the two fields
    `OnlyBuf` also keeps) -/
structure Frame (s s' : State) (b : Nat) : Prop where
  hs : s'.hs = s.hs
  wins : s'.wins = s.wins
  len : s'.bufs.length = s.bufs.length
  other : ∀ c, c ≠ b → s'.buf? c = s.buf? c

theorem Frame.refl (s : State) (b : Nat) : Frame s s b := ⟨rfl, rfl, rfl, fun _ _ => rfl⟩
theorem Frame.trans {s s1 s2 : State} {b : Nat} (h1 : Frame s s1 b) (h2 : Frame s1 s2 b) : Frame s s2 b :=
  ⟨h2.hs.trans h1.hs, h2.wins.trans h1.wins, h2.len.trans h1.len, fun c ne => (h2.other c ne).trans (h1.other c ne)⟩

theorem OnlyBuf.frame {s s' : State} {b : Nat} (o : OnlyBuf s s' b) : Frame s s' b := ⟨o.hs, o.wins, o.len, o.other⟩

theorem Frame.setBuf {s s1 : State} {b : Nat} (fr : Frame s s1 b) (y : Buf) (blt : b < s1.bufs.length) :
    Frame s (s1.setBuf b y) b :=
  ⟨fr.hs, fr.wins, (State.setBuf_length s1 b y).trans fr.len,
    fun c ne => by rw [State.buf?_setBuf _ _ _ _ blt, if_neg ne]; exact fr.other c ne⟩

theorem Frame.handle {s s' : State} {b : Nat} (fr : Frame s s' b) (h : Nat) : s'.handle h = s.handle h := by
  unfold State.handle; rw [fr.hs]

theorem Frame.schedule {s s1 : State} {b : Nat} {o o' : List Bool} (f : Frame { s with oracle := o } s1 b) :
    Frame s { s1 with oracle := o' } b :=
  ⟨f.hs, f.wins, f.len, f.other⟩

theorem Frame.withLog {s s' : State} {b : Nat} (f : Frame s s' b) (l : List Ev) : Frame s { s' with log := l } b :=
  ⟨f.hs, f.wins, f.len, f.other⟩

theorem finiAt_ok {s : State} {b pos sz : Nat} {x : Buf} (hb : s.buf? b = some x) (fit : pos + sz ≤ x.size) :
    ∃ s1, finiAt s b pos sz = .ok s1 () ∧ OnlyBuf s s1 b ∧ s1.log = s.log ++ [Ev.fini (rdTok x.data pos)] ∧
      s1.buf? b = some { x with data := Mem.write x.data pos (List.replicate sz 0xdd) } := by
  have blt := State.buf?_lt hb
  unfold finiAt
  rw [hb]
  simp only
  rw [if_neg (by omega)]
  exact ⟨_, rfl, (⟨rfl, rfl, rfl, rfl, rfl, fun _ _ => rfl⟩ : OnlyBuf s { s with log := s.log ++ [Ev.fini (rdTok x.data pos)] } b).setBuf _ blt,
    rfl, State.buf?_setBuf_self _ _ _ blt⟩

theorem finiLoop_spec : ∀ (n : Nat) (s : State) (b pos sz : Nat) (x : Buf), s.buf? b = some x →
    pos + n * sz ≤ x.size →
    ∃ s' d', finiLoop n s b pos sz = .ok s' () ∧ OnlyBuf s s' b ∧
      s'.log = s.log ++ (toksAt x.data pos sz n).map Ev.fini ∧
      s'.buf? b = some { x with data := d' } ∧
      d'.length = x.data.length ∧ (∀ i, i < pos ∨ pos + n * sz ≤ i → d'.getD i 0 = x.data.getD i 0) := by
  intro n
  induction n with
  | zero =>
    intro s b pos sz x hb _
    exact ⟨s, x.data, rfl, OnlyBuf.refl s b, (List.append_nil _).symm, hb, rfl, fun _ _ => rfl⟩
  | succ n ih =>
    intro s b pos sz x hb fit
    rw [Nat.succ_mul] at fit
    have f1 : pos + sz ≤ x.data.length := by simp only [Buf.size] at fit; omega
    have fw : pos + (List.replicate sz (0xdd : Byte)).length ≤ x.data.length := by rw [List.length_replicate]; exact f1
    obtain ⟨s1, h1, o1, l1, hb1⟩ := finiAt_ok hb f1
    have wl := Mem.write_length x.data pos _ fw
    obtain ⟨s2, d', hd, o2, l2, hb2, dl, dsame⟩ := ih s1 b (pos + sz) sz _ hb1
      (by simp only [Buf.size, wl]; simp only [Buf.size] at fit; omega)
    refine ⟨s2, d', by simp only [finiLoop, h1]; exact hd, o1.trans o2, ?_, hb2, dl.trans wl, fun i hi => ?_⟩
    · rw [l2, l1, List.append_assoc]
      simp only [toksAt, List.map_cons, List.singleton_append]
      rw [toksAt_write_before _ _ _ _ _ _ fw (by rw [List.length_replicate]; exact Nat.le_refl _)]
    · rw [Nat.succ_mul] at hi
      rw [dsame i (by omega), getD_write _ _ _ _ fw, List.length_replicate]
      rcases hi with l | g
      · rw [if_pos l]
      · rw [if_neg (by omega), if_neg (by omega)]

/-- the tokens a buffer with finaliser stores: one per whole element inside the used size -/
def Buf.toks (x : Buf) : List Nat :=
  match x.traits with
  | some t => if t.fini.isSome ∧ t.size ≠ 0 then toksAt x.data 0 t.size (x.used / t.size) else []
  | none => []

theorem bufToks_ref (x : Buf) (r : Nat) : ({ x with ref := r } : Buf).toks = x.toks := rfl

end Mpt.Heap
