/-
  Path cursors.  Separator mode and binary length mode store the same thing: every element is followed by a tag
  (binary mode: its length; separator mode: nothing) and by one byte that is the link of the next element (its length;
  the separator) or, behind the last element, free.  `enc` is that byte string; `Cur` says that a path is a cursor in
  front of some elements stored this way.  `mpt_path_next` steps over one element (`pathNext_cur`), so a walk yields
  exactly the elements (`elems_cur`); `mpt_path_last` reduces the cursor to the last one (`pathLast_cur`);
  `mpt_path_set` makes a cursor in front of the components of its text (`pathSet_cur`).  Facts about `splitOn` and
  `memchr` on a text come first.

  The result type `Res` of the path functions is that of `Impl/Ring.lean`; `.fault` is also what a walk out of fuel
  returns.
-/
import MptModel.Impl.Config
import MptModel.Spec.PathMap
import MptModel.Lemmas.ListFacts
namespace Mpt.Config
open Mpt Mpt.PathMap

theorem splitOn_ne_nil (sep : Byte) : ∀ t : List Byte, splitOn sep t ≠ []
  | [] => by simp [splitOn]
  | c :: cs => by
    simp only [splitOn]
    split
    · simp
    · split <;> simp

theorem splitOn_no_sep (sep : Byte) : ∀ t : List Byte, sep ∉ t → splitOn sep t = [t]
  | [], _ => by simp [splitOn]
  | c :: cs, h => by
    simp at h
    simp only [splitOn]
    have hc : ¬ c = sep := fun e => h.1 e.symm
    simp [hc, splitOn_no_sep sep cs h.2]

theorem splitOn_append_sep (sep : Byte) : ∀ (a rest : List Byte), sep ∉ a →
    splitOn sep (a ++ sep :: rest) = a :: splitOn sep rest
  | [], rest, _ => by simp [splitOn]
  | c :: cs, rest, h => by
    simp at h
    have hc : ¬ c = sep := fun e => h.1 e.symm
    simp only [List.cons_append, splitOn, hc, ↓reduceIte]
    rw [splitOn_append_sep sep cs rest h.2]

theorem memchr_none (data : List Byte) (c : Byte) (n : Nat) (h : c ∉ data.take n) : memchr data c n = none := by
  have : (data.take n).findIdx (· = c) = (data.take n).length :=
    List.findIdx_eq_length.2 fun x hx => by simpa using fun e : x = c => h (e ▸ hx)
  simp [memchr, this]

theorem memchr_some (a rest : List Byte) (c : Byte) (n : Nat) (h : c ∉ a) (hn : a.length < n) :
    memchr (a ++ c :: rest) c n = some a.length := by
  obtain ⟨m, rfl⟩ : ∃ m, n = a.length + (m + 1) := ⟨n - a.length - 1, by omega⟩
  have hf : a.findIdx (· = c) = a.length :=
    List.findIdx_eq_length.2 fun x hx => by simpa using fun e : x = c => h (e ▸ hx)
  simp [memchr, List.take_append, List.findIdx_append, hf, List.findIdx_cons]

theorem splitOn_cases (sep : Byte) (t : List Byte) :
    (sep ∉ t ∧ splitOn sep t = [t]) ∨
    ∃ a rest, t = a ++ sep :: rest ∧ sep ∉ a ∧ splitOn sep t = a :: splitOn sep rest := by
  by_cases hsep : sep ∈ t
  · obtain ⟨a, rest, hta, hna⟩ := List.eq_append_cons_of_mem hsep
    exact Or.inr ⟨a, rest, hta, hna, hta ▸ splitOn_append_sep sep a rest hna⟩
  · exact Or.inl ⟨hsep, splitOn_no_sep sep t hsep⟩

theorem takeWhile_all (sep : Byte) (t : List Byte) (h : sep ∉ t) : t.takeWhile (· ≠ sep) = t :=
  takeWhile_of_all fun x hx => by simpa using fun e : x = sep => h (e ▸ hx)

theorem elems_done {p : Path} (f : Nat) (hl : p.len = 0) : elems p (f + 1) = .ok [] := by
  simp [elems, hl]

theorem elems_cons {p q : Path} {n f : Nat} {es : List (List Byte)} (hl : p.len ≠ 0) (hn : pathNext p = .ok (q, n))
    (he : elems q f = .ok es) : elems p (f + 1) = .ok (stepElem p q n :: es) := by
  simp only [elems, hl, ↓reduceIte, hn, he, stepElem]

/-- what a mode stores behind an element besides the one free byte: binary mode the element's length -/
def tag (bin : Bool) (e : List Byte) : List Byte := if bin then [UInt8.ofNat e.length] else []

/-- what the free byte behind the previous element becomes when `e` is added -/
def link (bin : Bool) (sep : Byte) (e : List Byte) : Byte := if bin then UInt8.ofNat e.length else sep

/-- the bytes of a path holding `es`; `x` is the free byte behind the last element -/
def enc (bin : Bool) (sep x : Byte) : List (List Byte) → List Byte
  | [] => []
  | [e] => e ++ tag bin e ++ [x]
  | e :: e' :: es => e ++ tag bin e ++ link bin sep e' :: enc bin sep x (e' :: es)

@[simp] theorem enc_nil (bin : Bool) (sep x : Byte) : enc bin sep x [] = [] := rfl

theorem enc_last (bin : Bool) (sep : Byte) : ∀ (es : List (List Byte)), es ≠ [] → ∃ D, ∀ x, enc bin sep x es = D ++ [x]
  | [], h => absurd rfl h
  | [e], _ => ⟨e ++ tag bin e, fun x => by simp [enc]⟩
  | e :: e' :: es, _ => by
    obtain ⟨D, hD⟩ := enc_last bin sep (e' :: es) (by simp)
    exact ⟨e ++ tag bin e ++ link bin sep e' :: D, fun x => by simp [enc, hD]⟩

theorem enc_nil_or_last (bin : Bool) (sep x : Byte) (es : List (List Byte)) :
    es = [] ∧ enc bin sep x es = [] ∨ ∃ D, enc bin sep x es = D ++ [x] := by
  by_cases hes : es = []
  · exact Or.inl ⟨hes, by simp [hes]⟩
  · obtain ⟨D, hD⟩ := enc_last bin sep es hes
    exact Or.inr ⟨D, hD x⟩

theorem enc_snoc (bin : Bool) (sep y : Byte) (e : List Byte) : ∀ (es : List (List Byte)),
    enc bin sep y (es ++ [e]) = enc bin sep (link bin sep e) es ++ e ++ tag bin e ++ [y]
  | [] => by simp [enc]
  | [a] => by simp [enc]
  | a :: b :: es => by
    have ih := enc_snoc bin sep y e (b :: es)
    simp only [List.cons_append] at ih ⊢
    simp [enc, ih]

/-! `joinSep` and `encBin` are the model's own byte strings of the two modes (`C10.path_rebuild_sep`, `path_undo_sep` count
    their fuel in `joinSep`); `enc` is either of them: `enc_sep` (on which `pathSet_cur` rests), `enc_bin`; the equations
    `joinSep_snoc`, `encBin_snoc` and `splitOn_joinSep` say what the model's definitions are. -/

theorem enc_sep (sep x : Byte) : ∀ (es : List (List Byte)), es ≠ [] → enc false sep x es = joinSep sep es ++ [x]
  | [], h => absurd rfl h
  | [e], _ => by simp [enc, tag, joinSep]
  | e :: e' :: es, _ => by simp [enc, tag, link, joinSep, enc_sep sep x (e' :: es) (by simp)]

theorem enc_bin (sep x : Byte) : ∀ (es : List (List Byte)), enc true sep x es = encBin x es
  | [] => rfl
  | [e] => by simp [enc, tag, encBin]
  | e :: e' :: es => by simp [enc, tag, link, encBin, enc_bin sep x (e' :: es)]

theorem joinSep_snoc (sep : Byte) (es : List (List Byte)) (e : List Byte) (hes : es ≠ []) :
    joinSep sep (es ++ [e]) = joinSep sep es ++ sep :: e := by
  have := enc_snoc false sep 0 e es
  rw [enc_sep sep 0 _ (by simp), enc_sep sep _ es hes] at this
  exact (List.append_left_inj [0]).1 (by simpa [tag, link] using this)

theorem encBin_snoc (y : Byte) (e : List Byte) (es : List (List Byte)) :
    encBin y (es ++ [e]) = encBin (UInt8.ofNat e.length) es ++ e ++ [UInt8.ofNat e.length, y] := by
  simpa [enc_bin, tag, link] using enc_snoc true 0 y e es

/-- what `mpt_path_add` demands of an element: binary mode stores its length in one byte, separator mode cannot hold
    the separator inside an element -/
def Fits (bin : Bool) (sep : Byte) (e : List Byte) : Prop := if bin then e.length ≤ 255 else sep ∉ e

theorem enc_length (bin : Bool) (sep x y : Byte) (es : List (List Byte)) : (enc bin sep x es).length = (enc bin sep y es).length := by
  by_cases hes : es = []
  · simp [hes]
  · obtain ⟨D, hD⟩ := enc_last bin sep es hes
    simp [hD]

theorem enc_cons (bin : Bool) (sep x : Byte) (e : List Byte) (es : List (List Byte)) :
    ∃ c, enc bin sep x (e :: es) = e ++ tag bin e ++ c :: enc bin sep x es ∧ ∀ e' ∈ es.head?, c = link bin sep e' := by
  cases es with
  | nil => exact ⟨x, by simp [enc], by simp⟩
  | cons e' r => exact ⟨link bin sep e', by simp [enc], by simp⟩

/-- a path cursor of mode `bin`/`sep` in front of the elements `es`, which are stored behind `pre` and followed by `tl`;
    in separator mode `first` may be unknown (0) -/
structure Cur (bin : Bool) (sep : Byte) (p : Path) (pre : List Byte) (es : List (List Byte)) (tl : List Byte) : Prop where
  hbin : p.binary = bin
  hsep : p.sep = sep
  off : p.off = pre.length
  body : ∃ x, p.base = pre ++ enc bin sep x es ++ tl ∧ p.len = (enc bin sep x es).length
  first : ∀ e ∈ es.head?, p.first = e.length ∨ (bin = false ∧ p.first = 0)
  fits : ∀ e ∈ es, Fits bin sep e

/-- `len = 0` is the test of `mpt_path_next` and `mpt_path_del` for a path that is used up -/
theorem Cur.len_eq_zero {bin : Bool} {sep : Byte} {p : Path} {pre tl : List Byte} {es : List (List Byte)}
    (h : Cur bin sep p pre es tl) : p.len = 0 ↔ es = [] := by
  obtain ⟨x, _, hl⟩ := h.body
  rcases enc_nil_or_last bin sep x es with ⟨hes, h0⟩ | ⟨D, hD⟩
  · simp [hl, h0, hes]
  · rw [hl, hD]
    constructor
    · simp
    · rintro rfl; simp at hD

theorem pathNext_cur {bin : Bool} {sep : Byte} {p : Path} {pre tl e : List Byte} {es : List (List Byte)}
    (h : Cur bin sep p pre (e :: es) tl) :
    ∃ q c, pathNext p = .ok (q, e.length) ∧ stepElem p q e.length = e ∧ Cur bin sep q (pre ++ e ++ tag bin e ++ [c]) es tl := by
  obtain ⟨x, hb, hl⟩ := h.body
  obtain ⟨c, hc, hc1⟩ := enc_cons bin sep x e es
  rw [hc] at hb hl
  have hfe : Fits bin sep e := h.fits e (by simp)
  have hfirst := h.first e (by simp)
  have hfits : ∀ a ∈ es, Fits bin sep a := fun a ha => h.fits a (by simp [ha])
  have hl0 : ¬ p.len = 0 := by simp [h.len_eq_zero]
  cases bin with
  | true =>
    have hle : e.length ≤ 255 := by simpa [Fits] using hfe
    have hfe' : p.first = e.length := by simpa using hfirst
    have hb' : p.base = pre ++ e ++ [UInt8.ofNat e.length, c] ++ enc true sep x es ++ tl := by simpa [tag] using hb
    have hl' : p.len = e.length + 2 + (enc true sep x es).length := by simp [hl, tag]; omega
    have hidx : (p.base.drop p.off)[e.length + 1]? = some c := by rw [hb', h.off]; simp
    have hskip : ¬ (e.length + 2 > p.len) := by omega
    refine ⟨{ p with first := c.toNat, off := p.off + (e.length + 2), len := p.len - (e.length + 2) }, c, ?_, ?_, ?_⟩
    · simp only [pathNext, hl0, ↓reduceIte, h.hbin, hfe', hidx, hskip]
    · have : pre.length + (e.length + 2) - e.length - 2 = pre.length := by omega
      simp [stepElem, h.hbin, hb', h.off, this]
    · refine ⟨h.hbin, h.hsep, by simp [h.off, tag], ⟨x, by simp [hb', tag], by simp [hl']⟩, ?_, hfits⟩
      intro e' he'
      have : e'.length ≤ 255 := by simpa [Fits] using hfits e' (List.mem_of_mem_head? he')
      exact Or.inl (by simp [hc1 e' he', link, toNat_ofNat_lt (Nat.lt_succ_of_le this)])
  | false =>
    have hna : sep ∉ e := by simpa [Fits] using hfe
    have hb' : p.base = pre ++ e ++ c :: enc false sep x es ++ tl := by simpa [tag] using hb
    have hl' : p.len = e.length + 1 + (enc false sep x es).length := by simp [hl, tag]; omega
    have hdata : p.base.drop p.off = e ++ c :: (enc false sep x es ++ tl) := by simp [hb', h.off]
    refine ⟨{ p with first := 0, off := p.off + (e.length + 1), len := p.len - (e.length + 1) }, c, ?_, ?_, ?_⟩
    · rcases Nat.eq_zero_or_pos p.first with hf0 | hfpos
      · -- `first` unknown: search for the separator
        have hle : ¬ p.off + (p.len - 1) > p.base.length := by rw [hb', h.off, hl']; simp; omega
        have hmem : memchr (p.base.drop p.off) sep (p.len - 1) = none ∧ p.len = e.length + 1 ∨
            memchr (p.base.drop p.off) sep (p.len - 1) = some e.length := by
          by_cases hes : es = []
          · refine Or.inl ⟨memchr_none _ _ _ ?_, by simp [hl', hes]⟩
            simpa [hdata, hl', hes] using hna
          · obtain ⟨D, hD⟩ := enc_last false sep es hes
            obtain ⟨e', he'⟩ : ∃ e', e' ∈ es.head? := by cases es <;> simp at hes ⊢
            refine Or.inr ?_
            rw [hdata, hc1 e' he', link, if_neg (by simp), memchr_some _ _ _ _ hna (by rw [hl', hD x]; simp; omega)]
        simp only [pathNext, hl0, h.hbin, hf0, h.hsep, ↓reduceIte, Bool.false_eq_true, ne_eq, not_true_eq_false, hle]
        rcases hmem with ⟨hm, hlen⟩ | hm <;> simp [hm] <;> omega
      · have hfa : p.first = e.length := by
          rcases hfirst with h1 | h1
          · exact h1
          · omega
        have hne : ¬ e.length = 0 := by omega
        have hle : ¬ (e.length + 1 > p.len) := by omega
        simp only [pathNext, hl0, h.hbin, hfa, hne, hle, ↓reduceIte, Bool.false_eq_true, ne_eq, not_false_eq_true]
    · have : pre.length + (e.length + 1) - e.length - 1 = pre.length := by omega
      simp [stepElem, h.hbin, hb', h.off, this]
    · exact ⟨h.hbin, h.hsep, by simp [h.off, tag], ⟨x, by simp [hb', tag], by simp [hl']⟩, fun _ _ => Or.inr ⟨rfl, rfl⟩, hfits⟩

theorem elems_cur {bin : Bool} {sep : Byte} {tl : List Byte} : ∀ (es : List (List Byte)) (fuel : Nat) {p : Path} {pre : List Byte},
    Cur bin sep p pre es tl → es.length + 1 ≤ fuel → elems p fuel = .ok es
  | _, 0, _, _, _, hf => by omega
  | [], f + 1, p, pre, h, _ => elems_done f (h.len_eq_zero.2 rfl)
  | e :: es, f + 1, p, pre, h, hf => by
    obtain ⟨q, c, hq, hel, hQ⟩ := pathNext_cur h
    rw [elems_cons (by simp [h.len_eq_zero]) hq (elems_cur es f hQ (by simpa using hf)), hel]

theorem nextN_cur {bin : Bool} {sep : Byte} {tl : List Byte} : ∀ (n : Nat) {p : Path} {pre : List Byte} {es : List (List Byte)},
    Cur bin sep p pre es tl → n ≤ es.length → ∃ p' pre', nextN p n = .ok p' ∧ Cur bin sep p' pre' (es.drop n) tl
  | 0, p, pre, es, h, _ => ⟨p, pre, rfl, h⟩
  | n + 1, p, pre, [], h, hn => by simp at hn
  | n + 1, p, pre, e :: es, h, hn => by
    obtain ⟨q, c, hq, _, hQ⟩ := pathNext_cur h
    obtain ⟨p', pre', h1, h2⟩ := nextN_cur n hQ (by simpa using hn)
    exact ⟨p', pre', by simp only [nextN, hq, h1], by simpa using h2⟩


/-! texts: the components of a text are the elements its bytes encode in separator mode -/

theorem joinSep_cons (sep : Byte) (e : List Byte) {es : List (List Byte)} (hes : es ≠ []) :
    joinSep sep (e :: es) = e ++ sep :: joinSep sep es := by
  cases es with
  | nil => exact absurd rfl hes
  | cons a r => rfl

theorem splitOn_spec (sep : Byte) (t : List Byte) :
    joinSep sep (splitOn sep t) = t ∧ (∀ e ∈ splitOn sep t, sep ∉ e) ∧ (splitOn sep t).head? = some (t.takeWhile (· ≠ sep)) := by
  -- by the first separator: the recursion is on the text behind it, not on the tail
  rcases splitOn_cases sep t with ⟨hsep, hsp⟩ | ⟨a, rest, hta, hna, hsp⟩
  · rw [hsp, takeWhile_all sep t hsep]
    exact ⟨rfl, by simpa using hsep, rfl⟩
  · obtain ⟨h1, h2, _⟩ := splitOn_spec sep rest
    rw [hsp, joinSep_cons sep a (splitOn_ne_nil sep rest), h1]
    refine ⟨hta.symm, fun e he => ?_, by rw [hta, takeWhile_append_stop _ a rest sep (by simp), takeWhile_all sep a hna]; rfl⟩
    rcases List.mem_cons.1 he with rfl | he
    · exact hna
    · exact h2 e he
termination_by t.length
decreasing_by rw [hta]; simp; omega

theorem splitOn_joinSep (sep : Byte) : ∀ (es : List (List Byte)), es ≠ [] → (∀ e ∈ es, sep ∉ e) →
    splitOn sep (joinSep sep es) = es
  | [], h, _ => absurd rfl h
  | [a], _, hs => by simpa [joinSep] using splitOn_no_sep sep a (hs a (by simp))
  | a :: b :: es, _, hs => by
    simp only [joinSep]
    rw [splitOn_append_sep sep a _ (hs a (by simp)), splitOn_joinSep sep (b :: es) (by simp) (fun e he => hs e (by simp [he]))]

theorem length_le_joinSep (sep : Byte) : ∀ es : List (List Byte), es.length ≤ (joinSep sep es).length + 1
  | [] => by simp
  | [e] => by simp
  | e :: e' :: es => by
    have := length_le_joinSep sep (e' :: es)
    simp only [joinSep, List.length_cons, List.length_append] at this ⊢
    omega

/-- the fuel of a walk over a separator-mode text: one call of `mpt_path_next` per element (at most one more than the text
    has bytes) and the call that sees the empty rest -/
theorem fuel_joinSep (sep : Byte) (es : List (List Byte)) : es.length + 1 ≤ (joinSep sep es).length + 2 :=
  Nat.add_le_add_right (length_le_joinSep sep es) 1

theorem length_splitOn_le (sep : Byte) (t : List Byte) : (splitOn sep t).length ≤ t.length + 1 := by
  have := length_le_joinSep sep (splitOn sep t)
  rwa [(splitOn_spec sep t).1] at this

/-- the scan loop of `mpt_path_set` over a text `t` that ends at its first assign character or terminator `x`:
    `first` is set at the first separator only (`elem = 0` until then) -/
theorem setScan_eq (sep assign : Byte) (x : Byte) (tl : List Byte) (hx : x = assign ∨ x = 0) :
    ∀ (t : List Byte) (plen elem first : Nat), (∀ c ∈ t, c ≠ assign ∧ c ≠ 0) →
    setScan sep assign (t ++ x :: tl) plen elem first =
      (plen + t.length + 1, elem + t.count sep + 1,
        if elem = 0 ∧ sep ∈ t then plen + (t.takeWhile (· ≠ sep)).length else first, true)
  | [], plen, elem, first, _ => by simp [setScan, hx]
  | c :: cs, plen, elem, first, h => by
    have hc : ¬ (c = assign ∨ c = 0) := by simp [h c (List.mem_cons_self ..)]
    have ih := fun p e f => setScan_eq sep assign x tl hx cs p e f (fun d hd => h d (List.mem_cons_of_mem _ hd))
    rw [List.cons_append, setScan, if_neg hc]
    by_cases hcs : c = sep
    · subst hcs
      rw [if_pos rfl, ih]
      by_cases he : elem = 0 <;> simp [he] <;> omega
    · have hsc : ¬ sep = c := fun e => hcs e.symm
      rw [if_neg hcs, ih]
      by_cases he : elem = 0 ∧ sep ∈ cs <;> simp [he, hcs, hsc] <;> omega

theorem text_decomp (assign : Byte) : ∀ (text : List Byte), (0 : Byte) ∉ text →
    ∃ x tl, text ++ [0] = text.takeWhile (· ≠ assign) ++ x :: tl ∧ (x = assign ∨ x = 0) ∧
      ∀ c ∈ text.takeWhile (· ≠ assign), c ≠ assign ∧ c ≠ 0
  | [], _ => ⟨0, [], by simp, Or.inr rfl, by simp⟩
  | c :: cs, h0 => by
    simp at h0
    by_cases hc : c = assign
    · exact ⟨assign, cs ++ [0], by simp [hc], Or.inl rfl, by simp [hc]⟩
    · obtain ⟨x, tl, h1, h2, h3⟩ := text_decomp assign cs h0.2
      refine ⟨x, tl, by simp [hc, h1], h2, ?_⟩
      intro d hd
      simp [hc] at hd
      rcases hd with rfl | hd
      · exact ⟨hc, fun e => h0.1 e.symm⟩
      · exact h3 d (by simpa using hd)

theorem pathSet_cur (sep assign : Byte) (text : List Byte) (h0 : (0 : Byte) ∉ text) :
    ∃ tl, Cur false sep (pathSet sep assign text).1 [] (splitPath sep assign text) tl := by
  obtain ⟨x, tl, hdec, hx, hall⟩ := text_decomp assign text h0
  rw [splitPath]
  generalize text.takeWhile (· ≠ assign) = t at hdec hall ⊢
  obtain ⟨h1, h2, h3⟩ := splitOn_spec sep t
  have henc := enc_sep sep x _ (splitOn_ne_nil sep t)
  rw [h1] at henc
  have hscan := setScan_eq sep assign x tl hx t 0 0 0 hall
  refine ⟨tl, rfl, rfl, rfl, ⟨x, by simp [pathSet, hdec, henc], by simp [pathSet, hdec, hscan, henc]⟩, ?_,
    fun e he => by simpa [Fits] using h2 e he⟩
  intro e he
  rw [h3] at he
  cases he
  simp only [pathSet, hdec, hscan, Nat.zero_add, true_and]
  -- `first`: the length of the first component, or 0 (= not known, the second alternative of `Cur.first`) when there is no
  -- separator or the length does not fit 8 bits
  generalize (t.takeWhile (· ≠ sep)).length = n
  by_cases hsep : sep ∈ t <;> by_cases hb : n > 255 <;> simp [hsep, hb]

/-- the backward scan of `mpt_path_last` steps over the characters of the last component (`r` = that component reversed) -/
theorem scanBack_chars (sep : Byte) (base pre : List Byte) : ∀ (r rest : List Byte) (acc n : Nat),
    base = pre ++ r.reverse ++ rest → sep ∉ r →
    scanBack base sep (n + r.length) (pre.length + r.length - 1) acc = scanBack base sep n (pre.length - 1) (acc + r.length)
  | [], rest, acc, n, _, _ => by simp
  | c :: r, rest, acc, n, hb, hs => by
    simp at hs
    have hc : c ≠ sep := fun e => hs.1 e.symm
    have hidx : base[pre.length + (c :: r).length - 1]? = some c := by
      rw [hb]
      simp only [List.reverse_cons, List.length_cons, List.append_assoc]
      rw [List.getElem?_append_right (by omega), List.getElem?_append_right (by simp)]
      simp
    have := scanBack_chars sep base pre r ([c] ++ rest) (acc + 1) n (by rw [hb]; simp) hs.2
    have e1 : pre.length + (c :: r).length - 1 - 1 = pre.length + r.length - 1 := by simp
    rw [show n + (c :: r).length = (n + r.length) + 1 by simp; omega, scanBack, hidx]
    simp only [hc, ↓reduceIte, e1, this]
    congr 1
    simp; omega

/-- the backward scan of `mpt_path_last` over a text `u ++ l1` stops behind the last separator (`u` ends with it) or at the
    start of the text (`u = []`): position and length of the last component `l1` -/
theorem scanBack_spec (sep : Byte) (base pre u l1 rest : List Byte) (acc : Nat)
    (hb : base = pre ++ u ++ l1 ++ rest) (hn : sep ∉ l1) (hu : u = [] ∨ ∃ u', u = u' ++ [sep]) :
    scanBack base sep (u.length + l1.length) (pre.length + u.length + l1.length - 1) acc = .ok (u.length, acc + l1.length) := by
  have := scanBack_chars sep base (pre ++ u) l1.reverse rest acc u.length (by simpa using hb) (by simpa using hn)
  simp only [List.length_reverse, List.length_append] at this
  rw [this]
  rcases hu with rfl | ⟨u', rfl⟩
  · simp [scanBack]
  · have hidx : base[pre.length + u'.length]? = some sep := by
      rw [hb]
      simp only [List.append_assoc]
      rw [List.getElem?_append_right (by omega), List.getElem?_append_right (by omega)]
      simp
    simp [scanBack, hidx]

/-- `mpt_path_last` finds the last element from behind: separator mode scans back to the link in front of it, binary mode
    reads its tag -/
theorem pathLast_cur {bin : Bool} {sep : Byte} {p : Path} {pre tl e : List Byte} {es : List (List Byte)}
    (h : Cur bin sep p pre (es ++ [e]) tl) :
    ∃ q pre', pathLast p = .ok (q, e.length) ∧ Cur bin sep q pre' [e] tl := by
  obtain ⟨x, hb, hl⟩ := h.body
  rw [enc_snoc] at hb hl
  have hfe : Fits bin sep e := h.fits e (by simp)
  have hP := (enc_nil_or_last bin sep (link bin sep e) es).imp And.right id
  generalize enc bin sep (link bin sep e) es = P at hb hl hP
  have hl0 : ¬ p.len = 0 := by simp [h.len_eq_zero]
  cases bin with
  | false =>
    have hb' : p.base = pre ++ P ++ e ++ (x :: tl) := by simpa [tag] using hb
    have hl' : p.len = P.length + e.length + 1 := by rw [hl]; simp [tag]; omega
    have hsb := scanBack_spec sep p.base pre P e (x :: tl) 0 hb' (by simpa [Fits] using hfe)
      (hP.imp id (fun ⟨D, hD⟩ => ⟨D, by simpa [link] using hD⟩))
    have e1 : p.len - 1 = P.length + e.length := by omega
    have e2 : p.off + p.len - 2 = pre.length + P.length + e.length - 1 := by rw [h.off]; omega
    refine ⟨{ p with off := p.off + P.length, first := if e.length > 255 then 0 else e.length, len := e.length + 1 }, pre ++ P, ?_,
      h.hbin, h.hsep, by simp [h.off], ⟨x, by simp [hb', enc, tag], by simp [enc, tag]⟩, ?_, by simpa using hfe⟩
    · simp only [pathLast, hl0, ↓reduceIte, h.hbin, h.hsep, e1, e2, hsb]
      simp
    · by_cases h255 : e.length > 255 <;> simp [h255]
  | true =>
    have hle : e.length ≤ 255 := by simpa [Fits] using hfe
    have hb' : p.base = pre ++ P ++ e ++ [UInt8.ofNat e.length, x] ++ tl := by simpa [tag] using hb
    have hl' : p.len = P.length + e.length + 2 := by simp [hl, tag]; omega
    have hl2 : ¬ p.len < 2 := by omega
    have hidx : p.base[p.off + p.len - 2]? = some (UInt8.ofNat e.length) := by
      have : p.off + p.len - 2 = (pre ++ P ++ e).length := by simp [h.off, hl']; omega
      rw [this, hb', show pre ++ P ++ e ++ [UInt8.ofNat e.length, x] ++ tl = (pre ++ P ++ e) ++ (UInt8.ofNat e.length :: (x :: tl)) by simp,
        List.getElem?_append_right (Nat.le_refl _)]
      simp
    have e1 : ¬ p.len < e.length + 2 := by omega
    refine ⟨{ p with off := p.off + (p.len - (e.length + 2)), first := e.length, len := e.length + 2 }, pre ++ P, ?_,
      h.hbin, h.hsep, by simp [h.off, hl'], ⟨x, by simp [hb', enc, tag], by simp [enc, tag]⟩, by simp, by simpa using hfe⟩
    simp only [pathLast, hl0, ↓reduceIte, h.hbin, hl2, hidx, toNat_ofNat_lt (Nat.lt_succ_of_le hle), e1]

theorem elems_pathSet_assign (sep assign : Byte) (text : List Byte) (h0 : (0 : Byte) ∉ text) :
    elems (pathSet sep assign text).1 (text.length + 2) = .ok (splitPath sep assign text) := by
  obtain ⟨tl, hC⟩ := pathSet_cur sep assign text h0
  refine elems_cur _ _ hC ?_
  have := length_splitOn_le sep (text.takeWhile (· ≠ assign))
  have := (List.takeWhile_prefix (l := text) (p := (· ≠ assign))).length_le
  simp only [splitPath]
  omega

theorem pathLast_after_next (sep assign : Byte) (text : List Byte)
    (h0 : (0 : Byte) ∉ text) (n : Nat) (hn : n < (splitPath sep assign text).length) :
    ∃ p q last, (splitPath sep assign text).getLast? = some last ∧
      nextN (pathSet sep assign text).1 n = .ok p ∧ pathLast p = .ok (q, last.length) ∧
      elems q (last.length + 2) = .ok [last] := by
  obtain ⟨tl, hC⟩ := pathSet_cur sep assign text h0
  obtain ⟨p, pre', h1, h2⟩ := nextN_cur n hC (Nat.le_of_lt hn)
  -- what is left ends with the last component
  obtain ⟨r, last, hr⟩ : ∃ r last, (splitPath sep assign text).drop n = r ++ [last] :=
    ⟨_, _, (List.dropLast_concat_getLast (by simpa using hn)).symm⟩
  have hlast : (splitPath sep assign text).getLast? = some last := by
    have := List.getLast?_drop (l := splitPath sep assign text) (i := n)
    rw [hr] at this
    simpa [Nat.not_le.2 hn] using this.symm
  rw [hr] at h2
  obtain ⟨q, pre'', h3, h4⟩ := pathLast_cur h2
  exact ⟨p, q, last, hlast, h1, h3, elems_cur [last] _ h4 (by simp)⟩

theorem splitPath_no_assign (sep assign : Byte) (text : List Byte) (h : assign ∉ text) :
    splitPath sep assign text = splitOn sep text := by
  rw [splitPath, takeWhile_all assign text h]

end Mpt.Config
