/-
  `_mpt_buffer_alloc_detach` on plain buffers (C04): it refuses without a trace or hands the handle a private, mutable
  buffer with the old content (`Detached`; `detach_sem`, stated with the outcome predicates `DetachSem` / `EnsureSem`; the
  two allocating branches meet in `detach_new`, `copyState` is the state before the copy of a shared buffer); an empty
  handle gets a fresh buffer (`attach`).  The operations use `ensure` through `ensure_cases` and `ensure_then`: what follows
  is judged in the state `ensure` returns, where the handle owns its buffer.
-/
import MptModel.Lemmas.HeapPlain
import MptModel.Lemmas.HeapSem
import MptModel.Lemmas.HeapGraph
import MptModel.Spec.ArrayOps
namespace Mpt.Heap

/-- `c` copied to the start of `z0` as its whole content (`detach` and the callers of `buffer::create` fill a fresh buffer so) -/
def filled (z0 : Buf) (c : List Byte) : Buf := { z0 with data := Mem.write z0.data 0 c, used := c.length }

theorem filled_content (z0 : Buf) (c : List Byte) (h : c.length ≤ z0.size) :
    (filled z0 c).content = c ∧ (filled z0 c).size = z0.size :=
  ⟨take_write_zero _ _, Mem.write_length _ _ _ (by rw [Nat.zero_add]; exact h)⟩

theorem fresh_size (len f : Nat) (t : Option Traits) : (State.fresh len f t).size = allocSize len :=
  List.length_replicate
theorem fresh_used (len f : Nat) (t : Option Traits) : (State.fresh len f t).used = 0 := rfl

theorem fresh_mutable (len : Nat) (t : Option Traits) : (State.fresh len 0 t).immutable = false := by
  simp [Buf.immutable, State.fresh]

/-- what the callers of `detach` rely on, after `arr->_buf = b`: in `s1` handle `h` owns `z` = buffer `nb` of type `t`
    and at least `n` bytes, and reads what it read in `s` — cut behind `k ≥ n` bytes only when its buffer was immutable
    and unique; no other handle reads anything else -/
structure Detached (s : State) (h : Nat) (t : Option Traits) (n : Nat) (s1 : State) (nb : Nat) (z : Buf) : Prop where
  kept : Kept s h s1
  own : Own s1 h nb z
  size : n ≤ z.size
  traits : z.traits = t
  content : ∃ k, n ≤ k ∧ s1.abs h = (s.abs h).take k ∧ (k < (s.abs h).length → ownerImmutable s h = true)

namespace Detached
variable {s : State} {h : Nat} {t : Option Traits} {n : Nat} {s1 : State} {nb : Nat} {z : Buf}

theorem same (d : Detached s h t n s1 nb z) (hn : (s.abs h).length ≤ n) : s1.abs h = s.abs h := by
  obtain ⟨k, hk, e, _⟩ := d.content
  rw [e]; exact List.take_of_length_le (Nat.le_trans hn hk)

theorem same_mutable (d : Detached s h t n s1 nb z) (wr : ownerImmutable s h = false) : s1.abs h = s.abs h := by
  obtain ⟨k, _, e, ktr⟩ := d.content
  rw [e]
  exact List.take_of_length_le (Nat.le_of_not_lt fun lt => by rw [ktr lt] at wr; cases wr)

end Detached

/-- outcome of `ensure`: refused without a trace — never when the handle owns its buffer — or `Detached` -/
def EnsureSem (s : State) (h : Nat) (t : Option Traits) (n : Nat) (r : Out Nat) : Prop :=
  match r with
  | .fault _ => False
  | .fail s' _ => Kept s h s' ∧ s'.abs h = s.abs h ∧ ∀ nb z, ¬ Own s h nb z
  | .ok s' nb => ∃ z, Detached s h t n s' nb z

/-- `EnsureSem` for `detach`, whose result `ensure` stores in the handle -/
def DetachSem (s : State) (h : Nat) (x : Buf) (n : Nat) (r : Out Nat) : Prop :=
  EnsureSem s h x.traits n (match r with
    | .ok s' nb => .ok (s'.setHandle h (some nb)) nb
    | .fail s' e => .fail s' e
    | .fault w => .fault w)

theorem Detached.inPlace {s : State} (inv : Inv s) {h b : Nat} {x : Buf} (hh : s.handle h = some b) (hb : s.buf? b = some x)
    (n : Nat) (hr : x.ref < 2) (hi : x.immutable = false) (hn : n ≤ x.size) : Detached s h x.traits n s b x := by
  have hr1 := inv.ref b x hb
  refine ⟨Kept.refl inv h, ⟨hh, hb, by omega, hi⟩, hn, rfl, max n (s.abs h).length, Nat.le_max_left _ _, ?_, fun c => by omega⟩
  exact (List.take_of_length_le (Nat.le_max_right _ _)).symm

theorem attach {s : State} (inv : Inv s) {h : Nat} (hlt : h < s.hs.length) (hh : s.handle h = none)
    (len fl : Nat) (t : Option Traits) (pt : PlainT t) (mu : (State.fresh len fl t).immutable = false) :
    Detached s h t len ((s.newBuf len fl t).setHandle h (some s.bufs.length)) s.bufs.length (State.fresh len fl t) ∧
    ((s.newBuf len fl t).setHandle h (some s.bufs.length)).abs h = s.abs h := by
  have hnb : s.buf? s.bufs.length = none := State.buf?_ge_length s _ (Nat.le_refl _)
  have hz : ((s.newBuf len fl t).setHandle h (some s.bufs.length)).buf? s.bufs.length = some (State.fresh len fl t) := by
    rw [State.buf?_setHandle, State.buf?_newBuf, if_pos rfl]
  obtain ⟨inv', hh', ab, others⟩ := Inv.retarget (s' := (s.newBuf len fl t).setHandle h (some s.bufs.length)) inv
    (z := State.fresh len fl t) hlt hnb rfl
    (by intro c; rw [State.buf?_setHandle, State.buf?_newBuf, hh]; simp)
    rfl (Nat.zero_le _) pt (Nat.zero_mod _)
  have same : ((s.newBuf len fl t).setHandle h (some s.bufs.length)).abs h = s.abs h := by
    rw [ab, State.abs_none hh]; rfl
  refine ⟨⟨⟨inv', by simp, others⟩, ⟨hh', hz, rfl, mu⟩, ?_, rfl, len, Nat.le_refl _, ?_, fun lt => ?_⟩, same⟩
  · rw [fresh_size]; exact le_allocSize len
  · rw [same, State.abs_none hh, List.take_nil]
  · rw [State.abs_none hh] at lt; exact absurd lt (Nat.not_lt_zero _)

/-- the state reached inside `detach` on a shared buffer before the copy -/
def copyState (s : State) (b : Nat) (x : Buf) (len : Nat) : State :=
  (s.newBuf len (x.flags - x.flags % 2) x.traits).setBuf b { x with ref := x.ref - 1 }

theorem copyState_buf? {s : State} {b : Nat} {x : Buf} (hb : s.buf? b = some x) (len c : Nat) :
    (copyState s b x len).buf? c =
      if c = b then some { x with ref := x.ref - 1 }
      else if c = s.bufs.length then some (State.fresh len (x.flags - x.flags % 2) x.traits)
      else s.buf? c :=
  State.buf?_newBuf_setBuf s _ _ _ b c _ (State.buf?_lt hb)

theorem not_own_of_shared {s : State} {h b : Nat} {x : Buf} (hh : s.handle h = some b) (hb : s.buf? b = some x)
    (shared : 2 ≤ x.ref) (nb : Nat) (z : Buf) : ¬ Own s h nb z := fun o => by
  have := o.ref; rw [(o.eq hh hb).2] at this; omega

theorem detach_copy_fail {s : State} (inv : Inv s) {h b : Nat} {x : Buf} (hh : s.handle h = some b) (hb : s.buf? b = some x)
    (shared : 2 ≤ x.ref) (n len : Nat) {e : Fail}
    (hbs : bufferSet (copyState s b x len) s.bufs.length x.traits 0 x.content true = .fail (copyState s b x len) e) :
    DetachSem s h x n (detachCopy (s.newBuf len (x.flags - x.flags % 2) x.traits) b x s.bufs.length) := by
  obtain ⟨s', he, hbuf, hhs, _⟩ := detachCopy_refused hb shared len (x.flags - x.flags % 2) hbs
  rw [he]
  have c := inv.congr hbuf hhs
  exact ⟨⟨c.1, by rw [hhs], fun h' _ => c.2 h'⟩, c.2 h, not_own_of_shared hh hb shared⟩

/-- the state after `detach` has put the first `k` bytes of the content of the old buffer `x` into a new buffer and dropped the
    reference -/
theorem detach_new {s s' : State} (inv : Inv s) {h b : Nat} {x : Buf} (hh : s.handle h = some b) (hb : s.buf? b = some x)
    (n len k : Nat) (nlen : n ≤ len) (hk : len ≤ k) (fit : (x.content.take k).length ≤ allocSize len)
    (lal : (x.content.take k).length % esize x.traits = 0) (trunc : k < x.used → x.immutable = true ∧ x.ref < 2)
    (hhs : s'.hs = s.hs.set h (some s.bufs.length))
    (hbuf : ∀ c, s'.buf? c = if c = s.bufs.length then
        some (filled (State.fresh len (x.flags - x.flags % 2) x.traits) (x.content.take k))
      else if c = b then dropRef s b else s.buf? c) :
    Detached s h x.traits n s' s.bufs.length (filled (State.fresh len (x.flags - x.flags % 2) x.traits) (x.content.take k)) := by
  have fc := filled_content (State.fresh len (x.flags - x.flags % 2) x.traits) (x.content.take k)
    (by rw [fresh_size]; exact fit)
  rw [fresh_size] at fc
  have ret := Inv.retarget (s' := s') (z := filled (State.fresh len (x.flags - x.flags % 2) x.traits) (x.content.take k)) inv
    (State.handle_lt hh) (State.buf?_ge_length s _ (Nat.le_refl _)) hhs
    (by
      intro c
      rw [hbuf, hh]
      by_cases e1 : c = s.bufs.length
      · rw [if_pos e1, if_pos e1]
      · rw [if_neg e1, if_neg e1]
        by_cases e2 : c = b
        · rw [e2, if_pos rfl, if_pos rfl]
        · rw [if_neg e2, if_neg (fun e => e2 (Option.some.inj e).symm)])
    rfl (by rw [fc.2]; exact fit) (inv.plain b x hb) lal
  have hz := hbuf s.bufs.length
  rw [if_pos rfl] at hz
  obtain ⟨inv', hh', ab, others⟩ := ret
  refine ⟨⟨inv', by rw [hhs, List.length_set], others⟩, ⟨hh', hz, rfl, by simp [filled, Buf.immutable, State.fresh]; omega⟩,
    by rw [fc.2]; exact Nat.le_trans nlen (le_allocSize len), rfl, k, Nat.le_trans nlen hk,
    by rw [ab, fc.1, State.abs_of hh hb], fun lt => ?_⟩
  rw [State.abs_of hh hb, content_length x (inv.used b x hb)] at lt
  obtain ⟨im, rf⟩ := trunc lt
  simp [ownerImmutable, hh, hb, im, rf]

/-- `detach` on the buffer of a handle refuses without a trace or yields `Detached`.  A shared buffer is copied whole
    (`k` covers the used size; a copy that does not fit is refused), a unique one is moved and cut at the new size. -/
theorem detach_sem {s : State} (inv : Inv s) {h b : Nat} {x : Buf} (hh : s.handle h = some b)
    (hb : s.buf? b = some x) (n : Nat) : DetachSem s h x n (detach s b n) := by
  have blt := State.buf?_lt hb
  have hr := inv.ref b x hb
  have hu := inv.used b x hb
  have hp := inv.plain b x hb
  have hal := inv.aligned b x hb
  have cl := content_length x hu
  have nbne : s.bufs.length ≠ b := by omega
  have bne : ¬ b = s.bufs.length := fun e => nbne e.symm
  unfold detach
  rw [hb]
  simp only
  rw [if_neg hp.esize_ne_zero]
  generalize hlen : roundUp n (esize x.traits) = len
  have nlen : n ≤ len := by rw [← hlen]; exact le_roundUp n _
  have lal : len % esize x.traits = 0 := by rw [← hlen]; exact roundUp_mod n _ hp.esize_ne_zero
  split
  · -- in place
    rename_i c
    show ∃ z, Detached s h x.traits n (s.setHandle h (some b)) b z
    rw [setHandle_self hh]
    exact ⟨x, Detached.inPlace inv hh hb n c.1 (by simpa using c.2.2) (by omega)⟩
  · split
    · -- shared and not copyable: refused, nothing touched
      rename_i c; exact ⟨Kept.refl inv h, rfl, not_own_of_shared hh hb c.1⟩
    · rename_i notinplace _
      split
      · -- shared: copy
        rename_i shared
        have hz : (copyState s b x len).buf? s.bufs.length = some (State.fresh len (x.flags - x.flags % 2) x.traits) := by
          rw [copyState_buf? hb]; simp [nbne]
        have bs := bufferSet_plain hz hp (Nat.zero_mod _) 0 x.content true
        rw [show (State.fresh len (x.flags - x.flags % 2) x.traits).traits = x.traits from rfl, fresh_size] at bs
        by_cases fit : 0 + x.content.length > allocSize len
        · exact detach_copy_fail inv hh hb shared n len (by rw [bs, if_pos fit])
        · by_cases al : 0 % esize x.traits ≠ 0 ∨ x.content.length % esize x.traits ≠ 0
          · exact detach_copy_fail inv hh hb shared n len (by rw [bs, if_neg fit, if_pos al])
          · unfold detachCopy
            simp only
            rw [show (s.newBuf len (x.flags - x.flags % 2) x.traits).setBuf b { x with ref := x.ref - 1 } = copyState s b x len from rfl,
              bs, if_neg fit, if_neg al]
            -- the whole content is copied; `k := max len x.used` only meets `len ≤ k` of `detach_new`, its `take k` takes all
            have e : setPlain (State.fresh len (x.flags - x.flags % 2) x.traits) 0 x.content
                = filled (State.fresh len (x.flags - x.flags % 2) x.traits) (x.content.take (max len x.used)) := by
              rw [List.take_of_length_le (by omega)]
              simp [setPlain, filled, State.fresh, zeros, Mem.write_nil]
            rw [e]
            refine ⟨_, detach_new inv hh hb n len (max len x.used) nlen (Nat.le_max_left _ _)
              (by rw [List.take_of_length_le (by omega)]; omega)
              (by rw [List.take_of_length_le (by omega), cl]; exact hal) (fun c => by omega) (by simp [copyState]) ?_⟩
            intro c
            rw [State.buf?_setHandle, State.buf?_setBuf _ _ _ _ (by simp [copyState]), copyState_buf? hb]
            by_cases e1 : c = s.bufs.length
            · simp [e1]
            · by_cases e2 : c = b
              · have : ¬ x.ref = 1 := by omega
                simp [e2, dropRef, hb, this]
              · simp [e1, e2]
      · -- unique: move
        rename_i uniq
        have r1 : x.ref = 1 := by omega
        unfold detachMove
        simp only
        rw [finiTail_plain _ _ hp]
        generalize hs2 : (s.newBuf len (x.flags - x.flags % 2) x.traits).setBuf b { x with ref := 0 } = s2
        have h2 : ∀ c, s2.buf? c = if c = b then some { x with ref := 0 } else if c = s.bufs.length then
            some (State.fresh len (x.flags - x.flags % 2) x.traits) else s.buf? c := by
          intro c; rw [← hs2]; exact State.buf?_newBuf_setBuf s _ _ _ b c _ blt
        have l2 : s2.bufs.length = s.bufs.length + 1 := by rw [← hs2]; simp
        simp only
        rw [h2 b, h2 s.bufs.length]
        simp only [if_true, nbne, if_false]
        have asz := le_allocSize len
        rw [if_neg (by rw [fresh_size]; omega)]
        have tk : x.data.take (min x.used len) = x.content.take len := by
          rw [Buf.content, List.take_take, Nat.min_comm]
        have tl : (x.content.take len).length = min len x.used := by rw [List.length_take, cl]
        rw [tk]
        have e : ({ State.fresh len (x.flags - x.flags % 2) x.traits with
              data := Mem.write (State.fresh len (x.flags - x.flags % 2) x.traits).data 0 (x.content.take len),
              used := min x.used len } : Buf)
            = filled (State.fresh len (x.flags - x.flags % 2) x.traits) (x.content.take len) := by
          rw [filled, tl, Nat.min_comm]
        rw [e]
        refine ⟨_, detach_new inv hh hb n len len nlen (Nat.le_refl _) (by omega)
          (by rw [tl]; exact min_mod_zero lal hal) (fun c => ⟨?_, by omega⟩) (by rw [← hs2]; simp) ?_⟩
        · -- a private buffer is only replaced when it is immutable or too small
          apply Decidable.byContradiction
          intro ni
          exact notinplace ⟨by omega, by simp only [Buf.size] at hu ⊢; omega, ni⟩
        · intro c
          rw [State.buf?_setHandle, State.buf?_freeBuf _ _ _ (by simp; omega), State.buf?_setBuf _ _ _ _ (by omega), h2]
          by_cases e1 : c = s.bufs.length
          · simp [e1, nbne]
          · by_cases e2 : c = b
            · simp [e2, dropRef, hb, r1, bne]
            · simp [e1, e2]

/-- `hp`: a caller that skips `detach` (`need = false`) has tested that the buffer is private, mutable and large enough -/
theorem ensure_sem {s : State} (inv : Inv s) {h b : Nat} {x : Buf} (hh : s.handle h = some b)
    (hb : s.buf? b = some x) (need : Bool) (n : Nat)
    (hp : need = false → x.ref < 2 ∧ x.immutable = false ∧ n ≤ x.size) :
    EnsureSem s h x.traits n (ensure s h b need n) := by
  unfold ensure
  cases need with
  | true =>
    simp only [if_true]
    exact detach_sem inv hh hb n
  | false =>
    have c := hp rfl
    exact ⟨x, Detached.inPlace inv hh hb n c.1 c.2.1 c.2.2⟩

theorem ensure_cases {s : State} (inv : Inv s) {h b : Nat} {x : Buf} (hh : s.handle h = some b)
    (hb : s.buf? b = some x) (need : Bool) (n : Nat)
    (hp : need = false → x.ref < 2 ∧ x.immutable = false ∧ n ≤ x.size) (hn : x.used ≤ n) :
    (∃ s1 e, ensure s h b need n = .fail s1 e ∧ Kept s h s1 ∧ s1.abs h = s.abs h ∧ ∀ nb z, ¬ Own s h nb z) ∨
    ∃ s1 nb z, ensure s h b need n = .ok s1 nb ∧ Kept s h s1 ∧ s1.abs h = s.abs h ∧ Own s1 h nb z ∧ n ≤ z.size ∧
      z.traits = x.traits ∧ z.used = x.used := by
  have es := ensure_sem inv hh hb need n hp
  have cl : (s.abs h).length = x.used := by rw [State.abs_of hh hb, content_length x (inv.used b x hb)]
  generalize ensure s h b need n = r at es
  rcases r with ⟨s1, nb⟩ | ⟨s1, e⟩ | w
  · obtain ⟨z, d⟩ := es
    have same := d.same (by rw [cl]; exact hn)
    refine Or.inr ⟨s1, nb, z, rfl, d.kept, same, d.own, d.size, d.traits, ?_⟩
    have := congrArg List.length same
    rwa [State.abs_of d.own.hh d.own.hb, content_length z (d.kept.inv.used nb z d.own.hb), cl] at this
  · exact Or.inl ⟨s1, e, rfl, es⟩
  · exact es.elim

/-- `ensure_cases` as a rule for `Sem`, in the shape of the model's `match ensure … with`: `k` is the rest of the operation, `f` the
    caller's mapping of the error code -/
theorem ensure_then {α : Type} {s : State} (inv : Inv s) {h b : Nat} {x : Buf} (hh : s.handle h = some b)
    (hb : s.buf? b = some x) (need : Bool) (n : Nat)
    (hp : need = false → x.ref < 2 ∧ x.immutable = false ∧ n ≤ x.size) (hn : x.used ≤ n)
    {R : Vec.Vec → Vec.Vec → Prop} {k : State → Nat → Out α} {f : State → Fail → Fail}
    (hk : ∀ s1 nb z, Inv s1 → Own s1 h nb z → n ≤ z.size → z.traits = x.traits → z.used = x.used →
      Sem s1 h R (k s1 nb)) :
    Sem s h R (match ensure s h b need n with
      | .ok s1 nb => k s1 nb
      | .fail s1 e => .fail s1 (f s1 e)
      | .fault w => .fault w) := by
  rcases ensure_cases inv hh hb need n hp hn with ⟨s1, e, he, st, same, _⟩ | ⟨s1, nb, z, he, st, same, o, zs, zt, zu⟩
  · rw [he]; exact st.sem_fail same R _
  · rw [he]; exact Sem.after st same (hk s1 nb z st.inv o zs zt zu)

end Mpt.Heap
