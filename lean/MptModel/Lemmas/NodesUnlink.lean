/-
  Refinement of node_unlink: the node (with everything below it) leaves its sibling list and becomes a
  top-level list of its own (`unlink_refines`); for a node that is a top-level list of its own already nothing
  changes (`unlink_lone`); both together: `unlink_any_refines`.
-/
import MptModel.Lemmas.NodesReal
namespace Mpt.Nodes
open Mpt Mpt.Forest

/-- the list lemma of unlink, as `real_splice` is that of after/before -/
theorem real_unlink_list {s s' : Store} {x : Nat} :
    ∀ {L : Forest} {par prev : Option Nat} {j : Nat} {t : Tree},
    Real s par prev L → idx? x L = some j → L[j]? = some t → (ids L).Nodup →
    (∀ k, prev = some k → k ∉ ids L) → (∀ k, par = some k → k ∉ ids L) →
    UnlinkEff s s' x (prevAt prev L j) (headId (L.drop (j + 1))) par →
    Real s' par prev (L.eraseIdx j) ∧ Real s' none none [t] := by
  intro L par prev j t hL hj ht hnd hpv hpa he
  refine idx?_induct (motive := fun L j => ∀ {prev t}, Real s par prev L → L[j]? = some t → (ids L).Nodup →
      (∀ k, prev = some k → k ∉ ids L) → (∀ k, par = some k → k ∉ ids L) →
      UnlinkEff s s' x (prevAt prev L j) (headId (L.drop (j + 1))) par →
      Real s' par prev (L.eraseIdx j) ∧ Real s' none none [t]) ?_ ?_ hj hL ht hnd hpv hpa he
  · -- `x` is the first element: its successor inherits the predecessor
    intro n v cs ts prev t hL ht hnd hpv hpa he
    obtain ⟨⟨hxcs, hxts⟩, -, ndts, disj⟩ := nodup_ids_cons.1 hnd
    simp only [List.getElem?_cons_zero, Option.some.injEq] at ht
    subst ht
    simp only [List.eraseIdx_zero, List.tail_cons, List.drop_succ_cons, List.drop_zero, prevAt, ↓reduceIte] at he ⊢
    rw [Real_cons] at hL
    have hpvL : ∀ k, prev = some k → k ≠ x ∧ k ∉ ids cs ∧ k ∉ ids ts := fun k hk => by
      simpa [not_or] using (hpv k hk)
    have hpaL : ∀ k, par = some k → k ≠ x ∧ k ∉ ids cs ∧ k ∉ ids ts := fun k hk => by
      simpa [not_or] using (hpa k hk)
    refine ⟨hL.2.2.set_prev ndts fun k hk => ?_, ?_⟩
    · rw [he k, if_neg (fun e : k = x => hxts (e ▸ hk)), if_neg (fun e => (hpvL k e.symm).2.2 hk)]
      by_cases h2 : some k = headId ts
      · rw [if_pos h2, if_pos h2]
      · rw [if_neg h2, if_neg h2, if_neg (fun e => (hpaL k e.2.symm).2.2 hk)]
    · rw [Real_cons]
      refine ⟨by rw [he x, if_pos rfl, hL.1]; rfl, ?_, by simp⟩
      exact he.frame hL.2.1 hxcs (fun k hk => (hpvL k hk).2.1) (fun k hk h => disj k h (headId_mem hk))
        fun _ k hk => (hpaL k hk).2.1
  · -- `x` comes later: the first element changes only if `x` is its successor
    intro i n v cs ts j hix hj ih prev t hL ht hnd hpv hpa he
    obtain ⟨⟨hics, hits⟩, -, ndts, disj⟩ := nodup_ids_cons.1 hnd
    rw [prevAt_succ] at he
    simp only [Tree.id, List.drop_succ_cons] at he
    simp only [List.eraseIdx_cons_succ, List.getElem?_cons_succ] at ht ⊢
    rw [Real_cons] at hL
    have hpaL : ∀ k, par = some k → k ≠ i ∧ k ∉ ids cs ∧ k ∉ ids ts := fun k hk => by
      simpa [not_or] using (hpa k hk)
    have hn : ∀ k, headId (ts.drop (j + 1)) = some k → k ∈ ids ts :=
      fun k h => ids_drop_subset _ _ k (headId_mem h)
    have hp : ∀ k, prevAt (some i) ts j = some k → k = i ∨ k ∈ ids ts := fun k h =>
      (prevAt_cases h).imp_left fun e => (Option.some.inj e).symm
    obtain ⟨ih1, ih2⟩ := ih hL.2.2 ht ndts (fun k hk => by cases hk; exact hits) (fun k hk => (hpaL k hk).2.2) he
    refine ⟨?_, ih2⟩
    rw [Real_cons]
    refine ⟨?_, ?_, ih1⟩
    · rw [he i, if_neg hix]
      cases j with
      | zero => simp [prevAt, hL.1]
      | succ j' =>
        have hne : ts ≠ [] := by rintro rfl; simp at hj
        rw [if_neg (fun e => hits (prevAt_succ_mem e.symm)), if_neg (fun e => hits (hn i e.symm)),
          if_neg (fun e => (hpaL i e.2.symm).1 rfl), headId_eraseIdx_succ ts j' hne, hL.1]
    · refine he.frame hL.2.1 (fun h => disj x h (idx?_mem hj)) (fun k hk h => ?_) (fun k hk h => disj k h (hn k hk))
        fun _ k hk => (hpaL k hk).2.1
      exact (hp k hk).elim (fun e => hics (e ▸ h)) (disj k h)

theorem unlink_real {s : Store} {S : Forest} {ps : Option Nat} {j : Nat} {t : Tree}
    (hS : Real s ps none S) (hnd : (ids S).Nodup) (ht : S[j]? = some t)
    (hpar : ∀ p, ps = some p → p ∉ ids S ∧ ∃ pn, s.Live p pn ∧ pn.children = headId S) :
    ∃ s', s.unlink t.id = .ok (s', headId (S.drop (j + 1))) ∧ Real s' ps none (S.eraseIdx j) ∧ Real s' none none [t] ∧
      (∀ p, ps = some p → s'.nodes[p]? = (s.nodes[p]?).map (fun x => { x with children := headId (S.eraseIdx j) })) ∧
      SameLife s s' ∧ s'.nodes.length = s.nodes.length ∧
      (∀ i, i ∉ ids S → some i ≠ ps → s'.nodes[i]? = s.nodes[i]?) := by
  have hidx : idx? t.id S = some j := idx?_of_getElem? hnd ht
  have hxS : t.id ∈ ids S := idx?_mem hidx
  have hnxt : ∀ q, headId (S.drop (j + 1)) = some q → q ∈ ids S :=
    fun q hq => ids_drop_subset S _ q (headId_mem hq)
  obtain ⟨s', hs', hfreed, hlen, he⟩ := Store.unlink_eff (s := s) (c := t.id) ⟨hS.rec_idx ht, rfl⟩
    (by
      intro q hq
      obtain ⟨qn, hqn⟩ := hS.live q (hnxt q hq)
      exact ⟨qn, hqn, fun e => idx?_not_mem_drop hidx hnd (e ▸ headId_mem hq)⟩)
    (by
      intro q hq
      obtain ⟨qn, hqn⟩ := hS.live q (prevAt_mem hq)
      exact ⟨qn, hqn, fun e => prevAt_ne hidx hnd (by simp) (e ▸ hq),
        fun h => prevAt_ne_next hidx hnd (by simp) q hq h.symm⟩)
    (by
      intro _ r hr
      obtain ⟨hrS, rn, hrn, -⟩ := hpar r hr
      exact ⟨rn, hrn, fun e => hrS (e ▸ hxS), fun h => hrS (hnxt r h.symm)⟩)
  have he : UnlinkEff s s' t.id (prevAt none S j) (headId (S.drop (j + 1))) ps := he
  obtain ⟨hloc, hT⟩ := real_unlink_list hS hidx ht hnd (by simp) (fun k hk => (hpar k hk).1) he
  refine ⟨s', hs', hloc, hT, fun q hq => ?_, ⟨hfreed, he.alive fun _ => rfl⟩, hlen, fun i hi hip =>
    he.untouched (fun e => hi (e ▸ hxS)) (fun e => hi (prevAt_mem e.symm)) (fun e => hi (hnxt i e.symm)) fun _ => hip⟩
  obtain ⟨hqS, qn, hqn, hqc⟩ := hpar q hq
  rw [he q, if_neg (fun e : q = t.id => hqS (e ▸ hxS)), if_neg (fun e => hqS (prevAt_mem e.symm)),
    if_neg (fun e => hqS (hnxt q e.symm))]
  cases j with
  | zero => rw [if_pos ⟨rfl, hq.symm⟩, headId_drop_one]
  | succ j' =>
    -- `t` has a predecessor, so the parent is not written; its first child stays the head of the list
    obtain ⟨t', ht'⟩ : ∃ t', S[j']? = some t' :=
      ⟨S[j']'(by have := idx?_lt hidx; omega), List.getElem?_eq_getElem _⟩
    have hpv : prevAt none S (j' + 1) = some t'.id := by
      rw [prevAt_none_eq, if_neg (Nat.succ_ne_zero _), Nat.add_sub_cancel, ht']; rfl
    rw [hpv, if_neg (by simp), hqn.1, headId_eraseIdx_succ S j' (by rintro rfl; simp at hxS), ← hqc]
    rfl

/-- `mpt_node_unlink(x)` for a node with siblings or a parent: `x` (with everything below it) leaves its
    sibling list and becomes a top-level list of its own; the returned pointer is the old successor -/
theorem unlink_refines {s : Store} {x j : Nat} {l0 L : Forest} {rest : List Forest} {par : Option Nat} {t : Tree}
    (hR : Realises s (l0 :: rest)) (hat : SibsAt x l0 L j par) (ht : L[j]? = some t)
    (hne : applyAt par (fun L => L.eraseIdx j) l0 ≠ []) :
    ∃ s', s.unlink x = .ok (s', headId (L.drop (j + 1))) ∧
      Realises s' ([t] :: applyAt par (fun L => L.eraseIdx j) l0 :: rest) := by
  have hl0 := hR.real l0 (by simp)
  have hnd0 := hR.ids_nodup (l := l0) (by simp)
  have hx : t.id = x := idx?_id hat.idx ht
  obtain ⟨s', hs', hloc, hT, hpar, hlife, -, hfr⟩ := unlink_real (hat.real hl0.2) (hat.nodup hnd0) ht fun q hq =>
    let ⟨h1, _, h3⟩ := hat.par_live hl0.2 hnd0 q hq
    ⟨h1, h3⟩
  rw [hx] at hs'
  exact ⟨s', hs', hat.realises (E := []) (E' := [[t]]) hR hlife (by simpa using hT) hne hloc hpar
    (by simpa using (ids_eraseIdx_perm L j ht).symm) fun i _ hiL hip => hfr i hiL hip⟩

theorem Store.ext_nodes {s s' : Store} (h1 : s'.freed = s.freed) (h2 : ∀ j : Nat, s'.nodes[j]? = s.nodes[j]?) : s' = s := by
  cases s; cases s'
  simp only at h1 h2
  subst h1
  congr
  exact List.ext_getElem? h2

theorem unlink_lone {s : Store} {x : Nat} {n : Name} {v : Val} {cs : Forest} {rest : List Forest}
    (hR : Realises s ([.node x n v cs] :: rest)) : s.unlink x = .ok (s, none) := by
  have hT := (hR.real [.node x n v cs] (by simp)).2
  rw [Real_cons] at hT
  have hlive : s.Live x (recOf none none none cs n v) := ⟨by simpa [headId] using hT.1, rfl⟩
  obtain ⟨s3, h3, u3⟩ := Store.modify_ok hlive (fun x => { x with parent := none, next := none, prev := none })
  have : s3 = s := by
    refine Store.ext_nodes u3.1 (fun j => ?_)
    rw [u3.2.2 j]
    split
    · next h => subst h; rw [hlive.1]
    · rfl
  subst this
  simp only [Store.unlink, Store.get_ok hlive, Res.bind_ok, Store.unlinkNext, Store.unlinkPrev, h3]
  rfl

theorem SibsAt.alone {x j : Nat} {l0 L : Forest} {par : Option Nat} {t : Tree} (hat : SibsAt x l0 L j par) (hl0 : l0 ≠ [])
    (ht : L[j]? = some t) (hnil : applyAt par (fun L => L.eraseIdx j) l0 = []) : l0 = [t] := by
  cases hat with
  | kids _ _ => exact absurd hnil (modKids_ne_nil hl0)
  | top hi =>
    simp only [applyAt] at hnil
    have h1 := (List.getElem?_eq_some_iff.1 ht).1
    have h2 := congrArg List.length hnil
    rw [List.length_eraseIdx, if_pos h1, List.length_nil] at h2
    obtain ⟨t0, rfl⟩ : ∃ t0, l0 = [t0] := List.length_eq_one_iff.1 (by omega)
    have hj : j = 0 := by simp at h1; exact h1
    subst hj
    simp at ht
    rw [ht]

theorem unlink_any_refines {s : Store} {x j : Nat} {l0 L : Forest} {rest : List Forest} {par : Option Nat} {t : Tree}
    (hR : Realises s (l0 :: rest)) (hat : SibsAt x l0 L j par) (ht : L[j]? = some t) :
    ∃ r, s.unlink x = .ok r ∧ Realises r.1 ([t] :: ((if (applyAt par (fun L => L.eraseIdx j) l0).isEmpty then []
      else [applyAt par (fun L => L.eraseIdx j) l0]) ++ rest)) := by
  by_cases hne : applyAt par (fun L => L.eraseIdx j) l0 = []
  · have hl0 := hat.alone (hR.real l0 (by simp)).1 ht hne
    subst hl0
    obtain ⟨i, n, v, cs⟩ := t
    have hx : i = x := idx?_id hat.idx ht
    subst hx
    exact ⟨_, unlink_lone hR, by simpa [hne] using hR⟩
  · obtain ⟨s', h1, h2⟩ := unlink_refines hR hat ht hne
    exact ⟨_, h1, by rwa [if_neg (by simpa using hne)]⟩

end Mpt.Nodes
