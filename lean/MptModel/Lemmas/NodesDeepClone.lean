/-
  Pure facts about `relabel`; steps that only append fresh records (`Realises.fresh_range`): allocation, `mpt_node_new`
  and the shallow `mpt_node_clone`.
  mpt_list_clone / mpt_tree_clone on the pointer store realise the relabelled source forest: the copy of one node with
  everything below it (`copy_node_spec`) is the body of the list-clone loop and, with nothing copied so far, the tree clone.
  In between, what clone and move share: the loop that sets the parent of every element of a list, a realised sibling
  list with one element singled out (its record, its children exchanged), mpt_gnode_after behind the last element.
-/
import MptModel.Lemmas.NodesPlace
import MptModel.Lemmas.ListFacts
namespace Mpt.Nodes
open Mpt Mpt.Forest

theorem shape_relabel (l : Forest) : ∀ (k : Nat), shape (relabel l k).1 = shape l := by
  induction l using forest_induct with
  | nil => simp [relabel, shape]
  | cons i n v cs ts ihc iht => intro k; simp only [relabel, shape, ihc, iht]

theorem ids_relabel (l : Forest) : ∀ (k : Nat),
    ids (relabel l k).1 = List.range' k (ids l).length ∧ (relabel l k).2 = k + (ids l).length := by
  induction l using forest_induct with
  | nil => simp [relabel]
  | cons i n v cs ts ihc iht =>
    intro k
    obtain ⟨h1, h2⟩ := ihc (k + 1)
    obtain ⟨h3, h4⟩ := iht (relabel cs (k + 1)).2
    simp only [relabel, ids_cons, List.length_cons, List.length_append]
    refine ⟨?_, by rw [h4, h2]; omega⟩
    rw [h1, h3, h2]
    rw [List.range'_succ, List.range'_append_1]

theorem Realises.fresh_range {s s' : Store} {tops : List Forest} {nl : Forest} {m : Nat} (h : Realises s tops)
    (hfreed : s'.freed = s.freed) (hold : ∀ i, i < s.nodes.length → s'.nodes[i]? = s.nodes[i]?)
    (hne : nl ≠ []) (hreal : Real s' none none nl) (hids : ids nl = List.range' s.nodes.length m)
    (hlen : s'.nodes.length = s.nodes.length + m) : Realises s' (tops ++ [nl]) := by
  have hmem : ∀ i, i ∈ ids nl ↔ s.nodes.length ≤ i ∧ i < s'.nodes.length := fun i => by
    rw [hids, hlen, List.mem_range'_1]
  refine h.step (D := []) (P := []) (N := ids nl) .nil (by simp [hfreed]) (fun i _ hi => ?_) (by simp) (by simp)
    (fun i hi => ⟨List.getElem?_eq_none ((hmem i).1 hi).1, hreal.live i hi⟩) (hids ▸ List.nodup_range') ?_ (by simp)
  · by_cases hlt : i < s.nodes.length
    · rw [hold i hlt]
    · have hge : s'.nodes.length ≤ i := Nat.le_of_not_lt fun h' => hi ((hmem i).2 ⟨Nat.le_of_not_lt hlt, h'⟩)
      rw [List.getElem?_eq_none hge, List.getElem?_eq_none (Nat.le_of_not_lt hlt)]
  · intro l hl
    rcases List.mem_append.1 hl with hl | hl
    · have hr := h.real l hl
      exact ⟨hr.1, hr.2.frame fun i hi => hold i (h.id_lt hl i hi)⟩
    · rw [List.mem_singleton.1 hl]
      exact ⟨hne, hreal⟩

theorem Store.alloc_get_lt (s : Store) (n : Name) (v : Val) {k : Nat} (hk : k < s.nodes.length) :
    (s.alloc n v).1.nodes[k]? = s.nodes[k]? := by
  simp [Store.alloc, List.getElem?_append_left hk]

theorem Store.alloc_get_self (s : Store) (n : Name) (v : Val) :
    (s.alloc n v).1.nodes[s.nodes.length]? = some (recOf none none none [] n v) := by
  simp [Store.alloc, recOf, headId]

theorem Store.alloc_handle (s : Store) (n : Name) (v : Val) : (s.alloc n v).2 = s.nodes.length := rfl

theorem Store.alloc_size (s : Store) (n : Name) (v : Val) : (s.alloc n v).1.nodes.length = s.nodes.length + 1 := by
  simp [Store.alloc]

/-- `mpt_node_new` + name + value: a new detached root -/
theorem new_refines {s : Store} {tops : List Forest} (hR : Realises s tops) (nm : Name) (vl : Val) :
    Realises (s.alloc nm vl).1 (tops ++ [[.node s.nodes.length nm vl []]]) := by
  refine hR.fresh_range (m := 1) rfl (fun i hi => s.alloc_get_lt nm vl hi) (by simp) ?_ (by simp [List.range'])
    (s.alloc_size nm vl)
  rw [Real_cons]
  exact ⟨s.alloc_get_self nm vl, by simp, by simp⟩

/-- `mpt_node_clone(x)`: a new detached root with the name and value of `x` -/
theorem nodeClone_refines {s : Store} {tops : List Forest} {x : Nat} {xn : Node}
    (hR : Realises s tops) (hx : s.Live x xn) :
    ∃ s', s.nodeClone x = .ok (s', s.nodes.length) ∧
      Realises s' (tops ++ [[.node s.nodes.length xn.name xn.value []]]) :=
  ⟨_, by simp [Store.nodeClone, Store.get_ok hx, Store.alloc], new_refines hR xn.name xn.value⟩


/-- the loops `for (c = list; c; c = c->next) c->parent = p` of tree_clone.c (`setParents`) and of node_move.c
    (`reparent`, which also counts) on a realised list: every element names `p` -/
theorem reparent_spec {p : Nat} (K : Forest) : ∀ (s : Store) (fuel m : Nat) (par0 prev : Option Nat),
    Real s par0 prev K → (ids K).Nodup → K.length ≤ fuel →
    ∃ s', s.reparent p fuel (headId K) m = .ok (s', m + K.length) ∧ s.setParents p fuel (headId K) = .ok s' ∧
      Real s' (some p) prev K ∧ SameLife s s' ∧ s'.nodes.length = s.nodes.length ∧
      ∀ i, i ∉ ids K → s'.nodes[i]? = s.nodes[i]? := by
  induction K with
  | nil =>
    intro s fuel m par0 prev _ _ _
    exact ⟨s, by simp [Store.reparent], by simp [Store.setParents], by simp, .refl s, rfl, fun _ _ => rfl⟩
  | cons t ts ih =>
    obtain ⟨i, n, v, cs⟩ := t
    intro s fuel m par0 prev hR hnd hf
    rw [Real_cons] at hR
    rw [ids_cons, List.nodup_cons, List.mem_append, List.nodup_append] at hnd
    obtain ⟨hni, ndcs, ndts, disj⟩ := hnd
    obtain ⟨f, rfl⟩ : ∃ f, fuel = f + 1 := ⟨fuel - 1, by simp at hf; omega⟩
    have hlive : s.Live i (recOf (headId ts) prev par0 cs n v) := ⟨hR.1, rfl⟩
    obtain ⟨s1, e1, u1⟩ := Store.modify_ok hlive (fun x => { x with parent := some p })
    have h1 : ∀ k, k ≠ i → s1.nodes[k]? = s.nodes[k]? := fun k hk => by rw [u1.2.2 k, if_neg hk]
    have hts1 : Real s1 par0 (some i) ts :=
      Real.frame hR.2.2 (fun k hk => h1 k (by rintro rfl; exact hni (Or.inr hk)))
    obtain ⟨s2, e2, e2', r2, l2, len2, f2⟩ := ih s1 f (m + 1) par0 (some i) hts1 ndts (by simpa using hf)
    refine ⟨s2, ?_, ?_, ?_, (u1.same_life hlive rfl).comp l2, by rw [len2, u1.2.1], ?_⟩
    · simp only [headId_cons, Store.reparent, Store.get_ok hlive, Res.bind_ok, e1]
      rw [e2, List.length_cons, Nat.add_assoc, Nat.add_comm 1]
    · simp only [headId_cons, Store.setParents, Store.get_ok hlive, Res.bind_ok, e1]
      exact e2'
    · rw [Real_cons]
      refine ⟨?_, ?_, r2⟩
      · rw [f2 i (fun h => hni (Or.inr h)), u1.2.2 i]; simp
      · exact Real.frame hR.2.1 (fun k hk => by
          rw [f2 k (fun h => disj k hk k h rfl), h1 k (by rintro rfl; exact hni (Or.inl hk))])
    · intro k hk
      simp only [ids_cons, List.mem_cons, List.mem_append, not_or] at hk
      rw [f2 k hk.2.2, h1 k hk.1]


theorem ids_split_at : ∀ {D : Forest} {jm j : Nat} {n : Name} {v : Val} {cc : Forest}, D[jm]? = some (.node j n v cc) →
    ∃ A B : List Nat, ids D = A ++ (j :: (ids cc ++ B)) ∧
      ∀ cc', ids (D.set jm (.node j n v cc')) = A ++ (j :: (ids cc' ++ B))
  | [], _, _, _, _, _, h => by simp at h
  | t :: ts, 0, j, n, v, cc, h => by
    simp at h; subst h
    exact ⟨[], ids ts, by simp, fun cc' => by simp⟩
  | (.node i0 n0 v0 c0) :: ts, jm + 1, j, n, v, cc, h => by
    obtain ⟨A, B, h1, h2⟩ := ids_split_at (D := ts) (jm := jm) (by simpa using h)
    refine ⟨i0 :: (ids c0 ++ A), B, by simp [h1], fun cc' => ?_⟩
    simp [h2 cc']

theorem getElem?_set_id {D : Forest} {jm : Nat} {t t' : Tree} (ht : D[jm]? = some t) (hid : t'.id = t.id) (k : Nat) :
    ((D.set jm t')[k]?).map Tree.id = (D[k]?).map Tree.id := by
  by_cases hkj : jm = k
  · subst hkj
    have hlt := (List.getElem?_eq_some_iff.1 ht).1
    rw [List.getElem?_set_self hlt, ht]
    simp [hid]
  · rw [List.getElem?_set_ne hkj]

theorem getElem?_set_node {D : Forest} {jm tj : Nat} {tn : Name} {tv : Val} {cc : Forest}
    (ht : D[jm]? = some (.node tj tn tv cc)) (cc' : Forest) (k : Nat) :
    ((D.set jm (.node tj tn tv cc'))[k]?).map Tree.id = (D[k]?).map Tree.id :=
  getElem?_set_id (t' := .node tj tn tv cc') ht rfl k

theorem headId_set_node {D : Forest} {jm tj : Nat} {tn : Name} {tv : Val} {cc : Forest}
    (ht : D[jm]? = some (.node tj tn tv cc)) (cc' : Forest) : headId (D.set jm (.node tj tn tv cc')) = headId D := by
  have := getElem?_set_node ht cc' 0
  rwa [← headId_drop, ← headId_drop] at this

theorem ids_mid (K ts : Forest) (i : Nat) (n : Name) (v : Val) (cs : Forest) :
    ids (K ++ .node i n v cs :: ts) = ids K ++ (i :: (ids cs ++ ids ts)) := by
  rw [ids_append, ids_cons]

theorem mem_ids_at {D : Forest} {jm j : Nat} {n : Name} {v : Val} {cc : Forest} (h : D[jm]? = some (.node j n v cc)) :
    j ∈ ids D ∧ ∀ k ∈ ids cc, k ∈ ids D := by
  obtain ⟨A, B, hD, _⟩ := ids_split_at h
  rw [hD]
  exact ⟨by simp, fun k hk => by simp [hk]⟩

theorem Real.rec_mid {s : Store} {K ts cs : Forest} {par : Option Nat} {i : Nat} {n : Name} {v : Val}
    (h : Real s par none (K ++ .node i n v cs :: ts)) :
    s.nodes[i]? = some (recOf (headId ts) (prevAt none (K ++ .node i n v cs :: ts) K.length) par cs n v) := by
  have := Real.rec_idx h (j := K.length) (t := .node i n v cs) (by simp)
  rwa [show (K ++ .node i n v cs :: ts).drop (K.length + 1) = ts by rw [List.drop_append]; simp] at this

theorem Real.drop {s : Store} : ∀ {L : Forest} {par prev : Option Nat} (j : Nat),
    Real s par prev L → Real s par (prevAt prev L j) (L.drop j)
  | L, par, prev, 0, h => by simpa [prevAt] using h
  | [], par, prev, j + 1, _ => by simp
  | (.node i n v cs) :: ts, par, prev, j + 1, h => by
    rw [Real_cons] at h
    rw [prevAt_succ]
    simpa [Tree.id] using Real.drop j h.2.2

theorem Real.replace_kids {s s' : Store} {i : Nat} {n : Name} {v : Val} {cs cs' : Forest} :
    ∀ {L : Forest} {par prev : Option Nat} {j : Nat},
    Real s par prev L → L[j]? = some (.node i n v cs) → (ids L).Nodup →
    (∀ k ∈ ids L, k ≠ i → k ∉ ids cs → s'.nodes[k]? = s.nodes[k]?) →
    s'.nodes[i]? = (s.nodes[i]?).map (fun x => { x with children := headId cs' }) →
    Real s' (some i) none cs' →
    Real s' par prev (L.set j (.node i n v cs'))
  | [], _, _, _, _, h, _, _, _, _ => by simp at h
  | (.node i0 n0 v0 c0) :: ts, par, prev, 0, hR, h, hnd, hfr, hi, hK => by
    simp at h
    obtain ⟨rfl, rfl, rfl, rfl⟩ := h
    rw [Real_cons] at hR
    rw [ids_cons, List.nodup_cons, List.mem_append, List.nodup_append] at hnd
    obtain ⟨hni, ndcs, ndts, disj⟩ := hnd
    rw [List.set_cons_zero, Real_cons]
    refine ⟨by rw [hi, hR.1]; rfl, hK, ?_⟩
    exact Real.frame hR.2.2 (fun k hk => hfr k (by simp [hk]) (by rintro rfl; exact hni (Or.inr hk))
      (fun h => disj k h k hk rfl))
  | (.node i0 n0 v0 c0) :: ts, par, prev, j + 1, hR, h, hnd, hfr, hi, hK => by
    rw [Real_cons] at hR
    rw [ids_cons, List.nodup_cons, List.mem_append, List.nodup_append] at hnd
    obtain ⟨hni, ndcs, ndts, disj⟩ := hnd
    have h' : ts[j]? = some (.node i n v cs) := by simpa using h
    obtain ⟨himem, hcsub⟩ := mem_ids_at h'
    rw [List.set_cons_succ, Real_cons, headId_set_node h']
    refine ⟨?_, ?_, Real.replace_kids hR.2.2 h' ndts (fun k hk h1 h2 => hfr k (by simp [hk]) h1 h2) hi hK⟩
    · rw [hfr i0 (by simp) (by rintro rfl; exact hni (Or.inr himem)) (fun h => hni (Or.inr (hcsub i0 h))), hR.1]
    · exact Real.frame hR.2.1 (fun k hk => hfr k (by simp [hk]) (by rintro rfl; exact disj k hk k himem rfl)
        (fun h => disj k hk k (hcsub k h) rfl))

/-- `mpt_gnode_after(last, r)`: the detached root `r` becomes the last element of the realised sibling list `D` -/
theorem after_last_spec {s : Store} {D : Forest} {pd : Option Nat} {r : Nat} {tl : Tree} {n : Name} {v : Val} {cs : Forest}
    (hD : Real s pd none D) (hnd : (ids D ++ ids [.node r n v cs]).Nodup) (htl : D[D.length - 1]? = some tl)
    (hT : Real s none none [.node r n v cs]) :
    ∃ s', s.gnodeAfter (some tl.id) r = .ok s' ∧ Real s' pd none (D ++ [.node r n v cs]) ∧ SameLife s s' ∧
      s'.nodes.length = s.nodes.length ∧ (∀ i, i ∉ ids D → i ≠ r → s'.nodes[i]? = s.nodes[i]?) := by
  have hlen : D.length - 1 + 1 = D.length := by have := (List.getElem?_eq_some_iff.1 htl).1; omega
  have h := after_real hD (idx?_of_getElem? (List.nodup_append.1 hnd).1 htl) hT hnd
  rwa [hlen, List.insertIdx_length_self] at h

/-- the last copy made so far, the `last` of the loop of `mpt_list_clone` -/
def lastId (acc : Forest) : Option Nat := (acc.getLast?).map Tree.id

theorem lastId_append_singleton (acc : Forest) (t : Tree) : lastId (acc ++ [t]) = some t.id := by
  simp [lastId]

theorem lastId_isNone (acc : Forest) : (lastId acc).isNone = acc.isEmpty := by
  cases acc <;> simp [lastId]

theorem headId_append_singleton (acc : Forest) (t : Tree) :
    headId (acc ++ [t]) = if acc.isEmpty then some t.id else headId acc := by
  cases acc <;> simp [headId]

theorem linkLast_spec {s : Store} {acc : Forest} {c : Nat} {n : Name} {v : Val}
    (hR : Real s none none acc) (hnd : (ids acc).Nodup) (hc : c ∉ ids acc)
    (hrec : s.nodes[c]? = some (recOf none none none [] n v)) :
    ∃ s', s.linkLast (lastId acc) c = .ok s' ∧ Real s' none none (acc ++ [.node c n v []]) ∧ SameLife s s' ∧
      s'.nodes.length = s.nodes.length ∧ ∀ i, i ∉ ids acc → i ≠ c → s'.nodes[i]? = s.nodes[i]? := by
  have hT : Real s none none [.node c n v []] := by
    rw [Real_cons]; exact ⟨by simpa using hrec, by simp, by simp⟩
  by_cases hacc : acc = []
  · subst hacc
    exact ⟨s, by simp [Store.linkLast, lastId], by simpa using hT, .refl s, rfl, fun _ _ _ => rfl⟩
  · obtain ⟨tl, htl⟩ := getElem?_last hacc
    have hlast : lastId acc = some tl.id := by
      simp only [lastId, List.getLast?_eq_getElem?, htl, Option.map_some]
    rw [hlast]
    refine after_last_spec hR ?_ htl hT
    rw [List.nodup_append]
    refine ⟨hnd, by simp, ?_⟩
    intro a ha b hb hab
    simp at hb
    subst hab; subst hb
    exact hc ha

theorem attachKids_spec {s : Store} {c : Nat} {rc : Node} {K : Forest}
    (hK : Real s none none K) (hnd : (ids K).Nodup) (hc : c ∉ ids K) (hrc : s.Live c rc) (hrcc : rc.children = none)
    (hf : K.length ≤ s.fuel) :
    ∃ s', s.attachKids c (headId K) = .ok s' ∧ Real s' (some c) none K ∧
      s'.nodes[c]? = some { rc with children := headId K } ∧ SameLife s s' ∧
      s'.nodes.length = s.nodes.length ∧ ∀ i, i ≠ c → i ∉ ids K → s'.nodes[i]? = s.nodes[i]? := by
  cases hh : headId K with
  | none =>
    have : K = [] := by
      cases K with
      | nil => rfl
      | cons t ts => cases t; simp at hh
    subst this
    refine ⟨s, by simp [Store.attachKids], by simp, ?_, .refl s, rfl, fun _ _ _ => rfl⟩
    rw [hrc.1]
    cases rc
    simp at hrcc
    simp [hrcc]
  | some h =>
    obtain ⟨s1, e1, u1⟩ := Store.modify_ok hrc (fun x => { x with children := some h })
    have hK1 : Real s1 none none K := Real.frame hK (fun k hk => by
      rw [u1.2.2 k]; have : k ≠ c := by rintro rfl; exact hc hk
      simp [this])
    have hfuel1 : K.length ≤ s1.fuel := by simp only [Store.fuel, u1.2.1]; exact hf
    obtain ⟨s2, _, e2, r2, l2, len2, f2⟩ := reparent_spec (p := c) K s1 s1.fuel 0 none none hK1 hnd hfuel1
    refine ⟨s2, ?_, r2, ?_, (u1.same_life hrc hrc.2).comp l2, by rw [len2, u1.2.1], ?_⟩
    · simp only [Store.attachKids, e1, Res.bind_ok]
      rw [← hh]; exact e2
    · rw [f2 c hc, u1.2.2 c]; simp
    · intro i hic hiK
      rw [f2 i hiK, u1.2.2 i, if_neg hic]

/-- the copies made so far: a parentless realised list whose handles are the `m` records from `a` up to the current
    count -/
structure Acc (s : Store) (a m : Nat) (acc : Forest) : Prop where
  real : Real s none none acc
  ids_eq : ids acc = List.range' a m
  len : s.nodes.length = a + m


theorem Store.listLoop_none (s : Store) (f : Nat) (first last : Option Nat) :
    s.listLoop f none first last = .ok (s, first) := by
  cases f <;> rfl

theorem Store.listLoop_step {s s1 s2 : Store} {f src : Nat} {first last : Option Nat} {sn : Node}
    {k : Store × Option Nat} (hsn : s.get src = .ok sn)
    (h1 : (s.alloc sn.name sn.value).1.linkLast last (s.alloc sn.name sn.value).2 = .ok s1)
    (hk : s1.listLoop f sn.children none none = .ok k)
    (h2 : k.1.attachKids (s.alloc sn.name sn.value).2 k.2 = .ok s2) :
    s.listLoop (f + 1) (some src) first last =
      s2.listLoop f sn.next (if last.isNone then some (s.alloc sn.name sn.value).2 else first)
        (some (s.alloc sn.name sn.value).2) := by
  simp only [Store.listLoop, Store.nodeClone, hsn, Res.bind_ok, Res.pure_eq, h1, hk, h2]

/-- The statement of `listLoop_spec` for the source list `l` at fuel `fuel`: `l` is laid out in the store `s0` the clone
    started from (the records below `N0`, which the loop never writes); the copies of `l` are appended to the copies made
    so far, their handles are the relabelling of `l` from the current record count on, the records in front of the copies
    are untouched.  `copy_node_spec` takes it for the children as a hypothesis, so that the loop's step can quote it
    with its induction hypothesis. -/
def CopiesList (s0 : Store) (N0 fuel : Nat) (l : Forest) : Prop :=
  ∀ (par prev : Option Nat) (s : Store) (a m : Nat) (acc : Forest),
  Real s0 par prev l → (∀ i ∈ ids l, i < N0) → (∀ i, i < N0 → s.nodes[i]? = s0.nodes[i]?) → N0 ≤ a →
  Acc s a m acc → (ids l).length < fuel →
  ∃ s', s.listLoop fuel (headId l) (headId acc) (lastId acc) = .ok (s', headId (acc ++ (relabel l (a + m)).1)) ∧
    Acc s' a (m + (ids l).length) (acc ++ (relabel l (a + m)).1) ∧ s'.freed = s.freed ∧
    (∀ i, i < a → s'.nodes[i]? = s.nodes[i]?)

/-- The copy of one source node with everything below it, the body of the loop of `mpt_list_clone`: a fresh record,
    linked behind the copies made so far, the children copied by the loop and hung below it.  `mpt_tree_clone` is this
    body with nothing copied so far. -/
theorem copy_node_spec {s0 s : Store} {N0 f a m : Nat} {cs acc : Forest} {par : Option Nat} (n : Name) (v : Val)
    (hkids : CopiesList s0 N0 f cs) (hcs : Real s0 par none cs) (hlt : ∀ k ∈ ids cs, k < N0)
    (hold : ∀ k, k < N0 → s.nodes[k]? = s0.nodes[k]?) (hN : N0 ≤ a) (hacc : Acc s a m acc) (hf : (ids cs).length < f) :
    ∃ s1 sk s2, (s.alloc n v).1.linkLast (lastId acc) (a + m) = .ok s1 ∧
      s1.listLoop f (headId cs) none none = .ok (sk, headId (relabel cs (a + m + 1)).1) ∧
      sk.attachKids (a + m) (headId (relabel cs (a + m + 1)).1) = .ok s2 ∧
      Acc s2 a (m + 1 + (ids cs).length) (acc ++ [.node (a + m) n v (relabel cs (a + m + 1)).1]) ∧
      s2.freed = s.freed ∧ ∀ k, k < a → s2.nodes[k]? = s.nodes[k]? := by
  -- the fresh record `a + m`
  have hc := hacc.len
  have haccLt : ∀ k ∈ ids acc, a ≤ k ∧ k < a + m := fun k hk => by
    rw [hacc.ids_eq] at hk
    exact List.mem_range'_1.1 hk
  have hAold := fun k (hk : k < a + m) => s.alloc_get_lt n v (k := k) (hc ▸ hk)
  have hRA : Real (s.alloc n v).1 none none acc :=
    Real.frame hacc.real (fun k hk => hAold k (haccLt k hk).2)
  -- link it behind the previous copy
  obtain ⟨s1, e1, r1, l1, len1, f1⟩ := linkLast_spec (c := a + m) hRA
    (by rw [hacc.ids_eq]; exact List.nodup_range') (fun h => Nat.lt_irrefl _ (haccLt _ h).2)
    (hc ▸ s.alloc_get_self n v)
  have h1len : s1.nodes.length = a + m + 1 := by rw [len1, s.alloc_size, hc]
  have hids1 : ids (acc ++ [.node (a + m) n v []]) = List.range' a (m + 1) := by
    rw [ids_mid, ids_nil, List.append_nil, hacc.ids_eq, ← List.range'_append_1]; rfl
  have h1old : ∀ k, k < a → s1.nodes[k]? = s.nodes[k]? := fun k hk => by
    rw [f1 k (fun h => Nat.lt_irrefl _ (Nat.lt_of_lt_of_le hk (haccLt k h).1)) (by omega), hAold k (by omega)]
  -- clone the children
  obtain ⟨sk, ek, rk, fk, frk⟩ := hkids par none s1 (a + m + 1) 0 [] hcs hlt
    (fun k hk => by rw [h1old k (by omega), hold k hk]) (by omega) ⟨by simp, by simp, h1len⟩ hf
  simp only [List.nil_append, headId_nil, lastId, List.getLast?_nil, Option.map_none, Nat.add_zero,
    Nat.zero_add] at ek rk
  have hK := rk.ids_eq
  -- hang them below the copy
  have hRk1 : Real sk none none (acc ++ [.node (a + m) n v []]) :=
    Real.frame r1 (fun k hk => by
      obtain ⟨_, hm⟩ := Real.live r1 k hk
      exact frk k (h1len ▸ hm.lt))
  have hrcl : sk.Live (a + m) _ := ⟨Real.rec_mid hRk1, rfl⟩
  have hKge : ∀ k ∈ ids (relabel cs (a + m + 1)).1, a + m + 1 ≤ k := fun k hk => by
    rw [hK] at hk; exact (List.mem_range'_1.1 hk).1
  have hKlen : (relabel cs (a + m + 1)).1.length ≤ sk.fuel := by
    have h1 := length_le_ids (relabel cs (a + m + 1)).1
    rw [hK, List.length_range'] at h1
    simp only [Store.fuel, rk.len]
    omega
  obtain ⟨s2, e2, r2, c2, l2, len2, f2⟩ := attachKids_spec rk.real (by rw [hK]; exact List.nodup_range')
    (fun h => Nat.lt_irrefl _ (hKge _ h)) hrcl rfl hKlen
  have hf2 : ∀ k, k < a + m → s2.nodes[k]? = sk.nodes[k]? := fun k hk =>
    f2 k (Nat.ne_of_lt hk) (fun h => Nat.lt_irrefl _ (Nat.lt_of_lt_of_le (Nat.lt_succ_of_lt hk) (hKge k h)))
  have hR2 : Real s2 none none (acc ++ [.node (a + m) n v (relabel cs (a + m + 1)).1]) := by
    have := Real.replace_kids (n := n) (v := v) (cs := []) (cs' := (relabel cs (a + m + 1)).1) hRk1
      (j := acc.length) (by simp) (by rw [hids1]; exact List.nodup_range')
      (fun k hk hkc _ => hf2 k (by
        rw [hids1] at hk
        have := (List.mem_range'_1.1 hk).2
        omega))
      (by rw [c2, hrcl.1]; rfl) r2
    rwa [set_mid _ _ _ _ _ rfl] at this
  exact ⟨s1, sk, s2, e1, ek, e2,
    ⟨hR2, by rw [ids_mid, ids_nil, List.append_nil, hacc.ids_eq, hK, ← List.range'_succ, List.range'_append_1,
      Nat.add_assoc, Nat.add_comm 1], by rw [len2, rk.len]; omega⟩,
    by rw [l2.1, fk, l1.1]; rfl, fun k hk => by rw [hf2 k (by omega), frk k (by omega), h1old k hk]⟩

theorem listLoop_spec {s0 : Store} {N0 : Nat} (fuel : Nat) : ∀ (l : Forest), CopiesList s0 N0 fuel l := by
  induction fuel with
  | zero => intro _ _ _ _ _ _ _ _ _ _ _ _ hf; exact absurd hf (Nat.not_lt_zero _)
  | succ f ih =>
    intro l par prev s a m acc hl hlt hold hN hacc hf
    match l with
    | [] =>
      exact ⟨s, by simp [Store.listLoop_none, relabel], by simpa [relabel] using hacc, rfl, fun _ _ => rfl⟩
    | .node i n v cs :: ts =>
      rw [Real_cons] at hl
      obtain ⟨hrec, hcs, hts⟩ := hl
      simp only [ids_cons, List.length_cons, List.length_append] at hf
      have hsn : s.get i = .ok (recOf (headId ts) prev par cs n v) :=
        Store.get_ok ⟨by rw [hold i (hlt i (by simp))]; exact hrec, rfl⟩
      have hc := hacc.len
      -- the copy of the first element, then the siblings
      obtain ⟨s1, sk, s2, e1, ek, e2, hAcc2, fr2, frm2⟩ := copy_node_spec n v (ih cs) hcs
        (fun k hk => hlt k (by simp [hk])) hold hN hacc (by omega)
      obtain ⟨s3, e3, r3, fr3, frm3⟩ := ih ts par (some i) s2 a _ _ hts (fun k hk => hlt k (by simp [hk]))
        (fun k hk => by rw [frm2 k (by omega), hold k hk]) hN hAcc2 (by omega)
      have hrel : (relabel cs (a + m + 1)).2 = a + (m + 1 + (ids cs).length) := by
        rw [(ids_relabel cs (a + m + 1)).2]; omega
      have happ : acc ++ (relabel (Tree.node i n v cs :: ts) (a + m)).1 =
          (acc ++ [.node (a + m) n v (relabel cs (a + m + 1)).1]) ++ (relabel ts (a + (m + 1 + (ids cs).length))).1 := by
        simp [relabel, hrel]
      refine ⟨s3, ?_, ?_, by rw [fr3, fr2], fun k hk => by rw [frm3 k hk, frm2 k hk]⟩
      · rw [headId_cons, Store.listLoop_step hsn (by rw [Store.alloc_handle, hc]; exact e1) ek
          (by rw [Store.alloc_handle, hc]; exact e2), happ, lastId_isNone, Store.alloc_handle, hc]
        rw [headId_append_singleton, lastId_append_singleton] at e3
        exact e3
      · rw [happ, ids_cons, List.length_cons, List.length_append,
          show m + ((ids cs).length + (ids ts).length + 1) = m + 1 + (ids cs).length + (ids ts).length by omega]
        exact r3

/-- `mpt_list_clone(x)`: the sibling list from `x` on is copied with everything below it; the copy is a new
    top-level list that realises the relabelled source (same shape, names and values at every depth) -/
theorem listClone_refines {s : Store} {x j : Nat} {l0 L : Forest} {rest : List Forest} {par : Option Nat}
    (hR : Realises s (l0 :: rest)) (hat : SibsAt x l0 L j par) :
    ∃ s', s.listClone s.fuel (some x) = .ok (s', some s.nodes.length) ∧
      Realises s' ((l0 :: rest) ++ [(relabel (L.drop j) s.nodes.length).1]) := by
  have hl0 := hR.real l0 (by simp)
  have hnd0 := hR.ids_nodup (l := l0) (by simp)
  obtain ⟨tx, htx, htxid⟩ := getElem?_of_idx? hat.idx
  have hsub : ∀ i ∈ ids (L.drop j), i < s.nodes.length := fun i hi =>
    hR.id_lt (l := l0) (by simp) i (hat.subset i (ids_drop_subset L j i hi))
  have hfuel : (ids (L.drop j)).length < s.fuel := by
    have hndL := hat.nodup hnd0
    rw [← List.take_append_drop j L, ids_append] at hndL
    have := nodup_bound _ _ (List.nodup_append.1 hndL).2.1 hsub
    simp only [Store.fuel]; omega
  obtain ⟨s', e, acc', fr', frm'⟩ := listLoop_spec (N0 := s.nodes.length) s.fuel (L.drop j) par _ s
    s.nodes.length 0 [] (Real.drop j (hat.real hl0.2)) hsub (fun _ _ => rfl) (Nat.le_refl _) ⟨by simp, by simp, rfl⟩ hfuel
  simp only [List.nil_append, headId_nil, lastId, List.getLast?_nil, Option.map_none, Nat.add_zero, Nat.zero_add] at e acc'
  have hd := drop_eq_cons_of_getElem? htx
  obtain ⟨i, n, v, cs⟩ := tx
  refine ⟨s', ?_, ?_⟩
  · rw [Store.listClone, ← htxid, ← Option.map_some (f := Tree.id), ← htx, ← headId_drop, e, hd]
    simp [relabel]
  · exact hR.fresh_range fr' frm' (by rw [hd]; simp [relabel]) acc'.real acc'.ids_eq acc'.len

/-- `mpt_tree_clone(x)`: `x` is copied with everything below it; the copy is a new detached root that
    realises the relabelled source tree -/
theorem treeClone_refines {s : Store} {x : Nat} {l0 : Forest} {rest : List Forest} {n : Name} {v : Val} {cs : Forest}
    (hR : Realises s (l0 :: rest)) (hfx : find? x l0 = some (.node x n v cs)) :
    ∃ s', s.treeClone x = .ok (s', s.nodes.length) ∧
      Realises s' ((l0 :: rest) ++ [(relabel [.node x n v cs] s.nodes.length).1]) := by
  have hl0 := hR.real l0 (by simp)
  have hnd0 := hR.ids_nodup (l := l0) (by simp)
  obtain ⟨⟨nx, pv, pr, hxrec⟩, hkids⟩ := Real.of_find hl0.2 hfx
  simp only [Tree.children, Tree.name, Tree.value] at hxrec hkids
  have hsubcs : ∀ i ∈ ids cs, i < s.nodes.length := fun i hi =>
    hR.id_lt (l := l0) (by simp) i (find?_children_subset hfx i hi)
  have hfuel : (ids cs).length < (s.alloc n v).1.fuel := by
    have := nodup_bound _ _ (find?_children_nodup hnd0 hfx).2 hsubcs
    simp only [Tree.children] at this
    simp only [Store.fuel, s.alloc_size n v]; omega
  -- the body of the loop of `mpt_list_clone` with nothing copied so far
  obtain ⟨s1, sk, s2, e1, ek, e2, hacc, fr2, frm2⟩ := copy_node_spec (s := s) (a := s.nodes.length) (m := 0) (acc := []) n v
    (listLoop_spec (s.alloc n v).1.fuel cs) hkids hsubcs (fun _ _ => rfl) (Nat.le_refl _) ⟨by simp, by simp, rfl⟩ hfuel
  cases e1
  simp only [Nat.add_zero, Nat.zero_add, List.nil_append] at ek e2 hacc
  refine ⟨s2, ?_, ?_⟩
  · simp only [Store.treeClone, Store.get_ok ⟨hxrec, rfl⟩, Res.bind_ok, Store.nodeClone, Res.pure_eq, Store.listClone]
    rw [ek]
    simp only [Res.bind_ok, Store.alloc_handle, e2]
  · have hrel : (relabel [Tree.node x n v cs] s.nodes.length).1 =
        [.node s.nodes.length n v (relabel cs (s.nodes.length + 1)).1] := by
      simp [relabel]
    rw [hrel]
    exact hR.fresh_range fr2 frm2 (by simp) hacc.real hacc.ids_eq hacc.len

end Mpt.Nodes
