/-
  Helper lemmas for C02: histories of an encode queue (push / terminate / take / grow /
  align in any order) and what they put on the wire.
-/
import MptModel.Lemmas.CodedQueue
import MptModel.Lemmas.RingStorage
import MptModel.Lemmas.Stream
namespace Mpt.CQ
open Mpt.Cobs Mpt.Stream

/-- `mpt_stream_flush`'s queue part: the first `n` finished bytes leave the queue -/
theorem queueTake_spec (v : Variant) (q : EncodeQueue) (vis fin : List Byte) (ms : List (Byte × Bool)) (n : Nat)
    (h : EInv v q vis fin ms) :
    ∃ q', queueTake q n = .ok (q', vis.take n) ∧ q'.ring.store.length = q.ring.store.length ∧
      EInv v q' (vis.drop n) fin ms := by
  have hwf := h.wf
  have hw := h.winv
  have hb := hw.bound
  have hcl := Ring.content_length q.ring hwf.1
  have hlen := h.len
  unfold queueTake
  have hmin : min n (min q.st.done q.ring.len) = min n q.st.done := by omega
  simp only [hmin]
  obtain ⟨r', c, he, H', hs'⟩ := Ring.crop_front hwf.holds (min n q.st.done) (by omega)
  have hwf' := H'.wf
  have hc' := H'.content
  have hl' : r'.len = q.ring.len - min n q.st.done := by rw [H'.len, List.length_drop, hcl]
  rw [he]
  have hout : q.ring.content.take (min n q.st.done) = vis.take n := by
    rw [winv_take_k hw (min n q.st.done) (by omega), hb.2, ← List.take_eq_take_min]
  have hdrop : vis.drop (min n q.st.done) = vis.drop n := by
    rw [hb.2]
    rcases Nat.le_total n vis.length with hn | hn
    · rw [Nat.min_eq_left hn]
    · rw [Nat.min_eq_right hn, List.drop_of_length_le (Nat.le_refl _), List.drop_of_length_le hn]
  simp only [hout]
  refine ⟨_, rfl, by simp only; rw [hs'], h.codec, by simp only; omega, ?_⟩
  refine (workInv_iff (by simp only; omega)).mpr ⟨hwf', ?_⟩
  rw [hc', ← hdrop]
  exact hw.window (min n q.st.done) (by omega) (by omega)
    (by rw [List.take_of_length_le (by rw [List.length_drop]; omega)]) (by rw [List.length_drop]; omega)

inductive EOp where
  | push (bytes : List Byte)
  | term
  | take (n : Nat)
  | grow (n : Nat)
  | align (p : Nat)
  deriving Repr

/-- sender state: the queue, the bytes taken from it so far (the wire), the messages terminated so far,
    the consumed bytes of the message in progress -/
structure ESt where
  q : EncodeQueue
  wire : List Byte := []
  msgs : List Msg := []
  cur : List Byte := []
  deriving Repr

abbrev ESt.fresh (v : Variant) (store : List Byte) (off : Nat) : ESt :=
  { q := { ring := { store := store, len := 0, off := off }, codec := some (.cobs v) } }

def estep (s : ESt) : EOp → ESt
  | .push bytes =>
    match queuePush s.q (some bytes) with
    | .ok o => if o.ret < 0 then { s with q := o.q } else { s with q := o.q, cur := s.cur ++ bytes.take o.ret.toNat }
    | _ => s
  | .term =>
    match queuePush s.q none with
    | .ok o => if o.ret < 0 then { s with q := o.q } else { s with q := o.q, msgs := s.msgs ++ [s.cur], cur := [] }
    | _ => s
  | .take n =>
    match queueTake s.q n with
    | .ok (q, out) => { s with q := q, wire := s.wire ++ out }
    | _ => s
  | .grow n =>
    match s.q.ring.prepare n with
    | .ok (r, _) => { s with q := { s.q with ring := r } }
    | _ => s
  | .align p =>
    match s.q.ring.align p with
    | .ok r => { s with q := { s.q with ring := r } }
    | _ => s

def erun (s : ESt) (ops : List EOp) : ESt := ops.foldl estep s

/-- history invariant: the bytes taken so far followed by the finished bytes still in the queue are the
    frames of the terminated messages followed by the finished blocks of the message in progress -/
def EHist (v : Variant) (s : ESt) : Prop :=
  ∃ (frames : List (List Byte)) (vis fin : List Byte) (ms : List (Byte × Bool)),
    EInv v s.q vis fin ms ∧ Carries v frames s.msgs ∧ s.wire ++ vis = frames.flatten ++ fin ∧ ms.map Prod.fst = s.cur

/-- `queuePush_refines` and `queueTake_spec` say how `vis`, `fin`, `ms` move; each case keeps the sum
    `wire ++ vis = frames.flatten ++ fin`; on termination `fin` with the rest of the frame becomes the last of `frames` -/
theorem estep_hist (v : Variant) (s : ESt) (op : EOp) (h : EHist v s) : EHist v (estep s op) := by
  obtain ⟨frames, vis, fin, ms, hinv, hcar, hsum, hcur⟩ := h
  cases op with
  | push bytes =>
    obtain ⟨out, he, _, hc⟩ := queuePush_refines v s.q vis fin ms (some bytes) hinv
    simp only [estep, he]
    rcases hc with ⟨hneg, hi⟩ | ⟨vis', fin', ms', ret, hret, hprog, hi⟩
    · rw [if_pos hneg]; exact ⟨frames, vis, fin, ms, hi, hcar, hsum, hcur⟩
    · rw [if_neg (by omega)]
      obtain ⟨fin1, ms2, _, hm2, rfl, rfl, rfl⟩ := hprog
      refine ⟨frames, _, _, _, hi, hcar, ?_, ?_⟩
      · simp only; rw [← List.append_assoc, hsum, List.append_assoc]
      · simp only; rw [List.map_append, hcur, hm2]; congr 2; omega
  | term =>
    obtain ⟨out, he, _, hc⟩ := queuePush_refines v s.q vis fin ms none hinv
    simp only [estep, he]
    rcases hc with ⟨hneg, hi⟩ | ⟨vis', fin', ms', ret, hret, hprog, hi⟩
    · rw [if_pos hneg]; exact ⟨frames, vis, fin, ms, hi, hcar, hsum, hcur⟩
    · rw [if_neg (by omega)]
      obtain ⟨tail, _, hframe, rfl, rfl, rfl⟩ := hprog
      refine ⟨frames ++ [encB v [] false ms ++ [0]], _, _, _, hi, ?_, ?_, rfl⟩
      · refine hcar.snoc ⟨IsFrame.mk _ (encB_nz v ms [] false (Inv.nil v)), ?_⟩
        rw [dec_body_frame v ms, hcur]
      · simp only
        rw [← List.append_assoc, hsum, List.flatten_append, hframe]; simp
  | take n =>
    obtain ⟨q', he, _, hi⟩ := queueTake_spec v s.q vis fin ms n hinv
    simp only [estep, he]
    refine ⟨frames, _, _, _, hi, hcar, ?_, hcur⟩
    simp only
    rw [List.append_assoc, List.take_append_drop, hsum]
  | grow n =>
    obtain ⟨r', left, _, he, H', _⟩ := Ring.prepare_spec hinv.wf.holds n
    simp only [estep, he]
    exact ⟨frames, vis, fin, ms, hinv.ring_congr r' H'.wf (H'.len.trans hinv.wf.holds.len.symm) H'.content, hcar, hsum, hcur⟩
  | align p =>
    obtain ⟨r', he, H', _⟩ := Ring.align_spec hinv.wf.holds p
    simp only [estep, he]
    exact ⟨frames, vis, fin, ms, hinv.ring_congr r' H'.wf (H'.len.trans hinv.wf.holds.len.symm) H'.content, hcar, hsum, hcur⟩

theorem erun_hist (v : Variant) (ops : List EOp) : ∀ s, EHist v s → EHist v (erun s ops) := by
  induction ops with
  | nil => intro s h; exact h
  | cons op ops ih => intro s h; exact ih _ (estep_hist v s op h)

theorem fresh_hist (v : Variant) (store : List Byte) (off : Nat) (h : off ≤ store.length) :
    EHist v (ESt.fresh v store off) :=
  ⟨[], [], [], [], EInv.fresh v store off h, Carries.nil, rfl, rfl⟩

/-- a sender at rest (everything written is terminated and taken): the wire is the frame stream of its messages -/
theorem erun_rest (v : Variant) (store : List Byte) (off : Nat) (hoff : off ≤ store.length) (ops : List EOp)
    (h0 : (erun (ESt.fresh v store off) ops).q.ring.len = 0) :
    ∃ frames, Carries v frames (erun (ESt.fresh v store off) ops).msgs ∧
      (erun (ESt.fresh v store off) ops).wire = frames.flatten := by
  obtain ⟨frames, vis, fin, ms, hinv, hcar, hsum, _⟩ := erun_hist v ops _ (fresh_hist v store off hoff)
  obtain ⟨rfl, rfl⟩ := hinv.empty h0
  exact ⟨frames, hcar, by simpa using hsum⟩

end Mpt.CQ
