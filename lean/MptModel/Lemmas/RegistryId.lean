/-
  C06: lookups by id.  The range tests of `mpt_type_traits` (`traits_by_range`), stability under extension, under the
  invariant the table lookups find exactly the entries, each under its own id (`_eq_some`); the ids that do not resolve
  in the fresh registry; the id an accepted registration returns (`issued_id`) and what it resolves to (`issued_step`).
  Two facts for the small tables behind `mpt_type_int/uint` and the wire format codes (`find?_key_none`, `msgCode_mem`).
-/
import MptModel.Lemmas.RegistryInv
namespace Mpt.Registry
open Mpt.Generated Mpt.RegSpec

/-- `mpt_type_traits` with the dispatch table unfolded and its kind tests resolved: the range tests in program order,
    each with the lookup it leads to; under the static range the tests that follow it in the table are repeated, as
    the code falls through for an id that is not static.  The bounds are the literals of the generated table: a
    `TypeTab.dispatch` generated with other bounds is meant to break the closing `rfl`; `traits_interface` … `traits_fixed`
    below quote the same literals. -/
theorem traits_by_range (r : Reg) (id : Nat) :
    traits r id =
      if id ≤ 0 then none
      else if id ≤ 31 then
        match tableSize TypeTab.coreSizes id with
        | some s => if s = 0 then none else some (plain s)
        | none => none
      else if 96 ≤ id ∧ id ≤ 122 then
        match tableSize TypeTab.scalarSizes id with
        | some s => if s = 0 then none else some (plain s)
        | none => none
      else if 64 ≤ id ∧ id ≤ 89 then
        match TypeTab.vectorExtra.find? (·.1 = id - TypeId._TypeVectorBase) with
        | some (_, ct) => (cSize ct).map plain
        | none =>
          match tableSize TypeTab.scalarSizes (id - TypeId._TypeVectorBase + TypeId._TypeScalarBase) with
          | some _ => (cSize TypeTab.vectorCType).map plain
          | none => none
      else if 128 ≤ id ∧ id ≤ 191 then (interfaceTraits r id).map (·.traits)
      else if 192 ≤ id ∧ id ≤ 255 then (r.dyn[id - TypeTab.dynamicBase]?).map plain
      else if 2048 ≤ id ∧ id ≤ 2051 then
        if id ∈ TypeTab.statics then (staticDesc id).map .known
        else if 256 ≤ id ∧ id ≤ 2047 then (metatypeTraits r id).map (·.traits)
        else if id < TypeTab.dispatchGenericBase then none
        else (r.generics[id - TypeTab.dispatchGenericBase]?).map .known
      else if 256 ≤ id ∧ id ≤ 2047 then (metatypeTraits r id).map (·.traits)
      else if id < TypeTab.dispatchGenericBase then none
      else (r.generics[id - TypeTab.dispatchGenericBase]?).map .known := by
  unfold traits TypeTab.dispatch
  simp only [traitsWalk, String.reduceEq, ↓reduceIte, Nat.zero_le, true_and]
  rfl

theorem traits_interface (r : Reg) (id : Nat) (h : 128 ≤ id ∧ id ≤ 191) :
    traits r id = (interfaceTraits r id).map (·.traits) := by
  rw [traits_by_range, if_neg (by omega), if_neg (by omega), if_neg (by omega), if_neg (by omega), if_pos h]

theorem traits_dynamic (r : Reg) (id : Nat) (h : 192 ≤ id ∧ id ≤ 255) :
    traits r id = (r.dyn[id - TypeTab.dynamicBase]?).map plain := by
  rw [traits_by_range, if_neg (by omega), if_neg (by omega), if_neg (by omega), if_neg (by omega), if_neg (by omega), if_pos h]

theorem traits_meta (r : Reg) (id : Nat) (h : 256 ≤ id ∧ id ≤ 2047) :
    traits r id = (metatypeTraits r id).map (·.traits) := by
  rw [traits_by_range, if_neg (by omega), if_neg (by omega), if_neg (by omega), if_neg (by omega), if_neg (by omega),
    if_neg (by omega), if_neg (by omega), if_pos h]

theorem traits_generic (r : Reg) (id : Nat) (h : 2304 ≤ id) :
    traits r id = (r.generics[id - TypeTab.genericBase]?).map .known := by
  rw [traits_by_range, if_neg (by omega), if_neg (by omega), if_neg (by omega), if_neg (by omega), if_neg (by omega),
    if_neg (by omega), if_neg (by omega), if_neg (by omega), if_neg (by simp only [TypeTab.dispatchGenericBase]; omega)]
  -- the walk subtracts `dispatchGenericBase`, the add function counts from `genericBase`: the same generated number
  rfl

/-- outside the four registration tables the answer does not depend on the registry -/
theorem traits_fixed (r r' : Reg) (id : Nat) (h1 : ¬ (128 ≤ id ∧ id ≤ 2047)) (h2 : id < 2304) : traits r id = traits r' id := by
  have h2' : id < TypeTab.dispatchGenericBase := h2
  simp only [traits_by_range, show ¬ (128 ≤ id ∧ id ≤ 191) by omega, show ¬ (192 ≤ id ∧ id ≤ 255) by omega,
    show ¬ (256 ≤ id ∧ id ≤ 2047) by omega, h2', ↓reduceIte]

theorem interfaceTraits_ext {r r' : Reg} (h : Ext r r') {id : Nat} {e : Named}
    (he : interfaceTraits r id = some e) : interfaceTraits r' id = some e := by
  unfold interfaceTraits at he ⊢
  split at he
  · cases he
  · rename_i hr
    rw [if_neg hr]
    cases hi : r.ifaces[id - TypeTab.interfaceBase]? with
    | none => simp [hi] at he
    | some o => rw [prefix_getElem? h.ifaces hi]; rwa [hi] at he

theorem metatypeTraits_ext {r r' : Reg} (h : Ext r r') {id : Nat} {e : Named}
    (he : metatypeTraits r id = some e) : metatypeTraits r' id = some e := by
  unfold metatypeTraits at he ⊢
  split at he
  · cases he
  · rename_i hr
    rw [if_neg hr]
    exact prefix_getElem? h.metas he

theorem map_some_of {α β} {f : α → β} {o o' : Option α} (h : ∀ x, o = some x → o' = some x) {t : β}
    (ht : o.map f = some t) : o'.map f = some t := by
  cases o with
  | none => cases ht
  | some x => rw [h x rfl]; exact ht

theorem traits_ext {r r' : Reg} (h : Ext r r') {id : Nat} {t : TraitsVal}
    (ht : traits r id = some t) : traits r' id = some t := by
  by_cases h1 : 128 ≤ id ∧ id ≤ 191
  · rw [traits_interface _ _ h1] at ht ⊢
    exact map_some_of (fun _ => interfaceTraits_ext h) ht
  by_cases h2 : 192 ≤ id ∧ id ≤ 255
  · rw [traits_dynamic _ _ h2] at ht ⊢
    exact map_some_of (fun _ => prefix_getElem? h.dyn) ht
  by_cases h3 : 256 ≤ id ∧ id ≤ 2047
  · rw [traits_meta _ _ h3] at ht ⊢
    exact map_some_of (fun _ => metatypeTraits_ext h) ht
  by_cases h4 : 2304 ≤ id
  · rw [traits_generic _ _ h4] at ht ⊢
    exact map_some_of (fun _ => prefix_getElem? h.generics) ht
  · rw [← traits_fixed r r' id (by omega) (by omega)]; exact ht

/-- a table whose entry `i` carries the key `base + i`, looked up by key within `[base, top]`: the lookup finds exactly
    the entries of the table, each under its own key -/
theorem getElem?_key_iff {α} {l : List α} {a : α} {key : Nat} (base top : Nat) {id : Nat}
    (hkey : ∀ i, l[i]? = some a → key = base + i) (hlen : base + l.length ≤ top + 1) :
    (¬ (id > top ∨ id < base) ∧ l[id - base]? = some a) ↔ a ∈ l ∧ key = id := by
  constructor
  · rintro ⟨hr, h⟩
    exact ⟨List.mem_of_getElem? h, by rw [hkey _ h]; omega⟩
  · rintro ⟨ha, rfl⟩
    obtain ⟨i, hi⟩ := List.mem_iff_getElem?.1 ha
    have := (List.getElem?_eq_some_iff.1 hi).1
    rw [hkey i hi, Nat.add_sub_cancel_left]
    exact ⟨by omega, hi⟩

theorem metatypeTraits_eq_some {r : Reg} (hinv : Inv r) {id : Nat} {e : Named} :
    metatypeTraits r id = some e ↔ e ∈ r.metas ∧ e.id = id := by
  unfold metatypeTraits
  rw [Option.ite_none_left_eq_some]
  -- the range test reads `metaLookup`, the index `metaBase`: the `exact` finds the generated numbers equal
  exact getElem?_key_iff 256 2047 (hinv.metaId · e) hinv.metaLen.2

theorem interfaceTraits_eq_some {r : Reg} (hinv : Inv r) {id : Nat} {e : Named} :
    interfaceTraits r id = some e ↔ some e ∈ r.ifaces ∧ e.id = id := by
  unfold interfaceTraits
  rw [Option.ite_none_left_eq_some, Option.join_eq_some_iff]
  exact getElem?_key_iff 128 191 (hinv.ifaceId · e)
    (by have := hinv.ifaceLen.2; simp only [TypeTab.interfaceCap] at this; omega)

theorem tableSize_none {tab : List (Nat × String × Nat)} {id : Nat} (h : ∀ x ∈ tab, x.1 ≠ id) : tableSize tab id = none := by
  unfold tableSize
  rw [List.find?_eq_none.2 (fun x hx => by simpa using h x hx)]

theorem builtinDesc_none {id : Nat} (h : id ∉ builtins.map (·.1)) : builtinDesc id = none := by
  unfold builtinDesc
  rw [List.find?_eq_none.2 (fun x hx => by simpa using fun (hid : x.1 = id) => h (hid ▸ List.mem_map_of_mem hx))]

/-- No id outside the built-in table of S resolves in the fresh registry: each lookup of `mpt_type_traits` only finds
    ids its table lists, and every listed id (shifted to the vector range for the scalars) is a built-in one. -/
theorem traits_init_none {id : Nat} (h : id ∉ builtins.map (·.1)) : traits init id = none := by
  have hcore : ∀ x ∈ TypeTab.coreSizes, x.1 ∈ builtins.map (·.1) := by decide +kernel
  have hscalar : ∀ x ∈ TypeTab.scalarSizes, x.1 ∈ builtins.map (·.1) ∧
      (TypeId._TypeScalarBase ≤ x.1 → x.1 - TypeId._TypeScalarBase + TypeId._TypeVectorBase ∈ builtins.map (·.1)) := by decide +kernel
  have hextra : ∀ x ∈ TypeTab.vectorExtra, x.1 + TypeId._TypeVectorBase ∈ builtins.map (·.1) := by decide +kernel
  have hstatic : ∀ x ∈ TypeTab.statics, x ∈ builtins.map (·.1) := by decide +kernel
  have hnamed : ∀ e ∈ allNamed init, e.id ∈ builtins.map (·.1) := by decide +kernel
  have hni : interfaceTraits init id = none := by
    cases hi : interfaceTraits init id with
    | none => rfl
    | some e =>
      obtain ⟨he, rfl⟩ := (interfaceTraits_eq_some inv_init).1 hi
      exact absurd (hnamed e (mem_allNamed.2 (.inr he))) h
  have hnm : metatypeTraits init id = none := by
    cases hi : metatypeTraits init id with
    | none => rfl
    | some e =>
      obtain ⟨he, rfl⟩ := (metatypeTraits_eq_some inv_init).1 hi
      exact absurd (hnamed e (mem_allNamed.2 (.inl he))) h
  have hc := tableSize_none fun x hx (hid : x.1 = id) => h (hid ▸ hcore x hx)
  have hs := tableSize_none fun x hx (hid : x.1 = id) => h (hid ▸ (hscalar x hx).1)
  have hst : id ∉ TypeTab.statics := fun hs => h (hstatic id hs)
  have hd : init.dyn = [] := rfl
  have hg : init.generics = [] := rfl
  rw [traits_by_range]
  simp only [hc, hs, hni, hnm, hst, hd, hg, List.getElem?_nil, Option.map_none, ↓reduceIte, ite_self]
  -- what is left are the tests in front of the vector range, and its two lookups
  iterate 3 (split; rfl)
  split
  · rename_i hv
    have h64 : TypeId._TypeVectorBase = 64 := rfl  -- for the `omega`s below, with the range `hv`
    rw [List.find?_eq_none.2 (fun x hx => by
        have := hextra x hx
        simp only [decide_eq_true_eq]; intro hid; apply h; rw [hid] at this; rwa [Nat.sub_add_cancel (by omega)] at this),
      tableSize_none fun x hx hid => h (by
        have := (hscalar x hx).2 (by omega)
        rwa [hid, Nat.add_sub_cancel, Nat.sub_add_cancel (by omega)] at this)]
  · rfl

/-- id of entry 0 of the table a kind is registered in; the two named tables begin with the built-in entries, so for them
    it lies below `Kind.lo` -/
def tableBase : Kind → Nat
  | .basic => TypeTab.dynamicBase
  | .generic => TypeTab.genericBase
  | .iface => TypeTab.interfaceBase
  | .mtype => TypeTab.metaBase

def tableLen (r : Reg) : Kind → Nat
  | .basic => r.dyn.length
  | .generic => r.generics.length
  | .iface => r.ifaces.length
  | .mtype => r.metas.length

theorem tableLen_mono {r r' : Reg} (h : Ext r r') (k : Kind) : tableLen r k ≤ tableLen r' k := by
  cases k
  · exact h.dyn.length_le
  · exact h.generics.length_le
  · exact h.ifaces.length_le
  · exact h.metas.length_le

theorem issued_id {r : Reg} (hinv : Inv r) {op : Op} {id : Nat} (h : (op.run r).2 = some id) :
    id = tableBase op.kind + tableLen r op.kind ∧ tableLen (step r op) op.kind = tableLen r op.kind + 1 ∧
    op.kind.lo ≤ id ∧ id ≤ op.kind.hi := by
  have hi := hinv.ifaceLen
  have hm := hinv.metaLen
  unfold step
  rcases run_cases r op with hr | hr
  · rw [hr] at h; cases h
  · cases op <;> dsimp only at hr <;> rw [hr.1] at h ⊢ <;> cases h <;> refine ⟨rfl, List.length_append, ?_⟩
    -- where the ranges of S (types.h) meet the table bases and bounds of M: all of them to numerals, then `omega`
    all_goals
      simp only [Op.kind, Kind.lo, Kind.hi, TypeId._TypeDynamicBase, TypeId._TypeDynamicMax, TypeId._TypeValueAdd,
        TypeId._TypeValueMax, TypeId._TypeInterfaceAdd, TypeId._TypeInterfaceMax, TypeId._TypeMetaPtrBase,
        TypeId._TypeMetaPtrMax]
      simp only [TypeTab.dynamicBase, TypeTab.dynamicCap, TypeTab.genericBase, TypeTab.genericMax, TypeTab.interfaceBase,
        TypeTab.interfaceCap, TypeTab.interfaceStart, TypeTab.metaBase, TypeTab.metaMax] at hr hi hm ⊢
      omega

theorem issued_step {r : Reg} (hinv : Inv r) {op : Op} {id : Nat} (h : (op.run r).2 = some id) :
    traits (step r op) id = some (.known op.desc) ∧
    (∀ n, op = .iface n → interfaceTraits (step r op) id = some { name := n, id := id, traits := .known ptrDesc } ∧
        some ({ name := n, id := id, traits := .known ptrDesc } : Named) ∈ (step r op).ifaces) ∧
    (∀ n, op = .mtype n → metatypeTraits (step r op) id = some { name := n, id := id, traits := .known ptrDesc } ∧
        ({ name := n, id := id, traits := .known ptrDesc } : Named) ∈ (step r op).metas) := by
  -- the id is `base + old length` (`run_cases`), so the range tests of `traits` lead to the table of the kind, where the
  -- entry appended last stands under that id (`_eq_some` with the invariant of the new state)
  have hinv' := inv_step hinv op
  unfold step at hinv' ⊢
  rcases run_cases r op with hr | hr
  · rw [hr] at h; cases h
  · cases op <;> dsimp only at hr <;> simp only [hr.1, Option.some.injEq] at h hinv' ⊢ <;> subst h
    · refine ⟨?_, nofun, nofun⟩
      rw [traits_dynamic _ _ (by simp only [TypeTab.dynamicBase, TypeTab.dynamicCap] at *; omega)]
      simp [Op.desc, plain]
    · refine ⟨?_, nofun, nofun⟩
      rw [traits_generic _ _ (by simp only [TypeTab.genericBase]; omega)]
      simp [Op.desc]
    · have hby := (interfaceTraits_eq_some hinv').2 ⟨List.mem_append_right _ (List.mem_singleton_self _), rfl⟩
      refine ⟨?_, fun n hn => ?_, nofun⟩
      · rw [traits_interface _ _ (by simp only [TypeTab.interfaceBase, TypeTab.interfaceCap] at *; omega), hby]
        rfl
      · cases hn; exact ⟨hby, List.mem_append_right _ (List.mem_singleton_self _)⟩
    · have hby := (metatypeTraits_eq_some hinv').2 ⟨List.mem_append_right _ (List.mem_singleton_self _), rfl⟩
      refine ⟨?_, nofun, fun n hn => ?_⟩
      · rw [traits_meta _ _ (by simp only [TypeTab.metaBase, TypeTab.metaMax] at *; omega), hby]
        rfl
      · cases hn; exact ⟨hby, List.mem_append_right _ (List.mem_singleton_self _)⟩

theorem find?_key_none {β} {tab : List (Nat × β)} {m k : Nat} (h : ∀ x ∈ tab, x.1 ≤ m) (hk : m < k) :
    tab.find? (·.1 = k) = none :=
  List.find?_eq_none.2 fun x hx => by have := h x hx; simp only [decide_eq_true_eq]; omega

theorem msgCode_mem {t c : Nat} (h : msgCode t = some c) : c ∈ TypeTab.msgCodes.map (·.2) := by
  unfold msgCode at h
  obtain ⟨x, hx, rfl⟩ := Option.map_eq_some_iff.1 h
  exact List.mem_map_of_mem (List.mem_of_find?_eq_some hx)

end Mpt.Registry
