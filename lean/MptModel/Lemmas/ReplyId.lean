/-
  C12, ids: mpt_message_id2buf / mpt_message_buf2id against the big-endian spec, for all ids and widths
  (induction and arithmetic, no enumeration); the reply mark on the first id byte (set, taken back, set again).
-/
import MptModel.Impl.Reply
namespace Mpt
open Mpt.ReplySpec

theorem byteOf_toNat (n : Nat) : (byteOf n).toNat = n % 256 := by
  simp [byteOf, UInt8.toNat_ofNat']

theorem fits_bound_succ (n : Nat) : 2 ^ (8 * (n + 1) - 1) = 128 * 256 ^ n := by
  have : 8 * (n + 1) - 1 = 8 * n + 7 := by omega
  rw [this, Nat.pow_add, Nat.pow_mul]
  have : (2 : Nat) ^ 8 = 256 := by decide
  rw [this]; omega

theorem lt_pow256_of_fits (id w : Nat) (h : id < 2 ^ (8 * w - 1)) : id < 256 ^ w := by
  cases w with
  | zero => simpa using h
  | succ n =>
    rw [fits_bound_succ] at h
    rw [Nat.pow_succ']
    have : 0 < 256 ^ n := Nat.pow_pos (by decide)
    omega

/-- the loop's remaining `id` and its buffer; the count `used` (`.2.1`) is left open, the results below say `∃ used` -/
theorem id2bufLoop_eq (len id used : Nat) (acc : List Byte) :
    (MsgId.id2bufLoop len id used acc).1 = id / 256 ^ len ∧
    (MsgId.id2bufLoop len id used acc).2.2 = beDigits len (id / 256) ++ acc := by
  induction len generalizing id used acc with
  | zero => simp [MsgId.id2bufLoop, beDigits]
  | succ n ih =>
    unfold MsgId.id2bufLoop
    obtain ⟨h1, h2⟩ := ih (id / 256) (if id / 256 ≠ 0 then used + 1 else used) (byteOf (id / 256) :: acc)
    refine ⟨?_, ?_⟩
    · rw [h1, Nat.div_div_eq_div_mul, Nat.pow_succ']
    · rw [h2]; simp [beDigits]

theorem beDigits_head (n x : Nat) : (beDigits (n + 1) x).headD 0 = byteOf (x / 256 ^ n) := by
  induction n generalizing x with
  | zero => simp [beDigits]
  | succ n ih =>
    have h := ih (x / 256)
    have hne : beDigits (n + 1) (x / 256) ≠ [] := by simp [beDigits]
    rw [show beDigits (n + 1 + 1) x = beDigits (n + 1) (x / 256) ++ [byteOf x] from rfl]
    cases hb : beDigits (n + 1) (x / 256) with
    | nil => exact absurd hb hne
    | cons b bs =>
      rw [hb] at h
      simp only [List.cons_append, List.headD_cons] at h ⊢
      rw [h, Nat.div_div_eq_div_mul, Nat.pow_succ']

theorem id2buf_spec (id w : Nat) :
    (fits id w = true → ∃ used, MsgId.id2buf id w = .ok (beDigits w id, used)) ∧
    (fits id w = false → ∃ e, MsgId.id2buf id w = .err e) := by
  cases w with
  | zero =>
    simp only [fits, MsgId.id2buf, beDigits]
    constructor
    · intro h
      have : id = 0 := by simp at h; omega
      exact ⟨0, by simp [this]⟩
    · intro h
      have : id ≠ 0 := by simp at h; omega
      exact ⟨.MissingBuffer, by simp [this]⟩
  | succ n =>
    have hP : 0 < 256 ^ n := Nat.pow_pos (by decide)
    generalize hPd : 256 ^ n = P at hP
    have hfit : fits id (n + 1) = decide (id < 128 * P) := by simp [fits, fits_bound_succ, hPd]
    obtain ⟨l1, l2⟩ := id2bufLoop_eq n id 1 [byteOf id]
    have hbuf : (MsgId.id2bufLoop n id 1 [byteOf id]).2.2 = beDigits (n + 1) id := by rw [l2]; rfl
    have hhead : ((beDigits (n + 1) id).headD 0).toNat = id / P % 256 := by
      rw [beDigits_head, byteOf_toNat, hPd]
    rw [hPd] at l1
    unfold MsgId.id2buf
    rw [if_neg (Nat.add_one_ne_zero n)]
    simp only [Nat.add_sub_cancel]
    rw [l1, hbuf, hhead, hfit]
    -- with `P = 256^n` the loop leaves `id / P`; the id fits iff `id / P < 128`: no digit is left over (else
    -- `MissingBuffer`) and the top bit of the first byte, the reply mark, is clear (else `BadValue`)
    constructor
    · intro h
      have h : id < 128 * P := by simpa using h
      have hq : id / P < 128 := (Nat.div_lt_iff_lt_mul hP).2 h
      have h1 : ¬ id / P / 256 ≠ 0 := by omega
      have h2 : ¬ id / P % 256 ≥ 128 := by omega
      exact ⟨(MsgId.id2bufLoop n id 1 [byteOf id]).2.1, by rw [if_neg h1, if_neg h2]⟩
    · intro h
      have h : 128 * P ≤ id := by simpa using h
      have hq : 128 ≤ id / P := (Nat.le_div_iff_mul_le hP).2 h
      by_cases h1 : id / P / 256 ≠ 0
      · exact ⟨.MissingBuffer, by rw [if_pos h1]⟩
      · have h2 : id / P % 256 ≥ 128 := by omega
        exact ⟨.BadValue, by rw [if_neg h1, if_pos h2]⟩

/-- `value` with a start accumulator `a`: what the decoding loop has computed when `a` is the value read so far -/
def valFrom (a : Nat) (bs : List Byte) : Nat := bs.foldl (fun a b => a * 256 + b.toNat) a

theorem value_eq (bs : List Byte) : value bs = valFrom 0 bs := rfl

theorem valFrom_ge (a : Nat) (bs : List Byte) : a ≤ valFrom a bs := by
  induction bs generalizing a with
  | nil => simp [valFrom]
  | cons b bs ih =>
    have := ih (a * 256 + b.toNat)
    simp only [valFrom, List.foldl_cons] at this ⊢
    omega

theorem valFrom_append (a : Nat) (l : List Byte) (b : Byte) : valFrom a (l ++ [b]) = valFrom a l * 256 + b.toNat := by
  simp [valFrom, List.foldl_append]

theorem valFrom_beDigits (n x a : Nat) : valFrom a (beDigits n x) = a * 256 ^ n + x % 256 ^ n := by
  induction n generalizing x with
  | zero => simp [beDigits, valFrom, Nat.mod_one]
  | succ n ih =>
    rw [show beDigits (n + 1) x = beDigits n (x / 256) ++ [byteOf x] from rfl, valFrom_append, ih, byteOf_toNat,
      Nat.pow_succ', Nat.mod_mul]
    have : a * (256 * 256 ^ n) = a * 256 ^ n * 256 := by rw [Nat.mul_comm 256, Nat.mul_assoc]
    rw [this, Nat.add_mul]
    omega

theorem value_beDigits (n x : Nat) (h : x < 256 ^ n) : value (beDigits n x) = x := by
  rw [value_eq, valFrom_beDigits, Nat.mod_eq_of_lt h]; simp

/-- `used` counts the significant bytes of `id`; the lower bound is what makes a ninth significant byte overflow 64 bits -/
def usedInv (id used : Nat) : Prop :=
  (id = 0 ∧ used = 0) ∨ (1 ≤ used ∧ 256 ^ (used - 1) ≤ id ∧ id < 256 ^ used)

theorem buf2idLoop_spec (bs : List Byte) (id used : Nat) (hinv : usedInv id used) (hu : used ≤ 8) :
    (valFrom id bs < 2 ^ 64 → ∃ u, MsgId.buf2idLoop bs id used = .ok (valFrom id bs, u)) ∧
    (2 ^ 64 ≤ valFrom id bs → MsgId.buf2idLoop bs id used = .err .BadValue) := by
  induction bs generalizing id used with
  | nil =>
    simp only [valFrom, List.foldl_nil, MsgId.buf2idLoop]
    refine ⟨fun _ => ⟨used, rfl⟩, ?_⟩
    intro h
    -- id < 256^used ≤ 256^8
    rcases hinv with ⟨h0, _⟩ | ⟨_, _, hlt⟩
    · subst h0; simp at h
    · have : 256 ^ used ≤ 256 ^ 8 := Nat.pow_le_pow_right (by decide) hu
      have h8 : (256 : Nat) ^ 8 = 2 ^ 64 := by decide
      omega
  | cons v vs ih =>
    have hv : v.toNat < 256 := v.toNat_lt
    have hstep : valFrom id (v :: vs) = valFrom (id * 256 + v.toNat) vs := rfl
    rw [hstep]
    unfold MsgId.buf2idLoop
    by_cases hc : (v ≠ 0 ∨ used ≠ 0)
    · by_cases h8 : used + 1 > 8
      · -- eight significant bytes already: the value cannot fit
        have hu8 : used = 8 := by omega
        have hbig : 2 ^ 64 ≤ valFrom (id * 256 + v.toNat) vs := by
          have := valFrom_ge (id * 256 + v.toNat) vs
          rcases hinv with ⟨_, h0⟩ | ⟨_, hge, _⟩
          · omega
          · subst hu8
            have h7 : (256 : Nat) ^ (8 - 1) = 72057594037927936 := by decide
            have h64 : (2 : Nat) ^ 64 = 18446744073709551616 := by decide
            omega
        simp only [hc, h8, and_self, if_true]
        refine ⟨fun h => absurd hbig (by omega), ?_⟩
        simp
      · have hinv' : usedInv (id * 256 + v.toNat) (used + 1) := by
          right
          rcases hinv with ⟨h0, hu0⟩ | ⟨h1, hge, hlt⟩
          · subst h0; subst hu0
            have hvne : v.toNat ≠ 0 := by
              intro hz
              rcases hc with hc | hc
              · exact hc (UInt8.toNat_inj.mp (by simpa using hz))
              · exact hc rfl
            simp; omega
          · have hp : 256 ^ used = 256 * 256 ^ (used - 1) := by
              have : used = (used - 1) + 1 := by omega
              rw [this, Nat.pow_succ']; simp
            refine ⟨by omega, ?_, ?_⟩
            · simp only [Nat.add_sub_cancel]; rw [hp]; omega
            · rw [Nat.pow_succ', hp]; rw [hp] at hlt; omega
        have := ih (id * 256 + v.toNat) (used + 1) hinv' (by omega)
        simpa [hc, h8] using this
    · obtain ⟨hv0, hu0⟩ : v = 0 ∧ used = 0 := by simpa using hc
      have hid : id = 0 := by
        rcases hinv with ⟨h0, _⟩ | ⟨h1, _, _⟩
        · exact h0
        · omega
      subst hv0; subst hu0; subst hid
      have := ih 0 0 (Or.inl ⟨rfl, rfl⟩) (by omega)
      simpa using this

/-- the first byte, which `mpt_message_buf2id` reads before its loop, is one more round of the loop started at `(0, 0)` -/
theorem buf2id_eq_loop (bs : List Byte) : MsgId.buf2id bs = MsgId.buf2idLoop bs 0 0 := by
  cases bs with
  | nil => rfl
  | cons b rest =>
    simp only [MsgId.buf2id, MsgId.buf2idLoop]
    by_cases hb : b = 0 <;> simp [hb]

theorem buf2id_spec (bs : List Byte) :
    (value bs < 2 ^ 64 → ∃ u, MsgId.buf2id bs = .ok (value bs, u)) ∧
    (2 ^ 64 ≤ value bs → MsgId.buf2id bs = .err .BadValue) := by
  rw [buf2id_eq_loop, value_eq]
  exact buf2idLoop_spec bs 0 0 (Or.inl ⟨rfl, rfl⟩) (by omega)

theorem buf2id_decode_cases (bs : List Byte) :
    (∃ v u, MsgId.buf2id bs = .ok (v, u) ∧ decode bs = some v) ∨
    (MsgId.buf2id bs = .err .BadValue ∧ decode bs = none) := by
  unfold decode
  by_cases h : value bs < 2 ^ 64
  · obtain ⟨u, hu⟩ := (buf2id_spec bs).1 h
    exact Or.inl ⟨_, u, hu, by simp [h]⟩
  · exact Or.inr ⟨(buf2id_spec bs).2 (by omega), by simp [h]⟩

namespace Reply

/-- bit 7 is the reply mark: `0x80` has only it, `0x7f` all the others -/
theorem markBits (i : Nat) (hi : i < 8) : (128#8)[i] = decide (i = 7) ∧ (127#8)[i] = !decide (i = 7) := by
  have : i = 0 ∨ i = 1 ∨ i = 2 ∨ i = 3 ∨ i = 4 ∨ i = 5 ∨ i = 6 ∨ i = 7 := by omega
  rcases this with rfl | rfl | rfl | rfl | rfl | rfl | rfl | rfl <;> simp

theorem mark_unmark_markB (b : UInt8) : ((b ||| 128) &&& 127) ||| 128 = b ||| 128 := by
  apply UInt8.eq_of_toBitVec_eq
  ext i hi
  obtain ⟨h1, h2⟩ := markBits i hi
  simp only [UInt8.toBitVec_or, UInt8.toBitVec_and, BitVec.getElem_or, BitVec.getElem_and,
    show (UInt8.toBitVec 128)[i] = (128#8)[i] from rfl, show (UInt8.toBitVec 127)[i] = (127#8)[i] from rfl, h1, h2]
  cases b.toBitVec[i] <;> cases decide (i = 7) <;> rfl

theorem unmark_markB (b : UInt8) (h : b.toNat < 128) : (b ||| 128) &&& 127 = b := by
  apply UInt8.eq_of_toBitVec_eq
  ext i hi
  obtain ⟨h1, h2⟩ := markBits i hi
  simp only [UInt8.toBitVec_or, UInt8.toBitVec_and, BitVec.getElem_or, BitVec.getElem_and,
    show (UInt8.toBitVec 128)[i] = (128#8)[i] from rfl, show (UInt8.toBitVec 127)[i] = (127#8)[i] from rfl, h1, h2]
  by_cases h7 : i = 7
  · -- the mark bit of a request id is clear
    subst h7
    have : b.toBitVec[7] = false := by
      simpa [BitVec.getElem_eq_testBit_toNat] using Nat.testBit_lt_two_pow (i := 7) (by simpa using h)
    simp [this]
  · simp [h7]

theorem mark_length (v : List Byte) : (mark v).length = v.length := by
  cases v <;> simp [mark]

theorem unmark_eq (v : List Byte) : unmark v = unmarkS v := by cases v <;> rfl

theorem mark_unmark_mark (v : List Byte) : mark (unmark (mark v)) = mark v := by
  cases v with
  | nil => rfl
  | cons b r => simp [mark, unmark, mark_unmark_markB]

/-- a request id (top bit clear) is restored exactly when the reply mark is taken back after a failed send -/
theorem unmark_mark (v : List Byte) (h : (v.headD 0).toNat < 128) : unmark (mark v) = v := by
  cases v with
  | nil => rfl
  | cons b r => simp [mark, unmark, unmark_markB b (by simpa using h)]

end Reply

end Mpt
