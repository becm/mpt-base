/-
  Base of the heap towers (C04, C05): the model's tests for copies of length zero, accessors of the state (`buf?`,
  `handle`, `abs` against `setBuf`, `newBuf`, `freeBuf`, `setHandle`; `fresh` = the buffer `newBuf` appends), the rounding
  of `_mpt_buffer_alloc` with the divisibility facts the element sizes need, counting in the handle table; the reference
  graph `Refs P` with the three ways it is carried to a new state (`Refs.congr`: same
  buffers and handles; `Refs.setBuf`: one buffer rewritten; `Refs.move`: a handle re-pointed, its old buffer loses a
  reference, `dropRef`); for plain buffers the invariant `Inv` with the same three (`Inv.congr`, `Inv.setBuf_private`,
  `Inv.move` with its two instances `Inv.retarget`, to a fresh buffer, and `Inv.reassign`, to a live one or to none), which
  add what the handles read, and `Own` (the handle is the only owner of a writable buffer: `Own.update`).
-/
import MptModel.Impl.Heap
import MptModel.Spec.Vec
import MptModel.Lemmas.Mem

namespace Mpt.Heap

@[simp] theorem zeros_length (n : Nat) : (zeros n).length = n := List.length_replicate

/- The C code skips `memmove` and `memset` of length zero; the model mirrors the tests.  They make no difference: -/

theorem move_if (d : List Byte) (dst src n : Nat) : (if n ≠ 0 then Mem.move d dst src n else d) = Mem.move d dst src n := by
  split
  · rfl
  · rename_i h; rw [Decidable.not_not.mp h, Mem.move_zero]

theorem zero_gap_if (d : List Byte) (used pos : Nat) :
    (if used < pos then Mem.write d used (zeros (pos - used)) else d) = Mem.write d used (zeros (pos - used)) := by
  split
  · rfl
  · rw [Nat.sub_eq_zero_of_le (by omega), zeros, List.replicate_zero, Mem.write_nil]

theorem zero_fill_if (d : List Byte) (n : Nat) : (if n ≠ 0 then Mem.write d 0 (zeros n) else d) = Mem.write d 0 (zeros n) := by
  split
  · rfl
  · rename_i h; rw [Decidable.not_not.mp h, zeros, List.replicate_zero, Mem.write_nil]

namespace State

theorem buf?_lt {s : State} {b : Nat} {x : Buf} (h : s.buf? b = some x) : b < s.bufs.length := by
  unfold buf? at h
  split at h
  · rename_i hb
    exact (List.getElem?_eq_some_iff.mp hb).1
  · cases h

theorem buf?_setBuf (s : State) (b c : Nat) (x : Buf) (hb : b < s.bufs.length) :
    (s.setBuf b x).buf? c = if c = b then some x else s.buf? c := by
  unfold buf? setBuf
  simp only [List.getElem?_set]
  by_cases h : b = c
  · subst h; simp [hb]
  · have : ¬ c = b := fun e => h e.symm
    simp [h, this]

theorem buf?_setBuf_self (s : State) (b : Nat) (y : Buf) (blt : b < s.bufs.length) : (s.setBuf b y).buf? b = some y := by
  rw [buf?_setBuf _ _ _ _ blt, if_pos rfl]

theorem buf?_freeBuf (s : State) (b c : Nat) (hb : b < s.bufs.length) :
    (s.freeBuf b).buf? c = if c = b then none else s.buf? c := by
  unfold buf? freeBuf
  simp only [List.getElem?_set]
  by_cases h : b = c
  · subst h; simp [hb]
  · have : ¬ c = b := fun e => h e.symm
    simp [h, this]

/-- the buffer `_mpt_buffer_alloc` returns -/
def fresh (len flags : Nat) (traits : Option Traits) : Buf :=
  { ref := 1, flags := flags % 256, traits := traits, used := 0, data := List.replicate (allocSize len) poison }

theorem buf?_ge_length (s : State) (c : Nat) (h : s.bufs.length ≤ c) : s.buf? c = none := by
  unfold buf?
  rw [List.getElem?_eq_none h]

theorem buf?_newBuf (s : State) (len flags : Nat) (t : Option Traits) (c : Nat) :
    (s.newBuf len flags t).buf? c = if c = s.bufs.length then some (fresh len flags t) else s.buf? c := by
  by_cases h : c < s.bufs.length
  · rw [if_neg (by omega)]
    unfold buf? newBuf
    rw [List.getElem?_append_left h]
  · by_cases h2 : c = s.bufs.length
    · subst h2; simp [buf?, newBuf, fresh]
    · rw [if_neg h2, buf?_ge_length _ _ (by simp [newBuf]; omega), buf?_ge_length _ _ (by omega)]

theorem buf?_newBuf_setBuf (s : State) (len fl : Nat) (t : Option Traits) (b c : Nat) (y : Buf) (hb : b < s.bufs.length) :
    ((s.newBuf len fl t).setBuf b y).buf? c =
      if c = b then some y else if c = s.bufs.length then some (fresh len fl t) else s.buf? c := by
  rw [buf?_setBuf _ _ _ _ (by rw [newBuf, List.length_append]; omega), buf?_newBuf]

@[simp] theorem newBuf_hs (s : State) (len flags : Nat) (t : Option Traits) : (s.newBuf len flags t).hs = s.hs := rfl
@[simp] theorem setBuf_hs (s : State) (b : Nat) (x : Buf) : (s.setBuf b x).hs = s.hs := rfl
@[simp] theorem freeBuf_hs (s : State) (b : Nat) : (s.freeBuf b).hs = s.hs := rfl
@[simp] theorem setHandle_bufs (s : State) (h : Nat) (v : Option Nat) : (s.setHandle h v).bufs = s.bufs := rfl
@[simp] theorem setHandle_hs (s : State) (h : Nat) (v : Option Nat) : (s.setHandle h v).hs = s.hs.set h v := rfl
@[simp] theorem newBuf_length (s : State) (len flags : Nat) (t : Option Traits) :
    (s.newBuf len flags t).bufs.length = s.bufs.length + 1 := by simp [newBuf]
@[simp] theorem setBuf_length (s : State) (b : Nat) (x : Buf) : (s.setBuf b x).bufs.length = s.bufs.length := by simp [setBuf]
@[simp] theorem freeBuf_length (s : State) (b : Nat) : (s.freeBuf b).bufs.length = s.bufs.length := by simp [freeBuf]

@[simp] theorem buf?_setHandle (s : State) (h : Nat) (v : Option Nat) (c : Nat) : (s.setHandle h v).buf? c = s.buf? c := rfl
@[simp] theorem handle_setBuf (s : State) (b : Nat) (x : Buf) (h : Nat) : (s.setBuf b x).handle h = s.handle h := rfl
@[simp] theorem handle_freeBuf (s : State) (b : Nat) (h : Nat) : (s.freeBuf b).handle h = s.handle h := rfl
@[simp] theorem handle_newBuf (s : State) (len flags : Nat) (t : Option Traits) (h : Nat) :
    (s.newBuf len flags t).handle h = s.handle h := rfl

theorem setBuf_setBuf (s : State) (b : Nat) (x y : Buf) : (s.setBuf b x).setBuf b y = s.setBuf b y := by
  simp [State.setBuf, List.set_set]

theorem setBuf_self {s : State} {b : Nat} {x : Buf} (hb : s.buf? b = some x) : s.setBuf b x = s := by
  have blt := buf?_lt hb
  have e : s.bufs[b] = some x := by
    unfold buf? at hb
    rw [List.getElem?_eq_getElem blt] at hb
    split at hb
    · rename_i y hy; rw [← hb]; exact Option.some.inj hy
    · cases hb
  simp only [setBuf, ← e, List.set_getElem_self]

theorem handle_setHandle (s : State) (h h' : Nat) (v : Option Nat) (hh : h < s.hs.length) :
    (s.setHandle h v).handle h' = if h' = h then v else s.handle h' := by
  unfold handle setHandle
  simp only [List.getElem?_set]
  by_cases e : h = h'
  · subst e
    simp [hh]
    cases v <;> rfl
  · have : ¬ h' = h := fun x => e x.symm
    simp [e, this]

theorem handle_eq_some {s : State} {h b : Nat} : s.handle h = some b ↔ s.hs[h]? = some (some b) := by
  unfold handle
  split
  · rename_i b' hb; simp [hb]
  · rename_i hn
    constructor
    · intro e; cases e
    · intro e; exact absurd e (hn b)

theorem handle_lt {s : State} {h b : Nat} (e : s.handle h = some b) : h < s.hs.length :=
  (List.getElem?_eq_some_iff.mp (handle_eq_some.mp e)).1

theorem abs_eq (s : State) (h : Nat) :
    s.abs h = match s.handle h with
      | some b => (match s.buf? b with | some x => x.content | none => [])
      | none => [] := rfl

theorem abs_of {s : State} {h b : Nat} {x : Buf} (hh : s.handle h = some b) (hb : s.buf? b = some x) :
    s.abs h = x.content := by
  simp [abs, hh, hb]

theorem abs_none {s : State} {h : Nat} (hh : s.handle h = none) : s.abs h = [] := by
  simp [abs, hh]

end State

/-- holds also for a handle number outside the table, where `set` does nothing -/
theorem State.setHandle_handle (s : State) (h : Nat) : s.setHandle h (s.handle h) = s := by
  have : s.hs.set h (s.handle h) = s.hs := by
    apply List.ext_getElem?
    intro i
    rw [List.getElem?_set]
    split
    · rename_i e
      subst e
      split
      · rename_i hl
        unfold State.handle
        rw [List.getElem?_eq_getElem hl]
        cases s.hs[h] <;> rfl
      · rename_i hl
        exact (List.getElem?_eq_none (Nat.le_of_not_lt hl)).symm
    · rfl
  show { s with hs := s.hs.set h (s.handle h) } = s
  rw [this]

theorem setHandle_self {s : State} {h b : Nat} (hh : s.handle h = some b) : s.setHandle h (some b) = s :=
  hh ▸ State.setHandle_handle s h

theorem content_length (x : Buf) (h : x.used ≤ x.size) : x.content.length = x.used := by
  simp [Buf.content]; exact Nat.min_eq_left h

theorem le_roundUp (n sz : Nat) : n ≤ roundUp n sz := by
  unfold roundUp; split <;> omega

theorem le_allocSize (n : Nat) : n ≤ allocSize n := by
  unfold allocSize; omega

theorem roundUp_mod (n sz : Nat) (h : sz ≠ 0) : roundUp n sz % sz = 0 := by
  unfold roundUp
  split
  · assumption
  · have e := Nat.mod_add_div n sz
    have lt := Nat.mod_lt n (Nat.pos_of_ne_zero h)
    have : n + (sz - n % sz) = sz * (n / sz + 1) := by
      rw [Nat.mul_add, Nat.mul_one]; omega
    rw [this]; exact Nat.mul_mod_right _ _

theorem add_mod_zero {a b k : Nat} (ha : a % k = 0) (hb : b % k = 0) : (a + b) % k = 0 := by
  rw [Nat.add_mod, ha, hb, Nat.zero_mod]

theorem sub_mod_zero {a b k : Nat} (ha : a % k = 0) (hb : b % k = 0) : (a - b) % k = 0 :=
  Nat.mod_eq_zero_of_dvd (Nat.dvd_sub (Nat.dvd_of_mod_eq_zero ha) (Nat.dvd_of_mod_eq_zero hb))

theorem max_mod_zero {a b k : Nat} (ha : a % k = 0) (hb : b % k = 0) : max a b % k = 0 := by
  rw [Nat.max_def]; split <;> assumption

theorem min_mod_zero {a b k : Nat} (ha : a % k = 0) (hb : b % k = 0) : min a b % k = 0 := by
  rw [Nat.min_def]; split <;> assumption

/-- element traits without callbacks and with a non-zero element size (raw data = no traits at all) -/
def PlainT (t : Option Traits) : Prop := ∀ x, t = some x → x.init = false ∧ x.fini = none ∧ x.size ≠ 0

theorem PlainT.none : PlainT none := by intro x h; cases h

theorem PlainT.esize_ne_zero {t : Option Traits} (pt : PlainT t) : esize t ≠ 0 := by
  cases t with
  | none => exact Nat.one_ne_zero
  | some x => exact (pt x rfl).2.2

/-- heap invariant of C04: every handle names a live buffer, the reference count of a live buffer is the
    number of handles naming it (and is not zero: no unreachable buffer), `_used ≤ _size`, plain traits,
    the used size is a whole number of elements -/
structure Inv (s : State) : Prop where
  live : ∀ h b, s.handle h = some b → ∃ x, s.buf? b = some x
  ref : ∀ b x, s.buf? b = some x → x.ref = s.hs.count (some b) ∧ 1 ≤ x.ref
  used : ∀ b x, s.buf? b = some x → x.used ≤ x.size
  plain : ∀ b x, s.buf? b = some x → PlainT x.traits
  aligned : ∀ b x, s.buf? b = some x → x.used % esize x.traits = 0

theorem count_pos_of_getElem? {l : List (Option Nat)} {i : Nat} {a : Option Nat} (h : l[i]? = some a) : 1 ≤ l.count a :=
  List.count_pos_iff.mpr (List.mem_of_getElem? h)

theorem count_one_unique : ∀ {l : List (Option Nat)} {a : Option Nat} {i j : Nat},
    l.count a = 1 → l[i]? = some a → l[j]? = some a → i = j := by
  intro l a i j h hi hj
  -- two places: one in front of the second, the other at it
  have two : ∀ {i j : Nat}, i < j → l[i]? = some a → l[j]? = some a → 2 ≤ l.count a := by
    intro i j lt hi hj
    rw [← List.take_append_drop j l, List.count_append]
    have h1 := count_pos_of_getElem? (l := l.take j) (i := i) (a := a) (by rw [List.getElem?_take, if_pos lt]; exact hi)
    have h2 := count_pos_of_getElem? (l := l.drop j) (i := 0) (a := a) (by rw [List.getElem?_drop]; exact hj)
    omega
  apply Decidable.byContradiction
  intro ne
  rcases Nat.lt_or_gt_of_ne ne with lt | gt
  · have := two lt hi hj; omega
  · have := two gt hj hi; omega

theorem count_set_handle (l : List (Option Nat)) (i : Nat) (v c : Option Nat) (h : i < l.length) :
    (l.set i v).count c = (l.count c - if l[i] = c then 1 else 0) + if v = c then 1 else 0 := by
  rw [List.count_set h]
  simp

theorem count_of_getElem {l : List (Option Nat)} {i : Nat} (h : i < l.length) : 1 ≤ l.count l[i] :=
  List.count_pos_iff.mpr (List.getElem_mem h)

theorem addref_live {s : State} {a : Nat} {x : Buf} (ha : s.buf? a = some x) (hr : 1 ≤ x.ref) :
    ∃ k, addref s a = .ok (s.setBuf a { x with ref := x.ref + 1 }) (k + 1) := by
  unfold addref
  rw [ha]
  exact ⟨x.ref, by simp only [Nat.ne_of_gt hr, if_false]⟩

/-- the reference graph: every handle names a live buffer, the reference count of a live buffer is the number of
    handles naming it (and is not zero: no unreachable buffer), and every live buffer satisfies `P`, a condition that
    does not look at the count.  `Inv` (plain buffers, above) is `Refs PlainBuf` with the fields of `good` listed one by
    one, so that proofs write `inv.used`, `inv.plain` (`Inv.refs` / `Refs.inv` convert); `InvM` (managed buffers,
    Lemmas/TokState) is `Refs GoodBuf` (`InvM.refs` / `Refs.invM`). -/
structure Refs (P : Buf → Prop) (s : State) : Prop where
  live : ∀ h b, s.handle h = some b → ∃ x, s.buf? b = some x
  ref : ∀ b x, s.buf? b = some x → x.ref = s.hs.count (some b) ∧ 1 ≤ x.ref
  good : ∀ b x, s.buf? b = some x → P x

/-- what `unref` leaves of buffer `c`: one reference less, freed at zero -/
def dropRef (s : State) (c : Nat) : Option Buf :=
  match s.buf? c with
  | some x => if x.ref = 1 then none else some { x with ref := x.ref - 1 }
  | none => none

namespace Refs
variable {P : Buf → Prop} {s s' : State}

theorem unique (g : Refs P s) {h h' b : Nat} {x : Buf} (hb : s.buf? b = some x) (hr : x.ref = 1)
    (hh : s.handle h = some b) (hh' : s.handle h' = some b) : h' = h := by
  have hc := (g.ref b x hb).1
  rw [hr] at hc
  exact count_one_unique hc.symm (State.handle_eq_some.mp hh') (State.handle_eq_some.mp hh)

theorem no_handle_of_dead (g : Refs P s) {nb : Nat} (hnb : s.buf? nb = none) (h : Nat) : s.handle h ≠ some nb := by
  intro e
  obtain ⟨x, hx⟩ := g.live h nb e
  rw [hnb] at hx; cases hx

theorem count_dead (g : Refs P s) {nb : Nat} (hnb : s.buf? nb = none) : s.hs.count (some nb) = 0 := by
  rw [List.count_eq_zero]
  intro hm
  obtain ⟨i, hi, e⟩ := List.getElem_of_mem hm
  exact g.no_handle_of_dead hnb i (State.handle_eq_some.mpr (by rw [List.getElem?_eq_getElem hi, e]))

theorem congr (g : Refs P s) (hbuf : ∀ c, s'.buf? c = s.buf? c) (hhs : s'.hs = s.hs) : Refs P s' := by
  have hh : ∀ h, s'.handle h = s.handle h := by intro h; simp [State.handle, hhs]
  exact ⟨fun h b e => by rw [hh] at e; rw [hbuf]; exact g.live h b e,
    fun b x e => by rw [hbuf] at e; rw [hhs]; exact g.ref b x e,
    fun b x e => by rw [hbuf] at e; exact g.good b x e⟩

theorem setBuf (g : Refs P s) {b : Nat} {x x' : Buf} (hb : s.buf? b = some x) (hhs : s'.hs = s.hs)
    (other : ∀ c, c ≠ b → s'.buf? c = s.buf? c) (hb' : s'.buf? b = some x') (r' : x'.ref = x.ref) (g' : P x') :
    Refs P s' := by
  have hh : ∀ h, s'.handle h = s.handle h := by intro h; simp [State.handle, hhs]
  refine ⟨?_, ?_, ?_⟩
  · intro h c e
    rw [hh] at e
    by_cases cb : c = b
    · subst cb; exact ⟨x', hb'⟩
    · rw [other c cb]; exact g.live h c e
  · intro c y e
    rw [hhs]
    by_cases cb : c = b
    · subst cb; rw [hb'] at e; cases e; rw [r']; exact g.ref c x hb
    · rw [other c cb] at e; exact g.ref c y e
  · intro c y e
    by_cases cb : c = b
    · subst cb; rw [hb'] at e; cases e; exact g'
    · rw [other c cb] at e; exact g.good c y e

/-- handle `h` is re-pointed from its buffer, which loses one reference (`dropRef`), to `new`, which in the new state
    has one reference more than handles named it before (a fresh buffer counts 0).  Every other handle keeps its
    buffer, the same up to the count. -/
theorem move (hP : ∀ x r, P x → P { x with ref := r }) (g : Refs P s) {h : Nat} (hlt : h < s.hs.length) (new : Option Nat)
    (hne : s.handle h ≠ new) (hhs : s'.hs = s.hs.set h new)
    (hnew : ∀ a, new = some a → ∃ z, s'.buf? a = some z ∧ z.ref = s.hs.count (some a) + 1 ∧ P z)
    (hold : ∀ c, new ≠ some c → s'.buf? c = if s.handle h = some c then dropRef s c else s.buf? c) :
    Refs P s' ∧ (∀ h1, s'.handle h1 = if h1 = h then new else s.handle h1) ∧
      ∀ h1 c, h1 ≠ h → s.handle h1 = some c → new ≠ some c → ∃ x r, s.buf? c = some x ∧ s'.buf? c = some { x with ref := r } := by
  have hh : ∀ h1, s'.handle h1 = if h1 = h then new else s.handle h1 := by
    intro h1
    have := State.handle_setHandle s h h1 new hlt
    simp only [State.handle, State.setHandle] at this ⊢
    rw [hhs]; exact this
  have hcnt : ∀ c, s'.hs.count (some c) =
      (s.hs.count (some c) - if s.handle h = some c then 1 else 0) + if new = some c then 1 else 0 := by
    intro c
    rw [hhs, count_set_handle _ _ _ _ hlt]
    have e1 : (s.hs[h] = some c) ↔ (s.handle h = some c) := by
      rw [State.handle_eq_some, List.getElem?_eq_getElem hlt]; simp
    simp only [e1]
  -- what `hold` says of a buffer that is not the target: it lives on, with one reference less if it was `h`'s
  have kept : ∀ c, new ≠ some c → ∀ x, s.buf? c = some x → (s.handle h = some c → x.ref ≠ 1) →
      s'.buf? c = some { x with ref := x.ref - if s.handle h = some c then 1 else 0 } := by
    intro c n1 x hx r1
    rw [hold c n1]
    by_cases o1 : s.handle h = some c
    · simp only [o1, if_true, dropRef, hx, r1 o1, if_false]
    · simp only [o1, if_false, hx, Nat.sub_zero]
  have from_old : ∀ c y, new ≠ some c → s'.buf? c = some y →
      ∃ x, s.buf? c = some x ∧ (s.handle h = some c → x.ref ≠ 1) := by
    intro c y n1 e
    rw [hold c n1] at e
    cases hx : s.buf? c with
    | none => rw [dropRef, hx] at e; simp at e
    | some x =>
      refine ⟨x, rfl, fun o1 r1 => ?_⟩
      rw [if_pos o1, dropRef, hx] at e
      simp only [r1, if_true] at e
      cases e
  have other : ∀ h1 c, h1 ≠ h → s.handle h1 = some c → new ≠ some c →
      ∃ x, s.buf? c = some x ∧ s'.buf? c = some { x with ref := x.ref - if s.handle h = some c then 1 else 0 } := by
    intro h1 c ne e1 n1
    obtain ⟨x, hx⟩ := g.live h1 c e1
    exact ⟨x, hx, kept c n1 x hx fun o1 r1 => ne (g.unique hx r1 o1 e1)⟩
  refine ⟨⟨?_, ?_, ?_⟩, hh, fun h1 c ne e1 n1 => ?_⟩
  · intro h1 b1 e
    by_cases n1 : new = some b1
    · obtain ⟨z, hz, _⟩ := hnew b1 n1; exact ⟨z, hz⟩
    · rw [hh] at e
      have e1 : h1 ≠ h := fun eq => n1 (by rw [if_pos eq] at e; exact e)
      rw [if_neg e1] at e
      obtain ⟨x, _, hx'⟩ := other h1 b1 e1 e n1
      exact ⟨_, hx'⟩
  · intro c y e
    rw [hcnt]
    by_cases n1 : new = some c
    · obtain ⟨z, hz, zr, _⟩ := hnew c n1
      rw [e] at hz; cases hz
      have o1 : ¬ s.handle h = some c := fun o => hne (o.trans n1.symm)
      simp only [o1, n1, if_true, if_false]
      omega
    · obtain ⟨x, hx, r1⟩ := from_old c y n1 e
      rw [kept c n1 x hx r1] at e
      cases e
      have r := g.ref c x hx
      by_cases o1 : s.handle h = some c
      · have := r1 o1
        simp only [o1, n1, if_true, if_false]
        omega
      · simp only [o1, n1, if_false]
        omega
  · intro c y e
    by_cases n1 : new = some c
    · obtain ⟨z, hz, _, zg⟩ := hnew c n1
      rw [e] at hz; cases hz; exact zg
    · obtain ⟨x, hx, r1⟩ := from_old c y n1 e
      rw [kept c n1 x hx r1] at e
      cases e
      exact hP x _ (g.good c x hx)
  · obtain ⟨x, hx, hx'⟩ := other h1 c ne e1 n1
    exact ⟨x, _, hx, hx'⟩

end Refs

/-- what `Inv` asks of a single buffer -/
def PlainBuf (x : Buf) : Prop := x.used ≤ x.size ∧ PlainT x.traits ∧ x.used % esize x.traits = 0

theorem Inv.refs {s : State} (i : Inv s) : Refs PlainBuf s :=
  ⟨i.live, i.ref, fun b x e => ⟨i.used b x e, i.plain b x e, i.aligned b x e⟩⟩

theorem Refs.inv {s : State} (g : Refs PlainBuf s) : Inv s :=
  ⟨g.live, g.ref, fun b x e => (g.good b x e).1, fun b x e => (g.good b x e).2.1, fun b x e => (g.good b x e).2.2⟩

theorem Inv.unique {s : State} (inv : Inv s) {h h' b : Nat} {x : Buf} (hb : s.buf? b = some x) (hr : x.ref = 1)
    (hh : s.handle h = some b) (hh' : s.handle h' = some b) : h' = h :=
  inv.refs.unique hb hr hh hh'

theorem Inv.congr {s s' : State} (inv : Inv s) (hbuf : ∀ c, s'.buf? c = s.buf? c) (hhs : s'.hs = s.hs) :
    Inv s' ∧ ∀ h, s'.abs h = s.abs h := by
  refine ⟨(inv.refs.congr hbuf hhs).inv, fun h => ?_⟩
  have hh : s'.handle h = s.handle h := by simp [State.handle, hhs]
  simp [State.abs_eq, hh, hbuf]

theorem Inv.setBuf_private {s : State} (inv : Inv s) {h b : Nat} {x : Buf} (hh : s.handle h = some b)
    (hb : s.buf? b = some x) (hr : x.ref = 1) (x' : Buf) (r' : x'.ref = 1) (u' : x'.used ≤ x'.size)
    (p' : PlainT x'.traits) (a' : x'.used % esize x'.traits = 0) :
    Inv (s.setBuf b x') ∧ (s.setBuf b x').abs h = x'.content ∧ ∀ h', h' ≠ h → (s.setBuf b x').abs h' = s.abs h' := by
  have hlt := State.buf?_lt hb
  refine ⟨(inv.refs.setBuf (s' := s.setBuf b x') hb rfl (fun c ne => by rw [State.buf?_setBuf _ _ _ _ hlt, if_neg ne])
    (State.buf?_setBuf_self _ _ _ hlt) (r'.trans hr.symm) ⟨u', p', a'⟩).inv, ?_, ?_⟩
  · rw [State.abs_of (by exact hh) (State.buf?_setBuf_self _ _ _ hlt)]
  · intro h' ne
    rw [State.abs_eq, State.abs_eq, State.handle_setBuf]
    cases e : s.handle h' with
    | none => rfl
    | some b1 =>
      have : b1 ≠ b := fun eb => ne (inv.unique hb hr hh (eb ▸ e))
      simp only [State.buf?_setBuf _ _ _ _ hlt, this, if_false]

/-- handle `h` is the only one that names buffer `nb`, which holds `z` and is writable: what `detach` establishes and every
    in-place operation needs -/
structure Own (s : State) (h nb : Nat) (z : Buf) : Prop where
  hh : s.handle h = some nb
  hb : s.buf? nb = some z
  ref : z.ref = 1
  wr : z.immutable = false

theorem Own.update {s : State} {h nb : Nat} {z : Buf} (inv : Inv s) (o : Own s h nb z) (z' : Buf) (r' : z'.ref = 1)
    (f' : z'.flags = z.flags) (u' : z'.used ≤ z'.size) (p' : PlainT z'.traits) (a' : z'.used % esize z'.traits = 0) :
    Inv (s.setBuf nb z') ∧ Own (s.setBuf nb z') h nb z' ∧ (s.setBuf nb z').abs h = z'.content ∧
      (∀ h', h' ≠ h → (s.setBuf nb z').abs h' = s.abs h') ∧ (s.setBuf nb z').hs.length = s.hs.length := by
  have pm := inv.setBuf_private o.hh o.hb o.ref z' r' u' p' a'
  have blt := State.buf?_lt o.hb
  refine ⟨pm.1, ⟨o.hh, State.buf?_setBuf_self _ _ _ blt, r', ?_⟩, pm.2.1, pm.2.2, rfl⟩
  have := o.wr
  simp only [Buf.immutable, f'] at this ⊢
  exact this

theorem Own.eq {s : State} {h nb b : Nat} {z x : Buf} (o : Own s h nb z) (hh : s.handle h = some b) (hb : s.buf? b = some x) :
    nb = b ∧ z = x := by
  have q1 : nb = b := Option.some.inj (o.hh.symm.trans hh)
  have := o.hb; rw [q1, hb] at this
  exact ⟨q1, (Option.some.inj this).symm⟩

/-- `Refs.move` for `Inv`, with what the other handles read.  The count of `z` is given relative to the handles of the
    OLD state (`s.hs`), where a fresh buffer counts 0: that makes the fresh and the shared target one case. -/
theorem Inv.move {s s' : State} (inv : Inv s) {h : Nat} (hlt : h < s.hs.length) (new : Option Nat)
    (hne : s.handle h ≠ new) (hhs : s'.hs = s.hs.set h new)
    (hnew : ∀ a, new = some a → ∃ z, s'.buf? a = some z ∧ z.ref = s.hs.count (some a) + 1 ∧ z.used ≤ z.size ∧
      PlainT z.traits ∧ z.used % esize z.traits = 0 ∧ ∀ x, s.buf? a = some x → z.content = x.content)
    (hold : ∀ c, new ≠ some c → s'.buf? c = if s.handle h = some c then dropRef s c else s.buf? c) :
    Inv s' ∧ s'.handle h = new ∧ ∀ h', h' ≠ h → s'.abs h' = s.abs h' := by
  obtain ⟨g, hh, oth⟩ := inv.refs.move (fun _ _ p => p) hlt new hne hhs
    (fun a e => by obtain ⟨z, hz, zr, zu, zp, za, _⟩ := hnew a e; exact ⟨z, hz, zr, zu, zp, za⟩) hold
  refine ⟨g.inv, by rw [hh, if_pos rfl], fun h1 ne => ?_⟩
  rw [State.abs_eq, State.abs_eq, hh, if_neg ne]
  cases e : s.handle h1 with
  | none => rfl
  | some b1 =>
    simp only
    by_cases n1 : new = some b1
    · obtain ⟨z, hz, _, _, _, _, zc⟩ := hnew b1 n1
      obtain ⟨x, hx⟩ := inv.live h1 b1 e
      rw [hz, hx]; exact zc x hx
    · obtain ⟨x, r, hx, hx'⟩ := oth h1 b1 ne e n1
      rw [hx, hx']; rfl

theorem Inv.retarget {s s' : State} (inv : Inv s) {h nb : Nat} {z : Buf}
    (hlt : h < s.hs.length) (hnb : s.buf? nb = none) (hhs : s'.hs = s.hs.set h (some nb))
    (hbuf : ∀ c, s'.buf? c = if c = nb then some z else if s.handle h = some c then dropRef s c else s.buf? c)
    (zr : z.ref = 1) (zu : z.used ≤ z.size) (zp : PlainT z.traits) (za : z.used % esize z.traits = 0) :
    Inv s' ∧ s'.handle h = some nb ∧ s'.abs h = z.content ∧ ∀ h', h' ≠ h → s'.abs h' = s.abs h' := by
  have hz : s'.buf? nb = some z := by rw [hbuf, if_pos rfl]
  have mv := inv.move hlt (some nb) (inv.refs.no_handle_of_dead hnb h) hhs
    (by
      intro a e; cases e
      exact ⟨z, hz, by rw [inv.refs.count_dead hnb, zr], zu, zp, za, fun x hx => by rw [hnb] at hx; cases hx⟩)
    (by
      intro c n1
      rw [hbuf, if_neg (fun e => n1 (by rw [e]))])
  exact ⟨mv.1, mv.2.1, State.abs_of mv.2.1 hz, mv.2.2⟩

theorem Inv.reassign {s s' : State} (inv : Inv s) {h : Nat} (hlt : h < s.hs.length) (new : Option Nat)
    (hnew : ∀ a, new = some a → ∃ x, s.buf? a = some x)
    (hne : s.handle h ≠ new)
    (hhs : s'.hs = s.hs.set h new)
    (hbuf : ∀ c, s'.buf? c =
      if new = some c then (s.buf? c).map (fun x => { x with ref := x.ref + 1 })
      else if s.handle h = some c then
        (match s.buf? c with
         | some x => if x.ref = 1 then none else some { x with ref := x.ref - 1 }
         | none => none)
      else s.buf? c) :
    Inv s' ∧
    (s'.abs h = match new with
      | some a => (match s.buf? a with | some x => x.content | none => [])
      | none => []) ∧
    ∀ h', h' ≠ h → s'.abs h' = s.abs h' := by
  have mv := inv.move hlt new hne hhs
    (by
      intro a e
      obtain ⟨x, hx⟩ := hnew a e
      refine ⟨{ x with ref := x.ref + 1 }, by rw [hbuf, if_pos e, hx]; rfl, by rw [(inv.ref a x hx).1],
        inv.used a x hx, inv.plain a x hx, inv.aligned a x hx, fun x' hx' => ?_⟩
      rw [hx] at hx'; cases hx'; rfl)
    (by intro c n1; rw [hbuf, if_neg n1]; rfl)
  refine ⟨mv.1, ?_, mv.2.2⟩
  rw [State.abs_eq, mv.2.1]
  cases new with
  | none => rfl
  | some a =>
    simp only
    rw [hbuf, if_pos rfl]
    cases s.buf? a <;> rfl

end Mpt.Heap
