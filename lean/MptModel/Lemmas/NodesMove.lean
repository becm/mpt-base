/-
  mpt_node_move: merging one realised sibling list into another one.  The invariant of the two lists (`MoveInv`), the
  effect of a part of the move (`MoveRes`), one lemma per case of the loop, the loop (`moveLoop_spec`), and the lifting
  to two top-level structures (`move_refines`).  `merge R D d` is read by its components throughout: `.1` what stays of
  the source, `.2.1` the new destination, `.2.2` the number of moved nodes.  An element of the source is one of
  four cases, each with an equation of `merge` and a case of the loop: no namesake, it moves (`merge_none`, `moveLoop_move`);
  a namesake but no children of its own, it stays and nothing is written (`merge_leaf`, `moveLoop_skip`); the namesake has
  no children, the element's children are handed over (`merge_hand`, `moveLoop_hand`); both have children, these are merged
  first, by the loop itself (`merge_rec`, `moveLoop_rec`).  In the model the children handed to a namesake are detached from
  the source (`handOver`) and the caller's list reference follows the first element only (`slotFix`).
-/
import MptModel.Lemmas.NodesNames
import MptModel.Lemmas.NodesDeepClone
import MptModel.Lemmas.NodesUnlink
namespace Mpt.Nodes
open Mpt Mpt.Forest

theorem headId_append_of_ne_nil {D : Forest} (h : D ≠ []) (E : Forest) : headId (D ++ E) = headId D := by
  cases D with
  | nil => exact absurd rfl h
  | cons t ts => rfl

theorem mem_ids_mid (K ts : Forest) (i : Nat) (n : Name) (v : Val) (cs : Forest) :
    i ∈ ids (K ++ .node i n v cs :: ts) ∧ ∀ k ∈ ids cs, k ∈ ids (K ++ .node i n v cs :: ts) := by
  rw [ids_mid]
  exact ⟨by simp, fun k hk => by simp [hk]⟩

theorem headId_mid (K ts : Forest) (i : Nat) (n : Name) (v : Val) (cs cs' : Forest) :
    headId (K ++ .node i n v cs' :: ts) = headId (K ++ .node i n v cs :: ts) := by
  cases K with
  | nil => simp
  | cons a as => cases a; simp


/-- `mpt_gnode_add(last, 0, r)`: the detached root `r` is appended to the realised sibling list `D`: position 0 makes
    node_insert call `mpt_gnode_after` behind the last element (`after_last_spec`) -/
theorem append_spec {s : Store} {D : Forest} {pd : Option Nat} {li r : Nat} {tl : Tree} {n : Name} {v : Val} {cs : Forest}
    (hD : Real s pd none D) (hnd : (ids D ++ ids [.node r n v cs]).Nodup) (htl : D[li]? = some tl)
    (hT : Real s none none [.node r n v cs]) (hfuel : D.length ≤ s.fuel) :
    ∃ s', s.nodeInsert tl.id 0 r false = .ok s' ∧ Real s' pd none (D ++ [.node r n v cs]) ∧ SameLife s s' ∧
      s'.nodes.length = s.nodes.length ∧ (∀ i, i ∉ ids D → i ≠ r → s'.nodes[i]? = s.nodes[i]?) := by
  obtain ⟨tt, htt⟩ := getElem?_last (List.ne_nil_of_mem (List.mem_of_getElem? htl))
  have h1 : s.getnode false r (some tl.id) (if (0 : Int) > 0 then 1 else 0) = .ok (some tt.id) := by
    rw [getnode_false]; exact gnodePos_last hD htl hfuel htt
  rw [nodeInsert_start h1 (.inl rfl)]
  exact after_last_spec hD hnd htt hT


theorem merge_nil (D : Forest) (d : Nat) : merge [] D d = ([], D, 0) := by simp [merge]

theorem merge_none {i : Nat} {n : Name} {v : Val} {cs ts D : Forest} {d : Nat} (hf : findName D d n = none) :
    merge (.node i n v cs :: ts) D d =
      ((merge ts (D ++ [.node i n v cs]) d).1, (merge ts (D ++ [.node i n v cs]) d).2.1,
        (merge ts (D ++ [.node i n v cs]) d).2.2 + 1) := by
  rw [merge]; simp only [hf]

theorem merge_leaf {i : Nat} {n : Name} {v : Val} {ts D : Forest} {d jm : Nat} {t : Tree}
    (hf : findName D d n = some jm) (ht : D[jm]? = some t) :
    merge (.node i n v [] :: ts) D d = (.node i n v [] :: (merge ts D d).1, (merge ts D d).2.1, (merge ts D d).2.2) := by
  rw [merge]; simp only [hf, ht]

theorem merge_hand {i : Nat} {n : Name} {v : Val} {c : Tree} {cs' ts D : Forest} {d jm tj : Nat} {tn : Name} {tv : Val}
    (hf : findName D d n = some jm) (ht : D[jm]? = some (.node tj tn tv [])) :
    merge (.node i n v (c :: cs') :: ts) D d =
      (.node i n v [] :: (merge ts (D.set jm (.node tj tn tv (c :: cs'))) d).1,
        (merge ts (D.set jm (.node tj tn tv (c :: cs'))) d).2.1,
        (merge ts (D.set jm (.node tj tn tv (c :: cs'))) d).2.2 + (c :: cs').length) := by
  rw [merge]; simp only [hf, ht, Tree.children, Tree.setChildren]

theorem merge_rec {i : Nat} {n : Name} {v : Val} {c : Tree} {cs' ts D : Forest} {d jm tj : Nat} {tn : Name} {tv : Val}
    {tc : Tree} {tcs' : Forest}
    (hf : findName D d n = some jm) (ht : D[jm]? = some (.node tj tn tv (tc :: tcs'))) :
    merge (.node i n v (c :: cs') :: ts) D d =
      (.node i n v (merge (c :: cs') (tc :: tcs') 0).1 ::
          (merge ts (D.set jm (.node tj tn tv (merge (c :: cs') (tc :: tcs') 0).2.1)) d).1,
        (merge ts (D.set jm (.node tj tn tv (merge (c :: cs') (tc :: tcs') 0).2.1)) d).2.1,
        (merge ts (D.set jm (.node tj tn tv (merge (c :: cs') (tc :: tcs') 0).2.1)) d).2.2 +
          (merge (c :: cs') (tc :: tcs') 0).2.2) := by
  rw [merge]; simp only [hf, ht, Tree.children, Tree.setChildren]

theorem findName_spec {D : Forest} {d : Nat} {nm : Name} {jm : Nat} (h : findName D d nm = some jm) :
    d ≤ jm ∧ ∃ t, D[jm]? = some t ∧ t.name = nm := by
  simp only [findName] at h
  have hm := List.mem_of_mem_head? h
  obtain ⟨h1, h2⟩ := List.mem_filter.1 hm
  have hge : d ≤ jm := by simpa using h2
  have := ((mem_midx nm (D.map Tree.name) 0 jm).1 h1).2
  simp only [Nat.sub_zero, List.getElem?_map] at this
  cases hq : D[jm]? with
  | none => simp [hq] at this
  | some t => simp [hq] at this; exact ⟨hge, t, rfl, this⟩

theorem merge_dst_prefix (R D : Forest) (d : Nat) : D.length ≤ (merge R D d).2.1.length ∧
    ∀ k, k < D.length → ((merge R D d).2.1[k]?).map Tree.id = (D[k]?).map Tree.id := by
  fun_induction merge R D d with
  | case1 | case3 => exact ⟨Nat.le_refl _, fun _ _ => rfl⟩
  | case2 i n v cs ts D d _ r ih =>
    rw [List.length_append, List.length_singleton] at ih
    exact ⟨Nat.le_of_succ_le ih.1, fun k hk => by
      rw [← List.getElem?_append_left (l₂ := [.node i n v cs]) hk]; exact ih.2 k (Nat.lt_succ_of_lt hk)⟩
  | case4 i n v ts D d q _ tq _ r ih => exact ih
  | case5 i n v ts D d q _ tq ht c cs' _ r ih | case6 i n v ts D d q _ tq ht c cs' tc tcs' _ m r _ ih =>
    rw [List.length_set] at ih
    exact ⟨ih.1, fun k hk => (ih.2 k hk).trans (getElem?_set_id ht (by cases tq; rfl) k)⟩

/-- not needed by the refinement: `MoveRes.perm` carries the same fact along the loop of the model -/
theorem ids_merge_perm : ∀ (R D : Forest) (d : Nat),
    (ids (merge R D d).1 ++ ids (merge R D d).2.1).Perm (ids R ++ ids D) := by
  intro R D d
  -- in every case of `merge` both sides list the same handles; `set` is spelt out by `ids_split_at`
  fun_induction merge R D d with
  | case1 | case3 => exact .refl _
  | case2 i n v cs ts D d _ r ih | case4 i n v ts D d q _ tq _ r ih =>
    rw [List.perm_iff_count] at ih ⊢
    intro a
    have := ih a
    simp only [r, ids_append, ids_cons, ids_nil, List.count_append, List.count_cons, List.count_nil] at this ⊢
    omega
  | case5 i n v ts D d q _ tq ht c cs' hk r ih =>
    obtain ⟨tj, tn, tv, tcs⟩ := tq
    cases hk
    obtain ⟨A, B, hD1, hD2⟩ := ids_split_at ht
    rw [Tree.setChildren, hD2, List.perm_iff_count] at ih
    rw [hD1, List.perm_iff_count]
    intro a
    have := ih a
    simp only [r, Tree.setChildren, ids_cons, ids_nil, List.count_append, List.count_cons, List.count_nil] at this ⊢
    omega
  | case6 i n v ts D d q _ tq ht c cs' tc tcs' hk m r ihm ih =>
    obtain ⟨tj, tn, tv, tcs⟩ := tq
    obtain ⟨A, B, hD1, hD2⟩ := ids_split_at ht
    rw [Tree.setChildren, hD2, List.perm_iff_count] at ih
    rw [hD1, List.perm_iff_count]
    rw [List.perm_iff_count] at ihm
    intro a
    have := ih a
    have := ihm a
    simp only [r, m, Tree.children, Tree.setChildren, ids_cons, List.count_append, List.count_cons] at *
    omega


/-- what `mpt_node_move` needs of its two lists: source `K ++ R` (`K` = elements already looked at, they stay) under
    `ps`, destination `D` under `pd`, in disjoint parts of the store, each parent naming its list -/
structure MoveInv (s : Store) (KR D : Forest) (ps pd : Option Nat) : Prop where
  src : Real s ps none KR
  dst : Real s pd none D
  nodup : (ids KR ++ ids D).Nodup
  par : ∀ p, ps = some p → p ∉ ids KR ∧ p ∉ ids D ∧ ∃ pn, s.Live p pn ∧ pn.children = headId KR
  dpar : ∀ q, pd = some q → q ∉ ids KR ∧ q ∉ ids D ∧ ∃ qn, s.Live q qn ∧ qn.children = headId D
  pne : ∀ p, ps = some p → pd ≠ some p
  size : (ids KR).length + (ids D).length ≤ s.nodes.length

/-- a part of the move has led from `s` to `s'`: the two lists have become `KR'` and `D'`, laid out under the same
    parents, each parent names the head of its list, every other record outside the two lists is as it was, and the
    handles are the same as before -/
structure MoveRes (s s' : Store) (KR D KR' D' : Forest) (ps pd : Option Nat) : Prop where
  src : Real s' ps none KR'
  dst : Real s' pd none D'
  par : ∀ p, ps = some p → s'.nodes[p]? = (s.nodes[p]?).map (fun x => { x with children := headId KR' })
  dpar : ∀ q, pd = some q → s'.nodes[q]? = (s.nodes[q]?).map (fun x => { x with children := headId D' })
  life : SameLife s s'
  len : s'.nodes.length = s.nodes.length
  frame : ∀ i, i ∉ ids KR → i ∉ ids D → some i ≠ ps → some i ≠ pd → s'.nodes[i]? = s.nodes[i]?
  perm : (ids KR' ++ ids D').Perm (ids KR ++ ids D)

theorem MoveRes.refl {s : Store} {KR D : Forest} {ps pd : Option Nat} (hI : MoveInv s KR D ps pd) :
    MoveRes s s KR D KR D ps pd := by
  refine ⟨hI.src, hI.dst, ?_, ?_, .refl s, rfl, fun _ _ _ _ _ => rfl, List.Perm.refl _⟩
  · intro p hp
    obtain ⟨_, _, pn, hpn, hpc⟩ := hI.par p hp
    rw [hpn.1]; simp [← hpc]
  · intro q hq
    obtain ⟨_, _, qn, hqn, hqc⟩ := hI.dpar q hq
    rw [hqn.1]; simp [← hqc]

theorem MoveRes.trans {s s1 s2 : Store} {KR D KR1 D1 KR2 D2 : Forest} {ps pd : Option Nat}
    (h1 : MoveRes s s1 KR D KR1 D1 ps pd) (h2 : MoveRes s1 s2 KR1 D1 KR2 D2 ps pd) :
    MoveRes s s2 KR D KR2 D2 ps pd := by
  refine ⟨h2.src, h2.dst, ?_, ?_, h1.life.comp h2.life, by rw [h2.len, h1.len], ?_, h2.perm.trans h1.perm⟩
  · intro p hp
    rw [h2.par p hp, h1.par p hp]
    cases s.nodes[p]? <;> rfl
  · intro q hq
    rw [h2.dpar q hq, h1.dpar q hq]
    cases s.nodes[q]? <;> rfl
  · intro i hi1 hi2 hip hiq
    have hmem : i ∉ ids KR1 ++ ids D1 := fun h =>
      (List.mem_append.1 (h1.perm.mem_iff.1 h)).elim hi1 hi2
    rw [List.mem_append, not_or] at hmem
    rw [h2.frame i hmem.1 hmem.2 hip hiq, h1.frame i hi1 hi2 hip hiq]

theorem MoveInv.next {s s' : Store} {KR D KR' D' : Forest} {ps pd : Option Nat}
    (hI : MoveInv s KR D ps pd) (hR : MoveRes s s' KR D KR' D' ps pd) : MoveInv s' KR' D' ps pd := by
  have hnot : ∀ i, i ∉ ids KR → i ∉ ids D → i ∉ ids KR' ∧ i ∉ ids D' := fun i h1 h2 => by
    have := mt hR.perm.mem_iff.1 (fun h => (List.mem_append.1 h).elim h1 h2)
    rwa [List.mem_append, not_or] at this
  refine ⟨hR.src, hR.dst, hR.perm.nodup_iff.2 hI.nodup, ?_, ?_, hI.pne, ?_⟩
  · intro p hp
    obtain ⟨h1, h2, pn, hpn, hpc⟩ := hI.par p hp
    refine ⟨(hnot p h1 h2).1, (hnot p h1 h2).2, { pn with children := headId KR' }, ⟨?_, hpn.2⟩, rfl⟩
    rw [hR.par p hp, hpn.1]; rfl
  · intro q hq
    obtain ⟨h1, h2, qn, hqn, hqc⟩ := hI.dpar q hq
    refine ⟨(hnot q h1 h2).1, (hnot q h1 h2).2, { qn with children := headId D' }, ⟨?_, hqn.2⟩, rfl⟩
    rw [hR.dpar q hq, hqn.1]; rfl
  · have := hR.perm.length_eq
    simp only [List.length_append] at this
    rw [hR.len]
    have := hI.size
    omega

theorem handOver_spec {s : Store} {r curr sc f : Nat} {RC : Forest}
    (hI : MoveInv s RC [] (some r) (some curr)) (hhead : headId RC = some sc) (hf : RC.length ≤ f) :
    ∃ s', s.handOver f r curr sc = .ok (s', RC.length) ∧ MoveRes s s' RC [] [] RC (some r) (some curr) := by
  obtain ⟨hrRC, _, rn, hr, _⟩ := hI.par r rfl
  obtain ⟨hcRC, _, cn, hc, _⟩ := hI.dpar curr rfl
  have hrc : r ≠ curr := fun h => hI.pne r rfl (by rw [h])
  have hnd : (ids RC).Nodup := by simpa using hI.nodup
  obtain ⟨s1, e1, u1⟩ := Store.modify_ok hc (fun x => { x with children := some sc })
  have hRC1 : Real s1 (some r) none RC := Real.frame hI.src (fun k hk => by
    rw [u1.2.2 k, if_neg (by rintro rfl; exact hcRC hk)])
  obtain ⟨s2, e2, _, r2, l2, len2, f2⟩ := reparent_spec (p := curr) RC s1 f 0 (some r) none hRC1 hnd hf
  have hr2 : s2.Live r rn := ⟨by rw [f2 r hrRC, u1.2.2 r, if_neg hrc, hr.1], hr.2⟩
  obtain ⟨s3, e3, u3⟩ := Store.modify_ok hr2 (fun x => { x with children := none })
  refine ⟨s3, ?_, by simp, ?_, ?_, ?_, ((u1.same_life hc hc.2).comp l2).comp (u3.same_life hr2 hr.2),
    by rw [u3.2.1, len2, u1.2.1], ?_, by simp⟩
  · simp only [Store.handOver, e1, Res.bind_ok]
    rw [← hhead, e2]
    simp only [Res.bind_ok, e3, Nat.zero_add]
    rfl
  · exact Real.frame r2 (fun k hk => by rw [u3.2.2 k, if_neg (by rintro rfl; exact hrRC hk)])
  · intro p hp
    cases hp
    rw [u3.2.2 r, if_pos rfl, hr.1]; rfl
  · intro q hq
    cases hq
    rw [u3.2.2 curr, if_neg (Ne.symm hrc), f2 curr hcRC, u1.2.2 curr, if_pos rfl, hc.1, hhead]; rfl
  · intro i h1 _ h2 h3
    rw [u3.2.2 i, if_neg (fun h => h2 (by rw [h])), f2 i h1, u1.2.2 i, if_neg (fun h => h3 (by rw [h]))]

theorem MoveInv.length_le_fuel {s : Store} {KR D : Forest} {ps pd : Option Nat} (hI : MoveInv s KR D ps pd) :
    D.length ≤ s.fuel := by
  have h1 := length_le_ids D
  have := hI.size
  simp only [Store.fuel]
  omega

theorem step_move {s : Store} {K ts D cs : Forest} {ps pd : Option Nat} {i li : Nat} {n : Name} {v : Val} {tl : Tree}
    {slot : Store.Slot}
    (hI : MoveInv s (K ++ .node i n v cs :: ts) D ps pd) (htl : D[li]? = some tl)
    (hslot : ∀ p, slot = .kids p → ps = some p) :
    ∃ u s1, s.unlink i = .ok (u, headId ts) ∧ u.nodeInsert tl.id 0 i false = .ok s1 ∧
      s1.slotFix slot i (headId ts) = .ok s1 ∧
      MoveRes s s1 (K ++ .node i n v cs :: ts) D (K ++ ts) (D ++ [.node i n v cs]) ps pd := by
  obtain ⟨hndS, hndD, hdisj⟩ := List.nodup_append.1 hI.nodup
  have hSj : (K ++ .node i n v cs :: ts)[K.length]? = some (.node i n v cs) := by simp
  obtain ⟨u, hu, huS, huT, hupar, hulife, hulen, hufr⟩ := unlink_real hI.src hndS hSj
    (fun p hp => by
      obtain ⟨h1, _, pn, hpn, hpc⟩ := hI.par p hp
      exact ⟨h1, pn, hpn, hpc⟩)
  have herase : (K ++ .node i n v cs :: ts).eraseIdx K.length = K ++ ts := by
    rw [List.eraseIdx_append_of_length_le (Nat.le_refl _)]; simp
  have hdrop : (K ++ .node i n v cs :: ts).drop (K.length + 1) = ts := by
    rw [List.drop_append]; simp
  rw [herase] at huS hupar
  rw [hdrop] at hu
  simp only [Tree.id] at hu
  have himem : i ∈ ids (K ++ .node i n v cs :: ts) := (mem_ids_mid K ts i n v cs).1
  -- the handles of the source: those of the moved tree and those of what remains
  have hperm := ids_eraseIdx_perm _ _ hSj
  rw [herase] at hperm
  have hmem : ∀ k, k ∈ ids (K ++ .node i n v cs :: ts) ↔ k ∈ ids [.node i n v cs] ∨ k ∈ ids (K ++ ts) :=
    fun k => by rw [hperm.mem_iff, List.mem_append]
  obtain ⟨hndT, _, hTK⟩ := List.nodup_append.1 (hperm.nodup_iff.1 hndS)
  have hinK : ∀ k ∈ ids (K ++ ts), k ≠ i := fun k hk h => hTK i (by simp) k hk h.symm
  -- the destination is untouched by the unlink
  have huD : Real u pd none D := Real.frame hI.dst (fun k hk =>
    hufr k (fun h => hdisj k h k hk rfl) (fun h => (hI.par k h.symm).2.1 hk))
  have hndApp : (ids D ++ ids [.node i n v cs]).Nodup :=
    List.nodup_append.2 ⟨hndD, hndT, fun a ha b hb hab => hdisj b ((hmem b).2 (Or.inl hb)) a ha hab.symm⟩
  have hfuelD : D.length ≤ u.fuel := by
    have := hI.length_le_fuel
    simp only [Store.fuel, hulen] at this ⊢
    exact this
  obtain ⟨s1, hs1, h1D, h1life, h1len, h1fr⟩ := append_spec huD hndApp htl huT hfuelD
  have hres : MoveRes s s1 (K ++ .node i n v cs :: ts) D (K ++ ts) (D ++ [.node i n v cs]) ps pd := by
    refine ⟨?_, h1D, ?_, ?_, hulife.comp h1life, by rw [h1len, hulen], ?_, ?_⟩
    · exact Real.frame huS (fun k hk =>
        h1fr k (fun h => hdisj k ((hmem k).2 (Or.inr hk)) k h rfl) (hinK k hk))
    · intro p hp
      obtain ⟨h1, h2, _⟩ := hI.par p hp
      rw [h1fr p h2 (by rintro rfl; exact h1 himem)]
      exact hupar p hp
    · intro q hq
      obtain ⟨h1, h2, qn, hqn, hqc⟩ := hI.dpar q hq
      rw [h1fr q h2 (by rintro rfl; exact h1 himem), hufr q h1 (fun h => hI.pne q h.symm hq), hqn.1,
        headId_append_of_ne_nil (List.ne_nil_of_mem (List.mem_of_getElem? htl))]
      simp [← hqc]
    · intro k hk1 hk2 hkp _
      rw [h1fr k hk2 (by rintro rfl; exact hk1 himem)]
      exact hufr k hk1 hkp
    · rw [List.perm_iff_count]
      intro a
      have := List.perm_iff_count.1 hperm a
      simp only [ids_append, List.count_append] at this ⊢
      omega
  refine ⟨u, s1, hu, hs1, ?_, hres⟩
  cases slot with
  | loc => simp [Store.slotFix]
  | kids p =>
    have hp := hslot p rfl
    obtain ⟨h1, h2, pn, hpn, hpc⟩ := hI.par p hp
    have hp1 : s1.nodes[p]? = some { pn with children := headId (K ++ ts) } := by
      rw [hres.par p hp, hpn.1]; rfl
    have hlive : s1.Live p { pn with children := headId (K ++ ts) } := ⟨hp1, hpn.2⟩
    have hne : headId (K ++ ts) ≠ some i := fun h => hinK i (headId_mem h) rfl
    simp [Store.slotFix, Store.get_ok hlive, hne]


theorem inner_inv {s : Store} {K ts D RC CC : Forest} {ps pd : Option Nat} {i jm tj : Nat} {n tn : Name} {v tv : Val}
    (hI : MoveInv s (K ++ .node i n v RC :: ts) D ps pd) (hjm : D[jm]? = some (.node tj tn tv CC)) :
    MoveInv s RC CC (some i) (some tj) := by
  obtain ⟨hndS, hndD, hdisj⟩ := List.nodup_append.1 hI.nodup
  have hSj : (K ++ .node i n v RC :: ts)[K.length]? = some (.node i n v RC) := by simp
  obtain ⟨hiS, hRCsub⟩ := mem_ids_mid K ts i n v RC
  obtain ⟨htjD, hCCsub⟩ := mem_ids_at hjm
  obtain ⟨A, B, hD1, _⟩ := ids_split_at hjm
  rw [ids_mid, List.nodup_append, List.nodup_cons, List.nodup_append] at hndS
  rw [hD1, List.nodup_append, List.nodup_cons, List.nodup_append] at hndD
  refine ⟨Real.kids_at hI.src hSj, Real.kids_at hI.dst hjm, ?_, ?_, ?_, ?_, ?_⟩
  · rw [List.nodup_append]
    exact ⟨hndS.2.1.2.1, hndD.2.1.2.1, fun a ha b hb => hdisj a (hRCsub a ha) b (hCCsub b hb)⟩
  · intro p hp
    cases hp
    exact ⟨fun h => hndS.2.1.1 (List.mem_append_left _ h), fun h => hdisj i hiS i (hCCsub i h) rfl, _,
      ⟨Real.rec_mid hI.src, rfl⟩, rfl⟩
  · intro q hq
    cases hq
    exact ⟨fun h => hdisj tj (hRCsub tj h) tj htjD rfl, fun h => hndD.2.1.1 (List.mem_append_left _ h), _,
      ⟨Real.rec_idx hI.dst hjm, rfl⟩, rfl⟩
  · intro p hp hq
    cases hp
    cases hq
    exact hdisj _ hiS _ htjD rfl
  · have h1 : (ids RC).length ≤ (ids (K ++ .node i n v RC :: ts)).length := by rw [ids_mid]; simp; omega
    have h2 : (ids CC).length ≤ (ids D).length := by rw [hD1]; simp; omega
    have := hI.size
    omega

/-- what happens to the children of a source element and of its namesake (merged, or handed over), seen from the two
    lists -/
theorem step_rec {s s' : Store} {K ts D RC CC RC' CC' : Forest} {ps pd : Option Nat} {i jm tj : Nat} {n tn : Name}
    {v tv : Val}
    (hI : MoveInv s (K ++ .node i n v RC :: ts) D ps pd) (hjm : D[jm]? = some (.node tj tn tv CC))
    (hin : MoveRes s s' RC CC RC' CC' (some i) (some tj)) :
    MoveRes s s' (K ++ .node i n v RC :: ts) D (K ++ .node i n v RC' :: ts) (D.set jm (.node tj tn tv CC')) ps pd := by
  obtain ⟨hndS, hndD, hdisj⟩ := List.nodup_append.1 hI.nodup
  have hSj : (K ++ .node i n v RC :: ts)[K.length]? = some (.node i n v RC) := by simp
  obtain ⟨hiS, hRCsub⟩ := mem_ids_mid K ts i n v RC
  obtain ⟨htjD, hCCsub⟩ := mem_ids_at hjm
  -- outside the two child lists, `i` and `tj`, nothing changes
  have hout : ∀ k, k ∉ ids RC → k ∉ ids CC → k ≠ i → k ≠ tj → s'.nodes[k]? = s.nodes[k]? :=
    fun k h1 h2 h3 h4 => hin.frame k h1 h2 (by rintro ⟨rfl⟩; exact h3 rfl) (by rintro ⟨rfl⟩; exact h4 rfl)
  have hpout : ∀ p, p ∉ ids (K ++ .node i n v RC :: ts) → p ∉ ids D → s'.nodes[p]? = s.nodes[p]? :=
    fun p h1 h2 => hout p (fun h => h1 (hRCsub p h)) (fun h => h2 (hCCsub p h)) (by rintro rfl; exact h1 hiS)
      (by rintro rfl; exact h2 htjD)
  refine ⟨?_, ?_, ?_, ?_, hin.life, hin.len, fun k hk1 hk2 _ _ => hpout k hk1 hk2, ?_⟩
  · have := Real.replace_kids (cs' := RC') hI.src hSj hndS
      (fun k hk h1 h2 => hout k h2 (fun h => hdisj k hk k (hCCsub k h) rfl) h1
        (by rintro rfl; exact hdisj k hk k htjD rfl)) (hin.par i rfl) hin.src
    rwa [set_mid _ _ _ _ _ rfl] at this
  · exact Real.replace_kids (cs' := CC') hI.dst hjm hndD
      (fun k hk h1 h2 => hout k (fun h => hdisj k (hRCsub k h) k hk rfl) h2
        (by rintro rfl; exact hdisj k hiS k hk rfl) h1) (hin.dpar tj rfl) hin.dst
  · intro p hp
    obtain ⟨h1, h2, pn, hpn, hpc⟩ := hI.par p hp
    rw [hpout p h1 h2, hpn.1, headId_mid K ts i n v RC RC']
    simp [← hpc]
  · intro q hq
    obtain ⟨h1, h2, qn, hqn, hqc⟩ := hI.dpar q hq
    rw [hpout q h1 h2, hqn.1, headId_set_node hjm]
    simp [← hqc]
  · obtain ⟨A, B, hD1, hD2⟩ := ids_split_at hjm
    rw [hD2 CC', hD1, ids_mid, ids_mid, List.perm_iff_count]
    intro a
    have := List.perm_iff_count.1 hin.perm a
    simp only [List.count_append, List.count_cons] at this ⊢
    omega

theorem findName_eq_locIdx (D : Forest) (d : Nat) (nm : Name) : locIdx D d nm 1 = findName D d nm := by
  simp [locIdx, findName, List.head?_eq_getElem?]

/-! ### one iteration of the loop of `mpt_node_move` -/

namespace Store

theorem moveLoop_none (s : Store) (f : Nat) (slot : Slot) (cur : Option Nat) (dst last m : Nat) :
    s.moveLoop f slot cur none dst last m = .ok (s, m) := by
  cases f <;> rfl

theorem moveLoop_move {s u s1 s2 : Store} {f src dst last m : Nat} {slot : Slot} {cur : Option Nat} {sn : Node}
    (hsn : s.get src = .ok sn) (hloc : s.locate (some dst) 1 sn.name = .ok none)
    (hu : s.unlink src = .ok (u, sn.next)) (hi : u.nodeInsert last 0 src false = .ok s1)
    (hfix : s1.slotFix slot src sn.next = .ok s2) :
    s.moveLoop (f + 1) slot cur (some src) dst last m =
      s2.moveLoop f slot (if cur = some src then sn.next else cur) sn.next dst src (m + 1) := by
  simp only [moveLoop, hsn, hloc, hu, hi, hfix, Res.bind_ok]

theorem moveLoop_skip {s : Store} {f src dst last m curr : Nat} {slot : Slot} {cur : Option Nat} {sn : Node}
    (hsn : s.get src = .ok sn) (hloc : s.locate (some dst) 1 sn.name = .ok (some curr)) (hk : sn.children = none) :
    s.moveLoop (f + 1) slot cur (some src) dst last m = s.moveLoop f slot cur sn.next dst last m := by
  simp only [moveLoop, hsn, hloc, hk, Res.bind_ok]

theorem moveLoop_hand {s : Store} {f src dst last m curr sc : Nat} {slot : Slot} {cur : Option Nat} {sn sn' cn : Node}
    {r : Store × Nat}
    (hsn : s.get src = .ok sn) (hloc : s.locate (some dst) 1 sn.name = .ok (some curr)) (hk : sn.children = some sc)
    (hcn : s.get curr = .ok cn) (hcc : cn.children = none) (hr : s.handOver f src curr sc = .ok r)
    (hsn' : r.1.get src = .ok sn') :
    s.moveLoop (f + 1) slot cur (some src) dst last m = r.1.moveLoop f slot cur sn'.next dst last (m + r.2) := by
  simp only [moveLoop, hsn, hloc, hk, hcn, hcc, hr, hsn', Res.bind_ok]

theorem moveLoop_rec {s : Store} {f src dst last m curr sc cc : Nat} {slot : Slot} {cur : Option Nat} {sn sn' cn : Node}
    {r : Store × Nat}
    (hsn : s.get src = .ok sn) (hloc : s.locate (some dst) 1 sn.name = .ok (some curr)) (hk : sn.children = some sc)
    (hcn : s.get curr = .ok cn) (hcc : cn.children = some cc)
    (hr : s.moveLoop f (.kids src) (some sc) (some sc) cc cc 0 = .ok r) (hsn' : r.1.get src = .ok sn') :
    s.moveLoop (f + 1) slot cur (some src) dst last m = r.1.moveLoop f slot cur sn'.next dst last (m + r.2) := by
  simp only [moveLoop, hsn, hloc, hk, hcn, hcc, hr, hsn', Res.bind_ok]

end Store

/-- `mpt_node_move` (its loop) merges the rest `R` of the source list into the destination `D` as `merge` says.
    `K`: the source elements already looked at (they stay); `dstNode` = the `d`-th element of `D`, from which namesakes
    are searched; `lastNode` = the `li`-th element of `D`, behind which an element without namesake is appended (the C
    variable `last`: `to` at first, then the element moved last); `cur`: the caller's list reference when it is a
    variable (not part of the store); `m`: nodes moved so far. -/
theorem moveLoop_spec (fuel : Nat) : ∀ (R : Forest) (s : Store) (K D : Forest) (ps pd : Option Nat) (slot : Store.Slot)
    (cur : Option Nat) (d li dstNode lastNode m : Nat),
    MoveInv s (K ++ R) D ps pd →
    (D[d]?).map Tree.id = some dstNode → (D[li]?).map Tree.id = some lastNode →
    (∀ p, slot = .kids p → ps = some p) → (ids R).length < fuel →
    ∃ s', s.moveLoop fuel slot cur (headId R) dstNode lastNode m = .ok (s', m + (merge R D d).2.2) ∧
      MoveRes s s' (K ++ R) D (K ++ (merge R D d).1) (merge R D d).2.1 ps pd := by
  induction fuel with
  | zero => intro _ _ _ _ _ _ _ _ _ _ _ _ _ _ _ _ _ hf; exact absurd hf (Nat.not_lt_zero _)
  | succ f ih =>
    intro R s K D ps pd slot cur d li dstNode lastNode m hI hd hl hslot hf
    match R with
    | [] =>
      exact ⟨s, by rw [headId_nil, Store.moveLoop_none, merge_nil]; rfl, by simpa [merge_nil] using MoveRes.refl hI⟩
    | .node i n v cs :: ts =>
    simp only [ids_cons, List.length_cons, List.length_append] at hf
    obtain ⟨td, htd, htdid⟩ := Option.map_eq_some_iff.1 hd
    obtain ⟨tl, htl, htlid⟩ := Option.map_eq_some_iff.1 hl
    have hsn := Store.get_ok (s := s) ⟨Real.rec_mid hI.src, rfl⟩
    have hfound : s.locate (some dstNode) 1 n = .ok ((findName D d n).bind fun j => (D[j]?).map Tree.id) := by
      rw [← htdid, locate_real n 1 hI.dst htd hI.length_le_fuel, findName_eq_locIdx]
    rw [headId_cons]
    cases hfn : findName D d n with
    | none =>
      -- no namesake: the element moves
      obtain ⟨u, s1, hu, hs1, hfix, hres⟩ := step_move hI htl hslot
      obtain ⟨s2, hs2, hres2⟩ := ih ts s1 K (D ++ [.node i n v cs]) ps pd slot
        (if cur = some i then headId ts else cur) d D.length dstNode i (m + 1) (hI.next hres)
        (by rw [List.getElem?_append_left (List.getElem?_eq_some_iff.1 htd).1]; exact hd) (by simp [Tree.id]) hslot
        (by omega)
      rw [merge_none hfn]
      refine ⟨s2, (Store.moveLoop_move hsn (by rw [hfound, hfn]; rfl) hu (htlid ▸ hs1) hfix).trans (hs2.trans ?_),
        hres.trans hres2⟩
      rw [Nat.add_assoc, Nat.add_comm 1]
    | some jm =>
      obtain ⟨_, t, ht, htn⟩ := findName_spec hfn
      obtain ⟨tj, tn, tv, tcs⟩ := t
      have hloc : s.locate (some dstNode) 1 n = .ok (some tj) := by rw [hfound, hfn]; simp [ht, Tree.id]
      -- the invariant and the result, with the element `t'` that stays counted among those already looked at
      have hshift : ∀ {s' D'} {t' : Tree}, MoveInv s' (K ++ t' :: ts) D' ps pd → MoveInv s' ((K ++ [t']) ++ ts) D' ps pd :=
        fun h => by rwa [List.append_assoc]
      cases cs with
      | nil =>
        -- nothing to hand over: the element stays
        obtain ⟨s2, hs2, hres2⟩ := ih ts s (K ++ [.node i n v []]) D ps pd slot cur d li dstNode lastNode m (hshift hI)
          hd hl hslot (by omega)
        rw [merge_leaf hfn ht]
        exact ⟨s2, (Store.moveLoop_skip hsn hloc rfl).trans hs2, by simpa [List.append_assoc] using hres2⟩
      | cons c cs' =>
        have hcn := Store.get_ok (s := s) (i := tj) ⟨Real.rec_idx hI.dst ht, rfl⟩
        have hchead : headId (c :: cs') = some c.id := by cases c; rfl
        cases tcs with
        | nil =>
          -- the namesake has no children: hand them over
          obtain ⟨s1, hs1, hin⟩ := handOver_spec (f := f) (inner_inv hI ht) hchead
            (by have := length_le_ids (c :: cs'); omega)
          have hres := step_rec hI ht hin
          have hI1 := hI.next hres
          obtain ⟨s2, hs2, hres2⟩ := ih ts s1 (K ++ [.node i n v []]) _ ps pd slot cur d li dstNode lastNode
            (m + (c :: cs').length) (hshift hI1) (by rw [getElem?_set_node ht]; exact hd)
            (by rw [getElem?_set_node ht]; exact hl) hslot (by omega)
          rw [merge_hand hfn ht]
          refine ⟨s2, (Store.moveLoop_hand hsn hloc hchead hcn rfl hs1
            (Store.get_ok ⟨Real.rec_mid hI1.src, rfl⟩)).trans (hs2.trans ?_),
            hres.trans (by simpa [List.append_assoc] using hres2)⟩
          rw [Nat.add_assoc, Nat.add_comm (c :: cs').length]
        | cons tc tcs' =>
          -- both have children: merge them first
          have htchead : headId (tc :: tcs') = some tc.id := by cases tc; rfl
          obtain ⟨s1, hs1, hin⟩ := ih (c :: cs') s [] (tc :: tcs') (some i) (some tj) (.kids i) (some c.id)
            0 0 tc.id tc.id 0 (inner_inv hI ht) rfl rfl (by intro p hp; cases hp; rfl) (by omega)
          rw [hchead, Nat.zero_add] at hs1
          have hres := step_rec hI ht hin
          have hI1 := hI.next hres
          obtain ⟨s2, hs2, hres2⟩ := ih ts s1 (K ++ [.node i n v (merge (c :: cs') (tc :: tcs') 0).1]) _ ps pd
            slot cur d li dstNode lastNode (m + (merge (c :: cs') (tc :: tcs') 0).2.2) (hshift hI1)
            (by rw [getElem?_set_node ht]; exact hd) (by rw [getElem?_set_node ht]; exact hl) hslot (by omega)
          rw [merge_rec hfn ht]
          refine ⟨s2, (Store.moveLoop_rec hsn hloc hchead hcn htchead hs1
            (Store.get_ok ⟨Real.rec_mid hI1.src, rfl⟩)).trans (hs2.trans ?_),
            hres.trans (by simpa [List.append_assoc] using hres2)⟩
          rw [Nat.add_assoc, Nat.add_comm (merge (c :: cs') (tc :: tcs') 0).2.2]

theorem flatMap_ids_nonempty (l : Forest) : (if l.isEmpty then [] else [l]).flatMap ids = ids l := by
  cases l <;> simp

/-- `mpt_node_move(&from, to)`: the sibling list from `a` on is merged into the sibling list of `b` (namesakes looked
    for from `b` on) as `merge` says; `a` and `b` live in different top-level structures.  `slot` is where the caller
    keeps the list reference: the child link of the parent (only possible when there is one) or a variable. -/
theorem move_refines {s : Store} {a b ia d : Nat} {lsrc ldst S D : Forest} {rest : List Forest} {ps pd : Option Nat}
    {slot : Store.Slot}
    (hR : Realises s (lsrc :: ldst :: rest)) (hsa : SibsAt a lsrc S ia ps) (hsb : SibsAt b ldst D d pd)
    (hslot : ∀ p, slot = .kids p → ps = some p) :
    ∃ s', s.move s.fuel slot (some a) b = .ok (s', (merge (S.drop ia) D d).2.2) ∧
      Realises s' ((if (applyAt ps (fun _ => S.take ia ++ (merge (S.drop ia) D d).1) lsrc).isEmpty then []
          else [applyAt ps (fun _ => S.take ia ++ (merge (S.drop ia) D d).1) lsrc]) ++
        applyAt pd (fun _ => (merge (S.drop ia) D d).2.1) ldst :: rest) := by
  have hls := hR.real lsrc (by simp)
  have hld := hR.real ldst (by simp)
  have hnds := hR.ids_nodup (l := lsrc) (by simp)
  have hndd := hR.ids_nodup (l := ldst) (by simp)
  have hdisj_sd : ∀ x ∈ ids lsrc, ∀ y ∈ ids ldst, x ≠ y := fun x hx y hy =>
    (List.nodup_append.1 (by simpa using hR.nodup)).2.2 x hx y (by simp [hy])
  obtain ⟨ta, hta, htaid⟩ := getElem?_of_idx? hsa.idx
  obtain ⟨tb, htb, htbid⟩ := getElem?_of_idx? hsb.idx
  have hSD : S.take ia ++ S.drop ia = S := List.take_append_drop ia S
  have hSsub := hsa.subset
  have hDsub := hsb.subset
  have hps_src : ∀ p, ps = some p → p ∈ ids lsrc := fun p hp => (hsa.par_not_mem hnds p hp).2
  have hpd_dst : ∀ q, pd = some q → q ∈ ids ldst := fun q hq => (hsb.par_not_mem hndd q hq).2
  -- the invariant of the move
  have hndSD : (ids S ++ ids D).Nodup :=
    List.nodup_append.2 ⟨hsa.nodup hnds, hsb.nodup hndd, fun x hx y hy => hdisj_sd x (hSsub x hx) y (hDsub y hy)⟩
  have hI : MoveInv s (S.take ia ++ S.drop ia) D ps pd := by
    rw [hSD]
    refine ⟨hsa.real hls.2, hsb.real hld.2, hndSD, ?_, ?_, ?_, ?_⟩
    · intro p hp
      obtain ⟨h1, h2, hl⟩ := hsa.par_live hls.2 hnds p hp
      exact ⟨h1, fun h => hdisj_sd p h2 p (hDsub p h) rfl, hl⟩
    · intro q hq
      obtain ⟨h1, h2, hl⟩ := hsb.par_live hld.2 hndd q hq
      exact ⟨fun h => hdisj_sd q (hSsub q h) q h2 rfl, h1, hl⟩
    · exact fun p hp hq => hdisj_sd p (hps_src p hp) p (hpd_dst p hq) rfl
    · have := nodup_bound s.nodes.length _ hndSD (fun x hx => by
        rcases List.mem_append.1 hx with h | h
        · exact hR.id_lt (l := lsrc) (by simp) x (hSsub x h)
        · exact hR.id_lt (l := ldst) (by simp) x (hDsub x h))
      simpa using this
  have hfuel : (ids (S.drop ia)).length < s.fuel := by
    have h1 := hI.size
    rw [ids_append, List.length_append] at h1
    unfold Store.fuel
    omega
  obtain ⟨s', hs', hres⟩ := moveLoop_spec s.fuel (S.drop ia) s (S.take ia) D ps pd slot (some a) d d b b 0 hI
    (by rw [htb]; simp [htbid]) (by rw [htb]; simp [htbid]) hslot hfuel
  rw [hSD] at hres
  rw [headId_drop, hta, Option.map_some, htaid, Nat.zero_add] at hs'
  refine ⟨s', by simpa [Store.move] using hs', ?_⟩
  have hDne : D ≠ [] := by intro h; rw [h] at htb; simp at htb
  -- the two changed top-level lists
  have hsrc' : Real s' none none (applyAt ps (fun _ => S.take ia ++ (merge (S.drop ia) D d).1) lsrc) :=
    hsa.lift hls.2 hnds hres.src hres.par fun i hi hip hiS =>
      hres.frame i hiS (fun h => hdisj_sd i hi i (hDsub i h) rfl) hip
        (fun h => hdisj_sd i hi i (hpd_dst i h.symm) rfl)
  have hdstne : applyAt pd (fun _ => (merge (S.drop ia) D d).2.1) ldst ≠ [] := by
    refine applyAt_ne_nil hld.1 fun h => ?_
    have h1 := (merge_dst_prefix (S.drop ia) D d).1
    rw [h, List.length_nil] at h1
    exact hDne (List.length_eq_zero_iff.1 (Nat.le_zero.1 h1))
  -- seen from the destination's top-level list, with the source's list exchanged
  refine hsb.realises (E := [lsrc]) hR hres.life ?_ hdstne hres.dst hres.dpar ?_ ?_
  · intro l' hl'
    split at hl'
    · simp at hl'
    · rename_i hne
      rw [List.mem_singleton] at hl'
      subst hl'
      exact ⟨fun h => hne (by rw [h]; rfl), hsrc'⟩
  · obtain ⟨A, B, h1, h1'⟩ := hsa.ids_split hnds
    rw [flatMap_ids_nonempty, h1' _, List.flatMap_singleton, h1, List.perm_iff_count]
    intro x
    have := List.perm_iff_count.1 hres.perm x
    simp only [List.count_append] at this ⊢
    omega
  · intro i hi hiD hip
    rw [List.flatMap_singleton] at hi
    exact hres.frame i (fun h => hi (hSsub i h)) hiD (fun h => hi (hps_src i h.symm)) hip

end Mpt.Nodes
