/-
  The block loop of the decoder model.  The loop as a pure byte machine `mach`; one call of the loop
  body: it stays where it stands (`Stay`: the byte at the read index was at most looked at, some implied zeros may
  have been stored) or consumes that byte and goes on (`Adv`); `Run`, the closure of these steps; and
  `decLoop_run`: every call of the loop is a run over non-zero bytes followed by one of five stops (`Stop`) or by
  the delivery behind a delimiter (`Ran`).  The facts about the loop in the later files are readings of `Ran`.
  In front: the `take`/`drop`/`set` facts on the storage that this and the later decoder files use, and the words the
  statements speak in (`DecOut.region`, `flat_single`, `DecState.WF`).
-/
import MptModel.Impl.Decode
import MptModel.Lemmas.Cobs
namespace Mpt.Codec
open Mpt.Cobs

theorem drop_ge_of_drop {s t : List Byte} {i j : Nat} (h : s.drop i = t.drop i) (hij : i ≤ j) : s.drop j = t.drop j := by
  have := congrArg (List.drop (j - i)) h
  simpa [List.drop_drop, Nat.add_sub_cancel' hij, Nat.sub_add_cancel hij] using this

theorem take_of_take {s t : List Byte} {i j : Nat} (h : s.take j = t.take j) (hij : i ≤ j) : s.take i = t.take i := by
  have := congrArg (List.take i) h
  simpa [List.take_take, Nat.min_eq_left hij] using this

theorem region_snoc (s : List Byte) (done mlen : Nat) (b : Byte) (h : done + mlen < s.length) :
    ((s.set (done + mlen) b).drop done).take (mlen + 1) = (s.drop done).take mlen ++ [b] := by
  rw [List.drop_set, if_neg (by omega), Nat.add_sub_cancel_left]
  exact take_succ_set (by rw [List.length_drop]; omega) b

theorem getElem?_of_drop_eq {s t : List Byte} {r : Nat} (h : s.drop r = t.drop r) (i : Nat) (hi : r ≤ i) : s[i]? = t[i]? := by
  have := congrArg (fun x => x[i - r]?) h
  simp only [List.getElem?_drop] at this
  rwa [Nat.add_sub_cancel' hi] at this

theorem take_drop_append_le (s t : List Byte) (i n : Nat) (h : i + n ≤ s.length) :
    ((s ++ t).drop i).take n = (s.drop i).take n := by
  rw [List.drop_append_of_le_length (by omega), List.take_append_of_le_length (by simp; omega)]

theorem drop_take_append_drop (s : List Byte) (c n : Nat) (hc : c ≤ n) (hn : n ≤ s.length) :
    (s.take n).drop c ++ s.drop n = s.drop c := by
  rw [← List.drop_append_of_le_length (by rw [List.length_take]; omega), List.take_append_drop]

theorem first_zero_split {p rest tl junk : List Byte} (h : p ++ rest = tl ++ 0 :: junk) :
    (∃ tl', tl = p ++ tl' ∧ rest = tl' ++ 0 :: junk) ∨ (∃ post, p = tl ++ 0 :: post) := by
  rcases List.append_eq_append_iff.mp h with ⟨a', ha1, ha2⟩ | ⟨c', hc1, hc2⟩
  · exact Or.inl ⟨a', ha1, ha2⟩
  · cases c' with
    | nil => exact Or.inl ⟨[], by simpa using hc1.symm, by simpa using hc2.symm⟩
    | cons z c'' =>
      simp only [List.cons_append, List.cons.injEq] at hc2
      exact Or.inr ⟨c'', by rw [hc2.1]; exact hc1⟩

/-- the states the decoders themselves produce: a waiting message is exactly the decoded data (`C03.WF` of the Props
    file is this proposition; `Bnd.msg` and `Fresh.hsome` are it too) -/
abbrev DecState.WF (st : DecState) : Prop := ∀ m, st.msg = some m → m = st.len

/-- decoded bytes of the message as the state describes them -/
def DecOut.region (o : DecOut) : List Byte := (o.store.drop o.st.pos).take o.st.len

theorem flat_single (a : Nat) (s : List Byte) : flat [(a, s)] = s := by simp [flat]

theorem flat_append (a b : List Seg) : flat (a ++ b) = flat a ++ flat b := by simp [flat]

/-- result of the byte-wise block machine on a byte string -/
inductive MRes where
  | done (out : List Byte)                       -- delimiter reached between blocks
  | zeroIn (out : List Byte) (code pos : Nat)    -- zero byte inside the block `code` after `pos` of its bytes
  | more                                         -- input exhausted
  deriving Repr, DecidableEq

def MRes.pre (xs : List Byte) : MRes → MRes
  | .done out => .done (xs ++ out)
  | .zeroIn out c p => .zeroIn (xs ++ out) c p
  | .more => .more

/-- the block loop of `_decode` as a function from the unread bytes to the decoded bytes
    (unbounded target space) -/
def mach (v : Variant) : Nat → Nat → List Byte → MRes
  | _, _, [] => .more
  | code, pos, b :: rest =>
    if pos < lenData v code then
      if b = 0 then .zeroIn [] code pos
      else (mach v code (pos + 1) rest).pre [b]
    else
      if b = 0 then .done (List.replicate (lenData v code + lenZero v code 0 - pos) 0)
      else (mach v b.toNat 0 rest).pre (List.replicate (lenData v code + lenZero v code b.toNat - pos) 0)

theorem MRes.pre_pre (xs ys : List Byte) (m : MRes) : (m.pre ys).pre xs = m.pre (xs ++ ys) := by
  cases m <;> simp [MRes.pre]

theorem MRes.pre_nil (m : MRes) : m.pre [] = m := by
  cases m <;> simp [MRes.pre]

theorem lenData_lt (v : Variant) (c : Nat) (h : c < 256) : lenData v c < 255 := by
  unfold lenData
  split
  · split <;> omega
  · omega

theorem lenDZ_lt (v : Variant) (c n : Nat) (h : c < 256) : lenData v c + lenZero v c n < 256 := by
  unfold lenData lenZero
  cases hz : v.isZpe
  · have := v.nozpe_maxlen hz
    simp only [Bool.false_eq_true, false_and, if_false]
    split <;> omega
  · have := v.zpe_maxlen hz
    simp only [if_true, true_and]
    split <;> split <;> (try split) <;> omega

theorem lenZero_le (v : Variant) (c n : Nat) : lenZero v c n ≤ 2 := by
  unfold lenZero; split
  · omega
  · split <;> omega

/-- a resumed zero run: `j` of the zeros after the block were written in an earlier call -/
theorem mach_zero_split (v : Variant) (code pos j : Nat) (b : Byte) (tl : List Byte) (hd : ¬ pos < lenData v code)
    (hj : j ≤ lenData v code + lenZero v code b.toNat - pos) :
    mach v code pos (b :: tl) = (mach v code (pos + j) (b :: tl)).pre (List.replicate j 0) := by
  have hd2 : ¬ pos + j < lenData v code := by omega
  simp only [mach, hd, hd2, if_false]
  by_cases hb : b = 0
  · subst hb
    simp only [if_true, MRes.pre, UInt8.toNat_zero] at hj ⊢
    rw [List.replicate_append_replicate]; congr 2; omega
  · simp only [hb, if_false]
    rw [MRes.pre_pre, List.replicate_append_replicate]; congr 2; omega

/-- decoded bytes of the message in progress -/
def Loc.acc (l : Loc) : List Byte := (l.store.drop l.done).take l.mlen

theorem Loc.put_some (l : Loc) (r : Nat) (b : Byte) (h1 : l.w < r) (h2 : r ≤ l.store.length) :
    l.put r b = some { l with store := l.store.set l.w b, mlen := l.mlen + 1, writes := l.writes ++ [(l.w, r)] } := by
  simp [Loc.put, h1, h2]

/-- the loop variables are within the ranges of `_ctx`, and a block that is open in its data part has work
    area left -/
def JL (v : Variant) (l : Loc) : Prop := l.code < 256 ∧ l.pos < 256 ∧ (l.pos < lenData v l.code → 1 ≤ l.proc)

/-- `lx` is `l` with at most the load of the byte `b` at the read index recorded and `j` of the zeros the
    finished block implies appended to the decoded bytes; no input is consumed -/
structure Stay (v : Variant) (l : Loc) (b : Byte) (j : Nat) (lx : Loc) : Prop where
  done : lx.done = l.done
  mlen : lx.mlen = l.mlen + j
  proc : lx.proc + j = l.proc
  code : lx.code = l.code
  pos : lx.pos = l.pos + j
  len : lx.store.length = l.store.length
  unread : lx.store.drop l.r = l.store.drop l.r
  acc : lx.acc = l.acc ++ List.replicate j 0
  low : lx.store.take l.w = l.store.take l.w
  mach : ∀ tl, mach v l.code l.pos (b :: tl) = (mach v l.code (l.pos + j) (b :: tl)).pre (List.replicate j 0)
  pos_lt : l.code < 256 → l.pos < 256 → lx.pos < 256
  slack : (l.pos < lenData v l.code → 1 ≤ l.proc) → lx.pos < lenData v lx.code → 1 ≤ lx.proc
  reads : lx.reads = l.reads ∨ lx.reads = l.reads ++ [l.r]
  writes : ∃ ws, lx.writes = l.writes ++ ws ∧ ∀ x ∈ ws, x.1 < x.2 ∧ x.2 = l.r + 1

theorem Stay.r {v : Variant} {l : Loc} {b : Byte} {j : Nat} {lx : Loc} (h : Stay v l b j lx) : lx.r = l.r := by
  have := h.done; have := h.mlen; have := h.proc
  simp only [Loc.r]; omega

theorem Stay.load (v : Variant) (l : Loc) (b : Byte) : Stay v l b 0 { l with reads := l.reads ++ [l.r] } :=
  { done := rfl, mlen := rfl, proc := rfl, code := rfl, pos := rfl, len := rfl, unread := rfl, low := rfl
    acc := by simp [Loc.acc]
    mach := fun tl => (MRes.pre_nil _).symm
    pos_lt := fun _ h => h, slack := id
    reads := Or.inr rfl
    writes := ⟨[], by simp, by simp⟩ }

theorem Stay.zero {v : Variant} {l0 : Loc} {b : Byte} {i : Nat} {l : Loc} (h : Stay v l0 b i l)
    (hr : l0.r < l0.store.length) (hp : l.proc ≠ 0) (hd : ¬ l0.pos < lenData v l0.code)
    (hi : i + 1 ≤ lenData v l0.code + lenZero v l0.code b.toNat - l0.pos) :
    l.put (l0.r + 1) 0 = some { l with store := l.store.set l.w 0, mlen := l.mlen + 1, writes := l.writes ++ [(l.w, l0.r + 1)] } ∧
    Stay v l0 b (i + 1) { l with store := l.store.set l.w 0, mlen := l.mlen + 1, writes := l.writes ++ [(l.w, l0.r + 1)],
                                 proc := l.proc - 1, pos := l.pos + 1 } := by
  -- the write index lies `i` behind that of `l0`, and in front of the read index while work area is left
  have hw : l0.w ≤ l.w ∧ l.w < l0.r := by
    have := h.done; have := h.mlen; have := h.proc
    simp only [Loc.w, Loc.r]; omega
  have hlen := h.len
  obtain ⟨ws, hws, hlt⟩ := h.writes
  refine ⟨Loc.put_some l _ 0 (Nat.lt_succ_of_lt hw.2) (by omega),
    { done := h.done, mlen := congrArg (· + 1) h.mlen, proc := by have := h.proc; show l.proc - 1 + (i + 1) = _; omega,
      code := h.code, pos := congrArg (· + 1) h.pos, len := (List.length_set ..).trans hlen,
      unread := (List.drop_set_of_lt hw.2).trans h.unread
      acc := ?_
      low := (List.take_set_of_le hw.1).trans h.low
      mach := fun tl => mach_zero_split v _ _ _ b tl hd hi
      pos_lt := fun hc _ => ?_
      slack := fun _ hlt => absurd hlt (by have := h.pos; show ¬ l.pos + 1 < lenData v l.code; rw [h.code]; omega)
      reads := h.reads
      writes := ⟨ws ++ [(l.w, l0.r + 1)], by show l.writes ++ _ = _; rw [hws, List.append_assoc], fun x hx => ?_⟩ }⟩
  · show ((l.store.set (l.done + l.mlen) 0).drop l.done).take (l.mlen + 1) = _
    rw [region_snoc _ _ _ _ (show l.done + l.mlen < l.store.length by have := hw.2; simp only [Loc.w] at this; omega),
      List.replicate_succ', ← List.append_assoc, ← h.acc]
    rfl
  · have := lenDZ_lt v l0.code b.toNat hc
    have hpos := h.pos
    show l.pos + 1 < 256; omega
  · rcases List.mem_append.mp hx with hx | hx
    · exact hlt x hx
    · rw [List.mem_singleton.mp hx]; exact ⟨Nat.lt_succ_of_lt hw.2, rfl⟩

theorem putZeros_stay {v : Variant} {l0 : Loc} {b : Byte} (hr : l0.r < l0.store.length) (hd : ¬ l0.pos < lenData v l0.code)
    (k : Nat) : ∀ (i : Nat) (l : Loc), Stay v l0 b i l → i + k ≤ lenData v l0.code + lenZero v l0.code b.toNat - l0.pos →
    ∃ j, Stay v l0 b (i + j) (putZeros k l (l0.r + 1)).1 ∧ ((putZeros k l (l0.r + 1)).2 = true → j = k) ∧
      ((putZeros k l (l0.r + 1)).2 = false → j < k ∧ (putZeros k l (l0.r + 1)).1.proc = 0) := by
  induction k with
  | zero => intro i l h _; exact ⟨0, h, fun _ => rfl, fun h => (nomatch h)⟩
  | succ k ih =>
    intro i l h hi
    unfold putZeros
    by_cases hp : l.proc = 0
    · rw [if_pos hp]; exact ⟨0, h, fun h => (nomatch h), fun _ => ⟨Nat.succ_pos k, hp⟩⟩
    · obtain ⟨hput, h'⟩ := h.zero hr hp hd (by omega)
      rw [if_neg hp, hput]
      obtain ⟨j, a, b, c⟩ := ih (i + 1) _ h' (by omega)
      exact ⟨j + 1, by rw [← Nat.add_assoc, Nat.add_right_comm]; exact a, fun h => by rw [b h],
        fun h => ⟨by have := (c h).1; omega, (c h).2⟩⟩

/-- `l2` is `l` after the non-zero byte `b` at the read index was consumed and `xs` appended to the decoded bytes -/
structure Adv (v : Variant) (l : Loc) (b : Byte) (xs : List Byte) (l2 : Loc) : Prop where
  r : l2.r = l.r + 1
  done : l2.done = l.done
  mlen : l2.mlen = l.mlen + xs.length
  len : l2.store.length = l.store.length
  unread : l2.store.drop (l.r + 1) = l.store.drop (l.r + 1)
  acc : l2.acc = l.acc ++ xs
  low : l2.store.take l.w = l.store.take l.w
  mach : ∀ tl, mach v l.code l.pos (b :: tl) = (mach v l2.code l2.pos tl).pre xs
  slack : (l.pos < lenData v l.code → 1 ≤ l.proc) → l2.pos < lenData v l2.code → 1 ≤ l2.proc
  code_pos : 0 < l.code → 0 < l2.code
  code_lt : l.code < 256 → l2.code < 256
  pos_lt : l.code < 256 → l.pos < 256 → l2.pos < 256
  proc : l.proc ≤ l2.proc + 1
  reads : l2.reads = l.reads ∨ l2.reads = l.reads ++ [l.r]
  writes : ∃ ws, l2.writes = l.writes ++ ws ∧ ∀ x ∈ ws, x.1 < x.2 ∧ x.2 = l.r + 1

/-- the loop variables after the data byte `b` of the open block was copied -/
def Loc.data (l : Loc) (b : Byte) : Loc :=
  { l with store := l.store.set l.w b, mlen := l.mlen + 1, reads := l.reads ++ [l.r],
           writes := l.writes ++ [(l.w, l.r + 1)], pos := l.pos + 1 }

theorem Adv.data {v : Variant} {l : Loc} {b : Byte} (hr : l.r < l.store.length) (hd : l.pos < lenData v l.code) (hb : b ≠ 0) :
    Adv v l b [b] (l.data b) := by
  have hr0 : l.r = l.done + l.mlen + l.proc := rfl
  have hw : l.w = l.done + l.mlen := rfl
  exact {
    r := by show l.done + (l.mlen + 1) + l.proc = _; omega
    done := rfl, mlen := rfl, len := List.length_set ..
    unread := List.drop_set_of_lt (by omega)
    acc := region_snoc l.store l.done l.mlen b (by omega)
    low := List.take_set_of_le (Nat.le_refl _)
    mach := fun tl => by simp [Loc.data, Codec.mach, hd, hb]
    slack := fun hj _ => hj hd
    code_pos := id, code_lt := id
    pos_lt := fun hc _ => by have := lenData_lt v l.code hc; show l.pos + 1 < 256; omega
    proc := Nat.le_succ _
    reads := Or.inr rfl
    writes := ⟨[(l.w, l.r + 1)], rfl, fun x hx => by rw [List.mem_singleton.mp hx]; exact ⟨by show l.w < l.r + 1; omega, rfl⟩⟩ }

/-- the loop variables behind the code byte `b` of the next block -/
def Loc.next (l : Loc) (b : Byte) : Loc := { l with proc := l.proc + 1, code := b.toNat, pos := 0 }

/-- the loop variables behind the first code byte `c` of a block sequence -/
def Loc.first (l : Loc) (c : Byte) : Loc := { l with proc := l.proc + 1, code := c.toNat, reads := [l.r] }

theorem Adv.next {v : Variant} {l : Loc} {b : Byte} {l' : Loc} (hd : ¬ l.pos < lenData v l.code) (hb : b ≠ 0)
    (h : Stay v l b (lenData v l.code + lenZero v l.code b.toNat - l.pos) l') :
    Adv v l b (List.replicate (lenData v l.code + lenZero v l.code b.toNat - l.pos) 0) (l'.next b) := by
  have hr' := h.r
  have hk := lenZero_le v l.code b.toNat
  have hproc := h.proc
  exact {
    r := by show l'.done + l'.mlen + (l'.proc + 1) = _; rw [← hr']; rfl
    done := h.done, mlen := by rw [List.length_replicate]; exact h.mlen
    len := h.len, unread := drop_ge_of_drop h.unread (Nat.le_succ _), acc := h.acc, low := h.low
    mach := fun tl => by simp [Loc.next, Codec.mach, hd, hb]
    slack := fun _ _ => Nat.succ_pos _
    code_pos := fun _ => Nat.pos_of_ne_zero ((toNat_ne_zero b).mpr hb)
    code_lt := fun _ => UInt8.toNat_lt b
    pos_lt := fun _ _ => Nat.zero_lt_succ _
    -- at most two zeros are implied behind a block
    proc := by show l.proc ≤ l'.proc + 1 + 1; omega
    reads := h.reads, writes := h.writes }

/-- from `l` the loop has consumed `k` bytes of the unread input, none of them zero, has appended `out` to the
    decoded bytes and stands at `lf`.  The fields by reading: `reads`, `writes`, `len` for the index trace (`Ran.safe`);
    `r`, `unread`, `nz` for where the call stops (`Ran.scan`); `acc`, `mach`, `done`, `mlen` for the machine run
    (`Ran.call`); `slack`, `code_*`, `pos_lt` for the work area (`Ran.live`); `low` for peek (`peek_win0`) -/
structure Run (v : Variant) (l : Loc) (k : Nat) (out : List Byte) (lf : Loc) : Prop where
  r : lf.r = l.r + k
  done : lf.done = l.done
  mlen : lf.mlen = l.mlen + out.length
  len : lf.store.length = l.store.length
  unread : lf.store.drop lf.r = l.store.drop lf.r
  acc : lf.acc = l.acc ++ out
  low : lf.store.take l.w = l.store.take l.w
  nz : ∀ i, l.r ≤ i → i < lf.r → l.store[i]? ≠ some 0
  mach : ∀ more, mach v l.code l.pos (l.store.drop l.r ++ more) = (mach v lf.code lf.pos (l.store.drop lf.r ++ more)).pre out
  code_pos : 0 < l.code → 0 < lf.code
  code_lt : l.code < 256 → lf.code < 256
  pos_lt : l.code < 256 → l.pos < 256 → lf.pos < 256
  slack : (l.pos < lenData v l.code → 1 ≤ l.proc) → lf.pos < lenData v lf.code → 1 ≤ lf.proc
  reads : ∃ rs, lf.reads = l.reads ++ rs ∧ rs.Pairwise (· < ·) ∧ ∀ x ∈ rs, l.r ≤ x ∧ x < l.store.length
  writes : ∃ ws, lf.writes = l.writes ++ ws ∧ ∀ x ∈ ws, x.1 < x.2 ∧ x.2 ≤ l.store.length

theorem Run.jl {v : Variant} {l : Loc} {k : Nat} {out : List Byte} {lf : Loc} (h : Run v l k out lf) (hj : JL v l) : JL v lf :=
  ⟨h.code_lt hj.1, h.pos_lt hj.1 hj.2.1, h.slack hj.2.2⟩

theorem Run.ofStay {v : Variant} {l : Loc} {b : Byte} {j : Nat} {lx : Loc} (h : Stay v l b j lx)
    (hb : l.store.drop l.r = b :: l.store.drop (l.r + 1)) : Run v l 0 (List.replicate j 0) lx := by
  have hr := h.r
  have hlt : l.r < l.store.length := by
    have := congrArg List.length hb; simp only [List.length_drop, List.length_cons] at this; omega
  obtain ⟨ws, hws, hw⟩ := h.writes
  exact {
    r := hr, done := h.done, mlen := by rw [List.length_replicate]; exact h.mlen, len := h.len
    unread := by rw [hr]; exact h.unread
    acc := h.acc, low := h.low
    nz := fun i h1 h2 => by omega
    mach := fun more => by rw [hr, hb, List.cons_append, h.pos, h.code]; exact h.mach _
    code_pos := fun hc => h.code ▸ hc, code_lt := fun hc => h.code ▸ hc, pos_lt := h.pos_lt, slack := h.slack
    reads := by
      rcases h.reads with e | e
      · exact ⟨[], by simp [e], List.Pairwise.nil, fun x hx => nomatch hx⟩
      · exact ⟨[l.r], e, List.pairwise_singleton _ _, fun x hx => by rw [List.mem_singleton.mp hx]; exact ⟨Nat.le_refl _, hlt⟩⟩
    writes := ⟨ws, hws, fun x hx => ⟨(hw x hx).1, by rw [(hw x hx).2]; exact hlt⟩⟩ }

theorem Run.adv {v : Variant} {l l2 : Loc} {b : Byte} {xs : List Byte} {k : Nat} {out : List Byte} {lf : Loc}
    (ha : Adv v l b xs l2) (hb : l.store.drop l.r = b :: l.store.drop (l.r + 1)) (hz : b ≠ 0)
    (h : Run v l2 k out lf) : Run v l (k + 1) (xs ++ out) lf := by
  have hr2 := ha.r
  have hr : lf.r = l.r + (k + 1) := by rw [h.r, hr2]; omega
  have hlt : l.r < l.store.length := by
    have := congrArg List.length hb; simp only [List.length_drop, List.length_cons] at this; omega
  have hw : l.w ≤ l2.w := by have := ha.done; have := ha.mlen; simp only [Loc.w]; omega
  have hu2 : l2.store.drop lf.r = l.store.drop lf.r := drop_ge_of_drop ha.unread (by omega)
  obtain ⟨rs, hrs, hp, hrb⟩ := h.reads
  obtain ⟨ws, hws, hwb⟩ := h.writes
  obtain ⟨ws1, hws1, hwb1⟩ := ha.writes
  exact {
    r := hr, done := h.done.trans ha.done
    mlen := by rw [h.mlen, ha.mlen, List.length_append, Nat.add_assoc]
    len := h.len.trans ha.len
    unread := h.unread.trans hu2
    acc := by rw [h.acc, ha.acc, List.append_assoc]
    low := (take_of_take h.low hw).trans ha.low
    nz := fun i h1 h2 => by
      by_cases hi : i = l.r
      · have := congrArg (fun x => x[0]?) hb
        simp only [List.getElem?_drop, Nat.add_zero, List.getElem?_cons_zero] at this
        rw [hi, this]; simpa using hz
      · have := h.nz i (by omega) h2
        rwa [getElem?_of_drop_eq ha.unread i (by omega)] at this
    mach := fun more => by
      rw [hb, List.cons_append, ha.mach, ← ha.unread, ← hr2, h.mach, MRes.pre_pre, hu2]
    code_pos := fun hc => h.code_pos (ha.code_pos hc)
    code_lt := fun hc => h.code_lt (ha.code_lt hc)
    pos_lt := fun hc hp => h.pos_lt (ha.code_lt hc) (ha.pos_lt hc hp)
    slack := fun hs => h.slack (ha.slack hs)
    reads := by
      rw [ha.len] at hrb
      rcases ha.reads with e | e
      · exact ⟨rs, by rw [hrs, e], hp, fun x hx => ⟨by have := (hrb x hx).1; omega, (hrb x hx).2⟩⟩
      · refine ⟨l.r :: rs, by rw [hrs, e]; simp, List.pairwise_cons.mpr ⟨fun x hx => by have := (hrb x hx).1; omega, hp⟩, fun x hx => ?_⟩
        rcases List.mem_cons.mp hx with rfl | hx
        · exact ⟨Nat.le_refl _, hlt⟩
        · exact ⟨by have := (hrb x hx).1; omega, (hrb x hx).2⟩
    writes := ⟨ws1 ++ ws, by rw [hws, hws1, List.append_assoc], fun x hx => by
      rcases List.mem_append.mp hx with hx | hx
      · exact ⟨(hwb1 x hx).1, by rw [(hwb1 x hx).2]; exact hlt⟩
      · rw [← ha.len]; exact hwb x hx⟩ }

theorem Run.refl (v : Variant) (l : Loc) : Run v l 0 [] l :=
  { r := rfl, done := rfl, mlen := rfl, len := rfl, unread := rfl, acc := (List.append_nil _).symm, low := rfl
    nz := fun i h1 h2 => by have : l.r + 0 = l.r := rfl; omega
    mach := fun more => (MRes.pre_nil _).symm
    code_pos := id, code_lt := id, pos_lt := fun _ h => h, slack := id
    reads := ⟨[], (List.append_nil _).symm, List.Pairwise.nil, fun x hx => nomatch hx⟩
    writes := ⟨[], (List.append_nil _).symm, fun x hx => nomatch hx⟩ }

/-- the ways the loop stops at `l` without delivering, by return value -/
inductive Stop (v : Variant) (peek : Bool) (l : Loc) : DecRet → Prop
  | out : l.r = l.store.length → Stop v peek l (.val 0)
  | zeroIn : l.pos < lenData v l.code → l.store[l.r]? = some 0 → Stop v peek l (.err .MissingData)
  | full : l.pos < lenData v l.code → l.r < l.store.length → l.proc = 0 → Stop v peek l (.val 0)
  | peeked : ¬ l.pos < lenData v l.code → l.r < l.store.length → peek = true → Stop v peek l (.val 0)
  | noRoom : ¬ l.pos < lenData v l.code → l.r < l.store.length → peek = false → l.proc = 0 → Stop v peek l (.err .MissingBuffer)

theorem Stop.ne_one {v : Variant} {peek : Bool} {l : Loc} {ret : DecRet} (h : Stop v peek l ret) :
    ret ≠ .val 1 ∧ ret ≠ .oob ∧ ret ≠ .clobber := by
  cases h <;> simp

theorem Stop.le {v : Variant} {peek : Bool} {l : Loc} {ret : DecRet} (h : Stop v peek l ret) : l.r ≤ l.store.length := by
  cases h with
  | out h => exact Nat.le_of_eq h
  | zeroIn _ hz => exact Nat.le_of_lt (List.getElem?_eq_some_iff.mp hz).1
  | full _ h | peeked _ h | noRoom _ h => exact Nat.le_of_lt h

theorem Stop.md {v : Variant} {peek : Bool} {l : Loc} (h : Stop v peek l (.err .MissingData)) :
    l.pos < lenData v l.code ∧ l.store[l.r]? = some 0 := by
  cases h with
  | zeroIn hd hz => exact ⟨hd, hz⟩

/-- the block loop from `l` came out with `o`: a run over non-zero bytes, then a stop that saves the loop variables,
    or the delivery behind a delimiter; a request for work area means the work area was short -/
def Ran (v : Variant) (st : DecState) (peek : Bool) (l : Loc) (o : DecOut) : Prop :=
  ∃ k out lf, Run v l k out lf ∧
    ((∃ ret, Stop v peek lf ret ∧ (ret = .err .MissingBuffer → l.proc ≤ k + 1) ∧ o = lf.save st ret) ∨
     (peek = false ∧ l.store[lf.r]? = some 0 ∧ (∀ more, mach v l.code l.pos (l.store.drop l.r ++ more) = .done out) ∧
      o = { ret := .val 1, st := { st with ctx := 0, pos := lf.done, len := lf.mlen, msg := some lf.mlen, curr := lf.r + 1 },
            store := lf.store, reads := lf.reads, writes := lf.writes }))

theorem Ran.adv {v : Variant} {st : DecState} {peek : Bool} {l l2 : Loc} {b : Byte} {xs : List Byte} {o : DecOut}
    (ha : Adv v l b xs l2) (hinp : l.store.drop l.r = b :: l.store.drop (l.r + 1)) (hz : b ≠ 0) (h : Ran v st peek l2 o) :
    Ran v st peek l o := by
  obtain ⟨k, out, lf, hrun, hfin⟩ := h
  refine ⟨k + 1, xs ++ out, lf, Run.adv ha hinp hz hrun, ?_⟩
  rcases hfin with ⟨ret, hstop, hp, e⟩ | ⟨hpk, h0, hm, e⟩
  · exact Or.inl ⟨ret, hstop, fun h => by have := ha.proc; have := hp h; omega, e⟩
  · refine Or.inr ⟨hpk, ?_, fun more => ?_, e⟩
    · rw [← h0]; exact (getElem?_of_drop_eq ha.unread _ (by rw [hrun.r, ha.r]; omega)).symm
    · rw [hinp, List.cons_append, ha.mach, ← ha.unread, ← ha.r, hm]; rfl

/-- the block loop in one piece: by induction on the unread bytes, one case per exit of the loop body -/
theorem decLoop_run (v : Variant) (st : DecState) (peek : Bool) (n : Nat) : ∀ (l : Loc), l.r + n = l.store.length →
    Ran v st peek l (decLoop v st peek n l) := by
  induction n with
  | zero => intro l hn; exact ⟨0, [], l, Run.refl v l, Or.inl ⟨_, .out hn, fun h => (nomatch h), rfl⟩⟩
  | succ n ih =>
    intro l hn
    have hlt : l.r < l.store.length := by omega
    have hb : l.store[l.r]? = some l.store[l.r] := by simp [hlt]
    have hinp : l.store.drop l.r = l.store[l.r] :: l.store.drop (l.r + 1) := List.drop_eq_getElem_cons hlt
    generalize l.store[l.r] = b at hb hinp
    have hrd := Stay.load v l b
    by_cases hd : l.pos < lenData v l.code
    · by_cases hz : b = 0
      · exact ⟨0, _, _, Run.ofStay hrd hinp, Or.inl ⟨_, .zeroIn hd (hb.trans (by rw [hz])), fun h => (nomatch h),
          by rw [decLoop]; simp only [hd, if_true, hb, hz]⟩⟩
      by_cases hp : l.proc = 0
      · exact ⟨0, _, _, Run.ofStay hrd hinp, Or.inl ⟨_, .full hd hlt hp, fun h => (nomatch h),
          by rw [decLoop]; simp only [hd, if_true, hb, hz, if_false]; rw [if_pos hp]⟩⟩
      · rw [decLoop]; simp only [hd, if_true, hb, hz, if_false]
        rw [if_neg hp, Loc.put_some { l with reads := l.reads ++ [l.r] } (l.r + 1) b (by simp only [Loc.w, Loc.r]; omega)
          (by simp only; omega)]
        have ha := Adv.data (v := v) hlt hd hz
        exact Ran.adv ha hinp hz (ih (l.data b) (by rw [ha.r, ha.len]; omega))
    · cases peek
      case true =>
        exact ⟨0, _, _, Run.refl v l, Or.inl ⟨_, .peeked hd hlt rfl, fun h => (nomatch h),
          by rw [decLoop]; simp only [hd, if_false, if_true]⟩⟩
      -- the zero loop starts from the stay that only recorded the load of `b` (`hrd`: no zero stored yet, `i = 0`) and
      -- ends in a stay with `j` zeros stored; `q` below is what `putZeros` returns, taken apart once
      obtain ⟨j, hs, g1, g2⟩ := putZeros_stay hlt hd (lenData v l.code + lenZero v l.code b.toNat - l.pos) 0 _ hrd (by omega)
      rw [Nat.zero_add] at hs
      have hk := lenZero_le v l.code b.toNat
      have hproc := hs.proc
      have hrun := Run.ofStay hs hinp
      rw [decLoop]; simp only [hd, Bool.false_eq_true, if_false, hb]
      generalize putZeros (lenData v l.code + lenZero v l.code b.toNat - l.pos) { l with reads := l.reads ++ [l.r] } (l.r + 1) = q
        at hs g1 g2 hrun hproc ⊢
      obtain ⟨l', ok⟩ := q
      cases ok
      · obtain ⟨hj, hp0⟩ := g2 rfl
        have hr := hs.r
        exact ⟨0, _, l', hrun, Or.inl ⟨_, .noRoom (by rw [hs.pos, hs.code]; omega) (by rw [hr, hs.len]; exact hlt) rfl hp0,
          fun _ => by omega, rfl⟩⟩
      · obtain rfl := g1 rfl
        by_cases hz : b = 0
        · subst hz
          refine ⟨0, _, l', hrun, Or.inr ⟨rfl, by rw [hs.r]; exact hb, fun more => ?_, ?_⟩⟩
          · rw [hinp]; simp [mach, hd]
          · simp only [if_true]; rfl
        · have ha := Adv.next hd hz hs
          simp only [hz, if_false]
          exact Ran.adv ha hinp hz (ih (l'.next b) (by rw [ha.r, ha.len]; omega))

theorem Ran.ne_one {v : Variant} {st : DecState} {l : Loc} {o : DecOut} (h : Ran v st true l o) : o.ret ≠ .val 1 := by
  obtain ⟨k, out, lf, hrun, ⟨ret, hs, _, e⟩ | ⟨hpk, _⟩⟩ := h
  · rw [e]; exact hs.ne_one.1
  · cases hpk

end Mpt.Codec
