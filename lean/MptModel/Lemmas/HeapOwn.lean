/-
  The buffer-level functions on a buffer its handle owns (C04): `mpt_buffer_set`, `mpt_buffer_cut`,
  `mpt_buffer_insert` with the caller's copy, a plain copy into the buffer and the write of `mpt_array_append`, each
  specified in its own state by the vector operation it implements (`Sem`).  For the three library functions sizes and
  alignment are no hypotheses (a refusal changes nothing); the plain copies (`Own.write`, `Own.append`,
  `Own.appendAt_sem`) ask that the bytes fit, as their callers have made sure.
-/
import MptModel.Lemmas.HeapPlain
import MptModel.Lemmas.HeapSem
namespace Mpt.Heap

/-- bytes copied into an owned buffer at or in front of the end of its content (`memcpy`, then `_used` is raised) -/
theorem Own.write {s : State} {h nb : Nat} {z : Buf} (inv : Inv s) (o : Own s h nb z) (p : Nat) (bytes : List Byte)
    (hp : p ≤ z.used) (fit : p + bytes.length ≤ z.size) (al : max z.used (p + bytes.length) % esize z.traits = 0) :
    Kept s h (setUsed s nb z (Mem.write z.data p bytes) (max z.used (p + bytes.length))) ∧
    (setUsed s nb z (Mem.write z.data p bytes) (max z.used (p + bytes.length))).abs h = Vec.write (s.abs h) p bytes ∧
    ∃ z', Own (setUsed s nb z (Mem.write z.data p bytes) (max z.used (p + bytes.length))) h nb z' ∧ z'.size = z.size ∧
      z'.traits = z.traits := by
  have zu := inv.used nb z o.hb
  have e : ({ z with data := Mem.write z.data p bytes, used := max z.used (p + bytes.length) } : Buf) = setPlain z p bytes := by
    rw [setPlain, Nat.sub_eq_zero_of_le hp]; simp only [zeros, List.replicate_zero, Mem.write_nil]
  have sc := setPlain_content z p bytes zu fit
  rw [setUsed, e]
  obtain ⟨inv', o', ab, oth, len⟩ := o.update inv (setPlain z p bytes) o.ref rfl sc.2 (inv.plain nb z o.hb) al
  refine ⟨⟨inv', len, oth⟩, by rw [ab, sc.1, State.abs_of o.hh o.hb], _, o', ?_, rfl⟩
  rw [← e]; simp only [Buf.size] at fit ⊢; exact Mem.write_length _ _ _ fit

theorem Own.append {s : State} {h nb : Nat} {z : Buf} (inv : Inv s) (o : Own s h nb z) (bytes : List Byte)
    (fit : z.used + bytes.length ≤ z.size) (al : bytes.length % esize z.traits = 0) :
    Kept s h (setUsed s nb z (Mem.write z.data z.used bytes) (z.used + bytes.length)) ∧
    (setUsed s nb z (Mem.write z.data z.used bytes) (z.used + bytes.length)).abs h = s.abs h ++ bytes := by
  obtain ⟨st, ab, _⟩ := o.write inv z.used bytes (Nat.le_refl _) fit
    (by rw [Nat.max_eq_right (Nat.le_add_right _ _)]; exact add_mod_zero (inv.aligned nb z o.hb) al)
  rw [Nat.max_eq_right (Nat.le_add_right _ _)] at st ab
  refine ⟨st, ?_⟩
  have cl : (s.abs h).length = z.used := by rw [State.abs_of o.hh o.hb, content_length z (inv.used nb z o.hb)]
  rw [ab, ← cl, vec_write_end]

theorem Own.bufferSet_sem {s : State} {h nb : Nat} {z : Buf} (inv : Inv s) (o : Own s h nb z) (pos : Nat) (bytes : List Byte)
    (hasSrc : Bool) : Sem s h (fun v v' => v' = Vec.write v pos bytes) (bufferSet s nb z.traits pos bytes hasSrc) := by
  have zu := inv.used nb z o.hb
  have zp := inv.plain nb z o.hb
  have za := inv.aligned nb z o.hb
  rw [bufferSet_plain o.hb zp za]
  split
  · exact Sem.fail_same inv _ _ _
  split
  · exact Sem.fail_same inv _ _ _
  rename_i fit c
  simp only [not_or, Decidable.not_not] at c
  have sc := setPlain_content z pos bytes zu (by omega)
  exact (o.sem_update inv (setPlain z pos bytes) o.ref rfl sc.2 zp (max_mod_zero za (add_mod_zero c.1 c.2)) sc.1 _).1

theorem Own.bufferCut_sem {s : State} {h nb : Nat} {z : Buf} (inv : Inv s) (o : Own s h nb z) (off len : Nat) :
    Sem s h (fun v v' => Vec.cut v off len = some v') (bufferCut s nb off len) := by
  have zu := inv.used nb z o.hb
  have zp := inv.plain nb z o.hb
  have za := inv.aligned nb z o.hb
  rw [bufferCut_plain o.hb zp]
  generalize hl : (if len = 0 then z.used - off else len) = len'
  -- the four refusals of `mpt_buffer_cut`, then the cut itself
  repeat' split
  iterate 4 exact Sem.fail_same inv _ _ _
  rename_i c1 c2 c3 c4
  simp only [not_or, Decidable.not_not, not_and, Nat.not_lt] at c1 c2 c3 c4
  have fit : off + len' ≤ z.used := by
    by_cases l0 : len = 0
    · rw [if_pos l0] at hl; have := c2 l0; omega
    · rw [if_neg l0] at hl; omega
  have cc := cutPlain_content z off len' zu fit
  refine (o.sem_update inv (cutPlain z off len') o.ref rfl cc.2.1 zp (by rw [cc.2.2]; exact sub_mod_zero za c4.2) ?_ _).1
  rw [cc.1, Vec.cut, content_length z zu, ← hl]
  by_cases l0 : len = 0
  · have : off + (z.used - off) = z.content.length := by
      rw [content_length z zu]; have := c2 l0; omega
    rw [if_pos l0, if_pos l0, if_pos (c2 l0), this, List.drop_length, List.append_nil]
  · rw [if_neg l0, if_neg l0, if_pos (by rw [← hl, if_neg l0] at fit; exact fit)]

/-- the caller's copy into the region `mpt_buffer_insert` has made -/
theorem Own.poke_insPlain {s : State} {h nb : Nat} {z : Buf} (o : Own s h nb z) (zu : z.used ≤ z.size) (pos len : Nat)
    (bytes : List Byte) (hl : bytes.length = len) (fit : max z.used pos + len ≤ z.size) :
    poke (s.setBuf nb (insPlain z pos len)) h pos bytes =
      .ok (s.setBuf nb { insPlain z pos len with data := Mem.write (insPlain z pos len).data pos bytes }) () := by
  subst hl
  rw [poke_eq (s := s.setBuf nb (insPlain z pos bytes.length)) o.hh
    (State.buf?_setBuf_self _ _ _ (State.buf?_lt o.hb)) pos bytes
    (by simp only [Buf.size] at fit ⊢; rw [(insPlain_poke_content z pos bytes zu fit).2]; omega), State.setBuf_setBuf]

/-- `mpt_buffer_insert` and the caller's copy: refused by the test of `insRefused`, or both succeed, the bytes are
    inserted and the handle still owns the buffer.  `Sem` is given for any returned value `v`: `insertOp`, `arraySlice` and
    `uInsert` return different ones after the same two calls -/
theorem Own.insert_cases {s : State} {h nb : Nat} {z : Buf} (inv : Inv s) (o : Own s h nb z) (pos len : Nat)
    (bytes : List Byte) (hl : bytes.length = len) :
    (insRefused z pos len ∧ bufferInsert s nb pos len = .fail s .null) ∨
    ∃ s3, bufferInsert s nb pos len = .ok (s.setBuf nb (insPlain z pos len)) pos ∧
      poke (s.setBuf nb (insPlain z pos len)) h pos bytes = .ok s3 () ∧
      (∀ {α : Type} (v : α), Sem s h (fun v v' => v' = Vec.insert v pos bytes) (.ok s3 v)) ∧
      ∃ z', Own s3 h nb z' ∧ z'.size = z.size ∧ z'.traits = z.traits := by
  subst hl
  have zu := inv.used nb z o.hb
  have zp := inv.plain nb z o.hb
  have za := inv.aligned nb z o.hb
  rw [bufferInsert_plain o.hb zp za]
  by_cases c : insRefused z pos bytes.length
  · exact Or.inl ⟨c, if_pos c⟩
  · have c' := c
    simp only [insRefused, not_or, Decidable.not_not, Nat.not_lt] at c'
    have ipc := insPlain_poke_content z pos bytes zu c'.1
    have wl : (Mem.write (insPlain z pos bytes.length).data pos bytes).length = z.data.length := by
      rw [Mem.write_length _ _ _ (by rw [ipc.2]; have := c'.1; simp only [Buf.size] at this; omega), ipc.2]
    have up := fun {α : Type} (v : α) => o.sem_update (R := fun v v' => v' = Vec.insert v pos bytes) inv
      { insPlain z pos bytes.length with data := Mem.write (insPlain z pos bytes.length).data pos bytes } o.ref rfl
      (by have := c'.1; simp only [Buf.size, wl] at this ⊢; exact this) zp (add_mod_zero (max_mod_zero za c'.2.2.1) c'.2.2.2)
      ipc.1 v
    exact Or.inr ⟨_, if_neg c, o.poke_insPlain zu pos _ bytes rfl c'.1, fun v => (up v).1, _, (up ()).2, wl, rfl⟩

theorem Own.appendAt_sem {s : State} {h nb : Nat} {z : Buf} (inv : Inv s) (o : Own s h nb z) (bytes : List Byte)
    (fit : z.used + bytes.length ≤ z.size) (raw : z.traits = none) :
    Sem s h (fun v v' => v' = Vec.append v bytes) (appendAt s nb z.used bytes) := by
  unfold appendAt
  split
  · rename_i l0
    exact (Kept.refl inv h).sem_ok (by rw [List.eq_nil_of_length_eq_zero l0]; simp [Vec.append]) _
  · rw [o.hb]
    simp only
    rw [if_neg (Nat.not_lt.mpr fit)]
    obtain ⟨st, ab⟩ := o.append inv bytes fit (by rw [raw]; exact Nat.mod_one _)
    exact st.sem_ok ab _

/-- `mpt_buffer_insert` on an owned buffer and the caller's copy, in the shape of `insertOp` -/
theorem Own.insert_sem {s : State} {h nb : Nat} {z : Buf} (inv : Inv s) (o : Own s h nb z) (pos : Nat) (bytes : List Byte) :
    Sem s h (fun v v' => v' = Vec.insert v pos bytes)
      (match bufferInsert s nb pos bytes.length with
       | .ok s2 p =>
         (match poke s2 h p bytes with
          | .ok s3 _ => .ok s3 p
          | .fail s3 e => .fail s3 e
          | .fault w => .fault w)
       | .fail s2 e => .fail s2 e
       | .fault w => .fault w) := by
  rcases o.insert_cases inv pos _ bytes rfl with ⟨_, hbi⟩ | ⟨s3, hbi, hpk, sem, _⟩
  · rw [hbi]; exact Sem.fail_same inv _ _ _
  · rw [hbi]; simp only; rw [hpk]; exact sem _

end Mpt.Heap
