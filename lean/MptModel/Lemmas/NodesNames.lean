/-
  The name search loops of node_locate.c on a realised sibling list: facts about the index lists of namesakes
  (`midx`) first, then the link-following loops of the model (`locate_real`).  With both lookups at hand
  (`getnode_real`): the model's `node_insert` places the node where `insAt` says (`add_look_refines`), which by name
  is `nameIdx` (`insAt_name`); hence mpt_gnode_add / mpt_node_add and mpt_gnode_insert / mpt_node_insert in the terms of
  the specification (`add_at_refines`, `insert_at_refines`).
-/
import MptModel.Lemmas.NodesInsert
import MptModel.Lemmas.NodesPlace
import MptModel.Lemmas.ListFacts
namespace Mpt.Nodes
open Mpt Mpt.Forest

theorem midx_append (key : Name) : ∀ (a b : List Name) (k : Nat),
    midx key (a ++ b) k = midx key a k ++ midx key b (k + a.length)
  | [], b, k => by simp [midx]
  | n :: a, b, k => by
    simp only [List.cons_append, midx, List.length_cons]
    rw [midx_append key a b (k + 1)]
    have : k + 1 + a.length = k + (a.length + 1) := by omega
    split <;> simp [this]

theorem mem_midx (key : Name) : ∀ (ns : List Name) (b x : Nat), x ∈ midx key ns b ↔ b ≤ x ∧ ns[x - b]? = some key
  | [], b, x => by simp [midx]
  | n :: ns, b, x => by
    -- behind the head the index shifts by one
    have hs : b + 1 ≤ x → (n :: ns)[x - b]? = ns[x - (b + 1)]? := fun h => by
      rw [show x - b = (x - (b + 1)) + 1 by omega, List.getElem?_cons_succ]
    have ih := mem_midx key ns (b + 1) x
    by_cases hx : x = b
    · subst hx
      have : x ∉ midx key ns (x + 1) := fun h => by have := (ih.1 h).1; omega
      by_cases hn : n = key <;> simp [midx, hn, this]
    · have : x ∈ midx key (n :: ns) b ↔ x ∈ midx key ns (b + 1) := by
        simp only [midx]; split <;> simp [hx]
      rw [this, ih]
      constructor
      · rintro ⟨h1, h2⟩; exact ⟨by omega, by rw [hs h1]; exact h2⟩
      · rintro ⟨h1, h2⟩; exact ⟨by omega, by rw [← hs (by omega)]; exact h2⟩

theorem midx_ge (key : Name) (ns : List Name) (b : Nat) : ∀ x ∈ midx key ns b, b ≤ x :=
  fun x hx => ((mem_midx key ns b x).1 hx).1

theorem midx_drop (key : Name) : ∀ (ns : List Name) (b j : Nat),
    (midx key ns b).filter (fun x => decide (b + j ≤ x)) = midx key (ns.drop j) (b + j)
  | ns, b, 0 => by
    simp only [Nat.add_zero, List.drop_zero]
    apply List.filter_eq_self.2
    intro x hx
    simpa using midx_ge key ns b x hx
  | [], b, j + 1 => by simp [midx]
  | n :: ns, b, j + 1 => by
    simp only [midx, List.drop_succ_cons]
    have ih := midx_drop key ns (b + 1) j
    have hb : b + 1 + j = b + (j + 1) := by omega
    rw [hb] at ih
    by_cases hn : n = key
    · simp only [hn, ↓reduceIte, List.filter_cons]
      have : ¬ (b + (j + 1) ≤ b) := by omega
      simp only [this, decide_false, Bool.false_eq_true, ↓reduceIte]
      exact ih
    · simp only [hn, ↓reduceIte]
      exact ih

theorem midx_take (key : Name) : ∀ (ns : List Name) (b i : Nat),
    (midx key ns b).filter (fun x => decide (x < b + i)) = midx key (ns.take i) b
  | ns, b, 0 => by
    simp only [Nat.add_zero, List.take_zero, midx]
    apply List.filter_eq_nil_iff.2
    intro x hx
    have := midx_ge key ns b x hx
    simp; omega
  | [], b, i + 1 => by simp [midx]
  | n :: ns, b, i + 1 => by
    simp only [midx, List.take_succ_cons]
    have ih := midx_take key ns (b + 1) i
    have hb : b + 1 + i = b + (i + 1) := by omega
    rw [hb] at ih
    by_cases hn : n = key
    · simp only [hn, ↓reduceIte, List.filter_cons]
      have : b < b + (i + 1) := by omega
      simp only [this, decide_true, ↓reduceIte]
      rw [ih]
    · simp only [hn, ↓reduceIte]
      exact ih

/-- forward name search of node_locate.c from the `j`-th element: the `k`-th namesake from there on -/
theorem locFwd_real {s : Store} {L : Forest} {par prev : Option Nat} (key : Name) (hL : Real s par prev L) :
    ∀ (fuel j k : Nat) (t : Tree), L[j]? = some t → L.length - j ≤ fuel →
    s.locFwd key fuel k t.id =
      .ok (((midx key ((L.drop j).map Tree.name) j)[k - 1]?).bind fun i => (L[i]?).map Tree.id)
  | 0, j, k, t, h, hf => by
    have := (List.getElem?_eq_some_iff.1 h).1
    omega
  | f + 1, j, k, t, h, hf => by
    have hrec := Real.rec_idx hL h
    -- the search from the successor on
    have hnext : ∀ k', (match headId (L.drop (j + 1)) with
        | none => (pure none : Res (Option Nat))
        | some j' => s.locFwd key f k' j') =
        .ok (((midx key ((L.drop (j + 1)).map Tree.name) (j + 1))[k' - 1]?).bind fun i => (L[i]?).map Tree.id) := by
      intro k'
      rw [headId_drop]
      cases hn : L[j + 1]? with
      | none =>
        have : L.drop (j + 1) = [] := List.drop_eq_nil_of_le (by have := List.getElem?_eq_none_iff.1 hn; omega)
        simp [this, midx]
      | some t' => exact locFwd_real key hL f (j + 1) k' t' hn (by omega)
    rw [drop_eq_cons_of_getElem? h]
    simp only [Store.locFwd, Store.get_ok ⟨hrec, rfl⟩, Res.bind_ok, List.map_cons, midx]
    by_cases hn : t.name = key
    · by_cases hk : k ≤ 1
      · simp [hn, hk, show k - 1 = 0 by omega, h]
      · obtain ⟨k2, rfl⟩ : ∃ k2, k = k2 + 2 := ⟨k - 2, by omega⟩
        simp only [hn, hk, and_false, ↓reduceIte]
        exact (hnext (k2 + 2 - 1)).trans (by simp)
    · simp only [hn, false_and, ↓reduceIte]
      exact hnext k

/-- backward name search of node_locate.c from the `j`-th element of a list without predecessor: the `k`-th namesake
    in front of it, counted backwards -/
theorem locBack_real {s : Store} {L : Forest} {par : Option Nat} (key : Name) (hL : Real s par none L) :
    ∀ (fuel j k : Nat) (t : Tree), L[j]? = some t → j + 1 ≤ fuel →
    s.locBack key fuel k t.id =
      .ok ((((midx key ((L.take j).map Tree.name) 0).reverse)[k - 1]?).bind fun i => (L[i]?).map Tree.id)
  | 0, j, k, t, h, hf => by omega
  | f + 1, j, k, t, h, hf => by
    have hrec := Real.rec_idx hL h
    simp only [Store.locBack, Store.get_ok ⟨hrec, rfl⟩, Res.bind_ok, recOf]
    rw [prevAt_none_eq]
    cases j with
    | zero => simp [midx]
    | succ j' =>
      have hlt := (List.getElem?_eq_some_iff.1 h).1
      obtain ⟨t', ht'⟩ : ∃ t', L[j']? = some t' := ⟨L[j'], List.getElem?_eq_getElem (by omega)⟩
      have hrec' := Real.rec_idx hL ht'
      simp only [Nat.add_one_ne_zero, ↓reduceIte, Nat.add_sub_cancel, ht', Option.map_some,
        Store.get_ok ⟨hrec', rfl⟩, Res.bind_ok]
      -- the names in front of `j' + 1` end with the name of `t'`, at index `j'`
      have hmid : (midx key ((L.take (j' + 1)).map Tree.name) 0).reverse =
          (if t'.name = key then [j'] else []) ++ (midx key ((L.take j').map Tree.name) 0).reverse := by
        rw [List.take_add_one, ht']
        simp only [Option.toList_some, List.map_append, List.map_cons, List.map_nil, midx_append, Nat.zero_add,
          List.length_map, List.length_take, Nat.min_eq_left (Nat.le_of_lt (Nat.lt_of_succ_lt hlt)), List.reverse_append, midx]
        split <;> rfl
      rw [hmid]
      by_cases hn : t'.name = key
      · by_cases hk : k ≤ 1
        · simp [hn, hk, show k - 1 = 0 by omega, ht']
        · obtain ⟨k2, rfl⟩ : ∃ k2, k = k2 + 2 := ⟨k - 2, by omega⟩
          simp only [hn, hk, ↓reduceIte]
          exact (locBack_real key hL f j' (k2 + 2 - 1) t' ht' (by omega)).trans (by simp)
      · simp only [hn, ↓reduceIte, List.nil_append]
        exact locBack_real key hL f j' k t' ht' (by omega)


theorem midx_head_drop (key : Name) : ∀ (ns : List Name) (b a0 : Nat), (midx key ns b).head? = some a0 →
    midx key (ns.drop (a0 - b)) a0 = midx key ns b
  | [], b, a0, h => by simp [midx] at h
  | n :: ns, b, a0, h => by
    simp only [midx] at h ⊢
    by_cases hn : n = key
    · simp only [hn, ↓reduceIte, List.head?_cons, Option.some.injEq] at h
      subst h
      simp [midx, hn]
    · simp only [hn, ↓reduceIte] at h ⊢
      have hge : b + 1 ≤ a0 := midx_ge key ns (b + 1) a0 (List.mem_of_mem_head? h)
      have := midx_head_drop key ns (b + 1) a0 h
      have h2 : a0 - b = (a0 - (b + 1)) + 1 := by omega
      rw [h2, List.drop_succ_cons]
      exact this

theorem midx_last_take (key : Name) (ns : List Name) (b aL : Nat) (h : (midx key ns b).getLast? = some aL) :
    midx key ns b = midx key (ns.take (aL - b)) b ++ [aL] := by
  have hmem : aL ∈ midx key ns b := List.mem_of_getLast? h
  obtain ⟨hge, hat⟩ := (mem_midx key ns b aL).1 hmem
  have hsplit : ns = ns.take (aL - b) ++ ns.drop (aL - b) := (List.take_append_drop _ _).symm
  have hlt : aL - b < ns.length := (List.getElem?_eq_some_iff.1 hat).1
  have hdrop := drop_eq_cons_of_getElem? hat
  have hlen : (ns.take (aL - b)).length = aL - b := by simp; omega
  have hall : midx key ns b = midx key (ns.take (aL - b)) b ++ (aL :: midx key (ns.drop (aL - b + 1)) (aL + 1)) := by
    conv => lhs; rw [hsplit]
    rw [midx_append, hlen, hdrop]
    have : b + (aL - b) = aL := by omega
    simp [midx, this]
  cases hrest : midx key (ns.drop (aL - b + 1)) (aL + 1) with
  | nil => rw [hall, hrest]
  | cons y ys =>
    exfalso
    rw [hall, hrest] at h
    have hl : ((midx key (ns.take (aL - b)) b ++ aL :: y :: ys)).getLast? = (y :: ys).getLast? := by
      rw [List.getLast?_append, List.getLast?_cons_cons]
      cases hq : (y :: ys).getLast? with
      | none => simp at hq
      | some z => simp
    rw [hl] at h
    have hm : aL ∈ midx key (ns.drop (aL - b + 1)) (aL + 1) := by rw [hrest]; exact List.mem_of_getLast? h
    have := midx_ge key _ _ aL hm
    omega

/-- `pos = 0` of node_locate: the last element if it matches, else the nearest match before it -/
theorem last_match_eq (key : Name) (ns : List Name) (hne : ns ≠ []) :
    (if ns[ns.length - 1]? = some key then some (ns.length - 1)
      else ((midx key (ns.take (ns.length - 1)) 0).reverse)[0]?) =
      (midx key ns 0).getLast? := by
  have hlt : ns.length - 1 < ns.length := by
    cases ns with
    | nil => exact absurd rfl hne
    | cons a as => simp
  have hsplit : ns = ns.take (ns.length - 1) ++ [ns[ns.length - 1]] := by
    conv => lhs; rw [← List.take_append_drop (ns.length - 1) ns]
    rw [List.drop_eq_getElem_cons hlt]
    have : ns.length - 1 + 1 = ns.length := by omega
    simp [this]
  have hall : midx key ns 0 = midx key (ns.take (ns.length - 1)) 0 ++ midx key [ns[ns.length - 1]] (ns.length - 1) := by
    conv => lhs; rw [hsplit]
    rw [midx_append]
    simp
  rw [hall]
  by_cases hk : ns[ns.length - 1] = key
  · have : ns[ns.length - 1]? = some key := by rw [List.getElem?_eq_getElem hlt, hk]
    simp [this, midx, hk]
  · have : ¬ (ns[ns.length - 1]? = some key) := by rw [List.getElem?_eq_getElem hlt]; simpa using hk
    simp only [this, ↓reduceIte, midx, hk, List.append_nil]
    rw [← List.head?_eq_getElem?, List.head?_reverse]


theorem namesakes_from (L : Forest) (key : Name) (f : Nat) :
    (namesakes L key).filter (· ≥ f) = midx key ((L.drop f).map Tree.name) f := by
  have := midx_drop key (L.map Tree.name) 0 f
  simp only [Nat.zero_add] at this
  simp only [namesakes, ge_iff_le, List.map_drop]
  exact this

theorem namesakes_before (L : Forest) (key : Name) (f : Nat) :
    (namesakes L key).filter (· < f) = midx key ((L.take f).map Tree.name) 0 := by
  have := midx_take key (L.map Tree.name) 0 f
  simp only [Nat.zero_add] at this
  simp only [namesakes, List.map_take]
  exact this

theorem locate_real {s : Store} {L : Forest} {par : Option Nat} {f : Nat} {tf : Tree} (key : Name) (pos : Int)
    (hL : Real s par none L) (hf : L[f]? = some tf) (hfuel : L.length ≤ s.fuel) :
    s.locate (some tf.id) pos key = .ok ((locIdx L f key pos).bind fun i => (L[i]?).map Tree.id) := by
  have hflt := (List.getElem?_eq_some_iff.1 hf).1
  have hne : L ≠ [] := by intro h; simp [h] at hflt
  by_cases h0 : pos = 0
  · subst h0
    obtain ⟨tl, htl⟩ := getElem?_last hne
    have hlast : s.lastOf s.fuel tf.id = .ok tl.id := by
      rw [lastOf_real hL s.fuel f tf hf (by omega), htl]; rfl
    have hrec := Real.rec_idx hL htl
    simp only [Store.locate, ↓reduceIte, hlast, Res.bind_ok, Store.get_ok ⟨hrec, rfl⟩, recOf]
    have hnn : (L.map Tree.name) ≠ [] := by simpa using hne
    have hlm := last_match_eq key (L.map Tree.name) hnn
    simp only [List.length_map, List.getElem?_map, htl, Option.map_some, Option.some.injEq] at hlm
    simp only [locIdx, Int.lt_irrefl, ↓reduceIte, namesakes]
    rw [← hlm]
    by_cases hn : tl.name = key
    · simp [hn, htl]
    · simp only [hn, ↓reduceIte]
      have := locBack_real key hL s.fuel (L.length - 1) 1 tl htl (by omega)
      simpa [List.map_take] using this
  · by_cases hp : pos > 0
    · have hnl : ¬ pos < 0 := by omega
      simp only [Store.locate, h0, ↓reduceIte, hnl, locIdx, hp]
      rw [locFwd_real key hL s.fuel f pos.toNat tf hf (by omega), namesakes_from]
    · have hneg : pos < 0 := by omega
      simp only [Store.locate, h0, ↓reduceIte, hneg, locIdx, hp]
      rw [locBack_real key hL s.fuel f (-pos).toNat tf hf (by omega), namesakes_before]


theorem namesakes_from_head (L : Forest) (key : Name) (f a0 : Nat)
    (h : ((namesakes L key).filter (· ≥ f)).head? = some a0) :
    (namesakes L key).filter (· ≥ a0) = (namesakes L key).filter (· ≥ f) := by
  rw [namesakes_from] at h ⊢
  rw [namesakes_from]
  have hge : f ≤ a0 := midx_ge key _ f a0 (List.mem_of_mem_head? h)
  have := midx_head_drop key ((L.drop f).map Tree.name) f a0 h
  rw [← this, ← List.map_drop, List.drop_drop]
  have : f + (a0 - f) = a0 := by omega
  rw [this]

theorem namesakes_before_last (L : Forest) (key : Name) (aL : Nat) (h : (namesakes L key).getLast? = some aL) :
    (namesakes L key).filter (· < aL) = (namesakes L key).dropLast := by
  rw [namesakes_before]
  have := midx_last_take key (L.map Tree.name) 0 aL h
  simp only [Nat.sub_zero] at this
  simp only [namesakes]
  rw [this, List.dropLast_concat, List.map_take]

theorem reverse_dropLast_getElem? {A : List Nat} {k : Nat} (hk : 1 ≤ k) :
    (A.dropLast.reverse)[k - 1]? = if k < A.length then A[A.length - 1 - k]? else none := by
  by_cases h : k < A.length
  · simp only [h, ↓reduceIte]
    have hl : k - 1 < A.dropLast.reverse.length := by simp; omega
    rw [List.getElem?_eq_getElem hl, List.getElem_reverse]
    simp only [List.length_dropLast, List.getElem_dropLast]
    have : A.length - 1 - 1 - (k - 1) = A.length - 1 - k := by omega
    rw [List.getElem?_eq_getElem (by omega)]
    simp [this]
  · simp only [h, ↓reduceIte]
    apply List.getElem?_eq_none
    simp; omega

theorem namesakes_lt (L : Forest) (key : Name) : ∀ i ∈ namesakes L key, i < L.length := by
  intro i hi
  have := ((mem_midx key (L.map Tree.name) 0 i).1 hi).2
  have := (List.getElem?_eq_some_iff.1 this).1
  simpa using this


theorem getnode_real {s : Store} {L : Forest} {par : Option Nat} {f x : Nat} {tf : Tree} {xn : Node} {nm : Name}
    (byName : Bool) (pos : Int) (hL : Real s par none L) (hf : L[f]? = some tf) (hfuel : L.length ≤ s.fuel)
    (hx : s.Live x xn) (hn : xn.name = nm) :
    s.getnode byName x (some tf.id) pos = .ok ((lookIdx byName L nm f pos).bind fun i => (L[i]?).map Tree.id) := by
  subst hn
  cases byName with
  | false => rw [getnode_false]; simpa [lookIdx] using gnodePos_real pos hL hf hfuel
  | true =>
    simp only [Store.getnode, ↓reduceIte, Store.get_ok hx, Res.bind_ok, lookIdx]
    exact locate_real xn.name pos hL hf hfuel

theorem locIdx_lt {L : Forest} {f : Nat} {nm : Name} {pos : Int} {i : Nat} (h : locIdx L f nm pos = some i) :
    i < L.length := by
  refine namesakes_lt L nm i ?_
  simp only [locIdx] at h
  split at h
  · exact (List.mem_filter.1 (List.mem_of_getElem? h)).1
  · split at h
    · exact List.mem_of_getLast? h
    · exact (List.mem_filter.1 (List.mem_reverse.1 (List.mem_of_getElem? h))).1

theorem lookIdx_lt {byName : Bool} {L : Forest} {nm : Name} {f : Nat} {pos : Int} {i : Nat} (hf : f < L.length)
    (h : lookIdx byName L nm f pos = some i) : i < L.length := by
  cases byName with
  | false => exact posIdx_lt hf h
  | true => exact locIdx_lt h

/-- The model's `node_insert` follows `insAt`: every lookup answers as `lookIdx` says (`getnode_real`), with an index
    of the list (`lookIdx_lt`), and each way out is one `mpt_gnode_after` / `mpt_gnode_before` at a list element. -/
theorem add_look_refines {s : Store} {first x f : Nat} {n' : Name} {v' : Val} {cs' l0 L : Forest} {rest : List Forest}
    {par : Option Nat} (pos : Int) (byName : Bool)
    (hR : Realises s ([.node x n' v' cs'] :: l0 :: rest)) (hat : SibsAt first l0 L f par) :
    ∃ s', s.add first pos x byName = .ok s' ∧
      Realises s' ((insAt (lookIdx byName L n') L.length f pos).elim ([.node x n' v' cs'] :: l0 :: rest) fun k =>
        applyAt par (fun L' => L'.insertIdx k (.node x n' v' cs')) l0 :: rest) := by
  obtain ⟨hT, hl0, hnd0, -, -⟩ := hR.detached
  have hLr := hat.real hl0.2
  have hLnd := hat.nodup hnd0
  obtain ⟨tf, htf, rfl⟩ := getElem?_of_idx? hat.idx
  have hfuel := hat.length_le_fuel hR (by simp)
  have hx : s.Live x (recOf none none none cs' n' v') := ⟨hT.1, rfl⟩
  have hflt := idx?_lt hat.idx
  have hget : ∀ (j : Nat) (tj : Tree) (p : Int), L[j]? = some tj →
      s.getnode byName x (some tj.id) p = .ok ((lookIdx byName L n' j p).bind fun i => (L[i]?).map Tree.id) :=
    fun j tj p hj => getnode_real byName p hLr hj hfuel hx rfl
  -- how `node_insert` ends: `x` is linked in behind (`c`) or in front of the `t`-th element
  have hplace : ∀ (c : Prop) [Decidable c] (t : Nat), t < L.length → ∃ tt, L[t]? = some tt ∧
      ∃ s', (if c then s.gnodeAfter (some tt.id) x else s.gnodeBefore (some tt.id) x) = .ok s' ∧
      Realises s' (applyAt par (fun L' => L'.insertIdx (if c then t + 1 else t) (.node x n' v' cs')) l0 :: rest) := by
    intro c _ t ht
    have htt := List.getElem?_eq_getElem ht
    have hat' := hat.with_idx (idx?_of_getElem? hLnd htt)
    refine ⟨L[t], htt, ?_⟩
    by_cases hc : c
    · simpa only [if_pos hc] using after_refines hR hat'
    · simpa only [if_neg hc] using before_refines hR hat'
  simp only [Store.add]
  generalize hI : insAt (lookIdx byName L n') L.length f pos = r
  simp only [insAt] at hI
  have h1 := hget f tf (if pos > 0 then 1 else 0) htf
  cases hs : lookIdx byName L n' f (if pos > 0 then 1 else 0) with
  | none =>
    -- nothing found from `first` on: behind the last element
    obtain ⟨tl, htl, s', hs', hr⟩ := hplace True (L.length - 1) (by omega)
    rw [if_pos trivial] at hs' hr
    have hl0 := gnodePos_last hLr htf hfuel htl
    rw [hs] at h1
    refine ⟨s', by rw [nodeInsert_none h1 hl0]; exact hs', ?_⟩
    simp only [hs] at hI
    subst hI
    simpa only [Option.elim_some, show L.length - 1 + 1 = L.length by omega] using hr
  | some a =>
    have ha := lookIdx_lt hflt hs
    by_cases hp : pos = 0 ∨ pos = 1
    · obtain ⟨ta, hta, s', hs', hr⟩ := hplace (pos < 1) a ha
      rw [hs, Option.bind_some, hta] at h1
      refine ⟨s', by rw [nodeInsert_start h1 hp]; exact hs', ?_⟩
      simp only [hs, if_pos hp] at hI
      subst hI
      exact hr
    · obtain ⟨ta, hta⟩ : ∃ ta, L[a]? = some ta := ⟨_, List.getElem?_eq_getElem ha⟩
      rw [hs, Option.bind_some, hta] at h1
      have hp0 : pos ≠ 0 := fun e => hp (.inl e)
      have hp1 : pos ≠ 1 := fun e => hp (.inr e)
      have h2 := hget a ta pos hta
      cases ht : lookIdx byName L n' a pos with
      | some t =>
        obtain ⟨tt, htt, s', hs', hr⟩ := hplace (pos < 1) t (lookIdx_lt ha ht)
        rw [ht, Option.bind_some, htt] at h2
        refine ⟨s', by rw [nodeInsert_found h1 hp0 hp1 h2]; exact hs', ?_⟩
        simp only [hs, if_neg hp, ht] at hI
        subst hI
        exact hr
      | none =>
        -- the second lookup fails: relative to the other end
        rw [ht] at h2
        have h3 := hget f tf (if pos < 0 then 1 else 0) htf
        cases hu : lookIdx byName L n' f (if pos < 0 then 1 else 0) with
        | some u =>
          obtain ⟨tu, htu, s', hs', hr⟩ := hplace (-pos < 1) u (lookIdx_lt hflt hu)
          rw [hu, Option.bind_some, htu] at h3
          refine ⟨s', by rw [nodeInsert_other h1 hp0 hp1 h2 h3]; exact hs', ?_⟩
          simp only [hs, if_neg hp, ht, hu, Option.map_some] at hI
          subst hI
          exact hr
        | none =>
          rw [hu] at h3
          refine ⟨s, by rw [nodeInsert_other h1 hp0 hp1 h2 h3]; exact ite_self (Res.ok s), ?_⟩
          simp only [hs, if_neg hp, ht, hu, Option.map_none] at hI
          subst hI
          exact hR

theorem insAt_name (L : Forest) (nm : Name) (f : Nat) (pos : Int) :
    insAt (lookIdx true L nm) L.length f pos = nameIdx L f nm pos := by
  -- the lookups run over the namesakes `A` (all of them) and `F` (those from `first` on)
  have hlook : ∀ j p, lookIdx true L nm j p = if p > 0 then ((namesakes L nm).filter (· ≥ j))[p.toNat - 1]?
      else if p = 0 then (namesakes L nm).getLast? else (((namesakes L nm).filter (· < j)).reverse)[(-p).toNat - 1]? :=
    fun _ _ => rfl
  have hfrom := namesakes_from_head L nm f
  have hlast := namesakes_before_last L nm
  simp only [nameIdx]
  generalize namesakes L nm = A at hlook hfrom hlast ⊢
  generalize hFdef : A.filter (· ≥ f) = F at hfrom ⊢
  have hF1 : lookIdx true L nm f 1 = F[0]? := by simp [hlook, hFdef]
  have hA0 : lookIdx true L nm f 0 = A.getLast? := by simp [hlook]
  by_cases hp : pos > 0
  · simp only [insAt, if_pos hp, hF1, show ¬ pos < 0 by omega, ↓reduceIte, hA0]
    cases hF : F[0]? with
    | none => rw [List.length_eq_zero_iff.1 (Nat.le_zero.1 (List.getElem?_eq_none_iff.1 hF))]
    | some a0 =>
      obtain ⟨b, bs, hFcons⟩ := List.exists_cons_of_ne_nil (List.ne_nil_of_mem (List.mem_of_getElem? hF))
      by_cases hp1 : pos = 1
      · subst hp1
        rw [hFcons] at hF ⊢
        simpa using hF.symm
      · -- pos ≥ 2: the pos-th namesake from `first` on, behind the last namesake when there are fewer
        have hloc2 : lookIdx true L nm a0 pos = F[pos.toNat - 1]? := by
          rw [hlook, if_pos hp, hfrom a0 (by rw [List.head?_eq_getElem?]; exact hF)]
        simp only [show ¬ (pos = 0 ∨ pos = 1) by omega, ↓reduceIte, hloc2]
        rw [hFcons]
        cases hT : (b :: bs)[pos.toNat - 1]? with
        | some i => simp [show ¬ pos < 1 by omega]
        | none => simp [show -pos < 1 by omega]
  · simp only [insAt, if_neg hp, hA0]
    cases hA : A.getLast? with
    | none => rw [List.getLast?_eq_none_iff.1 hA]
    | some aL =>
      obtain ⟨b, bs, hAcons⟩ := List.exists_cons_of_ne_nil (List.ne_nil_of_mem (List.mem_of_getLast? hA))
      by_cases hp0 : pos = 0
      · subst hp0
        rw [List.getLast?_eq_getElem?] at hA
        rw [hAcons] at hA ⊢
        simpa using hA.symm
      · -- pos < 0: so many namesakes back from the last one, the first namesake from `first` on when there are fewer
        have hloc2 : lookIdx true L nm aL pos = if (-pos).toNat < A.length then A[A.length - 1 - (-pos).toNat]? else none := by
          rw [hlook, if_neg hp, if_neg hp0, hlast aL hA, reverse_dropLast_getElem? (by omega)]
        simp only [show ¬ (pos = 0 ∨ pos = 1) by omega, ↓reduceIte, hloc2, show pos < 0 by omega, hF1]
        rw [hAcons]
        by_cases hk : (-pos).toNat < (b :: bs).length
        · obtain ⟨i, hi⟩ : ∃ i, (b :: bs)[(b :: bs).length - 1 - (-pos).toNat]? = some i :=
            ⟨_, List.getElem?_eq_getElem (by omega)⟩
          simp only [hk, ↓reduceIte, hi, show pos < 1 by omega, Option.map_some]
        · simp only [hk, ↓reduceIte, show ¬ -pos < 1 by omega, List.head?_eq_getElem?, Option.map_id']

/-- `mpt_gnode_add` / `mpt_node_add(first, pos, x)` with `x` a detached root: `x` is placed in the sibling list of
    `first` at the index the specification names (`St.add`'s choice), and stays a list of its own where it names none -/
theorem add_at_refines {s : Store} {first x f : Nat} {n' : Name} {v' : Val} {cs' l0 L : Forest} {rest : List Forest}
    {par : Option Nat} (pos : Int) (byName : Bool)
    (hR : Realises s ([.node x n' v' cs'] :: l0 :: rest)) (hat : SibsAt first l0 L f par) :
    ∃ s', s.add first pos x byName = .ok s' ∧
      Realises s' ((if byName then nameIdx L f n' pos else some (addIdx L.length f pos)).elim
        ([.node x n' v' cs'] :: l0 :: rest) fun k =>
        applyAt par (fun L' => L'.insertIdx k (.node x n' v' cs')) l0 :: rest) := by
  have := add_look_refines pos byName hR hat
  cases byName with
  | false => rwa [insAt_pos L n' pos (idx?_lt hat.idx)] at this
  | true => rwa [insAt_name] at this

/-- `mpt_gnode_insert` / `mpt_node_insert(parent, pos, x)` for a parent that has children: `add` from the first child -/
theorem insert_at_refines {s : Store} {parent x : Nat} {n' : Name} {v' : Val} {cs' l0 : Forest} {rest : List Forest}
    {tp : Tree} (pos : Int) (byName : Bool)
    (hR : Realises s ([.node x n' v' cs'] :: l0 :: rest)) (hf : find? parent l0 = some tp) (hne : tp.children ≠ []) :
    ∃ s', s.insert parent pos x byName = .ok s' ∧
      Realises s' ((if byName then nameIdx tp.children 0 n' pos else some (addIdx tp.children.length 0 pos)).elim
        ([.node x n' v' cs'] :: l0 :: rest) fun k =>
        modKids parent (fun L' => L'.insertIdx k (.node x n' v' cs')) l0 :: rest) := by
  have hl0 := hR.real l0 (by simp)
  obtain ⟨⟨nx, pv, pr, hprec⟩, _⟩ := Real.of_find hl0.2 hf
  cases hk : tp.children with
  | nil => exact absurd hk hne
  | cons c cs =>
    cases c with
    | node ci cn cv ccs =>
      have hat : SibsAt ci l0 tp.children 0 (some parent) := SibsAt.kids hf (by rw [hk, idx?_cons]; simp)
      obtain ⟨s', hs', hr⟩ := add_at_refines pos byName hR hat
      refine ⟨s', ?_, hk ▸ hr⟩
      simp only [Store.insert, Store.get_ok ⟨hprec, rfl⟩, Res.bind_ok]
      simp only [hk, headId_cons]
      exact hs'

end Mpt.Nodes
