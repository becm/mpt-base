/-
  The abstraction relation between the pointer store and ordered forests.
  `Real s par prev l`: the sibling list `l` (with everything below) is laid out in `s` with parent `par` and the
  first element's predecessor `prev`.  `Realises s tops`: the store is exactly the top-level lists `tops`.
  `Realises` after a step: `Realises.step` (some live nodes die, some records are new), with its cases
  `Realises.release` (none new), `Realises.of_sameLife` (every live flag stays, `SameLife`) and, in NodesDeepClone,
  `Realises.fresh_range` (none dies).
  `SibsAt p l L j par`: `L` is the sibling list inside `l` that holds `p`; a change of `L` alone lifts to `l` and to
  the store (`SibsAt.lift`, `SibsAt.realises`).
-/
import MptModel.Lemmas.NodesBasic
import MptModel.Lemmas.NodesForest
namespace Mpt.Nodes
open Mpt Mpt.Forest

/-- the record a node of the forest must have -/
@[reducible] def recOf (next prev par : Option Nat) (cs : Forest) (n : Name) (v : Val) : Node :=
  { next := next, prev := prev, parent := par, children := headId cs, name := n, value := v, alive := true }

/-- the store lays out the sibling list `l` under parent `par`; `prev` is the first element's predecessor -/
def Real (s : Store) : Option Nat → Option Nat → Forest → Prop
  | _, _, [] => True
  | par, prev, (.node i n v cs) :: ts =>
      s.nodes[i]? = some (recOf (headId ts) prev par cs n v) ∧ Real s (some i) none cs ∧ Real s par (some i) ts

@[simp] theorem Real_nil (s : Store) (par prev : Option Nat) : Real s par prev [] = True := by simp [Real]

theorem Real_cons (s : Store) (par prev : Option Nat) (i : Nat) (n : Name) (v : Val) (cs ts : Forest) :
    Real s par prev ((.node i n v cs) :: ts) =
      (s.nodes[i]? = some (recOf (headId ts) prev par cs n v) ∧ Real s (some i) none cs ∧ Real s par (some i) ts) := by
  simp [Real]

theorem Real.frame {s s' : Store} : ∀ {l : Forest} {par prev : Option Nat},
    Real s par prev l → (∀ i ∈ ids l, s'.nodes[i]? = s.nodes[i]?) → Real s' par prev l := by
  intro l
  induction l using forest_induct with
  | nil => simp
  | cons i n v cs ts ihc iht =>
    intro par prev h hf
    rw [Real_cons] at h ⊢
    exact ⟨by rw [hf i (by simp)]; exact h.1, ihc h.2.1 fun k hk => hf k (by simp [hk]),
      iht h.2.2 fun k hk => hf k (by simp [hk])⟩

theorem Real.live {s : Store} : ∀ {l : Forest} {par prev : Option Nat},
    Real s par prev l → ∀ i ∈ ids l, ∃ n, s.Live i n := by
  intro l
  induction l using forest_induct with
  | nil => simp
  | cons j n v cs ts ihc iht =>
    intro par prev h i hi
    rw [Real_cons] at h
    simp only [ids_cons, List.mem_cons, List.mem_append] at hi
    rcases hi with rfl | hi | hi
    · exact ⟨_, h.1, rfl⟩
    · exact ihc h.2.1 i hi
    · exact iht h.2.2 i hi

theorem Real.set_prev {s s' : Store} {par prev prev' : Option Nat} : ∀ {l : Forest},
    Real s par prev l → (ids l).Nodup →
    (∀ i ∈ ids l, s'.nodes[i]? = if some i = headId l then (s.nodes[i]?).map (fun qn => { qn with prev := prev' }) else s.nodes[i]?) →
    Real s' par prev' l
  | [], _, _, _ => by simp
  | (.node i n v cs) :: ts, h, hnd, hs => by
    rw [Real_cons] at h ⊢
    obtain ⟨⟨hics, hits⟩, -⟩ := nodup_ids_cons.1 hnd
    refine ⟨by rw [hs i (by simp)]; simp [h.1], Real.frame h.2.1 fun k hk => ?_, Real.frame h.2.2 fun k hk => ?_⟩
    · rw [hs k (by simp [hk]), headId_cons, if_neg (fun e => hics (by cases e; exact hk))]
    · rw [hs k (by simp [hk]), headId_cons, if_neg (fun e => hits (by cases e; exact hk))]

theorem Real.rec_idx {s : Store} : ∀ {L : Forest} {par prev : Option Nat} {j : Nat} {t : Tree},
    Real s par prev L → L[j]? = some t →
    s.nodes[t.id]? = some (recOf (headId (L.drop (j + 1))) (prevAt prev L j) par t.children t.name t.value)
  | [], _, _, _, _, _, h => by simp at h
  | (.node i n v cs) :: ts, par, prev, 0, t, hL, h => by
    rw [Real_cons] at hL
    simp at h; subst h
    simpa [prevAt, Tree.id, Tree.children, Tree.name, Tree.value] using hL.1
  | (.node i n v cs) :: ts, par, prev, j + 1, t, hL, h => by
    rw [Real_cons] at hL
    rw [prevAt_succ]
    simpa [Tree.id] using Real.rec_idx hL.2.2 (by simpa using h)

theorem Real.kids_at {s : Store} : ∀ {L : Forest} {par prev : Option Nat} {j : Nat} {t : Tree},
    Real s par prev L → L[j]? = some t → Real s (some t.id) none t.children
  | [], _, _, _, _, _, h => by simp at h
  | (.node i n v cs) :: ts, par, prev, 0, t, hL, h => by
    rw [Real_cons] at hL
    simp at h; subst h
    exact hL.2.1
  | (.node i n v cs) :: ts, par, prev, j + 1, t, hL, h => by
    rw [Real_cons] at hL
    exact Real.kids_at hL.2.2 (by simpa using h)

theorem Real.of_find {s : Store} {q : Nat} : ∀ {l : Forest} {par prev : Option Nat} {tq : Tree},
    Real s par prev l → find? q l = some tq →
    (∃ nx pv pr, s.nodes[q]? = some (recOf nx pv pr tq.children tq.name tq.value)) ∧ Real s (some q) none tq.children := by
  intro l par prev tq hL hf
  revert par prev
  refine find?_induct (motive := fun l tq => ∀ {par prev}, Real s par prev l →
      (∃ nx pv pr, s.nodes[q]? = some (recOf nx pv pr tq.children tq.name tq.value)) ∧ Real s (some q) none tq.children)
    ?_ ?_ ?_ hf
  · intro n v cs ts par prev hL
    rw [Real_cons] at hL
    exact ⟨⟨_, _, _, hL.1⟩, hL.2.1⟩
  · intro i n v cs ts t _ _ ih par prev hL
    rw [Real_cons] at hL
    exact ih hL.2.1
  · intro i n v cs ts t _ _ _ ih par prev hL
    rw [Real_cons] at hL
    exact ih hL.2.2

theorem LinkEff.frame {s s' : Store} {x : Nat} {fx : Node → Node} {q p par a b c d : Option Nat} {F : Forest}
    (he : LinkEff s s' x fx q p par a b) (hF : Real s c d F) (hx : x ∉ ids F) (hq : ∀ r, q = some r → r ∉ ids F)
    (hp : ∀ r, p = some r → r ∉ ids F) (hr : q = none → ∀ r, par = some r → r ∉ ids F) : Real s' c d F :=
  hF.frame fun _ hk => he.untouched (fun e => hx (e ▸ hk)) (fun e => hq _ e.symm hk) (fun e => hp _ e.symm hk)
    (fun hn e => hr hn _ e.symm hk)

theorem real_modKids {s s' : Store} {q : Nat} {g : Forest → Forest} {tq : Tree} {l : Forest} {par prev : Option Nat}
    (hL : Real s par prev l) (hnd : (ids l).Nodup) (hf : find? q l = some tq)
    (hloc : Real s' (some q) none (g tq.children))
    (hq : s'.nodes[q]? = (s.nodes[q]?).map (fun n => { n with children := headId (g tq.children) }))
    (hfr : ∀ i ∈ ids l, i ≠ q → i ∉ ids tq.children → s'.nodes[i]? = s.nodes[i]?) :
    Real s' par prev (modKids q g l) := by
  refine find?_induct (motive := fun l tq => ∀ {par prev}, Real s par prev l → (ids l).Nodup →
      Real s' (some q) none (g tq.children) →
      s'.nodes[q]? = (s.nodes[q]?).map (fun n => { n with children := headId (g tq.children) }) →
      (∀ i ∈ ids l, i ≠ q → i ∉ ids tq.children → s'.nodes[i]? = s.nodes[i]?) →
      Real s' par prev (modKids q g l)) ?_ ?_ ?_ hf hL hnd hloc hq hfr
  · intro n v cs ts par prev hL hnd hloc hq hfr
    obtain ⟨⟨-, hqts⟩, -, -, disj⟩ := nodup_ids_cons.1 hnd
    rw [Real_cons] at hL
    simp only [modKids, ↓reduceIte, Tree.children] at hloc hq hfr ⊢
    rw [Real_cons]
    refine ⟨by rw [hq, hL.1]; rfl, hloc, Real.frame hL.2.2 fun k hk => hfr k (by simp [hk]) ?_ ?_⟩
    · rintro rfl; exact hqts hk
    · exact fun h => disj k h hk
  · intro i n v cs ts t hiq hc ih par prev hL hnd hloc hq hfr
    obtain ⟨⟨hics, -⟩, ndcs, -, disj⟩ := nodup_ids_cons.1 hnd
    rw [Real_cons] at hL
    have hsub := find?_children_subset hc
    have hqts : q ∉ ids ts := disj q (find?_mem hc).1
    simp only [modKids, hiq, ↓reduceIte, modKids_of_not_mem hqts]
    rw [Real_cons]
    refine ⟨by rw [hfr i (by simp) hiq (fun h => hics (hsub i h)), hL.1]; simp only [recOf, headId_modKids],
      ih hL.2.1 ndcs hloc hq fun k hk h1 h2 => hfr k (by simp [hk]) h1 h2,
      Real.frame hL.2.2 fun k hk => hfr k (by simp [hk]) ?_ ?_⟩
    · rintro rfl; exact hqts hk
    · exact fun h => disj k (hsub k h) hk
  · intro i n v cs ts t hiq _ hf ih par prev hL hnd hloc hq hfr
    obtain ⟨⟨-, hits⟩, -, ndts, disj⟩ := nodup_ids_cons.1 hnd
    rw [Real_cons] at hL
    have hsub := find?_children_subset hf
    have hqcs : q ∉ ids cs := fun h => disj q h (find?_mem hf).1
    simp only [modKids, hiq, ↓reduceIte, modKids_of_not_mem hqcs]
    rw [Real_cons, headId_modKids]
    refine ⟨by rw [hfr i (by simp) hiq (fun h => hits (hsub i h)), hL.1],
      Real.frame hL.2.1 fun k hk => hfr k (by simp [hk]) ?_ ?_,
      ih hL.2.2 ndts hloc hq fun k hk h1 h2 => hfr k (by simp [hk]) h1 h2⟩
    · rintro rfl; exact hqcs hk
    · exact fun h => disj k hk (hsub k h)

/-- the store realises the top-level lists `tops`: every list is laid out without parent, no node
    occurs twice, every live record belongs to one of the lists, and the log of `free` calls lists
    exactly the dead records, each once -/
structure Realises (s : Store) (tops : List Forest) : Prop where
  real : ∀ l ∈ tops, l ≠ [] ∧ Real s none none l
  nodup : (tops.flatMap ids).Nodup
  cover : ∀ i n, s.nodes[i]? = some n → n.alive = true → i ∈ tops.flatMap ids
  freedNodup : s.freed.Nodup
  freedIff : ∀ i, i ∈ s.freed ↔ ∃ n, s.nodes[i]? = some n ∧ n.alive = false

/-- well-formed store: it realises some collection of finite ordered forests -/
def WF (s : Store) : Prop := ∃ tops, Realises s tops

/-- same `free` log, same live/dead flags -/
def SameLife (s s' : Store) : Prop :=
  s'.freed = s.freed ∧ ∀ i : Nat, (s'.nodes[i]?).map Node.alive = (s.nodes[i]?).map Node.alive

theorem mem_flatMap_cons2 {a b : Forest} {rest : List Forest} {k : Nat} :
    k ∈ (a :: b :: rest).flatMap ids ↔ k ∈ ids a ∨ k ∈ ids b ∨ k ∈ rest.flatMap ids := by
  simp [List.flatMap_cons]

theorem alive_of_map_eq {a b : Option Node} (h : a.map Node.alive = b.map Node.alive) {n : Node} {f : Bool}
    (hn : a = some n) (ha : n.alive = f) : ∃ m, b = some m ∧ m.alive = f := by
  subst hn
  cases b with
  | none => simp at h
  | some m => exact ⟨m, rfl, by simpa [ha] using h.symm⟩

/-- The bookkeeping of a step: the live nodes `D` are released (logged as `P`), the records `N` are new and live, every
    other record keeps its live/dead flag.  Then `tops'` is realised as soon as its lists are laid out and its handles are
    those of `tops` without `D`, with `N`. -/
theorem Realises.step {s s' : Store} {tops tops' : List Forest} {D P N : List Nat} (h : Realises s tops)
    (hP : P.Perm D) (hfreed : s'.freed = s.freed ++ P)
    (hother : ∀ i, i ∉ D → i ∉ N → (s'.nodes[i]?).map Node.alive = (s.nodes[i]?).map Node.alive)
    (hdead : ∀ i ∈ D, ∃ n, s'.nodes[i]? = some n ∧ n.alive = false)
    (hlive : ∀ i ∈ D, ∃ n, s.Live i n)
    (hborn : ∀ i ∈ N, s.nodes[i]? = none ∧ ∃ n, s'.Live i n) (hN : N.Nodup)
    (hr : ∀ l ∈ tops', l ≠ [] ∧ Real s' none none l)
    (hp : (tops'.flatMap ids ++ D).Perm (tops.flatMap ids ++ N)) :
    Realises s' tops' := by
  -- a record of `N` does not exist before and is live afterwards, one of `D` is live before and dead afterwards
  have hN0 : ∀ {i n}, s.nodes[i]? = some n → i ∉ N := @fun i _ hn hi => by
    rw [(hborn i hi).1] at hn; cases hn
  have hN1 : ∀ {i n}, s'.nodes[i]? = some n → n.alive = false → i ∉ N := @fun i _ hn hd hi => by
    obtain ⟨m, hm1, hm2⟩ := (hborn i hi).2
    rw [hn] at hm1; cases hm1; rw [hm2] at hd; cases hd
  have hD : ∀ {i n}, s.nodes[i]? = some n → n.alive = false → i ∉ D := @fun i _ hn hd hi => by
    obtain ⟨m, hm1, hm2⟩ := hlive i hi
    rw [hn] at hm1; cases hm1; rw [hm2] at hd; cases hd
  have hD' : ∀ {i n}, s'.nodes[i]? = some n → n.alive = true → i ∉ D := @fun i _ hn ha hi => by
    obtain ⟨m, hm, hd⟩ := hdead i hi
    rw [hn] at hm; cases hm; rw [ha] at hd; cases hd
  have hndN : (tops.flatMap ids ++ N).Nodup := List.nodup_append.2 ⟨h.nodup, hN, fun a ha b hb e => by
    obtain ⟨l, hl, hal⟩ := List.mem_flatMap.1 ha
    obtain ⟨n, hn⟩ := (h.real l hl).2.live a hal
    exact hN0 hn.1 (e ▸ hb)⟩
  obtain ⟨hnd', hndD, -⟩ := List.nodup_append.1 (hp.nodup_iff.2 hndN)
  refine ⟨hr, hnd', ?_, ?_, ?_⟩
  · intro i n hn ha
    refine (List.mem_append.1 (hp.mem_iff.2 ?_)).resolve_right (hD' hn ha)
    by_cases hiN : i ∈ N
    · exact List.mem_append_right _ hiN
    · obtain ⟨m, hm, hma⟩ := alive_of_map_eq (hother i (hD' hn ha) hiN) hn ha
      exact List.mem_append_left _ (h.cover i m hm hma)
  · rw [hfreed, List.nodup_append]
    refine ⟨h.freedNodup, hP.nodup_iff.2 hndD, ?_⟩
    rintro a ha _ hb rfl
    obtain ⟨n, hn, hd⟩ := (h.freedIff a).1 ha
    exact hD hn hd (hP.mem_iff.1 hb)
  · intro i
    rw [hfreed, List.mem_append, h.freedIff i]
    constructor
    · rintro (⟨n, hn, hd⟩ | hi)
      · exact alive_of_map_eq (hother i (hD hn hd) (hN0 hn)).symm hn hd
      · exact hdead i (hP.mem_iff.1 hi)
    · rintro ⟨n, hn, hd⟩
      by_cases hiD : i ∈ D
      · exact Or.inr (hP.mem_iff.2 hiD)
      · exact Or.inl (alive_of_map_eq (hother i hiD (hN1 hn hd)) hn hd)

theorem Realises.release {s s' : Store} {tops tops' : List Forest} {D P : List Nat} (h : Realises s tops)
    (hP : P.Perm D) (hfreed : s'.freed = s.freed ++ P)
    (hother : ∀ i, i ∉ D → (s'.nodes[i]?).map Node.alive = (s.nodes[i]?).map Node.alive)
    (hdead : ∀ i ∈ D, ∃ n, s'.nodes[i]? = some n ∧ n.alive = false)
    (hlive : ∀ i ∈ D, ∃ n, s.Live i n)
    (hr : ∀ l ∈ tops', l ≠ [] ∧ Real s' none none l)
    (hp : (tops'.flatMap ids ++ D).Perm (tops.flatMap ids)) :
    Realises s' tops' :=
  h.step (N := []) hP hfreed (fun i hi _ => hother i hi) hdead hlive (by simp) .nil hr (by simpa using hp)

theorem Realises.of_sameLife {s s' : Store} {tops tops' : List Forest} (h : Realises s tops) (hl : SameLife s s')
    (hr : ∀ l ∈ tops', l ≠ [] ∧ Real s' none none l) (hp : (tops'.flatMap ids).Perm (tops.flatMap ids)) :
    Realises s' tops' :=
  h.release (D := []) (P := []) .nil (by simp [hl.1]) (fun i _ => hl.2 i) (by simp) (by simp) hr (by simpa using hp)

theorem SameLife.refl (s : Store) : SameLife s s := ⟨rfl, fun _ => rfl⟩

theorem SameLife.comp {s s1 s2 : Store} (h1 : SameLife s s1) (h2 : SameLife s1 s2) : SameLife s s2 :=
  ⟨by rw [h2.1, h1.1], fun i => by rw [h2.2 i, h1.2 i]⟩

theorem Store.Upd.same_life {s s' : Store} {i : Nat} {n m : Node} (h : Upd s s' i m) (hn : s.Live i n)
    (hm : m.alive = true) : SameLife s s' := by
  refine ⟨h.1, fun k => ?_⟩
  rw [h.2.2 k]
  split
  · next hk => subst hk; simp [hn.1, hn.2, hm]
  · rfl

theorem Realises.perm {s : Store} {tops tops' : List Forest} (h : Realises s tops) (hp : tops'.Perm tops) :
    Realises s tops' :=
  h.of_sameLife (.refl s) (fun l hl => h.real l (hp.mem_iff.1 hl)) (hp.flatMap_right _)

theorem Realises.ids_nodup {s : Store} {tops : List Forest} (h : Realises s tops) {l : Forest} (hl : l ∈ tops) :
    (ids l).Nodup := by
  obtain ⟨A, B, rfl⟩ := List.append_of_mem hl
  have := h.nodup
  rw [List.flatMap_append, List.flatMap_cons] at this
  exact (List.nodup_append.1 (List.nodup_append.1 this).2.1).1

theorem Realises.id_lt {s : Store} {tops : List Forest} (h : Realises s tops) {l : Forest} (hl : l ∈ tops) :
    ∀ i ∈ ids l, i < s.nodes.length :=
  fun i hi => ((h.real l hl).2.live i hi).elim fun _ hn => hn.lt

theorem Realises.ids_length_le {s : Store} {tops : List Forest} (h : Realises s tops) {l : Forest} (hl : l ∈ tops) :
    (ids l).length ≤ s.nodes.length :=
  nodup_bound _ _ (h.ids_nodup hl) (h.id_lt hl)

theorem Realises.detached {s : Store} {x : Nat} {n' : Name} {v' : Val} {cs' l0 : Forest} {rest : List Forest}
    (hR : Realises s ([.node x n' v' cs'] :: l0 :: rest)) :
    (s.nodes[x]? = some (recOf none none none cs' n' v') ∧ Real s (some x) none cs') ∧
    (l0 ≠ [] ∧ Real s none none l0) ∧ (ids l0).Nodup ∧ (x ∉ ids cs' ∧ (ids cs').Nodup) ∧
    ∀ k ∈ ids l0, k ≠ x ∧ k ∉ ids cs' := by
  have hT := (hR.real [.node x n' v' cs'] (by simp)).2
  rw [Real_cons] at hT
  have hnd := hR.nodup
  simp only [List.flatMap_cons, ids_cons, ids_nil, List.append_nil] at hnd
  obtain ⟨hndT, hnd1, hd⟩ := List.nodup_append.1 hnd
  refine ⟨⟨hT.1, hT.2.1⟩, hR.real l0 (by simp), (List.nodup_append.1 hnd1).1, List.nodup_cons.1 hndT, fun k hk => ?_⟩
  exact ⟨fun e => hd x (by simp) k (by simp [hk]) e.symm, fun h => hd k (by simp [h]) k (by simp [hk]) rfl⟩

/-- `L` is the sibling list inside `l` that contains `p` at index `j`; `par` is its parent -/
inductive SibsAt (p : Nat) (l : Forest) : Forest → Nat → Option Nat → Prop
  | top {j : Nat} : idx? p l = some j → SibsAt p l l j none
  | kids {q : Nat} {tq : Tree} {j : Nat} : find? q l = some tq → idx? p tq.children = some j →
      SibsAt p l tq.children j (some q)

/-- replace the sibling list under `par` (`none`: the list itself) by its image under `g` -/
def applyAt (par : Option Nat) (g : Forest → Forest) (l : Forest) : Forest :=
  match par with
  | none => g l
  | some q => modKids q g l

theorem SibsAt.first_kid (q c : Nat) (n n' : Name) (v v' : Val) (cs' cs ts : Forest) :
    SibsAt c (.node q n v (.node c n' v' cs' :: cs) :: ts) (.node c n' v' cs' :: cs) 0 (some q) :=
  SibsAt.kids (tq := .node q n v (.node c n' v' cs' :: cs)) (find?_cons_self ..) (by simp [Tree.children, idx?_cons])

theorem SibsAt.real {s : Store} {p : Nat} {l L : Forest} {j : Nat} {par : Option Nat}
    (h : SibsAt p l L j par) (hR : Real s none none l) : Real s par none L := by
  cases h with
  | top _ => exact hR
  | kids hf _ => exact (Real.of_find hR hf).2

theorem SibsAt.subset {p : Nat} {l L : Forest} {j : Nat} {par : Option Nat}
    (h : SibsAt p l L j par) : ∀ k ∈ ids L, k ∈ ids l := by
  cases h with
  | top _ => exact fun _ h => h
  | kids hf _ => exact find?_children_subset hf

theorem SibsAt.nodup {p : Nat} {l L : Forest} {j : Nat} {par : Option Nat}
    (h : SibsAt p l L j par) (hnd : (ids l).Nodup) : (ids L).Nodup := by
  cases h with
  | top _ => exact hnd
  | kids hf _ => exact (find?_children_nodup hnd hf).2

theorem SibsAt.idx {p : Nat} {l L : Forest} {j : Nat} {par : Option Nat}
    (h : SibsAt p l L j par) : idx? p L = some j := by
  cases h with
  | top h => exact h
  | kids _ h => exact h

theorem SibsAt.with_idx {p p' : Nat} {l L : Forest} {j j' : Nat} {par : Option Nat}
    (h : SibsAt p l L j par) (hi : idx? p' L = some j') : SibsAt p' l L j' par := by
  cases h with
  | top _ => exact SibsAt.top hi
  | kids hf _ => exact SibsAt.kids hf hi

theorem SibsAt.lift {s s' : Store} {p : Nat} {l L : Forest} {j : Nat} {par : Option Nat} {g : Forest → Forest}
    (h : SibsAt p l L j par) (hR : Real s none none l) (hnd : (ids l).Nodup)
    (hloc : Real s' par none (g L))
    (hpar : ∀ q, par = some q → s'.nodes[q]? = (s.nodes[q]?).map (fun n => { n with children := headId (g L) }))
    (hfr : ∀ i ∈ ids l, some i ≠ par → i ∉ ids L → s'.nodes[i]? = s.nodes[i]?) :
    Real s' none none (applyAt par g l) := by
  cases h with
  | top _ => exact hloc
  | kids hf _ =>
    exact real_modKids hR hnd hf hloc (hpar _ rfl) (fun i hi h1 h2 => hfr i hi (by simpa using fun e => h1 e) h2)

theorem SibsAt.par_not_mem {p : Nat} {l L : Forest} {j : Nat} {par : Option Nat}
    (h : SibsAt p l L j par) (hnd : (ids l).Nodup) : ∀ q, par = some q → q ∉ ids L ∧ q ∈ ids l := by
  cases h with
  | top _ => intro q h; simp at h
  | kids hf _ =>
    intro q h; simp at h; subst h
    exact ⟨(find?_children_nodup hnd hf).1, (find?_mem hf).1⟩

theorem SibsAt.par_rec {s : Store} {p : Nat} {l L : Forest} {j : Nat} {par : Option Nat}
    (h : SibsAt p l L j par) (hR : Real s none none l) :
    ∀ q, par = some q → ∃ n, s.nodes[q]? = some n ∧ n.children = headId L := by
  cases h with
  | top _ => intro q h; simp at h
  | kids hf _ =>
    intro q h; simp at h; subst h
    obtain ⟨⟨nx, pv, pr, hrec⟩, _⟩ := Real.of_find hR hf
    exact ⟨_, hrec, rfl⟩

theorem SibsAt.ids_split {p : Nat} {l L : Forest} {j : Nat} {par : Option Nat}
    (h : SibsAt p l L j par) (hnd : (ids l).Nodup) :
    ∃ A B, ids l = A ++ ids L ++ B ∧ ∀ g, ids (applyAt par g l) = A ++ ids (g L) ++ B := by
  cases h with
  | top _ => exact ⟨[], [], by simp, fun g => by simp [applyAt]⟩
  | kids hf _ => exact ids_modKids_split hnd hf

theorem SibsAt.par_live {s : Store} {p j : Nat} {l L : Forest} {par : Option Nat} (h : SibsAt p l L j par)
    (hR : Real s none none l) (hnd : (ids l).Nodup) :
    ∀ q, par = some q → q ∉ ids L ∧ q ∈ ids l ∧ ∃ qn, s.Live q qn ∧ qn.children = headId L := by
  intro q hq
  obtain ⟨h1, h2⟩ := h.par_not_mem hnd q hq
  obtain ⟨qn, hqn, hqc⟩ := h.par_rec hR q hq
  obtain ⟨m, hm⟩ := Real.live hR q h2
  rw [hm.1] at hqn
  cases hqn
  exact ⟨h1, h2, _, hm, hqc⟩

theorem SibsAt.length_le_fuel {s : Store} {tops : List Forest} {p j : Nat} {l0 L : Forest} {par : Option Nat}
    (hat : SibsAt p l0 L j par) (hR : Realises s tops) (hl : l0 ∈ tops) : L.length ≤ s.fuel := by
  have h1 := hR.ids_length_le hl
  obtain ⟨A, B, h2, -⟩ := hat.ids_split (hR.ids_nodup hl)
  have h3 := length_le_ids L
  rw [h2] at h1
  simp only [List.length_append, Store.fuel] at h1 ⊢
  omega

theorem applyAt_ne_nil {par : Option Nat} {g : Forest → Forest} {l : Forest} (hl : l ≠ []) (hg : g l ≠ []) :
    applyAt par g l ≠ [] := by
  cases par with
  | none => exact hg
  | some q => exact modKids_ne_nil hl

theorem applyAt_congr {p : Nat} {l L : Forest} {j : Nat} {par : Option Nat} {g g' : Forest → Forest}
    (h : SibsAt p l L j par) (hnd : (ids l).Nodup) (hg : g L = g' L) : applyAt par g l = applyAt par g' l := by
  cases h with
  | top _ => simpa [applyAt] using hg
  | kids hf _ => simpa [applyAt] using modKids_congr hnd hf hg

theorem perm_splice {X Y X' Y' A B : List Nat} (h : (X' ++ Y').Perm (X ++ Y)) :
    (X' ++ (A ++ Y' ++ B)).Perm (X ++ (A ++ Y ++ B)) := by
  have e : ∀ X Y : List Nat, (X ++ (A ++ Y ++ B)).Perm (A ++ ((X ++ Y) ++ B)) := fun X Y => by
    simpa [List.append_assoc] using (List.perm_append_comm (l₁ := X) (l₂ := A)).append_right (Y ++ B)
  exact (e X' Y').trans (((h.append_right B).append_left A).trans (e X Y).symm)

/-- A step that keeps every live flag, rewrites the one sibling list `L` inside the top-level list `l0` into `g L`
    and replaces the top-level lists `E` by `E'`: what is to be shown is local to `L`, its parent and `E`.
    Placing a detached tree: `E` is that tree and `E' = []`; unlinking: `E = []` and `E'` is the tree taken out. -/
theorem SibsAt.realises {s s' : Store} {p j : Nat} {l0 L : Forest} {E E' rest : List Forest} {par : Option Nat}
    {g : Forest → Forest}
    (hat : SibsAt p l0 L j par) (hR : Realises s (E ++ l0 :: rest)) (hsl : SameLife s s')
    (hE : ∀ l ∈ E', l ≠ [] ∧ Real s' none none l)
    (hne : applyAt par g l0 ≠ [])
    (hloc : Real s' par none (g L))
    (hpar : ∀ q, par = some q → s'.nodes[q]? = (s.nodes[q]?).map (fun n => { n with children := headId (g L) }))
    (hperm : (E'.flatMap ids ++ ids (g L)).Perm (E.flatMap ids ++ ids L))
    (hunch : ∀ i, i ∉ E.flatMap ids → i ∉ ids L → some i ≠ par → s'.nodes[i]? = s.nodes[i]?) :
    Realises s' (E' ++ applyAt par g l0 :: rest) := by
  have hl0 := hR.real l0 (by simp)
  have hnd := hR.nodup
  simp only [List.flatMap_append, List.flatMap_cons] at hnd
  obtain ⟨-, hnd1, hdE⟩ := List.nodup_append.1 hnd
  obtain ⟨hnd0, -, hdR⟩ := List.nodup_append.1 hnd1
  refine hR.of_sameLife hsl ?_ ?_
  · intro l' hl'
    rcases List.mem_append.1 hl' with hl' | hl'
    · exact hE l' hl'
    rcases List.mem_cons.1 hl' with rfl | hl'
    · exact ⟨hne, hat.lift hl0.2 hnd0 hloc hpar fun i hi hip hiL =>
        hunch i (fun h => hdE i h i (List.mem_append_left _ hi) rfl) hiL hip⟩
    · have hr := hR.real l' (by simp [hl'])
      refine ⟨hr.1, Real.frame hr.2 fun i hi => ?_⟩
      have hirest : i ∈ rest.flatMap ids := List.mem_flatMap.2 ⟨l', hl', hi⟩
      refine hunch i (fun h => hdE i h i (List.mem_append_right _ hirest) rfl)
        (fun h => hdR i (hat.subset i h) i hirest rfl) fun h => ?_
      exact hdR i (hat.par_not_mem hnd0 i h.symm).2 i hirest rfl
  · -- the handles of `l0` are `A ++ ids L ++ B` before and `A ++ ids (g L) ++ B` afterwards: `hperm` inside this frame
    obtain ⟨A, B, h1, h2⟩ := hat.ids_split hnd0
    simp only [List.flatMap_append, List.flatMap_cons]
    rw [h1, h2]
    simpa [List.append_assoc] using perm_splice (A := A) (B := B ++ rest.flatMap ids) hperm

end Mpt.Nodes
