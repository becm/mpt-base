/-
  The token spec on callback events (`replay`), its algebra (append, permutation of the live
  set), and the two event shapes the loops produce: destruction of a block of stored tokens, and creation
  of consecutive fresh tokens (`Creates`) interleaved with refused constructors.
-/
import MptModel.Impl.Heap
import MptModel.Spec.Tokens
namespace Mpt.Heap

/-- S on callback events: `none` = the event is illegal (a created token already exists, a copy source or a
    destroyed token is not alive) -/
def replay (l : Tokens.Live) : List Ev → Option Tokens.Live
  | [] => some l
  | .init t :: r => if Tokens.isLive l t then none else replay (Tokens.create l t) r
  | .copy t k :: r => if Tokens.isLive l t ∨ ¬ Tokens.isLive l k then none else replay (Tokens.create l t) r
  | .fail :: r => replay l r
  | .fini t :: r => if Tokens.isLive l t then replay (Tokens.destroy l t) r else none

theorem replay_append (l : Tokens.Live) (e1 e2 : List Ev) :
    replay l (e1 ++ e2) = (replay l e1).bind fun l1 => replay l1 e2 := by
  induction e1 generalizing l with
  | nil => rfl
  | cons e es ih =>
    cases e with
    | init t => simp only [List.cons_append, replay]; split <;> simp [ih]
    | copy t k => simp only [List.cons_append, replay]; split <;> simp [ih]
    | fail => simp only [List.cons_append, replay]; exact ih l
    | fini t => simp only [List.cons_append, replay]; split <;> simp [ih]

theorem isLive_iff (l : Tokens.Live) (t : Nat) : Tokens.isLive l t = true ↔ t ∈ l := by
  simp [Tokens.isLive]

theorem isLive_perm {l m : List Nat} (p : l.Perm m) (t : Nat) : Tokens.isLive l t = Tokens.isLive m t := by
  have := p.mem_iff (a := t)
  cases h1 : Tokens.isLive l t <;> cases h2 : Tokens.isLive m t <;> simp_all [Tokens.isLive]

theorem replay_perm {l m : List Nat} (p : l.Perm m) (evs : List Ev) :
    ∀ l1, replay l evs = some l1 → ∃ m1, replay m evs = some m1 ∧ l1.Perm m1 := by
  induction evs generalizing l m with
  | nil => intro l1 h; cases h; exact ⟨m, rfl, p⟩
  | cons e es ih =>
    intro l1 h
    cases e with
    | init t =>
      simp only [replay] at h ⊢
      rw [← isLive_perm p t]
      split at h
      · cases h
      · rename_i nl
        rw [if_neg nl]
        exact ih (List.Perm.cons t p) l1 h
    | copy t k =>
      simp only [replay] at h ⊢
      rw [← isLive_perm p t, ← isLive_perm p k]
      split at h
      · cases h
      · rename_i nl
        rw [if_neg nl]
        exact ih (List.Perm.cons t p) l1 h
    | fail => exact ih p l1 h
    | fini t =>
      simp only [replay] at h ⊢
      rw [← isLive_perm p t]
      split at h
      · rename_i il
        rw [if_pos il]
        exact ih (List.Perm.erase t p) l1 h
      · cases h

/-- the events are legal from the live set `l` and lead to (a permutation of) `l'`.  Only up to permutation: the
    live set of the spec is a list in order of creation, what the buffers store is listed in buffer order -/
def Run (l : List Nat) (evs : List Ev) (l' : List Nat) : Prop := ∃ l1, replay l evs = some l1 ∧ l1.Perm l'

theorem Run.nil (l : List Nat) : Run l [] l := ⟨l, rfl, List.Perm.refl _⟩

theorem Run.perm_right {l l' l'' : List Nat} {evs : List Ev} (r : Run l evs l') (p : l'.Perm l'') : Run l evs l'' := by
  obtain ⟨l1, h, q⟩ := r; exact ⟨l1, h, q.trans p⟩

theorem Run.perm_left {l m l' : List Nat} {evs : List Ev} (r : Run l evs l') (p : l.Perm m) : Run m evs l' := by
  obtain ⟨l1, h, q⟩ := r
  obtain ⟨m1, hm, pm⟩ := replay_perm p evs l1 h
  exact ⟨m1, hm, pm.symm.trans q⟩

theorem Run.append {l l1 l2 : List Nat} {e1 e2 : List Ev} (r1 : Run l e1 l1) (r2 : Run l1 e2 l2) : Run l (e1 ++ e2) l2 := by
  obtain ⟨a, ha, pa⟩ := r1
  obtain ⟨b, hb, pb⟩ := r2.perm_left pa.symm
  exact ⟨b, by rw [replay_append, ha]; exact hb, pb⟩

theorem replay_nodup {evs : List Ev} : ∀ {l l1 : List Nat}, replay l evs = some l1 → l.Nodup → l1.Nodup := by
  induction evs with
  | nil => intro l l1 h nd; cases h; exact nd
  | cons e es ih =>
    intro l l1 h nd
    cases e with
    | init t =>
      simp only [replay] at h
      split at h
      · cases h
      · rename_i nl
        exact ih h (List.nodup_cons.mpr ⟨fun hm => nl ((isLive_iff l t).mpr hm), nd⟩)
    | copy t k =>
      simp only [replay] at h
      split at h
      · cases h
      · rename_i nl
        exact ih h (List.nodup_cons.mpr ⟨fun hm => nl (Or.inl ((isLive_iff l t).mpr hm)), nd⟩)
    | fail => exact ih h nd
    | fini t =>
      simp only [replay] at h
      split at h
      · exact ih h (nd.erase t)
      · cases h

theorem Run.nodup {l l' : List Nat} {evs : List Ev} (r : Run l evs l') (nd : l.Nodup) : l'.Nodup := by
  obtain ⟨l1, h, p⟩ := r
  exact p.nodup_iff.mp (replay_nodup h nd)

theorem replay_fini_block (toks rest : List Nat) : replay (toks ++ rest) (toks.map Ev.fini) = some rest := by
  induction toks with
  | nil => rfl
  | cons t ts ih =>
    simp only [List.map_cons, replay, List.cons_append]
    have live : Tokens.isLive (t :: (ts ++ rest)) t = true := by simp [Tokens.isLive]
    rw [if_pos live]
    have : Tokens.destroy (t :: (ts ++ rest)) t = ts ++ rest := by simp [Tokens.destroy]
    rw [this]; exact ih

theorem Run.fini {l toks rest : List Nat} (p : l.Perm (toks ++ rest)) : Run l (toks.map Ev.fini) rest :=
  Run.perm_left ⟨rest, replay_fini_block toks rest, List.Perm.refl _⟩ p.symm

def seqFrom (a : Nat) : Nat → List Nat
  | 0 => []
  | n + 1 => a :: seqFrom (a + 1) n

theorem seqFrom_eq_range' (a n : Nat) : seqFrom a n = List.range' a n := by
  induction n generalizing a with
  | zero => rfl
  | succ n ih => rw [seqFrom, ih, List.range'_succ]

theorem mem_seqFrom {a n t : Nat} : t ∈ seqFrom a n ↔ a ≤ t ∧ t < a + n := by
  rw [seqFrom_eq_range', List.mem_range'_1]

theorem seqFrom_nodup (a n : Nat) : (seqFrom a n).Nodup := by
  rw [seqFrom_eq_range']; exact List.nodup_range'

theorem seqFrom_length (a n : Nat) : (seqFrom a n).length = n := by
  rw [seqFrom_eq_range', List.length_range']

theorem seqFrom_add (a n m : Nat) : seqFrom a (n + m) = seqFrom a n ++ seqFrom (a + n) m := by
  rw [seqFrom_eq_range', seqFrom_eq_range', seqFrom_eq_range', List.range'_append_1]

/-- `evs` creates exactly the tokens `a, a+1, .., a+m-1` in this order, by default or copy construction from
    sources in `S`, possibly interleaved with refused constructor calls -/
inductive Creates (S : List Nat) : Nat → List Ev → Nat → Prop where
  | nil (a : Nat) : Creates S a [] 0
  | fail {a m : Nat} {evs : List Ev} : Creates S a evs m → Creates S a (Ev.fail :: evs) m
  | init {a m : Nat} {evs : List Ev} : Creates S (a + 1) evs m → Creates S a (Ev.init a :: evs) (m + 1)
  | copy {a m k : Nat} {evs : List Ev} : k ∈ S → Creates S (a + 1) evs m → Creates S a (Ev.copy a k :: evs) (m + 1)

/-- a construction of the fresh token `a` (by `ev`, whatever its kind) in front of a run from `a :: l` -/
theorem Run.create {l : List Nat} {a m : Nat} {ev : Ev} {evs : List Ev}
    (step : ∀ r, replay l (ev :: r) = replay (a :: l) r) (r : Run (a :: l) evs (seqFrom (a + 1) m ++ (a :: l))) :
    Run l (ev :: evs) (seqFrom a (m + 1) ++ l) := by
  obtain ⟨l1, h, p⟩ := r
  exact ⟨l1, (step evs).trans h, p.trans List.perm_middle⟩

theorem Creates.run {S : List Nat} {a m : Nat} {evs : List Ev} (c : Creates S a evs m) :
    ∀ l : List Nat, (∀ t ∈ l, t < a) → (∀ k ∈ S, k ∈ l) → Run l evs (seqFrom a m ++ l) := by
  -- the hypotheses on the live set after the token `a` has been created
  have below : ∀ {a : Nat} {l : List Nat}, (∀ t ∈ l, t < a) → ∀ t ∈ a :: l, t < a + 1 := fun h1 t ht => by
    rcases List.mem_cons.mp ht with e | e
    · omega
    · have := h1 t e; omega
  induction c with
  | nil a => intro l _ _; exact Run.nil l
  | fail _ ih => exact ih
  | @init a m evs _ ih =>
    intro l h1 h2
    have nl : ¬ Tokens.isLive l a = true := by
      rw [isLive_iff]; intro hm; have := h1 a hm; omega
    exact Run.create (fun r => by simp only [replay, if_neg nl, Tokens.create])
      (ih (a :: l) (below h1) (fun k hk => List.mem_cons_of_mem _ (h2 k hk)))
  | @copy a m k evs hk _ ih =>
    intro l h1 h2
    have nl : ¬ (Tokens.isLive l a = true ∨ ¬ Tokens.isLive l k = true) := by
      rw [isLive_iff, isLive_iff]
      rintro (hm | hm)
      · have := h1 a hm; omega
      · exact hm (h2 k hk)
    exact Run.create (fun r => by simp only [replay, if_neg nl, Tokens.create])
      (ih (a :: l) (below h1) (fun k hk => List.mem_cons_of_mem _ (h2 k hk)))

theorem Creates.append {S : List Nat} {a m n : Nat} {e1 e2 : List Ev} (c1 : Creates S a e1 m) (c2 : Creates S (a + m) e2 n) :
    Creates S a (e1 ++ e2) (m + n) := by
  induction c1 with
  | nil a => simpa using c2
  | fail _ ih => exact Creates.fail (ih c2)
  | @init a m evs _ ih =>
    have : m + 1 + n = (m + n) + 1 := by omega
    rw [this]
    exact Creates.init (ih (by have : a + 1 + m = a + (m + 1) := by omega
                               rw [this]; exact c2))
  | @copy a m k evs hk _ ih =>
    have : m + 1 + n = (m + n) + 1 := by omega
    rw [this]
    exact Creates.copy hk (ih (by have : a + 1 + m = a + (m + 1) := by omega
                                  rw [this]; exact c2))

theorem Creates.mono {S T : List Nat} {a m : Nat} {evs : List Ev} (c : Creates S a evs m) (h : ∀ k ∈ S, k ∈ T) :
    Creates T a evs m := by
  induction c with
  | nil a => exact Creates.nil a
  | fail _ ih => exact Creates.fail ih
  | init _ ih => exact Creates.init ih
  | copy hk _ ih => exact Creates.copy (h _ hk) ih

end Mpt.Heap
