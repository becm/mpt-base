/-
  What `mpt_iterator_create` and the argument parsers of the three keywords accept: an inversion lemma for each
  parser (`linArgs_inv`, `rangeArgs_inv`, `facArgs_inv`), `create` as three equations (`create_default`,
  `create_values`, `create_keyword`; `kindArgs k` is the parser of keyword number `k`), the generators the range and
  factor parsers end in (`rangeMake`, `facMake`).  From these: created generators satisfy the invariant, an accepted keyword
  text has its parentheses and ends with the closing one, the refusal of the specification's `certainlyMalformed`
  class, and the facts `C19.malformed_count_refused` and `C19.trailing_junk_refused` rest on (`count_needs`,
  `badCount_scan`, `reverse_tail_ws`).
-/
import MptModel.Lemmas.IterGen
namespace Mpt.Iter
open Mpt.IterSpec

/-! ### the groups of the descriptions leave a suffix -/

theorem parseRange_suffix (s : List Char) (d1 d2 a b : Rat) (t : List Char)
    (h : parseRange s d1 d2 = some (a, b, t)) : t <:+ s := by
  unfold parseRange at h
  cases h1 : cdouble s with
  | err e => rw [h1] at h; cases h
  | zero =>
    rw [h1] at h
    simp only [] at h
    cases h; exact List.suffix_refl _
  | ok v1 r1 =>
    rw [h1] at h
    simp only [] at h
    have s1 := (cdouble_suffix s v1 r1 h1).1
    cases h2 : cdouble r1 with
    | err e => rw [h2] at h; cases h
    | zero => rw [h2] at h; cases h; exact s1
    | ok v2 r2 =>
      rw [h2] at h; cases h
      exact ((cdouble_suffix r1 _ _ h2).1).trans s1

theorem optNumber_suffix (s : List Char) (d v : Rat) (t : List Char) (h : optNumber s d = some (v, t)) : t <:+ s := by
  unfold optNumber at h
  have hp := (List.tail_suffix _).trans (nextPos_suffix s)
  cases hc : cdouble (nextPos s).tail with
  | err e => rw [hc] at h; cases h
  | zero => rw [hc] at h; cases h; exact hp
  | ok x r => rw [hc] at h; cases h; exact ((cdouble_suffix _ _ _ hc).1).trans hp

theorem rangeStep_eq (s : List Char) (d : Rat) :
    rangeStep s d = if nextIs s ':' then optNumber s d else some (d, s) := rfl

/-- the optional `: number` group of the factor description is the one of the range description, with default 10 -/
theorem facBase_eq (s : List Char) : facBase s = rangeStep s 10 := rfl

theorem rangeStep_suffix (s : List Char) (d v : Rat) (t : List Char) (h : rangeStep s d = some (v, t)) : t <:+ s := by
  rw [rangeStep_eq] at h
  split at h
  · exact optNumber_suffix s d v t h
  · cases h; exact List.suffix_refl _

theorem linRange_suffix (s : List Char) (a b : Rat) (t : List Char) (h : linRange s = some (a, b, t)) : t <:+ s := by
  unfold linRange at h
  split at h
  · exact (parseRange_suffix _ _ _ _ _ _ h).trans ((List.tail_suffix _).trans (nextPos_suffix s))
  · cases h; exact List.suffix_refl _

theorem facCount_suffix (s : List Char) (n : Nat) (t : List Char) (h : facCount s = some (n, t)) : t <:+ s := by
  unfold facCount at h
  cases hc : cuint32 s with
  | err e => rw [hc] at h; cases h
  | zero => rw [hc] at h; cases h; exact List.suffix_refl _
  | ok x r => rw [hc] at h; cases (guard_some h).2; exact cuint32_suffix s _ _ hc

theorem facFact_suffix (base : Rat) (p : List Char) (v : Rat) (t : List Char)
    (h : facFact base p = some (v, t)) : t <:+ p := by
  unfold facFact at h
  split at h
  · cases (guard_some h).2; exact List.tail_suffix p
  · cases hc : cdouble p.tail with
    | err e => rw [hc] at h; cases h
    | zero => rw [hc] at h; cases (guard_some h).2; exact List.tail_suffix p
    | ok x r => rw [hc] at h; cases (guard_some h).2; exact ((cdouble_suffix _ _ _ hc).1).trans (List.tail_suffix p)

theorem facTail_suffix (base : Rat) (s : List Char) (f i : Rat) (t : List Char)
    (h : facTail base s = some (f, i, t)) : t <:+ s := by
  unfold facTail at h
  split at h
  · cases hf : facFact base (nextPos s) with
    | none => rw [hf] at h; cases h
    | some r =>
      obtain ⟨fact, s3⟩ := r
      rw [hf] at h
      simp only [] at h
      have h3 := (facFact_suffix base _ fact s3 hf).trans (nextPos_suffix s)
      split at h
      · cases ho : optNumber s3 0 with
        | none => rw [ho] at h; cases h
        | some q =>
          obtain ⟨init, s4⟩ := q
          rw [ho] at h; cases h
          exact (optNumber_suffix s3 0 _ _ ho).trans h3
      · cases h; exact h3
  · cases (guard_some h).2; exact List.suffix_refl _


/-! ### what an accepted argument text went through: inversion of the three parsers -/

/-- the checks and the generator of `_mpt_iterator_range` once bounds and step are known -/
def rangeMake (mn mx step : Rat) : Option Gen :=
  if ¬ (0 < step) ∨ (mx - mn) * (1 + rangeTol) < step ∨ step < (mx - mn) * (1 / 1000000) then none
  else some (.linear mn step (wrap32 (rangeSteps mn mx step + 1)) 0)

/-- the generator of `_mpt_iterator_factor` once count, base, factor and start value are known -/
def facMake (k : Nat) (base f init : Rat) : Option Gen :=
  if f < dblMin then none else some (.factor base f init (wrap32 (k + 1)) 0 init)

theorem linArgs_inv (s : List Char) (g : Gen) (h : linArgs s = some g) :
    ∃ s0 n s1 a b s2, nextvis s = .ok ('(', s0) ∧ cuint32 s0.tail = .ok n s1 ∧
      linRange s1 = some (a, b, s2) ∧ closeOk s2 = true ∧ 2 ≤ wrap32 (n + 1) ∧
      g = .linear a ((b - a) / ((wrap32 (n + 1) - 1 : Nat) : Rat)) (wrap32 (n + 1)) 0 := by
  unfold linArgs at h
  split at h
  · cases h
  · rename_i c s0 hv
    split at h
    · cases h
    · rename_i hc
      split at h
      · cases h
      · cases h
      · rename_i iv s1 hu
        split at h
        · cases h
        · rename_i mn mx s2 hr
          split at h
          · cases h
          · rename_i hp
            unfold mkLinear at h
            split at h
            · cases h
            · cases h
              obtain rfl : c = '(' := by simpa using hc
              exact ⟨s0, iv, s1, mn, mx, s2, hv, hu, hr, by simpa using hp, by omega, rfl⟩

theorem rangeArgs_inv (s : List Char) (g : Gen) (h : rangeArgs s = some g) :
    ∃ s0 a b s1 st s2, nextvis s = .ok ('(', s0) ∧ parseRange s0.tail 0 1 = some (a, b, s1) ∧
      rangeStep s1 ((b - a) / 10) = some (st, s2) ∧ closeOk s2 = true ∧ rangeMake a b st = some g := by
  unfold rangeArgs at h
  split at h
  · cases h
  · rename_i c s0 hv
    split at h
    · cases h
    · rename_i hc
      split at h
      · cases h
      · rename_i mn mx s1 hr
        split at h
        · cases h
        · rename_i step s2 hst
          split at h
          · cases h
          · rename_i hp
            obtain rfl : c = '(' := by simpa using hc
            exact ⟨s0, mn, mx, s1, step, s2, hv, hr, hst, by simpa using hp, h⟩

theorem facArgs_inv (s : List Char) (g : Gen) (h : facArgs s = some g) :
    ∃ s0 n s1 base s2 f i s5, nextvis s = .ok ('(', s0) ∧ facCount s0.tail = some (n, s1) ∧
      facBase s1 = some (base, s2) ∧ facTail base s2 = some (f, i, s5) ∧ closeOk s5 = true ∧
      g = .factor base f i (wrap32 (n + 1)) 0 i := by
  unfold facArgs at h
  split at h
  · cases h
  · rename_i c s0 hv
    split at h
    · cases h
    · rename_i hc
      split at h
      · cases h
      · rename_i n s1 h1
        split at h
        · cases h
        · rename_i base s2 h2
          split at h
          · cases h
          · rename_i f i s5 h3
            split at h
            · cases h
            · rename_i hp
              cases h
              obtain rfl : c = '(' := by simpa using hc
              exact ⟨s0, n, s1, base, s2, f, i, s5, hv, h1, h2, h3, by simpa using hp, rfl⟩

/-- the parser a keyword of the specification's table stands for; the numbers are `keywordKind`'s: 0 `lin`,
    1 `range`, 2 `fac` -/
def kindArgs : Nat → List Char → Option Gen
  | 0 => linArgs
  | 1 => rangeArgs
  | 2 => facArgs
  | _ => fun _ => none

theorem kindArgs_wf (k : Nat) (s : List Char) (g : Gen) (h : kindArgs k s = some g) : g.WF := by
  match k, h with
  | 0, h =>
    obtain ⟨_, _, _, _, _, _, _, _, _, _, _, rfl⟩ := linArgs_inv s g h
    trivial
  | 1, h =>
    obtain ⟨_, _, _, _, _, _, _, _, _, _, hm⟩ := rangeArgs_inv s g h
    cases (guard_some hm).2
    trivial
  | 2, h =>
    obtain ⟨_, _, _, _, _, _, _, _, _, _, _, _, _, rfl⟩ := facArgs_inv s g h
    exact fun _ => rfl

theorem open_close (s s0 sE : List Char) (hv : nextvis s = .ok ('(', s0)) (hsuf : sE <:+ s0.tail)
    (hc : closeOk sE = true) : '(' ∈ s ∧ ∃ tl, (')' :: tl) <:+ s ∧ tl.all isSpace = true := by
  obtain ⟨tl, ta, tb⟩ := closeOk_suffix sE hc
  exact ⟨nextvis_mem s _ _ hv, tl, ta.trans (hsuf.trans ((List.tail_suffix _).trans (nextvis_suffix s _ _ hv))), tb⟩

theorem kindArgs_parens (k : Nat) (s : List Char) (g : Gen) (h : kindArgs k s = some g) :
    '(' ∈ s ∧ ∃ tl, (')' :: tl) <:+ s ∧ tl.all isSpace = true := by
  match k, h with
  | 0, h =>
    obtain ⟨s0, n, s1, a, b, s2, hv, hu, hr, hc, _⟩ := linArgs_inv s g h
    exact open_close s s0 s2 hv ((linRange_suffix s1 a b s2 hr).trans (cuint32_suffix _ _ _ hu)) hc
  | 1, h =>
    obtain ⟨s0, a, b, s1, st, s2, hv, hr, hst, hc, _⟩ := rangeArgs_inv s g h
    exact open_close s s0 s2 hv ((rangeStep_suffix s1 _ st s2 hst).trans (parseRange_suffix _ _ _ _ _ _ hr)) hc
  | 2, h =>
    obtain ⟨s0, n, s1, base, s2, f, i, s5, hv, h1, h2, h3, hc, _⟩ := facArgs_inv s g h
    exact open_close s s0 s5 hv
      ((facTail_suffix base s2 f i s5 h3).trans ((rangeStep_suffix s1 10 base s2 (facBase_eq s1 ▸ h2)).trans (facCount_suffix _ _ _ h1))) hc

theorem mem_of_close {s tl : List Char} (h : (')' :: tl) <:+ s) : ')' ∈ s := h.subset List.mem_cons_self


/-! ### `create` as three equations; what it returns satisfies the invariant -/

theorem ofList_eq (l : List Char) (w : String) : String.ofList l = w ↔ l = w.toList := by
  constructor
  · intro h; rw [← h]; simp
  · intro h; rw [h]; simp

theorem keywordKind_eq (name : List Char) : keywordKind name =
    (if lowerAll name = "lin".toList ∨ lowerAll name = "linear".toList then some 0
     else if lowerAll name = "range".toList then some 1
     else if lowerAll name = "fac".toList ∨ lowerAll name = "fact".toList ∨ lowerAll name = "factor".toList then some 2
     else none) := by
  simp only [keywordKind, ofList_eq]
  rfl

theorem create_default (s : List Char) (h : dropSpace s = []) : create s = some defaultRange := by
  unfold create
  simp only [h]
  rfl

theorem create_values (s : List Char) (hne : dropSpace s ≠ [])
    (hname : ((dropSpace s).takeWhile isLetter).isEmpty = true) : create s = mkValues (dropSpace s) := by
  unfold create
  simp only [spanP_eq]
  have hl : (List.takeWhile isAlpha (dropSpace s)).length = 0 := by
    rw [isLetter_eq] at hname; simpa using hname
  rw [if_neg (by simpa using hne), if_neg (by omega), if_pos (by rw [← isLetter_eq]; exact hname)]

theorem create_keyword (s : List Char) (hname : ((dropSpace s).takeWhile isLetter).isEmpty = false) :
    create s = (keywordKind ((dropSpace s).takeWhile isLetter)).bind
      fun k => kindArgs k ((dropSpace s).dropWhile isLetter) := by
  unfold create
  simp only [spanP_eq]
  rw [keywordKind_eq, isLetter_eq] at *
  generalize dropSpace s = t at hname ⊢
  have hne : t.isEmpty = false := by cases t with | nil => cases hname | cons _ _ => rfl
  rw [hne, hname]
  simp only [Bool.false_eq_true, ↓reduceIte]
  have hlen : (lowerAll (t.takeWhile isAlpha)).length = (t.takeWhile isAlpha).length := List.length_map _
  generalize lowerAll (t.takeWhile isAlpha) = n at hlen ⊢
  -- on each of the six keywords both sides compute; on anything else both are `none`
  by_cases h : (n = "linear".toList ∨ n = "lin".toList) ∨ (n = "factor".toList ∨ n = "fact".toList ∨ n = "fac".toList)
      ∨ n = "range".toList
  · rcases h with (rfl | rfl) | (rfl | rfl | rfl) | rfl <;> (rw [← hlen]; rfl)
  · simp only [not_or] at h
    obtain ⟨⟨h1, h2⟩, ⟨h3, h4, h5⟩, h6⟩ := h
    simp only [h1, h2, h3, h4, h5, h6, or_self, ↓reduceIte, Option.bind_none, ite_self]


theorem create_wf (s : List Char) (g : Gen) (h : create s = some g)
    (hv : ∀ text next curr, g = .values text next curr → numsOk text = true) : g.WF := by
  by_cases h0 : dropSpace s = []
  · rw [create_default s h0] at h; cases h; trivial
  · cases hname : ((dropSpace s).takeWhile isLetter).isEmpty with
    | true =>
      rw [create_values s h0 hname] at h
      obtain ⟨v, rest, hc, rfl⟩ := mkValues_some h
      have hk := hv _ _ _ rfl
      refine ⟨⟨v, rest, hc⟩, hk, ?_⟩
      intro s' hs'; cases hs'
      rw [← (nums_step _ v rest hc).2]; exact hk
    | false =>
      rw [create_keyword s hname] at h
      cases hk : keywordKind ((dropSpace s).takeWhile isLetter) with
      | none => rw [hk] at h; cases h
      | some k => rw [hk] at h; exact kindArgs_wf k _ g h


/-! ### the malformed classes of the specification are refused -/

theorem create_refuses_malformed (s : List Char) (h : IterSpec.certainlyMalformed s = true) : create s = none := by
  unfold IterSpec.certainlyMalformed at h
  simp only [] at h
  generalize ht : s.dropWhile (fun c => c = ' ') = t at h
  have hds : dropSpace s = dropSpace t := by rw [← ht, dropSpace_blank]
  cases t with
  | nil => simp at h
  | cons c cs =>
    have hc' : c ≠ ' ' := by
      intro hc
      have h2 := List.head_dropWhile_not (fun c => decide (c = ' ')) (l := s) (by rw [ht]; simp)
      simp only [ht, List.head_cons] at h2
      simp [hc] at h2
    simp only [List.isEmpty_cons, Bool.false_eq_true, ↓reduceIte] at h
    by_cases hal : isAlpha c = true
    · -- a keyword: unknown, or a parenthesis is missing
      have hdt : dropSpace s = c :: cs := by rw [hds]; exact dropSpace_id c cs (letter_not_space c hal)
      have hname : (List.takeWhile isLetter (c :: cs)).isEmpty = false := by
        simp [List.takeWhile, isLetter_eq, hal]
      rw [hname] at h
      simp only [Bool.false_eq_true, ↓reduceIte, Bool.or_eq_true, Bool.not_eq_true', Option.isNone_iff_eq_none,
        List.any_eq_false, decide_eq_true_eq] at h
      rw [create_keyword s (by rw [hdt]; exact hname), hdt]
      cases hk : keywordKind (List.takeWhile isLetter (c :: cs)) with
      | none => rfl
      | some k =>
        cases hr : kindArgs k (List.dropWhile isLetter (c :: cs)) with
        | none => exact hr
        | some g =>
          obtain ⟨ho, tl, hcl, _⟩ := kindArgs_parens k _ g hr
          rcases h with (h | h) | h
          · rw [hk] at h; cases h
          · exact absurd rfl (h _ ho)
          · exact absurd rfl (h _ (mem_of_close hcl))
    · -- no keyword: the text must start like a number
      have hal' : isAlpha c = false := by simpa using hal
      have hname : (List.takeWhile isLetter (c :: cs)).isEmpty = true := by
        simp [List.takeWhile, isLetter_eq, hal']
      rw [hname] at h
      simp only [↓reduceIte, List.head?_cons, Bool.not_eq_true', Bool.or_eq_false_iff, decide_eq_false_iff_not,
        Bool.and_eq_false_iff] at h
      rw [isDig_eq] at h
      obtain ⟨⟨⟨⟨⟨hdg, hplus⟩, hminus⟩, hdot⟩, htab⟩, hctl⟩ := h
      have hsp : isSpace c = false := by
        have : c.toNat ≠ 32 := fun hc => hc' (Char.ext (UInt32.toNat_inj.1 hc))
        simp only [isSpace, Bool.or_eq_false_iff, Bool.and_eq_false_iff, decide_eq_false_iff_not]
        exact ⟨this, by omega⟩
      have hdt : dropSpace s = c :: cs := by rw [hds]; exact dropSpace_id c cs hsp
      rw [create_values s (by rw [hdt]; simp) (by rw [hdt]; exact hname), hdt]
      -- `i` and `I` are letters
      have hi : lower c ≠ 'i' := by
        intro hc
        have : isAlpha c = true := by
          unfold lower at hc
          split at hc
          · rename_i hu
            simp only [isAlpha, Bool.or_eq_true, Bool.and_eq_true, decide_eq_true_eq]
            left; exact hu
          · subst hc; decide
        rw [this] at hal'; cases hal'
      unfold mkValues
      rw [cdouble_refused c cs hsp hdg hplus hminus hdot hi]


/-- what `_mpt_iterator_linear` and `_mpt_iterator_factor` need of their argument text: an opening parenthesis, no
    failing count, and behind a count `:` or `)` (the factor description may lack the count) -/
theorem count_needs (k : Nat) (hk : k = 0 ∨ k = 2) (r : List Char) (g : Gen) (h : kindArgs k r = some g) :
    ∃ body, dropSpace r = '(' :: body ∧ (∀ e, cuint32 body ≠ .err e) ∧
      ∀ n s1, cuint32 body = .ok n s1 → nextIs s1 ':' = true ∨ nextIs s1 ')' = true := by
  have hopen : ∀ s0, nextvis r = .ok ('(', s0) → dropSpace r = '(' :: s0.tail := by
    intro s0 hv
    obtain ⟨hd, hh⟩ := nextvis_drop r _ s0 hv
    rw [← hd]
    cases s0 with
    | nil => cases hh
    | cons x xs => cases hh; rfl
  rcases hk with rfl | rfl
  · obtain ⟨s0, n, s1, a, b, s2, hv, hu, hr, hc, _⟩ := linArgs_inv r g h
    refine ⟨s0.tail, hopen s0 hv, (fun e he => by rw [hu] at he; cases he), ?_⟩
    intro n' s1' hu'
    rw [hu] at hu'; cases hu'
    unfold linRange at hr
    split at hr
    · rename_i hcol; exact Or.inl hcol
    · cases hr; exact Or.inr (closeOk_nextIs _ hc)
  · obtain ⟨s0, n, s1, base, s2, f, i, s5, hv, hfc, hfb, hft, hc, _⟩ := facArgs_inv r g h
    have hnext : nextIs s1 ':' = true ∨ nextIs s1 ')' = true := by
      unfold facBase at hfb
      split at hfb
      · rename_i hcol; exact Or.inl hcol
      · rename_i hncol
        cases hfb
        unfold facTail at hft
        rw [if_neg hncol] at hft
        cases (guard_some hft).2
        exact Or.inr (closeOk_nextIs _ hc)
    refine ⟨s0.tail, hopen s0 hv, ?_⟩
    unfold facCount at hfc
    cases hq : cuint32 s0.tail with
    | err e => rw [hq] at hfc; cases hfc
    | zero => exact ⟨(fun e he => by cases he), (fun n s1 he => by cases he)⟩
    | ok v rest =>
      rw [hq] at hfc
      cases (guard_some hfc).2
      exact ⟨(fun e he => by cases he), (fun n s1' he => by cases he; exact hnext)⟩

theorem dropWhile_oct (l : List Char) :
    l.dropWhile isOct = l.dropWhile isDigit ∨ ∃ d rest, l.dropWhile isOct = d :: rest ∧ isDigit d = true := by
  induction l with
  | nil => exact Or.inl rfl
  | cons c cs ih =>
    by_cases ho : isOct c = true
    · have hd : isDigit c = true := by
        unfold isOct at ho; unfold isDigit
        simp only [Bool.and_eq_true, decide_eq_true_eq] at ho ⊢
        omega
      simp only [List.dropWhile, ho, hd]
      exact ih
    · by_cases hd : isDigit c = true
      · exact Or.inr ⟨c, cs, by simp [List.dropWhile, ho], hd⟩
      · exact Or.inl (by simp [List.dropWhile, ho, hd])

theorem badCount_scan (body : List Char) (h : badCount body = true) :
    (∃ e, cuint32 body = .err e) ∨
    (∃ n s1, cuint32 body = .ok n s1 ∧ nextIs s1 ':' = false ∧ nextIs s1 ')' = false) := by
  unfold badCount at h
  simp only [dropWhile_ws, isDig_eq] at h
  cases hb : dropSpace body with
  | nil => rw [hb] at h; simp at h
  | cons x xs =>
    rw [hb] at h
    have hxs : isSpace x = false := dropSpace_head body x (by rw [hb]; rfl)
    have hne : body.isEmpty = false := by
      cases body with
      | nil => simp [dropSpace] at hb
      | cons _ _ => rfl
    have hnsp : body.all isSpace = false := by
      cases hq : body.all isSpace with
      | false => rfl
      | true => rw [all_space_drop body hq] at hb; cases hb
    -- the outcomes of the scanner once the text is not empty
    have herr : (uintDigits body).isEmpty = true ∨ (dropSpace body).head? = some '-' ∨ 4294967295 < uintVal body →
        ∃ e, cuint32 body = .err e := by
      intro hc
      unfold cuint32
      rw [hne]
      simp only [Bool.false_eq_true, ↓reduceIte, hnsp]
      split
      · exact ⟨_, rfl⟩
      · rename_i hud
        rw [if_pos (hc.resolve_left hud)]; exact ⟨_, rfl⟩
    by_cases hminus : x = '-'
    · -- a minus sign: refused whatever follows
      subst hminus
      exact Or.inl (herr (Or.inr (Or.inl (by rw [hb]; rfl))))
    · -- the digits the scanner starts at
      have hns : numStart body =
          (if (x :: xs).head? = some '+' then (x :: xs).tail else x :: xs) := by
        unfold numStart signRest
        rw [hb]
        by_cases hp : x = '+'
        · subst hp; simp
        · simp [hminus, hp]
      generalize hb' : (if (x :: xs).head? = some '+' then (x :: xs).tail else x :: xs) = b' at h hns
      split at h
      · -- no digit
        rename_i hnd
        refine Or.inl (herr (Or.inl ?_))
        unfold uintDigits
        rw [hns, spanP_eq, spanP_eq]
        simp only []
        have hdig : b'.takeWhile isDigit = [] := by simpa using hnd
        split
        · -- leading '0' would be a digit
          rename_i h0
          cases b' with
          | nil => simp at h0
          | cons y ys =>
            simp only [List.head?_cons, Option.some.injEq] at h0
            subst h0
            simp [List.takeWhile, isDigit] at hdig
        · simp [hdig]
      · -- digits, then something else
        rename_i hd
        by_cases hbad : (uintDigits body).isEmpty = true ∨ (dropSpace body).head? = some '-' ∨ 4294967295 < uintVal body
        · exact Or.inl (herr hbad)
        · right
          refine ⟨uintVal body, uintRest body, ?_, ?_⟩
          · unfold cuint32
            rw [hne]
            simp only [Bool.false_eq_true, ↓reduceIte]
            rw [if_neg (fun hc => hbad (Or.inl hc)), if_neg (fun hc => hbad (Or.inr hc))]
          · -- the rest starts with a digit or is what follows the digits
            have hrest : uintRest body = b'.dropWhile isDigit ∨
                ∃ d rest, uintRest body = d :: rest ∧ isDigit d = true := by
              unfold uintRest
              rw [hns, spanP_eq, spanP_eq]
              simp only []
              split
              · exact dropWhile_oct b'
              · exact Or.inl rfl
            rcases hrest with hr | ⟨d, rest, hr, hdg⟩
            · rw [hr]
              cases hx : (dropSpace (b'.dropWhile isDigit)).head? with
              | none =>
                rw [hx] at h; simp at h
              | some y =>
                rw [hx] at h
                simp only [Bool.and_eq_true, bne_iff_ne, ne_eq] at h
                constructor
                · cases hq : nextIs (b'.dropWhile isDigit) ':' with
                  | false => rfl
                  | true =>
                    have := nextIs_visible _ _ hq
                    rw [hx] at this; cases this; exact absurd rfl h.1
                · cases hq : nextIs (b'.dropWhile isDigit) ')' with
                  | false => rfl
                  | true =>
                    have := nextIs_visible _ _ hq
                    rw [hx] at this; cases this; exact absurd rfl h.2
            · rw [hr]
              have hv : nextvis (d :: rest) = .ok (d, d :: rest) := by
                simp [nextvis, digit_not_space d hdg]
              have hne1 : d ≠ ':' := by intro e; subst e; simp [isDigit] at hdg
              have hne2 : d ≠ ')' := by intro e; subst e; simp [isDigit] at hdg
              constructor <;> (unfold nextIs; rw [hv]; simpa)

/-! ### the last visible character of an accepted keyword text -/

theorem reverse_tail_ws (pre tl : List Char) (h : tl.all isSpace = true) :
    (dropSpace (pre ++ ')' :: tl).reverse).head? = some ')' := by
  have e : (pre ++ ')' :: tl).reverse = tl.reverse ++ (')' :: pre.reverse) := by simp
  rw [e, dropSpace_append_ws _ _ (by simpa using h)]
  rfl

end Mpt.Iter
