/-
  One constructor call (`initAt_cases`), and one specification per callback loop of the C code in terms of element slots,
  the event log (`Creates` / destroyed block) and the token counter.  Facts about stored token values are conditional on the
  32-bit token counter of the harness not having wrapped at the end of the loop (`s'.next ≤ 2^32`).
-/
import MptModel.Lemmas.TokMem
namespace Mpt.Heap

theorem slot_construct_other (d : List Byte) (sz i tok : Nat) (h4 : 4 ≤ sz) (fit : (i + 1) * sz ≤ d.length)
    (j : Nat) (ne : j ≠ i) : slot (Mem.write d (i * sz) (elemBytes tok sz)) sz j = slot d sz j := by
  rw [slot_write d sz i 1 _ h4 (by rw [elemBytes_length tok sz h4]; simp) fit j]
  have : ¬ (i ≤ j ∧ j < i + 1) := by omega
  rw [if_neg this]

theorem slot_construct_same (d : List Byte) (sz i tok : Nat) (h4 : 4 ≤ sz) (fit : (i + 1) * sz ≤ d.length) (small : tok < tokLimit) :
    slot (Mem.write d (i * sz) (elemBytes tok sz)) sz i = tok := by
  rw [slot_write d sz i 1 _ h4 (by rw [elemBytes_length tok sz h4]; simp) fit i]
  simp only [Nat.le_refl, Nat.lt_add_one, and_self, if_true, Nat.sub_self]
  exact slot_elemBytes tok sz h4 small

theorem construct_length (d : List Byte) (sz i tok : Nat) (h4 : 4 ≤ sz) (fit : (i + 1) * sz ≤ d.length) :
    (Mem.write d (i * sz) (elemBytes tok sz)).length = d.length := by
  have e : (i + 1) * sz = i * sz + sz := by rw [Nat.add_mul]; simp
  exact Mem.write_length _ _ _ (by rw [elemBytes_length tok sz h4]; omega)

theorem initAt_cases {s : State} {b pos sz : Nat} {x : Buf} (src : Option Nat) (hb : s.buf? b = some x)
    (fit : pos + sz ≤ x.size) :
    (∃ s1, initAt s b pos sz src = .ok s1 false ∧ Frame s s1 b ∧ s1.buf? b = some x ∧ s1.next = s.next ∧
        s1.log = s.log ++ [Ev.fail] ∧ s.oracle = true :: s1.oracle) ∨
    (∃ s1, initAt s b pos sz src = .ok s1 true ∧ Frame s s1 b ∧
        s1.buf? b = some { x with data := Mem.write x.data pos (elemBytes s.next sz) } ∧ s1.next = s.next + 1 ∧
        s1.log = s.log ++ [ctorEv s.next src] ∧ s1.oracle = s.oracle.tail) := by
  have blt := State.buf?_lt hb
  unfold initAt
  rw [hb]
  simp only
  rw [if_neg (by omega)]
  -- the state after a construction that leaves the schedule `o`
  have good : ∀ o : List Bool, ∃ s1,
      s1 = State.setBuf { s with oracle := o, next := s.next + 1, log := s.log ++ [ctorEv s.next src] } b
        { x with data := Mem.write x.data pos (elemBytes s.next sz) } ∧
      Frame s s1 b ∧ s1.buf? b = some { x with data := Mem.write x.data pos (elemBytes s.next sz) } ∧
      s1.next = s.next + 1 ∧ s1.log = s.log ++ [ctorEv s.next src] ∧ s1.oracle = o := fun o =>
    ⟨_, rfl, (⟨rfl, rfl, rfl, fun _ _ => rfl⟩ :
        Frame s { s with oracle := o, next := s.next + 1, log := s.log ++ [ctorEv s.next src] } b).setBuf _ blt,
      State.buf?_setBuf_self _ _ _ blt, rfl, rfl, rfl⟩
  cases ho : s.oracle with
  | nil =>
    obtain ⟨s1, e, f, h1, n1, l1, o1⟩ := good []
    exact Or.inr ⟨s1, by rw [e]; rfl, f, h1, n1, l1, o1⟩
  | cons fl rest =>
    cases fl with
    | true => exact Or.inl ⟨_, rfl, ⟨rfl, rfl, rfl, fun _ _ => rfl⟩, hb, rfl, rfl, rfl⟩
    | false =>
      obtain ⟨s1, e, f, h1, n1, l1, o1⟩ := good rest
      exact Or.inr ⟨s1, by rw [e]; rfl, f, h1, n1, l1, o1⟩

/-- the shape the default-construction loops share: `n` constructor calls from byte position `pos` on, `sz` bytes
    apart, stopping at the first refusal (`onFail`) -/
def genInit {α : Type} (onFail : State → Nat → Out α) (done : State → Nat → Out α) :
    Nat → State → Nat → Nat → Nat → Out α
  | 0, s, _, pos, _ => done s pos
  | n + 1, s, b, pos, sz =>
    match initAt s b pos sz none with
    | .ok s1 true => genInit onFail done n s1 b (pos + sz) sz
    | .ok s1 false => onFail s1 pos
    | .fail s1 e => .fail s1 e
    | .fault w => .fault w

/-- result description of a construction loop over the elements `i .. i+n-1`: `m` elements were built with the
    fresh tokens `s.next ..`; `S` holds the tokens that copy constructions may name as source (`Creates`); `u'` is the used
    size the buffer is left with -/
structure Built (s s1 : State) (b : Nat) (x : Buf) (sz i m : Nat) (S : List Nat) (d' : List Byte) (u' : Nat) : Prop where
  frame : Frame s s1 b
  buf : s1.buf? b = some { x with data := d', used := u' }
  len : d'.length = x.data.length
  next : s1.next = s.next + m
  log : ∃ evs, s1.log = s.log ++ evs ∧ Creates S s.next evs m
  out : ∀ j, j < i ∨ i + m ≤ j → slot d' sz j = slot x.data sz j
  inn : s1.next ≤ tokLimit → ∀ j, i ≤ j → j < i + m → slot d' sz j = s.next + (j - i)

theorem Built.refl (s : State) (b : Nat) (x : Buf) (sz i : Nat) (S : List Nat) (hb : s.buf? b = some x) :
    Built s s b x sz i 0 S x.data x.used :=
  ⟨Frame.refl s b, hb, rfl, rfl, ⟨[], (List.append_nil _).symm, Creates.nil _⟩, fun _ _ => rfl, fun _ j h1 h2 => by omega⟩

/-- one more element, constructed at slot `i` by the event `ev`, in front of a loop result -/
theorem Built.cons {s sA s2 : State} {b : Nat} {x : Buf} {sz i m : Nat} {S : List Nat} {d' : List Byte} {u : Nat} {ev : Ev}
    (h4 : 4 ≤ sz) (fit : (i + 1) * sz ≤ x.data.length) (fr : Frame s sA b) (nA : sA.next = s.next + 1)
    (lA : sA.log = s.log ++ [ev]) (cA : ∀ {evs k}, Creates S (s.next + 1) evs k → Creates S s.next (ev :: evs) (k + 1))
    (bt : Built sA s2 b { x with data := Mem.write x.data (i * sz) (elemBytes s.next sz) } sz (i + 1) m S d' u) :
    Built s s2 b x sz i (m + 1) S d' u := by
  obtain ⟨evs, le, cr⟩ := bt.log
  refine ⟨fr.trans bt.frame, bt.buf, bt.len.trans (construct_length x.data sz i s.next h4 fit), by rw [bt.next, nA]; omega,
    ⟨ev :: evs, by rw [le, lA, List.append_assoc]; rfl, cA (nA ▸ cr)⟩, fun j hj => ?_, fun small j h1 h2 => ?_⟩
  · rw [bt.out j (by omega)]
    exact slot_construct_other x.data sz i s.next h4 fit j (by omega)
  · have n2 := bt.next
    by_cases e : j = i
    · rw [bt.out j (by omega), e]
      exact (slot_construct_same x.data sz i s.next h4 fit (by omega)).trans (by omega)
    · rw [bt.inn small j (by omega) (by omega), nA]; omega

theorem Built.setUsed {s s1 : State} {b : Nat} {x : Buf} {sz i m : Nat} {S : List Nat} {d' : List Byte} {u : Nat}
    (bt : Built s s1 b x sz i m S d' u) (u' : Nat) :
    Built s (s1.setBuf b { x with data := d', used := u' }) b x sz i m S d' u' := by
  have blt := State.buf?_lt bt.buf
  refine ⟨⟨by simp [bt.frame.hs], by simpa [State.setBuf] using bt.frame.wins, by simp [bt.frame.len], fun c ne => ?_⟩, ?_, bt.len, bt.next, bt.log, bt.out, bt.inn⟩
  · rw [State.buf?_setBuf _ _ _ _ blt, if_neg ne]; exact bt.frame.other c ne
  · rw [State.buf?_setBuf _ _ _ _ blt, if_pos rfl]

theorem genInit_spec {α : Type} (onFail : State → Nat → Out α) (done : State → Nat → Out α) :
    ∀ (n : Nat) (s : State) (b i sz : Nat) (x : Buf), s.buf? b = some x → 4 ≤ sz → (i + n) * sz ≤ x.size →
    ∃ s1 d' m, m ≤ n ∧ Built s s1 b x sz i m [] d' x.used ∧
      ((m = n ∧ genInit onFail done n s b (i * sz) sz = done s1 ((i + n) * sz)) ∨
       (m < n ∧ genInit onFail done n s b (i * sz) sz = onFail s1 ((i + m) * sz))) := by
  intro n
  induction n with
  | zero =>
    intro s b i sz x hb _ _
    exact ⟨s, x.data, 0, Nat.le_refl _, Built.refl s b x sz i [] hb, Or.inl ⟨rfl, rfl⟩⟩
  | succ n ih =>
    intro s b i sz x hb h4 fit
    have e1 : i + (n + 1) = i + 1 + n := by omega
    have f1 : (i + 1) * sz ≤ x.data.length := Nat.le_trans (Nat.mul_le_mul_right _ (by omega)) fit
    simp only [genInit]
    rcases initAt_cases none hb (Nat.succ_mul i sz ▸ f1) with ⟨s1, he, fr, hb1, n1, l1, _⟩ | ⟨s1, he, fr, hb1, n1, l1, _⟩
    · rw [he]
      exact ⟨s1, x.data, 0, Nat.zero_le _, ⟨fr, hb1, rfl, n1, ⟨[Ev.fail], l1, Creates.fail (Creates.nil _)⟩,
        fun _ _ => rfl, fun _ j h1 h2 => by omega⟩, Or.inr ⟨Nat.succ_pos n, rfl⟩⟩
    · obtain ⟨s2, d', m, mle, bt, alt⟩ := ih s1 b (i + 1) sz _ hb1 h4
        (by simp only [Buf.size, construct_length x.data sz i s.next h4 f1]; exact e1 ▸ fit)
      rw [he]
      simp only
      rw [Nat.succ_mul] at alt
      refine ⟨s2, d', m + 1, Nat.succ_le_succ mle, Built.cons h4 f1 fr n1 l1 Creates.init bt, ?_⟩
      rcases alt with ⟨me, he2⟩ | ⟨ml, he2⟩
      · exact Or.inl ⟨by omega, by rw [he2, e1]⟩
      · exact Or.inr ⟨by omega, by rw [he2, Nat.add_right_comm i 1 m, Nat.add_assoc]⟩

/-- what `mpt_array_slice` does when a constructor is refused at position `p` -/
def stopFail (b : Nat) : State → Nat → Out Unit := fun s1 p =>
  match s1.buf? b with
  | none => .fault "slice: freed buffer"
  | some y => .fail (s1.setBuf b { y with used := p }) .null

/-- what `mpt_buffer_set` does when a gap constructor is refused at position `p` -/
def gapFail (b : Nat) : State → Nat → Out Unit := fun s1 p =>
  match s1.buf? b with
  | none => .fault "buffer_set: freed buffer"
  | some y => .fail (s1.setBuf b { y with used := p }) (.err .BadOperation)

def doneUnit : State → Nat → Out Unit := fun s _ => .ok s ()

theorem initLoopStop_eq (b : Nat) : ∀ (n : Nat) (s : State) (pos sz : Nat),
    initLoopStop n s b pos sz = genInit (stopFail b) doneUnit n s b pos sz := by
  intro n
  induction n with
  | zero => intro s pos sz; rfl
  | succ n ih =>
    intro s pos sz
    simp only [initLoopStop, genInit]
    cases initAt s b pos sz none with
    | ok s1 v =>
      cases v with
      | true => simp [ih]
      | false => simp only [stopFail]; cases s1.buf? b <;> rfl
    | fail s1 e => rfl
    | fault w => rfl

theorem initLoopBreak_eq (b : Nat) : ∀ (n : Nat) (s : State) (pos sz : Nat),
    initLoopBreak n s b pos sz = genInit (fun s1 p => .ok s1 p) (fun s p => .ok s p) n s b pos sz := by
  intro n
  induction n with
  | zero => intro s pos sz; rfl
  | succ n ih =>
    intro s pos sz
    simp only [initLoopBreak, genInit]
    cases initAt s b pos sz none with
    | ok s1 v => cases v <;> simp [ih]
    | fail s1 e => rfl
    | fault w => rfl

theorem setGapLoop_eq (b : Nat) : ∀ (n : Nat) (s : State) (pos sz : Nat),
    setGapLoop n s b pos sz = genInit (gapFail b) doneUnit n s b pos sz := by
  intro n
  induction n with
  | zero => intro s pos sz; rfl
  | succ n ih =>
    intro s pos sz
    simp only [setGapLoop, genInit]
    cases initAt s b pos sz none with
    | ok s1 v =>
      cases v with
      | true => simp [ih]
      | false => simp only [gapFail]; cases s1.buf? b <;> rfl
    | fail s1 e => rfl
    | fault w => rfl

/-- `finiLoop_spec` in element slots in place of byte positions -/
theorem finiLoop_slots (n : Nat) (s : State) (b i sz : Nat) (x : Buf) (hb : s.buf? b = some x) (h4 : 4 ≤ sz)
    (fit : (i + n) * sz ≤ x.size) :
    ∃ s' d', finiLoop n s b (i * sz) sz = .ok s' () ∧ OnlyBuf s s' b ∧
      s'.log = s.log ++ (slotsFrom x.data sz i n).map Ev.fini ∧
      s'.buf? b = some { x with data := d' } ∧ d'.length = x.data.length ∧
      (∀ j, j < i ∨ i + n ≤ j → slot d' sz j = slot x.data sz j) := by
  rw [Nat.add_mul] at fit
  obtain ⟨s', d', h1, h2, h3, h5, h6, h7⟩ := finiLoop_spec n s b (i * sz) sz x hb fit
  refine ⟨s', d', h1, h2, by rw [h3, toksAt_eq], h5, h6, fun j hj => rdTok_congr fun k hk => h7 _ ?_⟩
  rcases hj with lt | ge
  · have := Nat.mul_le_mul_right sz (Nat.succ_le_of_lt lt)
    rw [Nat.succ_mul] at this
    exact Or.inl (by omega)
  · have := Nat.mul_le_mul_right sz ge
    rw [Nat.add_mul] at this
    exact Or.inr (by omega)


/-- `ctorLoop`: constructions by the caller, never refused -/
theorem ctorLoop_spec : ∀ (n : Nat) (s : State) (b i sz : Nat) (x : Buf), s.buf? b = some x → 4 ≤ sz → (i + n) * sz ≤ x.size →
    ∃ s1 d', ctorLoop n s b (i * sz) sz = .ok s1 () ∧ Built s s1 b x sz i n [] d' x.used ∧ s1.oracle = s.oracle := by
  intro n
  induction n with
  | zero =>
    intro s b i sz x hb _ _
    exact ⟨s, x.data, rfl, Built.refl s b x sz i [] hb, rfl⟩
  | succ n ih =>
    intro s b i sz x hb h4 fit
    have e1 : i + (n + 1) = i + 1 + n := by omega
    have f1 : (i + 1) * sz ≤ x.data.length := Nat.le_trans (Nat.mul_le_mul_right _ (by omega)) fit
    simp only [ctorLoop]
    -- the constructor runs under the empty schedule, which is put back afterwards
    rcases initAt_cases (s := { s with oracle := [] }) none hb (Nat.succ_mul i sz ▸ f1) with
      ⟨s1, _, _, _, _, _, o1⟩ | ⟨s1, he, fr, hb1, n1, l1, _⟩
    · cases o1
    · obtain ⟨s2, d', hd, bt, o2⟩ := ih { s1 with oracle := s.oracle } b (i + 1) sz _ hb1 h4
        (by simp only [Buf.size, construct_length x.data sz i s.next h4 f1]; exact e1 ▸ fit)
      rw [he]
      simp only
      rw [Nat.succ_mul] at hd
      exact ⟨s2, d', hd, Built.cons (sA := { s1 with oracle := s.oracle }) h4 f1 fr.schedule n1 l1
        Creates.init bt, o2⟩


/-- outcome of the copy-construction loop of `mpt_buffer_set` over the elements `i .. q-1` (`n = q - i` of them);
    `u` = number of elements inside the used size before the call.  `m` elements were built.  `fatal`: a constructor
    and its fallback were refused; then the buffer ends behind the last built element and (with a destructor) the old
    elements behind `q` are destroyed -/
structure SetRes (S : List Nat) (sz q u : Nat) (hasFini : Bool) (s : State) (b : Nat) (x : Buf) (i n : Nat)
    (s1 : State) (d' : List Byte) (m : Nat) (fatal : Bool) : Prop where
  mle : m ≤ n
  fat : fatal = true → m < n
  nfat : fatal = false → m = n
  frame : Frame s s1 b
  len : d'.length = x.data.length
  next : s1.next = s.next + m
  buf : s1.buf? b = some { x with data := d', used := if fatal then (i + m) * sz else max (u * sz) (q * sz) }
  low : ∀ j, j < i → slot d' sz j = slot x.data sz j
  inn : s1.next ≤ tokLimit → ∀ j, i ≤ j → j < i + m → slot d' sz j = s.next + (j - i)
  high : fatal = false → ∀ j, q ≤ j → slot d' sz j = slot x.data sz j
  log : ∃ evs, Creates S s.next evs m ∧
    s1.log = s.log ++ evs ++ (if (fatal && hasFini) = true then (slotsFrom x.data sz q (u - q)).map Ev.fini else [])

/-- one more element, constructed at slot `i` by the events `pre`, in front of a loop result -/
theorem SetRes.cons {S : List Nat} {sz q u : Nat} {hasFini : Bool} {s sA s1 : State} {b : Nat} {x : Buf} {i n m : Nat}
    {d' : List Byte} {fatal : Bool}
    (h4 : 4 ≤ sz) (fit : (i + 1) * sz ≤ x.data.length) (qi : i + 1 ≤ q)
    (fr : Frame s sA b) (nA : sA.next = s.next + 1)
    (pre : List Ev) (lA : sA.log = s.log ++ pre) (cA : Creates S s.next pre 1)
    (res : SetRes S sz q u hasFini sA b { x with data := Mem.write x.data (i * sz) (elemBytes s.next sz) } (i + 1) n s1 d' m fatal) :
    SetRes S sz q u hasFini s b x i (n + 1) s1 d' (m + 1) fatal := by
  have other := slot_construct_other x.data sz i s.next h4 fit
  obtain ⟨evs, cr, le⟩ := res.log
  have n1 := res.next
  refine ⟨Nat.succ_le_succ res.mle, fun h => Nat.succ_lt_succ (res.fat h), fun h => congrArg _ (res.nfat h), fr.trans res.frame,
    res.len.trans (construct_length x.data sz i s.next h4 fit), by omega, ?_, fun j hj => ?_, fun small j h1 h2 => ?_,
    fun h j hj => (res.high h j hj).trans (other j (by omega)), pre ++ evs, ?_, ?_⟩
  · rw [res.buf, Nat.add_assoc i 1 m, Nat.add_comm 1 m]
  · rw [res.low j (by omega)]; exact other j (by omega)
  · by_cases e : j = i
    · rw [res.low j (by omega), e]
      exact (slot_construct_same x.data sz i s.next h4 fit (by omega)).trans (by omega)
    · rw [res.inn small j (by omega) (by omega), nA]; omega
  · simpa [Nat.add_comm] using Creates.append cA (nA ▸ cr)
  · rw [le, lA, slotsFrom_congr (d := x.data) (fun j h1 _ => other j (by omega))]
    simp only [List.append_assoc]


/-- the copy-construction loop of `mpt_buffer_set` for every constructor-failure schedule -/
theorem setInitLoop_spec (S : List Nat) (sz q u i0 : Nat) (bytes : List Byte) (hasSrc hasFini : Bool) (b : Nat) (h4 : 4 ≤ sz) :
    ∀ (n : Nat) (s : State) (i : Nat) (x : Buf) (count : Nat), s.buf? b = some x → i + n = q → q * sz ≤ x.size →
      u * sz ≤ x.size →
      (hasSrc = true → ∀ j, i ≤ j → j < q → slot bytes sz (j - i0) ∈ S) →
      ∃ s1 d' m cnt fatal,
        setInitLoop n s b (i * sz) (q * sz) (u * sz) (i0 * sz) bytes hasSrc sz hasFini count = .ok s1 cnt ∧
        SetRes S sz q u hasFini s b x i n s1 d' m fatal := by
  intro n
  induction n with
  | zero =>
    intro s i x count hb iq fq fu _
    have blt := State.buf?_lt hb
    exact ⟨s.setBuf b { x with used := max (u * sz) (q * sz) }, x.data, 0, Int.ofNat count, false, by simp only [setInitLoop, hb],
      Nat.le_refl _, nofun, fun _ => rfl,
      (Frame.refl s b).setBuf _ blt, rfl, rfl, State.buf?_setBuf_self _ _ _ blt, fun _ _ => rfl, fun _ j h1 h2 => by omega,
      fun _ _ _ => rfl, [], Creates.nil _, by simp [State.setBuf]⟩
  | succ n ih =>
    intro s i x count hb iq fq fu hS
    have qi : i + 1 ≤ q := by omega
    have f1' : (i + 1) * sz ≤ x.data.length := Nat.le_trans (Nat.mul_le_mul_right _ qi) fq
    have f1 : i * sz + sz ≤ x.size := Nat.succ_mul i sz ▸ f1'
    have wl := construct_length x.data sz i s.next h4 f1'
    -- the rest of the loop after a successful construction reached through the events `pre`
    have recur : ∀ (sA : State) (pre : List Ev) (c' : Nat), Frame s sA b →
        sA.buf? b = some { x with data := Mem.write x.data (i * sz) (elemBytes s.next sz) } → sA.next = s.next + 1 →
        sA.log = s.log ++ pre → Creates S s.next pre 1 →
        ∃ s1 d' m cnt fatal,
          setInitLoop n sA b (i * sz + sz) (q * sz) (u * sz) (i0 * sz) bytes hasSrc sz hasFini c' = .ok s1 cnt ∧
          SetRes S sz q u hasFini s b x i (n + 1) s1 d' m fatal := by
      intro sA pre c' fr hbA nA lA cA
      obtain ⟨s1, d', m, cnt, fatal, he, res⟩ := ih sA (i + 1) _ c' hbA (by omega) (by rw [Buf.size, wl]; exact fq)
        (by rw [Buf.size, wl]; exact fu) (fun hs j h1 h2 => hS hs j (by omega) h2)
      exact ⟨s1, d', m + 1, cnt, fatal, Nat.succ_mul i sz ▸ he, SetRes.cons h4 f1' qi fr nA pre lA cA res⟩
    -- the default construction after `pre` (nothing or one refusal)
    have dflt : ∀ (sB : State) (pre : List Ev), Frame s sB b → sB.buf? b = some x → sB.next = s.next →
        sB.log = s.log ++ pre → Creates S s.next pre 0 →
        ∃ s1 d' m cnt fatal,
          (match initAt sB b (i * sz) sz none with
           | .ok s2 true => setInitLoop n s2 b (i * sz + sz) (q * sz) (u * sz) (i0 * sz) bytes hasSrc sz hasFini count
           | .ok s2 false =>
             (match s2.buf? b with
              | none => .fault "buffer_set: freed buffer"
              | some y =>
                if hasFini = true then
                  (match finiLoop (iters (q * sz) (u * sz) sz) (s2.setBuf b { y with used := i * sz }) b (q * sz) sz with
                   | .ok s4 _ => .ok s4 (Int.ofNat count)
                   | .fail s4 e => .fail s4 e
                   | .fault w => .fault w)
                else .ok (s2.setBuf b { y with used := i * sz }) (Int.ofNat count))
           | .fail s2 e => .fail s2 e
           | .fault w => .fault w) = .ok s1 cnt ∧
          SetRes S sz q u hasFini s b x i (n + 1) s1 d' m fatal := by
      intro sB pre frB hbB nB lB cB
      rcases initAt_cases none hbB f1 with ⟨s2, he, fr2, hb2, n2, l2, _⟩ | ⟨s2, he, fr2, hb2, n2, l2, _⟩
      · -- fatal: both constructions refused
        rw [he]
        simp only [hb2]
        have blt2 := State.buf?_lt hb2
        have hb3 := State.buf?_setBuf_self s2 b { x with used := i * sz } blt2
        have fr3 := (frB.trans fr2).setBuf { x with used := i * sz } blt2
        have cre : Creates S s.next (pre ++ [Ev.fail]) 0 := by
          simpa using Creates.append cB (Creates.fail (Creates.nil (s.next + 0)))
        have l3 : s2.log = s.log ++ (pre ++ [Ev.fail]) := by rw [l2, lB, List.append_assoc]
        cases hasFini with
        | false =>
          exact ⟨_, x.data, 0, _, true, rfl, Nat.zero_le _, fun _ => Nat.succ_pos n, nofun, fr3, rfl, n2.trans nB, hb3,
            fun _ _ => rfl, fun _ j h1 h2 => by omega, nofun, _, cre, l3.trans (List.append_nil _).symm⟩
        | true =>
          rw [if_pos rfl, iters_aligned q u sz (by omega)]
          obtain ⟨s4, d4, hf, ob, l4, hb4, dl4, same4⟩ := finiLoop_slots (u - q) _ b q sz { x with used := i * sz } hb3 h4
            (by
              rcases Nat.le_total u q with le | le
              · rw [Nat.sub_eq_zero_of_le le]; exact fq
              · rw [Nat.add_sub_cancel' le]; exact fu)
          rw [hf]
          exact ⟨s4, d4, 0, _, true, rfl, Nat.zero_le _, fun _ => Nat.succ_pos n, nofun, fr3.trans ob.frame, dl4,
            ob.next.trans (n2.trans nB), hb4, fun j hj => same4 j (Or.inl (by omega)), fun _ j h1 h2 => by omega, nofun, _, cre,
            by rw [l4]; show s2.log ++ _ = _; rw [l3]; rfl⟩
      · -- default construction succeeded
        rw [he]
        exact recur s2 (pre ++ [Ev.init s.next]) count (frB.trans fr2) (nB ▸ hb2) (by rw [n2, nB])
          (by rw [l2, lB, nB, List.append_assoc]; rfl)
          (by simpa using Creates.append cB (Creates.init (Creates.nil (s.next + 0 + 1))))
    simp only [setInitLoop]
    cases hasSrc with
    | false =>
      simp only [Bool.false_eq_true, if_false]
      exact dflt s [] (Frame.refl s b) hb rfl (List.append_nil _).symm (Creates.nil _)
    | true =>
      simp only [if_true]
      rcases initAt_cases (some (rdTok bytes (i * sz - i0 * sz))) hb f1 with ⟨s1, he, fr1, hb1, n1, l1, _⟩ | ⟨s1, he, fr1, hb1, n1, l1, _⟩
      · rw [he]
        exact dflt s1 [Ev.fail] fr1 hb1 n1 l1 (Creates.fail (Creates.nil _))
      · rw [he]
        refine recur s1 [Ev.copy s.next (rdTok bytes (i * sz - i0 * sz))] (count + 1) fr1 hb1 n1 l1
          (Creates.copy ?_ (Creates.nil _))
        rw [← Nat.sub_mul]
        exact hS rfl i (Nat.le_refl _) (by omega)

end Mpt.Heap
