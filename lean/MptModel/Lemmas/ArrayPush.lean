/-
  The `mpt_array_push` model against the encoder contract of Lemmas/EncodeSched.lean: the
  retry loop terminates (every call either consumes data or is followed by a buffer growth after which data
  is consumed), takes all data and keeps the encoder invariant; a message pushed piece by piece and
  terminated leaves what its terminating call leaves.
-/
import MptModel.Lemmas.EncodeSched
namespace Mpt.Codec

theorem allocSize_ge (n : Nat) : n ≤ allocSize n := by unfold allocSize; omega

theorem detach_grow (buf : List Byte) (used n : Nat) (fill : Byte) (hu : used ≤ buf.length) :
    (detach buf used n fill).take used = buf.take used ∧ n ≤ (detach buf used n fill).length := by
  unfold detach
  by_cases h : n ≤ buf.length
  · rw [if_pos h]; exact ⟨rfl, h⟩
  · rw [if_neg h]
    have ha := allocSize_ge n
    have hmin : min used (allocSize n) = used := by omega
    rw [hmin]
    refine ⟨?_, by simp; omega⟩
    rw [List.take_append_of_le_length (by simp; omega)]
    simp [List.take_take]

namespace Contract
variable {c : Codec} {σ : Type} (K : Contract c σ) (fill : Byte)

/-- the growth step of the retry loop: `detach(b, b->_size + 64)` in array_push.c -/
theorem detach_room {st : EncState} {buf : List Byte} {s : σ} (h : K.J st buf s) :
    K.J st (detach buf (st.done + st.scratch) (buf.length + 64) fill) s ∧
    K.need st 1 ≤ (detach buf (st.done + st.scratch) (buf.length + 64) fill).length := by
  have hle := K.le h
  obtain ⟨d1, d2⟩ := detach_grow buf (st.done + st.scratch) (buf.length + 64) fill hle
  have := K.need_le st
  exact ⟨K.congr h (by omega) d1, by omega⟩

/-- fuel: two iterations per byte still to take (one of the two may only grow the buffer), one more while
    there is not yet room for the next call to make progress -/
theorem pushLoop_data (fuel : Nat) :
    ∀ (st : EncState) (buf : List Byte) (bytes : List Byte) (max : Nat) (cons : List Nat) (s : σ),
      K.J st buf s → K.ok bytes →
      (2 * bytes.length + 1 ≤ fuel ∨ (K.need st 1 ≤ buf.length ∧ 2 * bytes.length ≤ fuel)) →
      ∃ st' buf' cons' s', pushLoop c fill fuel st buf (st.done + st.scratch) (some bytes) max cons =
          .ok (st', buf', st'.done + st'.scratch, ((max + bytes.length : Nat) : Int), cons') ∧
        K.J st' buf' s' ∧ K.msg s' = K.msg s ++ bytes := by
  induction fuel with
  | zero =>
    intro st buf bytes max cons s _ hok hf
    have := List.length_pos_iff.mpr (K.ok_ne hok)
    omega
  | succ f ih =>
    intro st buf bytes max cons s hJ hok hf
    have hpos := List.length_pos_iff.mpr (K.ok_ne hok)
    unfold pushLoop
    rw [if_neg (by omega)]
    simp only [Nat.sub_self, List.drop_zero, List.take_zero, List.nil_append, Nat.zero_add]
    rcases K.push bytes hJ with ⟨hno, _⟩ | ⟨he, hl⟩ | ⟨o, s', he, hlen, hr, hJ', hmsg, htight, hpart⟩
    · exact absurd hok hno
    · -- MissingBuffer: the buffer grows, the same call again has room
      rw [he]
      simp only
      have := K.mono st (Nat.zero_le 1)
      obtain ⟨hJD, hroom⟩ := K.detach_room fill hJ
      exact ih st _ bytes max cons s hJD hok (Or.inr ⟨hroom, by omega⟩)
    · rw [he]
      simp only
      by_cases hfull : bytes.length = o.ret
      · rw [if_pos hfull]
        refine ⟨o.st, o.win, cons ++ [o.ret], s', ?_, hJ', ?_⟩
        · rw [hfull]
        · rw [hmsg, ← hfull, List.take_length]
      · rw [if_neg hfull]
        by_cases h0 : o.ret = 0
        · -- nothing taken for lack of room: larger buffer, then the same data again
          rw [if_pos h0]
          have hnr : ¬ K.need st 1 ≤ buf.length := fun h => by have := hpart 1 hpos h; omega
          obtain ⟨hJD, hroom⟩ := K.detach_room fill hJ'
          obtain ⟨st', buf', cons', s'', e1, e2, e3⟩ := ih o.st _ bytes max cons s' hJD hok (Or.inr ⟨hroom, by omega⟩)
          exact ⟨st', buf', cons', s'', e1, e2, by rw [e3, hmsg, h0]; simp⟩
        · rw [if_neg h0]
          have hdl : (bytes.drop o.ret).length = bytes.length - o.ret := by simp
          obtain ⟨st', buf', cons', s'', e1, e2, e3⟩ := ih o.st o.win (bytes.drop o.ret) (max + o.ret) (cons ++ [o.ret]) s' hJ'
            (K.ok_drop hok (by omega)) (Or.inl (by rw [hdl]; rcases hf with h | h <;> omega))
          refine ⟨st', buf', cons', s'', ?_, e2, ?_⟩
          · rw [e1, hdl, show max + o.ret + (bytes.length - o.ret) = max + bytes.length by omega]
          · rw [e3, hmsg, List.append_assoc, List.take_append_drop]

/-- fuel: the terminating call, and one more if the buffer has to grow first -/
theorem pushLoop_term (fuel : Nat) :
    ∀ (st : EncState) (buf : List Byte) (max : Nat) (cons : List Nat) (s : σ),
      K.J st buf s → (2 ≤ fuel ∨ (K.need st 1 ≤ buf.length ∧ 1 ≤ fuel)) →
      ∃ o, pushLoop c fill fuel st buf (st.done + st.scratch) none max cons =
          .ok (o.st, o.win, o.st.done + o.st.scratch, ((max : Nat) : Int), cons) ∧ K.Fin s o := by
  induction fuel with
  | zero => intro st buf max cons s _ hf; omega
  | succ f ih =>
    intro st buf max cons s hJ hf
    unfold pushLoop
    rw [if_neg (by omega)]
    simp only [Nat.sub_self, List.drop_zero, List.take_zero, List.nil_append, Nat.zero_add]
    rcases K.term hJ with ⟨he, hl⟩ | ⟨o, he, hret, hfin⟩
    · rw [he]
      simp only
      obtain ⟨hJD, hroom⟩ := K.detach_room fill hJ
      have := K.mono st (Nat.zero_le 1)
      exact ih st _ max cons s hJD (Or.inr ⟨hroom, by omega⟩)
    · rw [he]
      exact ⟨o, by simp [hret], hfin⟩

/-- state of an encode array between two `mpt_array_push` calls: no buffer yet, or the encoder's window is the
    whole buffer (`used = done + scratch`, offset 0 in `pushLoop`) — an array whose front was consumed by
    `encode_array::shift` is outside it, and so outside every array theorem -/
def Arr (a : EncArray) (s : σ) : Prop :=
  (a.buf = none ∧ a.st = {} ∧ a.used = 0 ∧ K.init s) ∨
  (∃ buf, a.buf = some buf ∧ a.used = a.st.done + a.st.scratch ∧ K.J a.st buf s)

theorem arrayPush_start (a : EncArray) (s : σ) (add : Nat) (h : K.Arr a s) :
    ∃ buf, arrayStart fill a add = .ok (buf, a.st.done + a.st.scratch) ∧ K.J a.st buf s := by
  unfold arrayStart
  rcases h with ⟨h1, h2, h3, h4⟩ | ⟨buf, h1, h2, h3⟩
  · rw [h1, h2]
    exact ⟨List.replicate (allocSize add) fill, by simp, K.start h4 _⟩
  · rw [h1, h2]
    obtain ⟨d1, d2⟩ := detach_grow buf (a.st.done + a.st.scratch) (a.st.done + a.st.scratch + add) fill (K.le h3)
    exact ⟨_, rfl, K.congr h3 (by omega) d1⟩

theorem arrayPush_data (a : EncArray) (s : σ) (bytes : List Byte) (h : K.Arr a s) (hok : K.ok bytes) :
    ∃ a' cons s', arrayPush c fill a (some bytes) = .ok (a', (bytes.length : Int), cons) ∧
      K.Arr a' s' ∧ K.msg s' = K.msg s ++ bytes := by
  have hpos := List.length_pos_iff.mpr (K.ok_ne hok)
  obtain ⟨buf, hs, hJ⟩ := K.arrayPush_start fill a s (if bytes.length > 64 then bytes.length else 64) h
  unfold arrayPush
  simp only [Option.map_some, Option.getD_some]
  rw [hs]
  simp only
  rw [if_neg (by omega)]
  obtain ⟨st', buf', cons', s', e1, e2, e3⟩ := K.pushLoop_data fill (2 * bytes.length + 8) a.st buf bytes 0 [] s hJ hok (Or.inl (by omega))
  rw [e1]
  exact ⟨{ st := st', buf := some buf', used := st'.done + st'.scratch }, cons', s', by simp, Or.inr ⟨buf', rfl, rfl, e2⟩, e3⟩

theorem arrayPush_term (a : EncArray) (s : σ) (h : K.Arr a s) :
    ∃ o cons, arrayPush c fill a none = .ok ({ st := o.st, buf := some o.win, used := o.st.done + o.st.scratch }, 0, cons) ∧
      K.Fin s o := by
  obtain ⟨buf, hs, hJ⟩ := K.arrayPush_start fill a s 64 h
  unfold arrayPush
  simp only [Option.map_none, Option.getD_none, gt_iff_lt, Nat.not_lt_zero, if_false, if_true]
  rw [hs]
  simp only
  obtain ⟨o, e1, e2⟩ := K.pushLoop_term fill (2 * 0 + 8) a.st buf 0 [] s hJ (Or.inl (by omega))
  rw [e1]
  exact ⟨o, [], by simp, e2⟩

theorem arrayMessage_spec (chunks : List (List Byte)) :
    ∀ (a : EncArray) (s : σ), K.Arr a s → (∀ ch ∈ chunks, K.ok ch) →
    ∃ o s', arrayMessage c fill a chunks = .ok { st := o.st, buf := some o.win, used := o.st.done + o.st.scratch } ∧
      K.msg s' = K.msg s ++ chunks.flatten ∧ K.Fin s' o := by
  induction chunks with
  | nil =>
    intro a s h _
    obtain ⟨o, cons, e1, e2⟩ := K.arrayPush_term fill a s h
    simp only [arrayMessage, e1]
    exact ⟨o, s, rfl, by simp, e2⟩
  | cons ch rest ih =>
    intro a s h hok
    obtain ⟨a1, cons, s1, e1, e2, e3⟩ := K.arrayPush_data fill a s ch h (hok ch (by simp))
    simp only [arrayMessage, e1, if_true]
    obtain ⟨o, s', f1, f2, f3⟩ := ih a1 s1 e2 (fun c hc => hok c (by simp [hc]))
    exact ⟨o, s', f1, by rw [f2, e3]; simp, f3⟩

end Contract

end Mpt.Codec
