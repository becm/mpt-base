/-
  C12, stream-input variant: what the handler's acts do to the one reply_data of the stream — without a reply context,
  with the request already answered, and with it still pending (the first reply attempt puts the one frame on the stream);
  `all` zero bytes as `any` non-zero byte, the two tests `streamFrame` and `request` make on the id.
-/
import MptModel.Lemmas.ReplyId
namespace Mpt.StreamIn
open Mpt.ReplySpec (mark)

/-- payload of the handler's first reply attempt (`some none` = NULL message) -/
def firstReply : List Act → Option (Option (List Byte))
  | [] => none
  | .reply m :: _ => some (some m)
  | .replyNull :: _ => some none
  | _ :: as => firstReply as

/-- the handler's return value: that of its last `ret` act, `r` when it has none -/
def lastRet : List Act → Int → Int
  | [], r => r
  | .ret v :: as, _ => lastRet as v
  | _ :: as, r => lastRet as r

theorem runActs_noctx (acts : List Act) (h : HRes) :
    (runActs false acts h).frames = h.frames ∧ (runActs false acts h).s = h.s ∧
    (runActs false acts h).ret = lastRet acts h.ret := by
  induction acts generalizing h with
  | nil => simp [runActs, lastRet]
  | cons a as ih =>
    cases a <;> simp [runActs, lastRet, ih]

theorem runActs_done (acts : List Act) (h : HRes) (h0 : h.s.rdlen = 0) :
    (runActs true acts h).frames = h.frames ∧ (runActs true acts h).s.rdlen = 0 ∧
    (runActs true acts h).ret = lastRet acts h.ret := by
  induction acts generalizing h with
  | nil => simp [runActs, lastRet, h0]
  | cons a as ih =>
    cases a <;> simp [runActs, lastRet, sreply, h0, ih]

theorem runActs_armed (acts : List Act) (h : HRes) (h0 : h.s.rdlen ≠ 0) (hv : (h.s.val.headD 0).toNat < 128) :
    (runActs true acts h).ret = lastRet acts h.ret ∧
    match firstReply acts with
    | none => (runActs true acts h).frames = h.frames ∧ (runActs true acts h).s = h.s
    | some m => (runActs true acts h).frames = h.frames ++ [(mark h.s.val).take h.s.rdlen ++ m.getD []] ∧
        (runActs true acts h).s.rdlen = 0 := by
  induction acts generalizing h with
  | nil => simp [runActs, lastRet, firstReply]
  | cons a as ih =>
    cases a with
    | ret v =>
      have := ih { h with ret := v, results := h.results ++ ["ret"] } h0 hv
      simpa [runActs, lastRet, firstReply] using this
    | defer =>
      have := ih { h with results := h.results ++ ["nodefer"] } h0 hv
      simpa [runActs, lastRet, firstReply] using this
    | reply m => simp [runActs, lastRet, firstReply, sreply, h0, runActs_done]
    | replyNull => simp [runActs, lastRet, firstReply, sreply, h0, runActs_done]
    | replyFail m =>
      have hs : ({ h.s with val := Reply.unmark (mark h.s.val) } : SIn) = h.s := by rw [Reply.unmark_mark _ hv]
      have := ih { h with results := h.results ++ [if Err.BadArgument.code < 0 then "refused" else "ok"] } h0 hv
      simpa [runActs, lastRet, firstReply, sreply, h0, hs] using this

theorem all_zero_eq_not_any (v : List Byte) : (v.all (· == 0)) = !(v.any (· ≠ 0)) := by
  induction v with
  | nil => rfl
  | cons b r ih => by_cases hb : b = 0 <;> simp [hb, ih]

end Mpt.StreamIn
