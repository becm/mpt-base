/-
  The construction loops at byte positions, with their exact events: the copy loop of `mpt_buffer_set` when no constructor
  is refused (`setInitLoop_nofail`, `bufferSet_copy_fresh`: one `Ev.copy` per element, `copyEvs`) and the default-construction
  loop of `mpt_array_slice` under any schedule (`initLoopStop_spec`).  They say what the slot-level specifications of
  `TokLoops` leave out — the events one by one, the returned count, no refusal under the empty schedule — and
  `initLoopStop_spec` holds at any byte position, a multiple of the element size or not; so they are stated on `rdTok` /
  `toksAt` and proved by inductions of their own.  No lemma of the tower uses them: they carry `C05.copy_constructs`,
  `copy_constructs_set` and `ctor_failure_partial`.
-/
import MptModel.Lemmas.TokLoops
namespace Mpt.Heap

-- the bound `tokLimit` is written as the literal `4294967296` in this file, as in the statements of Props/C05 it serves
theorem rdTok_elem (d : List Byte) (pos tok sz : Nat) (h4 : 4 ≤ sz) (fit : pos + sz ≤ d.length) (small : tok < 4294967296) :
    rdTok (Mem.write d pos (elemBytes tok sz)) pos = tok := by
  have el := elemBytes_length tok sz h4
  rw [rdTok_write_in d pos _ pos (by rw [el]; exact fit) (Nat.le_refl _) (by rw [el]; omega), Nat.sub_self]
  exact rdTok_elemBytes tok sz h4 small

/-- copy-construction events: new tokens `next, next+1, ..` from the tokens found in the source elements -/
def copyEvs (next : Nat) (bytes : List Byte) (off sz : Nat) : Nat → List Ev
  | 0 => []
  | n + 1 => Ev.copy next (rdTok bytes off) :: copyEvs (next + 1) bytes (off + sz) sz n

theorem rdTok_built {d d' : List Byte} {pos sz tok : Nat} (h4 : 4 ≤ sz) (fit : pos + sz ≤ d.length) (small : tok < 4294967296)
    (low : ∀ i, i < pos + sz → d'.getD i 0 = (Mem.write d pos (elemBytes tok sz)).getD i 0) : rdTok d' pos = tok :=
  (rdTok_congr fun k hk => low (pos + k) (by omega)).trans (rdTok_elem d pos tok sz h4 fit small)

theorem getD_write_low (d : List Byte) (q : Nat) (bytes : List Byte) (i : Nat) (h : q + bytes.length ≤ d.length) (hi : i < q) :
    (Mem.write d q bytes).getD i 0 = d.getD i 0 := by
  rw [getD_write _ _ _ _ h, if_pos hi]

theorem setInitLoop_nofail : ∀ (n : Nat) (s : State) (b pos stop used base : Nat) (bytes : List Byte) (sz : Nat)
    (hasFini : Bool) (count : Nat) (x : Buf),
    s.oracle = [] → s.buf? b = some x → 4 ≤ sz → pos + n * sz ≤ x.size → s.next + n < 4294967296 → base ≤ pos →
    ∃ s' d', setInitLoop n s b pos stop used base bytes true sz hasFini count = .ok s' (Int.ofNat (count + n)) ∧
      Frame s s' b ∧ s'.next = s.next + n ∧ s'.oracle = [] ∧
      s'.log = s.log ++ copyEvs s.next bytes (pos - base) sz n ∧
      s'.buf? b = some { x with data := d', used := max used stop } ∧
      d'.length = x.data.length ∧
      toksAt d' pos sz n = seqFrom s.next n ∧
      (∀ i, i < pos → d'.getD i 0 = x.data.getD i 0) := by
  intro n
  induction n with
  | zero =>
    intro s b pos stop used base bytes sz hasFini count x ho hb _ _ _ _
    have blt := State.buf?_lt hb
    exact ⟨_, x.data, by simp only [setInitLoop, hb]; rfl, (Frame.refl s b).setBuf _ blt, rfl, ho, (List.append_nil _).symm,
      State.buf?_setBuf_self _ _ _ blt, rfl, rfl, fun _ _ => rfl⟩
  | succ n ih =>
    intro s b pos stop used base bytes sz hasFini count x ho hb h4 fit small bp
    rw [Nat.succ_mul] at fit
    have f1 : pos + sz ≤ x.data.length := by simp only [Buf.size] at fit; omega
    have el := elemBytes_length s.next sz h4
    have fw : pos + (elemBytes s.next sz).length ≤ x.data.length := by rw [el]; exact f1
    have wl := Mem.write_length x.data pos _ fw
    simp only [setInitLoop, if_true]
    rcases initAt_cases (some (rdTok bytes (pos - base))) hb f1 with ⟨s1, _, _, _, _, _, o1⟩ | ⟨s1, he, fr1, hb1, n1, l1, o1⟩
    · rw [ho] at o1; cases o1
    obtain ⟨s2, d', hd, fr2, n2, o2, l2, hb2, dl, tk, low⟩ :=
      ih s1 b (pos + sz) stop used base bytes sz hasFini (count + 1) _ (by rw [o1, ho]; rfl) hb1 h4
        (by simp only [Buf.size, wl]; simp only [Buf.size] at fit; omega) (by omega) (by omega)
    rw [he]
    simp only
    refine ⟨s2, d', by rw [hd, Nat.add_right_comm, Nat.add_assoc], fr1.trans fr2, by omega, o2, ?_, hb2, dl.trans wl, ?_,
      fun i hi => by rw [low i (by omega)]; exact getD_write_low _ _ _ _ fw hi⟩
    · rw [l2, l1, n1, List.append_assoc, show pos + sz - base = pos - base + sz by omega]; rfl
    · simp only [toksAt, seqFrom]
      rw [tk, n1, rdTok_built h4 f1 (by omega) (fun i hi => low i hi)]

/-- `mpt_buffer_set(target, traits, 0, source elements, len)` into an empty typed buffer when no constructor
    is refused: every element is copy-constructed (a fresh token each), nothing is duplicated as raw bytes -/
theorem bufferSet_copy_fresh {s : State} {nb : Nat} {z : Buf} {t : Traits} (hz : s.buf? nb = some z)
    (zt : z.traits = some t) (zu : z.used = 0) (ti : t.init = true) (tf : t.fini.isSome = true) (h4 : 4 ≤ t.size)
    (k : Nat) (bytes : List Byte) (bl : bytes.length = k * t.size) (fit : k * t.size ≤ z.size)
    (ho : s.oracle = []) (small : s.next + k < 4294967296) :
    ∃ s' d', bufferSet s nb (some t) 0 bytes true = .ok s' (Int.ofNat k) ∧ Frame s s' nb ∧ s'.next = s.next + k ∧
      s'.oracle = [] ∧
      s'.log = s.log ++ copyEvs s.next bytes 0 t.size k ∧
      s'.buf? nb = some { z with data := d', used := k * t.size } ∧
      toksAt d' 0 t.size k = seqFrom s.next k := by
  have sz0 : t.size ≠ 0 := by omega
  unfold bufferSet
  rw [hz]
  simp only
  rw [if_neg (by rw [bl]; omega)]
  rw [zt]
  simp only [bufferSetTyped]
  have m0 : bytes.length % t.size = 0 := by rw [bl]; exact Nat.mul_mod_left k t.size
  rw [if_neg (by simp [sz0, m0])]
  rw [if_neg (by simp)]
  rw [if_neg (by simp [ti])]
  simp only [tf, if_true, ti, zu, Nat.zero_mod, Nat.sub_zero, Nat.zero_add, Nat.zero_min]
  rw [show iters 0 0 t.size = 0 by simpa using iters_mul 0 t.size sz0]
  simp only [setGapLoop]
  rw [bl, iters_mul k t.size sz0]
  obtain ⟨s', d', hd, fr, n', o', l', hb', _, tk, _⟩ :=
    setInitLoop_nofail k s nb 0 (k * t.size) 0 0 bytes t.size true 0 z ho hz h4 (by omega) small (Nat.le_refl _)
  refine ⟨s', d', ?_, fr, n', o', ?_, ?_, tk⟩
  · rw [hd]; simp [savedToks]
  · rw [l']
  · rw [hb']; simp [zt]

/-- the default-construction loop of `mpt_array_slice` under ANY constructor failure schedule: it builds a
    prefix of `m ≤ n` elements with fresh tokens; when a constructor is refused (`m < n`) the used size is
    set to the end of that prefix, so exactly the constructed elements lie inside the used data -/
theorem initLoopStop_spec : ∀ (n : Nat) (s : State) (b pos sz : Nat) (x : Buf),
    s.buf? b = some x → 4 ≤ sz → pos + n * sz ≤ x.size → s.next + n < 4294967296 →
    ∃ s' d' m, m ≤ n ∧ Frame s s' b ∧ s'.next = s.next + m ∧ d'.length = x.data.length ∧
      toksAt d' pos sz m = seqFrom s.next m ∧ (∀ i, i < pos → d'.getD i 0 = x.data.getD i 0) ∧
      s'.log = s.log ++ (seqFrom s.next m).map Ev.init ++ (if m < n then [Ev.fail] else []) ∧
      ((m = n ∧ initLoopStop n s b pos sz = .ok s' () ∧ s'.buf? b = some { x with data := d' }) ∨
       (m < n ∧ initLoopStop n s b pos sz = .fail s' .null ∧ s'.buf? b = some { x with data := d', used := pos + m * sz })) := by
  intro n
  induction n with
  | zero =>
    intro s b pos sz x hb _ _ _
    exact ⟨s, x.data, 0, Nat.le_refl _, Frame.refl s b, rfl, rfl, rfl, fun _ _ => rfl, by simp [seqFrom],
      Or.inl ⟨rfl, rfl, hb⟩⟩
  | succ n ih =>
    intro s b pos sz x hb h4 fit small
    rw [Nat.succ_mul] at fit
    have f1 : pos + sz ≤ x.data.length := by simp only [Buf.size] at fit; omega
    simp only [initLoopStop]
    rcases initAt_cases none hb f1 with ⟨s1, he, fr1, hb1, n1, l1, _⟩ | ⟨s1, he, fr1, hb1, n1, l1, _⟩
    · -- refused: the used size ends here
      have blt1 := State.buf?_lt hb1
      rw [he]
      simp only [hb1]
      refine ⟨_, x.data, 0, Nat.zero_le _, fr1.setBuf _ blt1, n1, rfl, rfl, fun _ _ => rfl, ?_,
        Or.inr ⟨Nat.succ_pos n, rfl, ?_⟩⟩
      · rw [if_pos (Nat.succ_pos n)]; exact l1.trans (by simp [seqFrom])
      · rw [Nat.zero_mul]; exact State.buf?_setBuf_self _ _ _ blt1
    · have el := elemBytes_length s.next sz h4
      have fw : pos + (elemBytes s.next sz).length ≤ x.data.length := by rw [el]; exact f1
      have wl := Mem.write_length x.data pos _ fw
      obtain ⟨s2, d', m, mle, fr2, n2, dl, tk, low, l2, alt⟩ := ih s1 b (pos + sz) sz _ hb1 h4
        (by simp only [Buf.size, wl]; simp only [Buf.size] at fit; omega) (by omega)
      rw [he]
      simp only
      refine ⟨s2, d', m + 1, Nat.succ_le_succ mle, fr1.trans fr2, by omega, dl.trans wl, ?_,
        fun i hi => by rw [low i (by omega)]; exact getD_write_low _ _ _ _ fw hi, ?_, ?_⟩
      · simp only [toksAt, seqFrom]
        rw [tk, n1, rdTok_built h4 f1 (by omega) (fun i hi => low i hi)]
      · rw [l2, l1, n1]
        simp only [seqFrom, List.map_cons, List.append_assoc, List.singleton_append, ctorEv, Nat.add_lt_add_iff_right]
      · rcases alt with ⟨me, he2, hb2⟩ | ⟨ml, he2, hb2⟩
        · exact Or.inl ⟨by omega, he2, hb2⟩
        · exact Or.inr ⟨by omega, he2, by rw [hb2, Nat.succ_mul, Nat.add_assoc, Nat.add_comm sz]⟩

end Mpt.Heap
