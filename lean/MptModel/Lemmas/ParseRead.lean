/-
  One call of an element function of the parser model (the model imports this file through
  Impl/ParseConfig.lean: the loop of `mpt_parse_config` is defined by recursion on `measure`, the last definition
  here, and its termination proof is `next_measure`).

  `Reads a b`: source state `b` is reached from `a` by delivering a block `cs` of characters, in
  order, each once: `a.rest = cs ++ b.rest`, the trace grew by exactly `cs`, and at least one
  `getc` call was made per character.
  `Adv`: an element costs input (save the section start `mpt_parse_format_sep` implies behind a section end).  `Elem`: the verdict — error, end of input (only for the regular end
  marker), an element that appended exactly one path element (section 1, option 3, option with data 7) or
  kept them (section end 2, data 4); `….path.elems = e` is the invariant of every loop until `St.commit`
  appends the name.  Each function is walked once, for both (`Post`).
-/
import MptModel.Impl.Parse

namespace Mpt.Parse

/-- case analysis on an `if` that leaves the branches alone (`split` simplifies through both of them,
    which is slow on the nested bodies of the element functions) -/
theorem ite_ind {α : Sort _} (P : α → Prop) {c : Prop} [Decidable c] {a b : α} (ha : c → P a) (hb : ¬ c → P b) :
    P (if c then a else b) := by
  split
  · exact ha ‹_›
  · exact hb ‹_›

theorem Err.code_neg (e : Err) : e.code < 0 := by cases e <;> decide

theorem err_not_pos (e : Err) (s : St) (src : Src) : ¬ 0 < (err e s src).1 := by
  have := Err.code_neg e; simp only [err]; omega

def Reads (a b : Src) : Prop :=
  ∃ cs : List UInt8, a.rest = cs ++ b.rest ∧ b.trace = cs.reverse ++ a.trace ∧ a.reads + cs.length ≤ b.reads

theorem Reads.refl (a : Src) : Reads a a := ⟨[], by simp⟩

theorem Reads.trans {a b c : Src} (h1 : Reads a b) (h2 : Reads b c) : Reads a c := by
  obtain ⟨c1, r1, t1, n1⟩ := h1
  obtain ⟨c2, r2, t2, n2⟩ := h2
  refine ⟨c1 ++ c2, ?_, ?_, ?_⟩
  · rw [r1, r2, List.append_assoc]
  · rw [t2, t1, List.reverse_append, List.append_assoc]
  · rw [List.length_append]; omega

theorem Reads.length_le {a b : Src} (h : Reads a b) : b.rest.length ≤ a.rest.length := by
  obtain ⟨cs, r, _, _⟩ := h
  rw [r, List.length_append]; omega

theorem scanAux_reads {σ ρ : Type} (step : σ → UInt8 → Step σ ρ) (atEnd : σ → ρ) :
    ∀ (rest : List UInt8) (n : Nat) (t : List UInt8) (s : σ),
      Reads { rest := rest, reads := n, trace := t } (scanAux step atEnd rest n t s).2 := by
  intro rest
  induction rest with
  | nil => intro n t s; exact ⟨[], by simp [scanAux]⟩
  | cons c r ih =>
    intro n t s
    have h1 : Reads { rest := c :: r, reads := n, trace := t } { rest := r, reads := n + 1, trace := c :: t } :=
      ⟨[c], by simp⟩
    unfold scanAux
    split
    · exact h1.trans (ih _ _ _)
    · exact h1

theorem scan_reads {σ ρ : Type} (step : σ → UInt8 → Step σ ρ) (atEnd : σ → ρ) (src : Src) (s : σ) :
    Reads src (scan step atEnd src s).2 := scanAux_reads step atEnd src.rest src.reads src.trace s

/-- a loop that was left through its body (not by the end marker) has read a character -/
theorem scanAux_done {σ ρ : Type} (step : σ → UInt8 → Step σ ρ) (atEnd : σ → ρ) (P : ρ → Prop)
    (hend : ∀ s, ¬ P (atEnd s)) :
    ∀ (rest : List UInt8) (n : Nat) (t : List UInt8) (s : σ),
      P (scanAux step atEnd rest n t s).1 → (scanAux step atEnd rest n t s).2.rest.length < rest.length := by
  intro rest
  induction rest with
  | nil => intro n t s h; simp only [scanAux] at h; exact absurd h (hend s)
  | cons c r ih =>
    intro n t s
    unfold scanAux
    split
    · rename_i s' _
      intro h
      have := ih (n + 1) (c :: t) s' h
      simp only [List.length_cons]; omega
    · intro _; simp

theorem scan_done {σ ρ : Type} (step : σ → UInt8 → Step σ ρ) (atEnd : σ → ρ) (P : ρ → Prop)
    (hend : ∀ s, ¬ P (atEnd s)) (src : Src) (s : σ) (h : P (scan step atEnd src s).1) :
    (scan step atEnd src s).2.rest.length < src.rest.length :=
  scanAux_done step atEnd P hend src.rest src.reads src.trace s h

/-- what a reader of one character (`getc`, `mpt_parse_nextvis`) did: it read, and a character it
    delivered was consumed -/
def First (src : Src) (x : Option UInt8) (src1 : Src) : Prop :=
  Reads src src1 ∧ (x.isSome = true → src1.rest.length < src.rest.length)

theorem getc_first {src src1 : Src} {x : Option UInt8} (h : getc src = (x, src1)) : First src x src1 := by
  unfold getc at h
  split at h <;> cases h
  · exact ⟨⟨[], by simp_all⟩, nofun⟩
  · rename_i c r hs
    exact ⟨⟨[c], by simp_all⟩, fun _ => by simp [hs]⟩

theorem endline_reads (s : St) (src : Src) : Reads src (endline s src).2 := by
  unfold endline; exact scan_reads _ _ _ _

theorem nextvis_first {f : Format} {s : St} {src : Src} {x : Option UInt8} {s1 : St} {src1 : Src}
    (h : nextvis f s src = (x, s1, src1)) : First src x src1 := by
  unfold nextvis at h
  cases h
  exact ⟨scan_reads _ _ _ _,
    scan_done (nextvisStep f) (fun v => (none, v.line)) (fun r => r.1.isSome = true) (by intro v; simp) _ _⟩

theorem optFirst_first {f : Format} {s : St} {src : Src} {x : Option UInt8} {s1 : St} {src1 : Src}
    (h : optFirst f s src = (x, s1, src1)) : First src x src1 := by
  unfold optFirst at h
  split at h
  · split at h <;> rename_i hg <;> cases h <;> exact getc_first hg
  · exact nextvis_first h

/-- `P` for the state a loop body continues with, `Q` for the exit it leaves through -/
def Step.Holds {σ ρ : Type} (P : σ → Prop) (Q : ρ → Prop) : Step σ ρ → Prop
  | .more s => P s
  | .done r => Q r

@[simp] theorem Step.holds_more {σ ρ : Type} (P : σ → Prop) (Q : ρ → Prop) (s : σ) :
    (Step.more s : Step σ ρ).Holds P Q = P s := rfl
@[simp] theorem Step.holds_done {σ ρ : Type} (P : σ → Prop) (Q : ρ → Prop) (r : ρ) :
    (Step.done r : Step σ ρ).Holds P Q = Q r := rfl

theorem Step.Holds.of_more {σ ρ : Type} {P : σ → Prop} {Q : ρ → Prop} {x : Step σ ρ} {s : σ}
    (hx : x = .more s) (h : x.Holds P Q) : P s := by subst hx; exact h
theorem Step.Holds.of_done {σ ρ : Type} {P : σ → Prop} {Q : ρ → Prop} {x : Step σ ρ} {r : ρ}
    (hx : x = .done r) (h : x.Holds P Q) : Q r := by subst hx; exact h

theorem scanAux_inv {σ ρ : Type} (step : σ → UInt8 → Step σ ρ) (atEnd : σ → ρ) (P : σ → Prop) (Q : ρ → Prop)
    (hstep : ∀ s c, P s → (step s c).Holds P Q) (hend : ∀ s, P s → Q (atEnd s)) :
    ∀ (rest : List UInt8) (n : Nat) (t : List UInt8) (s : σ), P s → Q (scanAux step atEnd rest n t s).1 := by
  intro rest
  induction rest with
  | nil => intro n t s h; exact hend s h
  | cons c r ih =>
    intro n t s h
    unfold scanAux
    split
    · rename_i s' hs; exact ih _ _ _ (Step.Holds.of_more hs (hstep s c h))
    · rename_i out hs; exact Step.Holds.of_done hs (hstep s c h)

theorem scan_inv {σ ρ : Type} (step : σ → UInt8 → Step σ ρ) (atEnd : σ → ρ) (P : σ → Prop) (Q : ρ → Prop)
    (hstep : ∀ s c, P s → (step s c).Holds P Q) (hend : ∀ s, P s → Q (atEnd s))
    (src : Src) (s : σ) (h : P s) : Q (scan step atEnd src s).1 :=
  scanAux_inv step atEnd P Q hstep hend src.rest src.reads src.trace s h

@[simp] theorem Path.addchar_elems (p : Path) (c : UInt8) : (p.addchar c).elems = p.elems := by
  cases p; simp only [Path.addchar]; repeat' split
  all_goals rfl
@[simp] theorem Path.delchar_elems (p : Path) : p.delchar.elems = p.elems := by
  cases p; simp only [Path.delchar]; repeat' split
  all_goals rfl
@[simp] theorem Path.valid_elems (p : Path) : p.valid.2.elems = p.elems := by
  cases p; simp only [Path.valid]; repeat' split
  all_goals rfl
@[simp] theorem Path.invalidate_elems (p : Path) : p.invalidate.elems = p.elems := by
  unfold Path.invalidate; split <;> rfl
theorem Path.add_elems (p p' : Path) (n : Nat) (h : p.add n = .ok p') : p'.elems = p.elems ++ [p.head n] := by
  revert h
  unfold Path.add
  have ite := @ite_ind (Except Err Path) fun r => r = .ok p' → p'.elems = p.elems ++ [p.head n]
  refine ite (fun _ => ite (fun _ h => nomatch h) fun hc h => ?_)
    fun _ => ite (fun _ h => nomatch h) fun _ => ite (fun _ h => nomatch h) fun _ h => ?_
  · -- without a buffer only the empty first element is accepted
    have hc : n = 0 ∧ p.elems = [] := by simpa using hc
    cases h
    simp [hc.1, hc.2, Path.head]
  · cases h; rfl

@[simp] theorem St.markValid_elems (s : St) : s.markValid.path.elems = s.path.elems := by
  cases s; simp [St.markValid]
@[simp] theorem St.save_elems (s : St) (c : UInt8) : (s.save c).path.elems = s.path.elems := by
  cases s; simp only [St.save]; split <;> simp
theorem St.commit_ok {s s' : St} {f : Nat} {e1 e2 : Err} (h : s.commit f e1 e2 = .ok s') :
    ∃ p, s.path.add s.valid = .ok p ∧ s' = { s with path := p } := by
  unfold St.commit at h
  split at h
  · cases h
  · split at h
    · cases h
    · rename_i p hp; cases h; exact ⟨p, hp, rfl⟩

theorem St.commit_elems (s s' : St) (f : Nat) (e1 e2 : Err) (h : s.commit f e1 e2 = .ok s') :
    s'.path.elems = s.path.elems ++ [s.name] := by
  obtain ⟨p, hp, rfl⟩ := St.commit_ok h
  exact Path.add_elems _ _ _ hp

theorem nextvis_eq_elems {f : Format} {s : St} {src : Src} {x : Option UInt8} {s1 : St} {src1 : Src}
    (h : nextvis f s src = (x, s1, src1)) : s1.path.elems = s.path.elems := by
  have : (nextvis f s src).2.1.path.elems = s.path.elems := rfl
  rw [h] at this; exact this

theorem optFirst_eq_elems {f : Format} {s : St} {src : Src} {x : Option UInt8} {s1 : St} {src1 : Src}
    (h : optFirst f s src = (x, s1, src1)) : s1.path.elems = s.path.elems := by
  unfold optFirst at h
  split at h
  · split at h <;> cases h <;> rfl
  · exact nextvis_eq_elems h


/-- one call of an element function entered with committed path elements `e`: error | end of input |
    an element that appended one path element | an element that kept them -/
def Elem (cfg : Cfg) (e : List (List UInt8)) (o : Out) : Prop :=
  o.1 < 0 ∨ (o.1 = 0 ∧ cfg.eof = -2)
    ∨ ((o.1 = 1 ∨ o.1 = 3 ∨ o.1 = 7) ∧ ∃ n, o.2.1.path.elems = e ++ [n])
    ∨ ((o.1 = 2 ∨ o.1 = 4) ∧ o.2.1.path.elems = e)

section
variable {cfg : Cfg} {e : List (List UInt8)}

theorem Elem.neg {o : Out} (h : o.1 < 0) : Elem cfg e o := .inl h

theorem Elem.err (x : Err) (s : St) (src : Src) : Elem cfg e (err x s src) := .inl (Err.code_neg x)

theorem Elem.eof (s : St) (src : Src) (h : cfg.eof = -2) : Elem cfg e (0, s, src) := .inr (.inl ⟨rfl, h⟩)

theorem Elem.push {o : Out} (hc : o.1 = 1 ∨ o.1 = 3 ∨ o.1 = 7) (n : List UInt8) (he : o.2.1.path.elems = e ++ [n]) :
    Elem cfg e o := .inr (.inr (.inl ⟨hc, n, he⟩))

theorem Elem.keep {o : Out} (hc : o.1 = 2 ∨ o.1 = 4) (he : o.2.1.path.elems = e) : Elem cfg e o :=
  .inr (.inr (.inr ⟨hc, he⟩))

theorem Elem.zero {o : Out} (h : Elem cfg e o) (h0 : o.1 = 0) : cfg.eof = -2 := by
  rcases h with h | ⟨_, he⟩ | ⟨h, _⟩ | ⟨h, _⟩
  · omega
  · exact he
  · omega
  · omega

theorem Elem.commit {s s' : St} {f : Nat} {e1 e2 : Err} (src : Src) (hc : s.commit f e1 e2 = .ok s')
    (h : s.path.elems = e) : Elem cfg e (Flag.section_, s', src) :=
  .push (.inl rfl) s.name (h ▸ St.commit_elems _ _ _ _ _ hc)

/-! ### progress

  `Adv free src o`: the result `o` was reached from `src` by reading, and if it is an element (positive
  code) a character was consumed — or, where `free` allows it, the element is the section start implied
  behind a section end (`mpt_parse_format_sep`), which leaves the operation code `section | name`. -/

def Adv (free : Bool) (src : Src) (o : Out) : Prop :=
  Reads src o.2.2 ∧
    (0 < o.1 → o.2.2.rest.length < src.rest.length ∨ (free = true ∧ o.2.1.curr = Flag.section_ ||| Flag.name))

/-! ### the two facts together

  `Post`: an element function — progress and verdict.  Before its first character it can only fail or
  report the end (`Post.err`, `Post.eof`); once it has one (`First`) whatever follows is paid for and
  only has to read and return a verdict (`Tail`, `Post.of_some`). -/

def Tail (cfg : Cfg) (e : List (List UInt8)) (src : Src) (o : Out) : Prop := Reads src o.2.2 ∧ Elem cfg e o

def Post (cfg : Cfg) (free : Bool) (e : List (List UInt8)) (src : Src) (o : Out) : Prop :=
  Adv free src o ∧ Elem cfg e o

theorem Tail.after {src src1 : Src} {o : Out} (h : Reads src src1) (t : Tail cfg e src1 o) : Tail cfg e src o :=
  ⟨h.trans t.1, t.2⟩

theorem Post.tail {free : Bool} {src : Src} {o : Out} (p : Post cfg free e src o) : Tail cfg e src o := ⟨p.1.1, p.2⟩

theorem Post.err {free : Bool} {src src1 : Src} (h : Reads src src1) (x : Err) (s : St) :
    Post cfg free e src (err x s src1) :=
  ⟨⟨h, fun hpos => absurd hpos (err_not_pos x s src1)⟩, .err x s src1⟩

theorem Post.eof {free : Bool} {src src1 : Src} (h : Reads src src1) (s : St) (heof : cfg.eof = -2) :
    Post cfg free e src (0, s, src1) :=
  ⟨⟨h, fun hpos => absurd hpos (Int.lt_irrefl 0)⟩, .eof s src1 heof⟩

theorem Post.of_some {free : Bool} {src src1 : Src} {c : UInt8} {o : Out} (h : First src (some c) src1)
    (t : Tail cfg e src1 o) : Post cfg free e src o :=
  ⟨⟨h.1.trans t.1, fun _ => .inl (Nat.lt_of_le_of_lt t.1.length_le (h.2 rfl))⟩, t.2⟩

theorem Post.after {free : Bool} {src src1 : Src} {o : Out} (h : Reads src src1) (p : Post cfg free e src1 o) :
    Post cfg free e src o :=
  ⟨⟨h.trans p.1.1, fun hpos => (p.1.2 hpos).imp (fun hl => Nat.lt_of_lt_of_le hl h.length_le) id⟩, p.2⟩

def DataExit.st : DataExit → St
  | .oend s => s | .newline s => s | .comment s => s | .eof s => s

-- the state is only ever changed by saving, marking or deleting characters
theorem dataStep_elems (f : Format) {d : DataSt} (h : d.st.path.elems = e) (c : UInt8) :
    (dataStep f d c).Holds (fun d' => d'.st.path.elems = e) (fun r => r.st.path.elems = e) := by
  subst h
  simp [dataStep, apply_ite (Step.Holds _ _), apply_ite St.path, apply_ite Path.elems, DataExit.st]

theorem dataFinish_eq (cfg : Cfg) (s : St) (b : Bool) (src : Src) :
    (dataFinish cfg s b src).2.1.path.elems = s.path.elems ∧ (dataFinish cfg s b src).2.2 = src := by
  unfold dataFinish; split <;> exact ⟨rfl, rfl⟩

theorem parseData_reads_elems (cfg : Cfg) (s : St) (src : Src) :
    Reads src (parseData cfg s src).2.2 ∧ (parseData cfg s src).2.1.path.elems = s.path.elems := by
  unfold parseData
  have hr := scan_reads (dataStep cfg.fmt) (fun d => DataExit.eof d.st) src { st := s }
  have he := scan_inv (dataStep cfg.fmt) (fun d => DataExit.eof d.st)
    (fun d => d.st.path.elems = s.path.elems) (fun r => r.st.path.elems = s.path.elems)
    (fun d c hp => dataStep_elems _ hp c) (fun d hp => hp) src { st := s } rfl
  simp only []
  split <;> rename_i hx <;> rw [hx] at he <;> rw [(dataFinish_eq ..).1, (dataFinish_eq ..).2]
  · exact ⟨hr, he⟩
  · exact ⟨hr, he⟩
  · exact ⟨hr, he⟩
  · exact ⟨hr.trans (endline_reads _ _), he⟩

/-- name complete, value follows: an option element with exactly one more path element -/
theorem nameThenData_tail (cfg : Cfg) {s : St} (src : Src) (x : Err) (h : s.path.elems = e) :
    Tail cfg e src (nameThenData cfg s src x) := by
  unfold nameThenData
  split
  · exact ⟨Reads.refl _, .err _ _ _⟩
  · rename_i s1 hc
    obtain ⟨hr, hd⟩ := parseData_reads_elems cfg { s1 with path := s1.path.invalidate, valid := 0 } src
    have he := hd.trans ((Path.invalidate_elems _).trans (h ▸ St.commit_elems _ _ _ _ _ hc))
    exact ite_ind (Tail cfg e src) (fun hneg => ⟨hr, .neg hneg⟩) fun _ =>
      ite_ind _ (fun _ => ⟨hr, .push (.inr (.inl rfl)) _ he⟩) fun _ => ⟨hr, .push (.inr (.inr rfl)) _ he⟩


/-- exits of the option loop: an error code, or a state with the elements unchanged -/
def OptExit.ok (e : List (List UInt8)) : OptExit → Prop
  | .ret code s => code < 0 ∧ s.path.elems = e
  | .data s => s.path.elems = e
  | .brk s => s.path.elems = e
  | .comment s => s.path.elems = e

theorem optBody_elems (cfg : Cfg) {s : St} (h : s.path.elems = e) (c : UInt8) :
    (optBody cfg s c).Holds (fun s' => s'.path.elems = e) (OptExit.ok e) := by
  subst h
  simp [optBody, apply_ite (Step.Holds _ _), OptExit.ok, Err.code]

theorem optFinish_tail (cfg : Cfg) {s : St} (src : Src) (h : s.path.elems = e) :
    Tail cfg e src (optFinish cfg s src) := by
  unfold optFinish
  exact ite_ind (Tail cfg e src) (fun _ => ⟨Reads.refl _, .err _ _ _⟩) fun _ => ⟨Reads.refl _, .keep (.inr rfl) h⟩

theorem optExit_tail (cfg : Cfg) {x : OptExit} (src : Src) (h : x.ok e) : Tail cfg e src (optExit cfg x src) := by
  unfold optExit
  split
  · exact ⟨Reads.refl _, .neg h.1⟩
  · exact nameThenData_tail _ _ _ h
  · exact optFinish_tail _ _ h
  · exact .after (endline_reads _ _) (optFinish_tail _ _ h)

theorem parseOption_post {free : Bool} (cfg : Cfg) {s : St} (src : Src) (h : s.path.elems = e) :
    Post cfg free e src (parseOption cfg s src) := by
  unfold parseOption
  simp only []
  split
  · rename_i hf
    have hv := (optFirst_first hf).1
    exact ite_ind (Post cfg free e src) (fun _ => .err hv _ _) fun heof =>
      ite_ind _ (fun _ => .err hv _ _) fun _ => .eof hv _ (by simpa using heof)
  · rename_i c s1 src1 hf
    have hv := optFirst_first hf
    have h2 := (Path.addchar_elems s1.path c).trans ((optFirst_eq_elems hf).trans h)
    refine ite_ind (Post cfg free e src) (fun _ => .of_some hv ⟨Reads.refl _, .err _ _ _⟩) fun _ => ?_
    split
    · rename_i hx; exact .of_some hv (optExit_tail _ _ (Step.Holds.of_done hx (optBody_elems cfg h2 c)))
    · rename_i hx
      have h3 := Step.Holds.of_more hx (optBody_elems cfg h2 c)
      exact .of_some hv (.after (scan_reads _ _ _ _) (optExit_tail _ _ (scan_inv _ _ _ (OptExit.ok e)
        (fun s' c' hp => optBody_elems cfg ((St.save_elems s' c').trans hp) c')
        -- `by exact`: the end-marker exit `atEnd` is an `_` here, known only once the goal is unified
        (fun s' hp => by exact ⟨by split <;> decide, hp⟩) src1 _ h3)))


/-- exits of the loop of `mpt_parse_format_pre`: an error code or a section end, the elements unchanged -/
def PreExit.ok (e : List (List UInt8)) : PreExit → Prop
  | .ret code s => (code < 0 ∨ code = 2) ∧ s.path.elems = e
  | .option s => s.path.elems = e
  | .data s => s.path.elems = e
  | .brk s _ => s.path.elems = e
  | .comment s _ => s.path.elems = e
  | .newline s => s.path.elems = e

theorem preBody_elems (cfg : Cfg) {s : St} (h : s.path.elems = e) (c : UInt8) :
    (preBody cfg s c).Holds (fun s' => s'.path.elems = e) (PreExit.ok e) := by
  subst h
  simp [preBody, apply_ite (Step.Holds _ _), PreExit.ok, Flag.sectEnd]

theorem preFinish_tail (cfg : Cfg) {s : St} (c : Option UInt8) (src : Src) (h : s.path.elems = e) :
    Tail cfg e src (preFinish cfg s c src) := by
  unfold preFinish
  simp only []
  refine ite_ind (Tail cfg e src) (fun _ => ?_) fun _ =>
    ite_ind _ (fun _ => ite_ind _ (fun _ => ⟨Reads.refl _, .err _ _ _⟩) fun _ => ⟨Reads.refl _, .keep (.inr rfl) h⟩)
      fun _ => ⟨Reads.refl _, .err _ _ _⟩
  split
  · exact ⟨Reads.refl _, .err _ _ _⟩
  · rename_i hc; exact ⟨Reads.refl _, .commit _ hc h⟩

theorem preExit_tail (cfg : Cfg) {x : PreExit} (src : Src) (h : x.ok e) : Tail cfg e src (preExit cfg x src) := by
  unfold preExit
  split
  · exact ⟨Reads.refl _, h.1.elim (fun hc => .neg hc) fun hc => .keep (.inl hc) h.2⟩
  · exact (parseOption_post (free := false) _ _ h).tail
  · exact nameThenData_tail _ _ _ h
  · exact preFinish_tail _ _ _ h
  · exact .after (endline_reads _ _) (preFinish_tail _ _ _ h)
  · split <;> rename_i hv <;> exact .after (nextvis_first hv).1
      (preFinish_tail _ _ _ ((Path.addchar_elems _ _).trans ((nextvis_eq_elems hv).trans h)))

theorem parseFormatPre_post {free : Bool} (cfg : Cfg) {s : St} (src : Src) (h : s.path.elems = e) :
    Post cfg free e src (parseFormatPre cfg s src) := by
  unfold parseFormatPre
  simp only []
  split
  · rename_i hf
    have hv := (nextvis_first hf).1
    exact ite_ind (Post cfg free e src) (fun _ => .err hv _ _) fun heof =>
      ite_ind _ (fun _ => .eof hv _ (by simpa using heof)) fun _ => .err hv _ _
  · rename_i c s1 src1 hf
    have hv := nextvis_first hf
    have he := (nextvis_eq_elems hf).trans h
    refine ite_ind (Post cfg free e src) (fun _ => ?_) fun _ => ?_
    · split
      · exact .of_some hv ⟨Reads.refl _, .err _ _ _⟩
      · rename_i hc; exact .of_some hv ⟨Reads.refl _, .commit _ hc he⟩
    · have h2 := (Path.addchar_elems s1.path c).trans he
      split
      · rename_i hx; exact .of_some hv (preExit_tail _ _ (Step.Holds.of_done hx (preBody_elems cfg h2 c)))
      · rename_i hx
        have h3 := Step.Holds.of_more hx (preBody_elems cfg h2 c)
        exact .of_some hv (.after (scan_reads _ _ _ _) (preExit_tail _ _ (scan_inv _ _ _ (PreExit.ok e)
          (fun s' c' hp => preBody_elems cfg ((St.save_elems s' c').trans hp) c') (fun s' hp => by exact hp)
          src1 _ h3)))

def EncExit.ok (e : List (List UInt8)) : EncExit → Prop
  | .ret code s => code < 0 ∧ s.path.elems = e
  | .brk s => s.path.elems = e
  | .comment s => s.path.elems = e

theorem encStep_elems (f : Format) {s : St} (h : s.path.elems = e) (c : UInt8) :
    (encStep f s c).Holds (fun s' => s'.path.elems = e) (EncExit.ok e) := by
  subst h
  simp [encStep, apply_ite (Step.Holds _ _), EncExit.ok, Err.code]

theorem encFinish_tail (cfg : Cfg) {s : St} (src : Src) (h : s.path.elems = e) :
    Tail cfg e src (encFinish cfg s src) := by
  unfold encFinish
  split
  · exact ⟨Reads.refl _, .err _ _ _⟩
  · rename_i hc; exact ⟨Reads.refl _, .push (.inl rfl) _ (h ▸ St.commit_elems _ _ _ _ _ hc)⟩

theorem encSection_post {free : Bool} (cfg : Cfg) {s : St} (src : Src) (h : s.path.elems = e) :
    Post cfg free e src (encSection cfg s src) := by
  unfold encSection
  simp only []
  split
  · rename_i hf; exact .err (nextvis_first hf).1 _ _
  · rename_i c s1 src1 hf
    have hv := nextvis_first hf
    have he := (nextvis_eq_elems hf).trans h
    refine ite_ind (Post cfg free e src) (fun _ => .of_some hv ⟨Reads.refl _, .err _ _ _⟩) fun _ => ?_
    have hr := scan_reads (encStep cfg.fmt) (fun s => EncExit.ret Err.MissingData.code s) src1
      ({ s1 with curr := Flag.section_ ||| Flag.name, path := s1.path.addchar c }).markValid
    have hscan := scan_inv (encStep cfg.fmt) (fun s => EncExit.ret Err.MissingData.code s)
      (fun s' => s'.path.elems = e) (EncExit.ok e) (fun s' c' hp => encStep_elems _ hp c')
      (fun s' hp => ⟨by decide, hp⟩) src1
      ({ s1 with curr := Flag.section_ ||| Flag.name, path := s1.path.addchar c }).markValid
      ((St.markValid_elems _).trans ((Path.addchar_elems _ _).trans he))
    split <;> rename_i hx <;> rw [hx] at hscan
    · exact .of_some hv ⟨hr, .neg hscan.1⟩
    · exact .of_some hv (.after hr (encFinish_tail _ _ hscan))
    · exact .of_some hv (.after (hr.trans (endline_reads _ _)) (encFinish_tail _ _ hscan))

theorem encOption_tail (cfg : Cfg) {s : St} (c : UInt8) (src : Src) (h : s.path.elems = e) :
    Tail cfg e src (encOption cfg s c src) := by
  unfold encOption
  simp only []
  exact ite_ind (Tail cfg e src)
    (fun _ => ite_ind _ (fun _ => ⟨Reads.refl _, .err _ _ _⟩)
      fun _ => (parseOption_post (free := false) _ _ ((Path.addchar_elems _ _).trans h)).tail)
    fun _ => (parseOption_post (free := false) _ _
      ((St.markValid_elems _).trans ((Path.addchar_elems _ _).trans h))).tail

theorem parseFormatEnc_post {free : Bool} (cfg : Cfg) (prev : Nat) {s : St} (src : Src) (h : s.path.elems = e) :
    Post cfg free e src (parseFormatEnc cfg prev s src) := by
  -- behind the first visible character `c`; the end of the open section is recognised in two ways (`b`)
  have first : ∀ {c s1 src1} (b : Bool), nextvis cfg.fmt s src = (some c, s1, src1) →
      Post cfg free e src (if b then (Flag.sectEnd, { s1 with curr := Flag.sectEnd }, src1)
        else if c != cfg.fmt.sstart then encOption cfg s1 c src1 else encSection cfg s1 src1) := by
    intro c s1 src1 b hf
    have hv := nextvis_first hf
    have he := (nextvis_eq_elems hf).trans h
    exact ite_ind (Post cfg free e src) (fun _ => .of_some hv ⟨Reads.refl _, .keep (.inl rfl) he⟩) fun _ =>
      ite_ind _ (fun _ => .of_some hv (encOption_tail _ _ _ he))
        fun _ => .of_some hv (encSection_post (free := false) _ _ he).tail
  unfold parseFormatEnc
  simp only []
  refine ite_ind (Post cfg free e src) (fun _ => ite_ind _ (fun _ => encSection_post _ _ h) fun _ => ?_) fun _ => ?_
  · split
    · rename_i hf; have hv := (nextvis_first hf).1
      exact ite_ind (Post cfg free e src) (fun _ => .err hv _ _) fun heof => .eof hv _ (by simpa using heof)
    · rename_i hf; exact first _ hf
  · split
    · rename_i hf; have hv := (nextvis_first hf).1
      exact ite_ind (Post cfg free e src)
        (fun heof => .eof hv _ (by simp only [Bool.and_eq_true, beq_iff_eq] at heof; exact heof.2)) fun _ => .err hv _ _
    · rename_i hf; exact first _ hf

def SepExit.st : SepExit → St
  | .sect s => s | .brk s => s

theorem sepBody_elems (f : Format) {s : St} (h : s.path.elems = e) (c : UInt8) :
    (sepBody f s c).Holds (fun s' => s'.path.elems = e) (fun r => r.st.path.elems = e) := by
  subst h
  simp [sepBody, apply_ite (Step.Holds _ _), SepExit.st]

/-- a section start returned by the name loop of `mpt_parse_format_sep` leaves `section | name` -/
theorem sepExit_post (cfg : Cfg) {x : SepExit} (src : Src) (h : x.st.path.elems = e) :
    Post cfg true e src (sepExit cfg x src) := by
  unfold sepExit
  split
  · simp only []
    split
    · exact .err (Reads.refl _) _ _
    · rename_i s2 hc
      refine ⟨⟨Reads.refl _, fun _ => .inr ⟨rfl, ?_⟩⟩, .commit _ hc h⟩
      obtain ⟨p, _, rfl⟩ := St.commit_ok hc
      rfl
  · exact .err (Reads.refl _) _ _

theorem sepName_post (cfg : Cfg) {s : St} (c : UInt8) (src : Src) (h : s.path.elems = e) :
    Post cfg true e src (sepName cfg s c src) := by
  have hb := sepBody_elems cfg.fmt h c
  unfold sepName
  split
  · rename_i hx
    have h2 := Step.Holds.of_done hx hb
    exact sepExit_post _ _ h2
  · rename_i hx
    have h2 := Step.Holds.of_more hx hb
    exact .after (scan_reads _ _ _ _) (sepExit_post _ _
      (scan_inv _ _ (fun s' => s'.path.elems = e) (fun r : SepExit => r.st.path.elems = e)
        (fun s' c' hp => sepBody_elems cfg.fmt ((St.save_elems s' c').trans hp) c') (fun s' hp => hp) src _ h2))

theorem sepFirst_post (cfg : Cfg) {s : St} (src : Src) (h : s.path.elems = e) :
    Post cfg true e src (sepFirst cfg s src) := by
  unfold sepFirst
  simp only []
  refine ite_ind (Post cfg true e src) (fun _ => ?_) fun _ => sepName_post _ _ _ h
  split
  · rename_i hg; exact .err (getc_first hg).1 _ _
  · rename_i hg; exact .of_some (getc_first hg) (sepName_post _ _ _ ((St.save_elems _ _).trans h)).tail

/-- `mpt_parse_format_sep` reads a character for every element it returns, unless the previous
    operation was a section end: then the implied section start may be returned without reading -/
theorem parseFormatSep_post (cfg : Cfg) (prev : Nat) {s : St} (src : Src) (h : s.path.elems = e) :
    Post cfg (prev &&& 0xf == Flag.sectEnd) e src (parseFormatSep cfg prev s src) := by
  unfold parseFormatSep
  simp only []
  refine ite_ind (Post cfg _ e src) (fun hp => by rw [hp]; exact sepFirst_post _ _ h) fun _ => ?_
  split
  · rename_i hf; have hv := (nextvis_first hf).1
    exact ite_ind (Post cfg _ e src) (fun heof => .eof hv _ (by simpa using heof)) fun _ => .err hv _ _
  · rename_i c s1 src1 hf
    have hv := nextvis_first hf
    have he := (nextvis_eq_elems hf).trans h
    exact ite_ind (Post cfg _ e src)
      (fun _ => ite_ind _
        (fun _ => .of_some hv (parseOption_post (free := false) _ _
          ((St.markValid_elems _).trans ((Path.addchar_elems _ _).trans he))).tail)
        fun _ => .of_some hv (parseOption_post (free := false) _ _ he).tail)
      fun _ => ite_ind _ (fun _ => .of_some hv ⟨Reads.refl _, .keep (.inl rfl) he⟩)
        fun _ => .of_some hv (sepFirst_post (s := { s1 with curr := Flag.section_ }) _ _ he).tail

theorem next_post (k : Kind) (cfg : Cfg) (prev : Nat) (s : St) (src : Src) :
    Post cfg (prev &&& 0xf == Flag.sectEnd) s.path.elems src (next k cfg prev s src) := by
  cases k <;> simp only [next]
  · exact parseFormatPre_post _ _ rfl
  · exact parseFormatEnc_post _ _ _ rfl
  · exact parseFormatSep_post _ _ _ rfl
  · exact parseOption_post _ _ rfl

theorem next_elem (k : Kind) (cfg : Cfg) (prev : Nat) (s : St) (src : Src) :
    Elem cfg s.path.elems (next k cfg prev s src) := (next_post k cfg prev s src).2

theorem next_adv (k : Kind) (cfg : Cfg) (prev : Nat) (s : St) (src : Src) :
    Adv (prev &&& 0xf == Flag.sectEnd) src (next k cfg prev s src) := (next_post k cfg prev s src).1

theorem next_reads (k : Kind) (cfg : Cfg) (prev : Nat) (s : St) (src : Src) :
    Reads src (next k cfg prev s src).2.2 := (next_adv k cfg prev s src).1

end

/-- what is left to read, doubled, plus one while a section end was the previous operation
    (the only situation in which a format function may return an element without reading) -/
def measure (prev : Nat) (src : Src) : Nat :=
  2 * src.rest.length + (if prev &&& 0xf == Flag.sectEnd then 1 else 0)

/-- **every element costs input**: the loop of `mpt_parse_config` makes progress -/
theorem next_measure (k : Kind) (cfg : Cfg) (prev : Nat) (s : St) (src : Src)
    (h : 0 < (next k cfg prev s src).1) :
    measure (next k cfg prev s src).2.1.curr (next k cfg prev s src).2.2 < measure prev src := by
  obtain ⟨hr, hpos⟩ := next_adv k cfg prev s src
  have hl := hr.length_le
  unfold measure
  rcases hpos h with hc | ⟨hp, hc⟩
  · have : (if (next k cfg prev s src).2.1.curr &&& 0xf == Flag.sectEnd then 1 else 0) ≤ 1 := by split <;> omega
    omega
  · have : ¬ ((Flag.section_ ||| Flag.name) &&& 0xf == Flag.sectEnd) = true := by decide
    rw [hc, if_neg this, if_pos hp]; omega

end Mpt.Parse
