/-
  Helper lemmas for C02, receive side: `Phase` — where a decode queue stands inside a valid frame
  stream fed in arbitrary pieces (between two frames, or inside frame `k` with a `Hist`) — and what keeps it: a decoder
  call that consumes non-zero bytes of the frame (`Phase.advance`; `phase_after_stay` for a call that does not
  deliver), more input (`Phase.feed`), every change of offsets and data that shows the decoder the same
  (`SameView.phase`), and taking a delivered empty message away (`Phase.clearMsg`).
-/
import MptModel.Lemmas.DecodeView
namespace Mpt.CQ
open Mpt.Cobs Mpt.Codec

/-- where the receiver stands in a valid stream `frames` after consuming `fed`, having finished `k` frames:
    between two frames, or inside frame `k` with first byte `c0` and consumed bytes `Uc` -/
inductive Phase (v : Variant) (frames : List (List Byte)) (st : DecState) (content fed : List Byte) (k : Nat) : Prop where
  | idle : Fresh st → st.curr ≤ content.length → (frames.take k).flatten ++ content.drop st.curr = fed →
      Phase v frames st content fed k
  | busy (c0 : Byte) (Uc : List Byte) : c0 ≠ 0 → (∀ x ∈ Uc, x ≠ 0) →
      Hist v c0.toNat (Uc ++ content.drop st.curr) st content →
      (frames.take k).flatten ++ c0 :: (Uc ++ content.drop st.curr) = fed → Phase v frames st content fed k

theorem Phase.advance {v : Variant} {frames : List (List Byte)} {fed : List Byte} {k : Nat} {c0 : Byte}
    {Uc mid unread : List Byte} {st' : DecState} {s' : List Byte} (hc0 : c0 ≠ 0) (hnz : ∀ x ∈ Uc, x ≠ 0)
    (hmnz : ∀ x ∈ mid, x ≠ 0) (hmid : unread = mid ++ s'.drop st'.curr)
    (hfed : (frames.take k).flatten ++ c0 :: (Uc ++ unread) = fed) (hh : Hist v c0.toNat (Uc ++ unread) st' s') :
    Phase v frames st' s' fed k := by
  subst hmid
  refine Phase.busy c0 (Uc ++ mid) hc0 ?_ (by rw [List.append_assoc]; exact hh) (by rw [List.append_assoc]; exact hfed)
  intro x hx
  rcases List.mem_append.mp hx with h | h
  · exact hnz x h
  · exact hmnz x h

theorem phase_after_stay {v : Variant} {frames : List (List Byte)} {content fed : List Byte} {k c : Nat} {c0 : Byte}
    {Uc0 : List Byte} {o : DecOut} (hc0 : c0 ≠ 0) (hnz0 : ∀ x ∈ Uc0, x ≠ 0)
    (hfed : (frames.take k).flatten ++ c0 :: (Uc0 ++ content.drop c) = fed)
    (hout : CallOut v c0.toNat (Uc0 ++ content.drop c) content c o) (hne : o.ret ≠ .val 1) :
    Phase v frames o.st o.store fed k ∧ o.st.msg = none := by
  obtain ⟨mid, hmid, hmnz⟩ := hout.scan.split.1 hne
  exact ⟨Phase.advance hc0 hnz0 hmnz (by rw [hout.scan.unread]; exact hmid) hfed (hout.hist hne), (hout.hist hne).msg⟩

theorem _root_.Mpt.Codec.SameView.phase {v : Variant} {frames : List (List Byte)} {st st' : DecState} {s s' fed : List Byte} {k : Nat}
    (sv : SameView st st' s s') (h : Phase v frames st s fed k) : Phase v frames st' s' fed k := by
  cases h with
  | idle hf _ hfed =>
    refine Phase.idle ⟨sv.ctx.trans hf.ctx, ?_, ?_⟩ sv.curr (by rw [sv.unread]; exact hfed)
    · rw [sv.msg, sv.len]; exact hf.hnone
    · rw [sv.msg, sv.len]; exact hf.hsome
  | busy c0 Uc hc0 hnz hh hfed =>
    exact Phase.busy c0 Uc hc0 hnz (by rw [sv.unread]; exact sv.hist hh) (by rw [sv.unread]; exact hfed)

theorem Phase.feed {v : Variant} {frames : List (List Byte)} {st : DecState} {content fed : List Byte} {k : Nat}
    (h : Phase v frames st content fed k) (hle : st.pos + st.len ≤ st.curr) (bytes : List Byte) :
    Phase v frames st (content ++ bytes) (fed ++ bytes) k := by
  cases h with
  | idle hf hcl hfed =>
    refine Phase.idle hf (by rw [List.length_append]; omega) ?_
    rw [List.drop_append_of_le_length hcl, ← List.append_assoc, hfed]
  | busy c0 Uc hc0 hnz hh hfed =>
    have hcl := hh.curr
    refine Phase.busy c0 Uc hc0 hnz ?_ ?_
    · rw [List.drop_append_of_le_length hcl, ← List.append_assoc]
      exact hh.append hle bytes
    · rw [List.drop_append_of_le_length hcl, ← hfed]; simp

theorem Phase.clearMsg {v : Variant} {frames : List (List Byte)} {st : DecState} {content fed : List Byte} {k : Nat}
    (h : Phase v frames st content fed k) (hm : st.msg = some 0) : Phase v frames { st with msg := none } content fed k := by
  cases h with
  | idle hf hcl hfed =>
    exact Phase.idle ⟨hf.ctx, fun _ => (hf.hsome 0 hm).symm, fun m hh => by cases hh⟩ hcl hfed
  | busy c0 Uc hc0 hnz hh hfed => rw [hh.msg] at hm; cases hm

end Mpt.CQ
