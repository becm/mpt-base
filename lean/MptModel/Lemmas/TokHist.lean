/-
  The operations of the element harness as an alphabet, their preconditions, and the
  exactly-once invariant over single operations and whole histories.
-/
import MptModel.Lemmas.TokOps
import MptModel.Lemmas.TokReserve
namespace Mpt.Heap

def Out.void {α : Type} : Out α → Out Unit
  | .ok s _ => .ok s ()
  | .fail s e => .fail s e
  | .fault w => .fault w

theorem OpOK.void {α : Type} {amb : List Nat} {s : State} {r : Out α} (h : OpOK amb s r) : OpOK amb s r.void := by
  cases r <;> exact h

/-- the array operations on buffers of managed elements, as a caller that handles elements correctly performs
    them (`insert`: construct the new elements in the returned region; `set`: pass constructed sources and
    destroy them afterwards, or pass no data) -/
inductive EOp where
  | reserve (h len : Nat) (t : Traits)
  | slice (h off len : Nat)
  | insert (h pos : Nat) (bytes : List Byte)
  | set (h : Nat) (t : Traits) (off : Int) (k : Nat) (withSrc : Bool)
  | cut (h off len : Nat)
  | clone (dst src : Nat)
  | drop (h : Nat)
  | detach (h n : Nat)
  | reduce (h : Nat)
  | bset (h pos : Nat) (bytes : List Byte)        -- private copy + `mpt_buffer_set` without source elements
  | bsetSrc (h pos k : Nat)                       -- the same with `k` source elements of the caller

def execE (s : State) : EOp → Out Unit
  | .reserve h len t => (arrayReserve s h len (some t)).void
  | .slice h off len => (arraySlice s h off len).void
  | .insert h pos bytes => (insertOpE s h pos bytes).void
  | .set h t off k withSrc => (setOpE s h t off k withSrc).void
  | .cut h off len => (cutOp s h off len).void
  | .clone dst src => (arrayClone s dst (some src)).void
  | .drop h => (arrayClone s h none).void
  | .detach h n => (detachOp s h n).void
  | .reduce h => (arrayReduce s h).void
  | .bset h pos bytes => (bsetOp s h pos bytes false).void
  | .bsetSrc h pos k => (bsetSrcE s h pos k).void

/-- what the caller has to respect: handles exist; element types have constructor, destructor and at least 4
    bytes; `slice`/`insert` are applied to handles that hold a buffer (on an empty handle they create an untyped
    buffer) -/
def EOp.pre (s : State) : EOp → Prop
  | .reserve h _ t => h < s.hs.length ∧ Managed t
  | .slice h _ _ => s.handle h ≠ none
  | .insert h _ _ => s.handle h ≠ none
  | .set h t _ _ _ => h < s.hs.length ∧ Managed t
  | .cut _ _ _ => True
  | .clone dst _ => dst < s.hs.length
  | .drop h => h < s.hs.length
  | .detach _ _ => True
  | .reduce _ => True
  | .bset _ _ _ => True
  | .bsetSrc _ _ _ => True

theorem execE_ok {s : State} (gs : GoodS [] s) (op : EOp) (pre : op.pre s) : OpOK [] s (execE s op) := by
  cases op with
  | reserve h len t => exact (reserve_ok gs pre.1 len t pre.2).void
  | slice h off len =>
    cases hh : s.handle h with
    | none => exact absurd hh pre
    | some b => exact (slice_ok gs hh off len).void
  | insert h pos bytes =>
    cases hh : s.handle h with
    | none => exact absurd hh pre
    | some b => exact (insertOpE_ok gs hh pos bytes).void
  | set h t off k withSrc => exact (setOpE_ok gs pre.1 t pre.2 off k withSrc).void
  | cut h off len => exact (cutOp_ok gs h off len).void
  | clone dst src => exact (clone_ok gs pre (some src)).void
  | drop h => exact (clone_ok gs pre none).void
  | detach h n => exact (detachOp_ok gs h n).void
  | reduce h => exact (reduce_ok gs h).void
  | bset h pos bytes =>
    exact (bsetOp_ok gs h pos bytes false [] nofun (fun _ _ hk => nomatch hk)).void
  | bsetSrc h pos k => exact (bsetSrcE_ok gs h pos k).void

/-- the live set is exactly what the live buffers store in their used parts, without duplicates, and below the
    token counter -/
def TokInv (s : State) (live : Tokens.Live) : Prop :=
  live.Perm (stored s) ∧ live.Nodup ∧ ∀ t ∈ live, t < s.next

theorem GoodS.of_inv {s : State} {live : List Nat} (inv : InvM s) (ti : TokInv s live) : GoodS [] s := by
  refine ⟨inv, fun _ => ⟨tokP_iff.mpr ⟨ti.1.nodup_iff.mp ti.2.1, fun t ht => ti.2.2 t (ti.1.mem_iff.mpr ht)⟩, List.nodup_nil,
    fun t ht => by cases ht⟩⟩

/-- a complete step, read on the live set of the spec: the new events are legal and lead to a live set that is
    again what the buffers store -/
theorem Step.replay {s s' : State} {live : List Nat} (st : Step [] s s') (ti : TokInv s live) (small : s'.next ≤ tokLimit) :
    ∃ live', replay live (s'.log.drop s.log.length) = some live' ∧ TokInv s' live' := by
  obtain ⟨tp', _, evs, hlog, run⟩ := st.tok small
  simp only [List.nil_append] at run
  obtain ⟨l1, h1, p1⟩ := run.perm_left ti.1.symm
  refine ⟨l1, by rw [hlog, List.drop_left]; exact h1, p1, p1.nodup_iff.mpr (tokP_iff.mp tp').1, fun t ht => ?_⟩
  exact (tokP_iff.mp tp').2 t (p1.mem_iff.mp ht)

/-- the way out of the tower: an outcome in the words of `Props/C05`.  It does not chain (the token invariant of `s'` comes
    under `s'.next ≤ tokLimit` only): consecutive operations are composed as `Step`s (`Step.trans`, `OpOK.after`, `Hist.step`)
    and read on the live set once, at the end -/
theorem OpOK.exactly_once {α : Type} {s : State} {live : List Nat} {r : Out α} (ok : OpOK [] s r) (ti : TokInv s live) :
    match (generalizing := false) r with
    | .fault _ => False
    | .ok s' _ => InvM s' ∧ (s'.next ≤ tokLimit →
        ∃ live', replay live (s'.log.drop s.log.length) = some live' ∧ TokInv s' live')
    | .fail s' _ => InvM s' ∧ (s'.next ≤ tokLimit →
        ∃ live', replay live (s'.log.drop s.log.length) = some live' ∧ TokInv s' live') := by
  cases r with
  | fault w => exact ok
  | ok s' v => exact ⟨Step.inv ok, fun small => Step.replay ok ti small⟩
  | fail s' e => exact ⟨Step.inv ok, fun small => Step.replay ok ti small⟩

/-- histories: every operation meets its precondition; a failing operation leaves a state to continue with -/
inductive Hist : State → List EOp → State → Prop where
  | nil (s : State) : Hist s [] s
  | ok {s s1 s2 : State} {op : EOp} {ops : List EOp} : op.pre s → execE s op = .ok s1 () → Hist s1 ops s2 → Hist s (op :: ops) s2
  | fail {s s1 s2 : State} {op : EOp} {ops : List EOp} {e : Fail} : op.pre s → execE s op = .fail s1 e → Hist s1 ops s2 →
      Hist s (op :: ops) s2

theorem Hist.step {s s' : State} {ops : List EOp} (hi : Hist s ops s') (gs : GoodS [] s) : Step [] s s' := by
  induction hi with
  | nil s => exact Step.refl gs
  | ok pre he _ ih | fail pre he _ ih =>
    have := execE_ok gs _ pre
    rw [he] at this
    exact Step.trans this (ih this.good)

theorem stored_nil_of_no_handle {s : State} (inv : InvM s) (hn : ∀ h, s.handle h = none) : stored s = [] := by
  -- a live buffer has a positive reference count, and `InvM` counts the handles that hold it
  have dead : ∀ c, s.buf? c = none := by
    intro c
    cases hx : s.buf? c with
    | none => rfl
    | some x =>
      exfalso
      obtain ⟨r1, r2⟩ := inv.ref c x hx
      have pos : 0 < s.hs.count (some c) := by omega
      have mem := List.count_pos_iff.mp pos
      obtain ⟨i, hi⟩ := List.mem_iff_getElem?.mp mem
      have := hn i
      simp [State.handle, hi] at this
  unfold stored
  apply List.flatMap_eq_nil_iff.mpr
  intro c _
  rw [dead c]; rfl

theorem Step.replay_end {s s' : State} {live : List Nat} (st : Step [] s s') (ti : TokInv s live) :
    InvM s' ∧ (s'.next ≤ tokLimit →
      ∃ live', Heap.replay live (s'.log.drop s.log.length) = some live' ∧ TokInv s' live' ∧
        ((∀ h, s'.handle h = none) → live' = [])) := by
  refine ⟨st.inv, fun small => ?_⟩
  obtain ⟨live', h1, h2⟩ := st.replay ti small
  refine ⟨live', h1, h2, fun hn => ?_⟩
  have := h2.1
  rw [stored_nil_of_no_handle st.inv hn] at this
  exact List.perm_nil.mp this

end Mpt.Heap
