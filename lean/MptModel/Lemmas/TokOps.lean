/-
  The array operations on heaps of managed buffers are complete steps (`OpOK`), for any ambient tokens.  The ambient tokens
  get their use in the operations that copy from source elements of the caller: the harness constructs `k` temporary
  elements (`sourcesInit`, tokens `seqFrom s.next k`), runs the operation with these as ambient tokens and destroys them
  (`sourcesFini`); `step_sources_wrap` turns such a step into one without ambient tokens (`setOpE_ok`, `bsetSrcE_ok`).
-/
import MptModel.Lemmas.TokDetach
namespace Mpt.Heap

theorem detachOp_ok {amb : List Nat} {s : State} (gs : GoodS amb s) (h n : Nat) : OpOK amb s (detachOp s h n) := by
  unfold detachOp
  cases hh : s.handle h with
  | none => exact Step.refl gs
  | some b =>
    simp only
    obtain ⟨x, hb⟩ := gs.inv.live h b hh
    obtain ⟨t, _, xt, _⟩ := (gs.inv.good b x hb).elems
    rcases ensure_step gs hh hb xt true n with ⟨s1, e, he, es⟩ | ⟨s1, nb, he, es⟩
    · rw [he]; exact es
    · rw [he]; exact es.1

theorem reduce_ok {amb : List Nat} {s : State} (gs : GoodS amb s) (h : Nat) : OpOK amb s (arrayReduce s h) := by
  unfold arrayReduce
  cases hh : s.handle h with
  | none => exact Step.refl gs
  | some b =>
    simp only
    obtain ⟨x, hb⟩ := gs.inv.live h b hh
    rw [hb]
    simp only
    obtain ⟨t, _, xt, _⟩ := (gs.inv.good b x hb).elems
    rcases ensure_step gs hh hb xt true x.used with ⟨s1, e, he, es⟩ | ⟨s1, nb, he, es⟩
    · rw [he]; exact es
    · rw [he]
      obtain ⟨st, _, z, hz, _⟩ := es
      simp only [hz]
      exact st

theorem cutOp_ok {amb : List Nat} {s : State} (gs : GoodS amb s) (h off len : Nat) : OpOK amb s (cutOp s h off len) := by
  unfold cutOp
  cases hh : s.handle h with
  | none => exact Step.refl gs
  | some b =>
    simp only
    obtain ⟨x, hb⟩ := gs.inv.live h b hh
    rw [hb]
    simp only
    obtain ⟨t, _, xt, _⟩ := (gs.inv.good b x hb).elems
    rcases ensure_step gs hh hb xt true x.used with ⟨s1, e, he, es⟩ | ⟨s1, nb, he, es⟩
    · rw [he]; exact es
    · rw [he]
      obtain ⟨st, _, z, hz, _⟩ := es
      simp only
      exact OpOK.after st (bufferCut_step st.good hz off len)


/-- `replaceBuf` after the reference on `new` has been taken (`s1` = `s` with that reference added) -/
theorem replaceBuf_ok {amb : List Nat} {s s1 : State} (gs : GoodS amb s) {dst : Nat} (hlt : dst < s.hs.length) (new : Option Nat)
    (hnew : ∀ a, new = some a → ∃ x, s.buf? a = some x)
    (hne : s.handle dst ≠ new)
    (hs1hs : s1.hs = s.hs) (hs1len : s1.bufs.length = s.bufs.length) (hs1log : s1.log = s.log) (hs1next : s1.next = s.next)
    (hs1 : ∀ c, s1.buf? c = if new = some c then (s.buf? c).map (fun x => { x with ref := x.ref + 1 }) else s.buf? c) :
    OpOK amb s (replaceBuf s1 dst new (s.handle dst)) := by
  have toks1 : ∀ c, bufToks (s1.buf? c) = bufToks (s.buf? c) := by
    intro c
    rw [hs1]
    split
    · cases s.buf? c <;> rfl
    · rfl
  cases hd : s.handle dst with
  | none =>
    have inv' := gs.inv.reassign (s' := s1.setHandle dst new) hlt new hnew hne (by simp [hs1hs])
      (by intro c; rw [State.buf?_setHandle, hs1]; simp [hd])
    exact step_of_toks_same gs inv' (by simp [hs1hs]) (fun c => by rw [State.buf?_setHandle]; exact toks1 c) hs1log hs1next
  | some b =>
    obtain ⟨x, hb⟩ := gs.inv.live dst b hd
    have nb : ¬ new = some b := by intro e; exact hne (hd.trans e.symm)
    have hb1 : s1.buf? b = some x := by rw [hs1, if_neg nb, hb]
    obtain ⟨_, _, _, _, _, hsz⟩ := (gs.inv.good b x hb).elems
    obtain ⟨s', he, hhs, _, hnx, _, hlen, hbuf, hlog⟩ := replaceBuf_some dst new hb1 (gs.inv.ref b x hb).2 hsz
    rw [he]
    have hsl : s'.hs.length = s.hs.length := by rw [hhs, List.length_set, hs1hs]
    have inv' := gs.inv.reassign (s' := s') hlt new hnew hne (by rw [hhs, hs1hs]) (fun c => by
      rw [hbuf, hd]
      by_cases cb : c = b
      · rw [if_pos cb, cb, if_neg nb, if_pos rfl, dropRef, hb1, hb]
      · rw [if_neg cb, hs1, if_neg (fun e => cb (Option.some.inj e).symm)])
    by_cases r1 : x.ref = 1
    · -- the last reference: the buffer is freed, its elements destroyed
      have dead : s.buf? s.bufs.length = none := State.buf?_ge_length s _ (Nat.le_refl _)
      have hnone : s'.buf? b = none := by rw [hbuf, if_pos rfl, dropRef, hb1]; simp only [r1, if_true]
      have dead' : s'.buf? s.bufs.length = none := State.buf?_ge_length s' _ (by rw [hlen, hs1len]; exact Nat.le_refl _)
      refine step_of_pair (nb := s.bufs.length) gs hb dead inv' hsl (by rw [hnx, hs1next]; exact Nat.le_refl _)
        (fun c c1 _ => by rw [hbuf, if_neg c1]; exact toks1 c) (fun _ => ?_)
      rw [hnone, dead']
      simp only [bufToks, List.append_nil]
      exact .mk (A := []) (G := x.toks) (T := []) (cre := []) (m := 0) (S := []) (by simp) (by simp [seqFrom])
        (by rw [hnx, hs1next]; rfl) (by rw [hlog, if_pos r1, hs1log]; simp) (.refl _) (Creates.nil _) nofun
    · -- other handles keep the buffer: no element is touched
      refine step_of_toks_same gs inv' hsl (fun c => ?_) (by rw [hlog, if_neg r1, hs1log]; simp) (by rw [hnx, hs1next])
      rw [hbuf]
      by_cases cb : c = b
      · rw [if_pos cb, cb, dropRef, hb1, hb]; simp only [r1, if_false]; rfl
      · rw [if_neg cb]; exact toks1 c

theorem replaceBuf_none_ok {amb : List Nat} {s : State} (gs : GoodS amb s) {dst : Nat} (hlt : dst < s.hs.length)
    (hd : s.handle dst ≠ none) : OpOK amb s (replaceBuf s dst none (s.handle dst)) :=
  replaceBuf_ok gs hlt none nofun hd rfl rfl rfl rfl (fun c => by simp)

theorem addref_replace_ok {amb : List Nat} {s : State} (gs : GoodS amb s) {dst src a : Nat} (hlt : dst < s.hs.length)
    (hs : s.handle src = some a) (diff : ¬ s.handle src = s.handle dst) :
    ∃ s1 k, addref s a = .ok s1 (k + 1) ∧ OpOK amb s (replaceBuf s1 dst (some a) (s.handle dst)) := by
  obtain ⟨x, ha⟩ := gs.inv.live src a hs
  have alt := State.buf?_lt ha
  have r := gs.inv.ref a x ha
  obtain ⟨k, hk⟩ := addref_live ha r.2
  refine ⟨_, k, hk, ?_⟩
  refine replaceBuf_ok gs hlt (some a) (fun a' e => by cases e; exact ⟨x, ha⟩) (fun e => diff (hs.trans e.symm)) rfl (by simp) rfl rfl
    (fun c => ?_)
  rw [State.buf?_setBuf _ _ _ _ alt]
  by_cases ca : c = a
  · subst ca; simp [ha]
  · have : ¬ some a = some c := by intro e; cases e; exact ca rfl
    simp [ca, this]

theorem clone_ok {amb : List Nat} {s : State} (gs : GoodS amb s) {dst : Nat} (hlt : dst < s.hs.length) (src : Option Nat) :
    OpOK amb s (arrayClone s dst src) := by
  unfold arrayClone
  cases src with
  | none =>
    simp only
    by_cases hd : s.handle dst = none
    · rw [hd]
      simp only [replaceBuf]
      rw [show s.setHandle dst none = s from hd ▸ State.setHandle_handle s dst]
      exact Step.refl gs
    · exact replaceBuf_none_ok gs hlt hd
  | some hsrc =>
    simp only
    split
    · exact Step.refl gs
    · rename_i diff
      split
      · exact Step.refl gs
      · cases hs : s.handle hsrc with
        | none =>
          simp only
          exact replaceBuf_none_ok gs hlt (fun e => diff (hs.trans e.symm))
        | some a =>
          simp only
          obtain ⟨s1, k, he, ok⟩ := addref_replace_ok gs hlt hs diff
          rw [he]; exact ok

/-- `mpt_array_set` with managed element traits: the sources (if any) are live tokens held by the caller -/
theorem arraySet_ok {amb : List Nat} {s : State} (gs : GoodS amb s) {h : Nat} (hlt : h < s.hs.length) (t : Traits) (mt : Managed t)
    (bytes : List Byte) (hasSrc : Bool) (off : Int) (S : List Nat)
    (hS : hasSrc = true → ∀ j, j < bytes.length / t.size → slot bytes t.size j ∈ S)
    (hSl : s.next ≤ tokLimit → ∀ k ∈ S, k ∈ amb) :
    OpOK amb s (arraySet s h (some t) bytes hasSrc off) := by
  unfold arraySet
  simp only
  by_cases c0 : t.size = 0 ∨ bytes.length % t.size ≠ 0
  · rw [if_pos c0]; exact Step.refl gs
  · rw [if_neg c0]
    cases hh : s.handle h with
    | none =>
      simp only
      by_cases c1 : off * Int.ofNat t.size < 0
      · rw [if_pos c1]; exact Step.refl gs
      · rw [if_neg c1]
        obtain ⟨st, hz⟩ := attach_managed_step gs hlt hh ((off * Int.ofNat t.size).toNat + bytes.length) 0 t mt
        -- `arraySet` passes the outcome of `bufferSet` on with another value / failure code
        have ok := OpOK.after st (bufferSet_step st.good hz rfl (off * Int.ofNat t.size).toNat bytes hasSrc S hS
          (fun small k hk => Or.inl (hSl (Nat.le_trans st.next small) k hk)))
        generalize bufferSet _ _ _ _ bytes hasSrc = r at ok ⊢
        cases r <;> exact ok
    | some b =>
      simp only
      obtain ⟨x, hb⟩ := gs.inv.live h b hh
      rw [hb]
      simp only
      split
      · exact Step.refl gs
      · rename_i sameT
        have xt : x.traits = some t := by simpa using sameT
        generalize hpos : (if off < 0 then off * Int.ofNat t.size + Int.ofNat x.used else off * Int.ofNat t.size) = pos1
        split
        · exact Step.refl gs
        · rcases ensure_step gs hh hb xt (decide (x.size < pos1.toNat + bytes.length ∨ x.immutable = true ∨ x.shared = true))
            (max (pos1.toNat + bytes.length) x.used) with ⟨s1, e, he, es⟩ | ⟨s1, nb, he, es⟩
          · rw [he]; exact es
          · rw [he]
            obtain ⟨st, _, z, hz, zt, _⟩ := es
            simp only
            have ok := OpOK.after st (bufferSet_step st.good hz zt pos1.toNat bytes hasSrc S hS
              (fun small k hk => Or.inl (hSl (Nat.le_trans st.next small) k hk)))
            generalize bufferSet _ _ _ _ bytes hasSrc = r at ok ⊢
            cases r <;> exact ok


theorem range_map_seqFrom (a k : Nat) : (List.range k).map (fun i => a + i) = seqFrom a k := by
  rw [seqFrom_eq_range', List.range'_eq_map_range]

theorem creates_inits (a k : Nat) : Creates [] a ((seqFrom a k).map Ev.init) k := by
  induction k generalizing a with
  | zero => exact Creates.nil a
  | succ k ih => exact Creates.init (ih (a + 1))

theorem slot_append_left (A B : List Byte) (sz j : Nat) (h : (j + 1) * sz ≤ A.length) (h4 : 4 ≤ sz) : slot (A ++ B) sz j = slot A sz j := by
  rw [Nat.succ_mul] at h
  exact rdTok_congr fun k hk => by
    rw [List.getD_eq_getElem?_getD, List.getD_eq_getElem?_getD, List.getElem?_append_left (by omega)]

theorem slot_append_right (A B : List Byte) (sz j : Nat) (h : A.length = sz) : slot (A ++ B) sz (j + 1) = slot B sz j := by
  unfold slot
  rw [Nat.succ_mul]
  exact rdTok_congr fun k hk => by
    rw [List.getD_eq_getElem?_getD, List.getD_eq_getElem?_getD, List.getElem?_append_right (by omega), h,
      show j * sz + sz + k - sz = j * sz + k by omega]

theorem sourcesBytes_succ (a k sz : Nat) : sourcesBytes a (k + 1) sz = elemBytes a sz ++ sourcesBytes (a + 1) k sz := by
  unfold sourcesBytes
  rw [List.range_succ_eq_map, List.flatMap_cons, List.flatMap_map]
  simp only [Nat.add_zero]
  congr 1
  induction (List.range k) with
  | nil => rfl
  | cons i is ih =>
    simp only [List.flatMap_cons, ih]
    congr 2; omega

theorem sourcesBytes_length (a k sz : Nat) (h4 : 4 ≤ sz) : (sourcesBytes a k sz).length = k * sz := by
  induction k generalizing a with
  | zero => simp [sourcesBytes]
  | succ k ih => rw [sourcesBytes_succ, List.length_append, elemBytes_length a sz h4, ih, Nat.add_mul]; omega

theorem slot_sourcesBytes (a k sz j : Nat) (h4 : 4 ≤ sz) (hj : j < k) (small : a + k ≤ tokLimit) :
    slot (sourcesBytes a k sz) sz j = a + j := by
  induction k generalizing a j with
  | zero => omega
  | succ k ih =>
    rw [sourcesBytes_succ]
    cases j with
    | zero =>
      rw [slot_append_left _ _ sz 0 (by rw [elemBytes_length a sz h4]; omega) h4]
      exact slot_elemBytes a sz h4 (by omega)
    | succ j =>
      rw [slot_append_right _ _ sz j (elemBytes_length a sz h4), ih (a + 1) j (by omega) (by omega)]
      omega

theorem goodS_sourcesInit {s : State} (gs : GoodS [] s) (k : Nat) : GoodS (seqFrom s.next k) (sourcesInit s k) := by
  refine ⟨gs.inv.congr (fun _ => rfl) rfl, ?_⟩
  intro small
  have small' : s.next + k ≤ tokLimit := small
  obtain ⟨tp, _⟩ := gs.tok (by omega)
  refine ⟨tp.same (by show s.next ≤ s.next + k; omega) (fun c y hy => ⟨y, hy, rfl⟩), seqFrom_nodup _ _, ?_⟩
  intro x hx
  have := mem_seqFrom.mp hx
  refine ⟨by show x < s.next + k; omega, fun hm => ?_⟩
  have : x < s.next := (tokP_iff.mp tp).2 x hm
  omega

theorem step_sources_wrap {s : State} (gs : GoodS [] s) (k : Nat) (s' : State)
    (st : Step (seqFrom s.next k) (sourcesInit s k) s') : Step [] s (sourcesFini s' s.next k) := by
  refine ⟨st.inv.congr (fun _ => rfl) rfl, st.hsl, ?_, ?_⟩
  · have := st.next; show s.next ≤ s'.next; have : (sourcesInit s k).next = s.next + k := rfl; omega
  · intro small
    have small' : s'.next ≤ tokLimit := small
    obtain ⟨tp', am', evs, lg, run⟩ := st.tok small'
    have nI : (sourcesInit s k).next = s.next + k := rfl
    obtain ⟨tp, _⟩ := gs.tok (by have := st.next; omega)
    refine ⟨tp'.same (Nat.le_refl _) (fun c y hy => ⟨y, hy, rfl⟩), ⟨List.nodup_nil, fun x hx => by cases hx⟩, ?_⟩
    refine ⟨(seqFrom s.next k).map Ev.init ++ evs ++ (seqFrom s.next k).map Ev.fini, ?_, ?_⟩
    · show s'.log ++ _ = _
      rw [lg]
      show (s.log ++ (List.range k).map (fun i => Ev.init (s.next + i))) ++ evs ++ (List.range k).map (fun i => Ev.fini (s.next + i)) = _
      have e1 : (List.range k).map (fun i => Ev.init (s.next + i)) = (seqFrom s.next k).map Ev.init := by
        rw [← range_map_seqFrom, List.map_map]; rfl
      have e2 : (List.range k).map (fun i => Ev.fini (s.next + i)) = (seqFrom s.next k).map Ev.fini := by
        rw [← range_map_seqFrom, List.map_map]; rfl
      rw [e1, e2]; simp
    · have r1 := (creates_inits s.next k).run (stored s) (tokP_iff.mp tp).2 (by intro x hx; cases hx)
      have r2 : Run (seqFrom s.next k ++ stored s) evs (seqFrom s.next k ++ stored s') := run
      have r3 : Run (seqFrom s.next k ++ stored s') ((seqFrom s.next k).map Ev.fini) (stored s') :=
        Run.fini (List.Perm.refl _)
      simp only [List.nil_append]
      exact (r1.append r2).append r3

theorem sources_slots (a k sz : Nat) (h4 : 4 ≤ sz) :
    (∀ j, j < (sourcesBytes a k sz).length / sz → slot (sourcesBytes a k sz) sz j ∈ slotsFrom (sourcesBytes a k sz) sz 0 k) ∧
    (a + k ≤ tokLimit → ∀ x ∈ slotsFrom (sourcesBytes a k sz) sz 0 k, x ∈ seqFrom a k) := by
  refine ⟨fun j hj => ?_, fun small x hx => ?_⟩
  · rw [sourcesBytes_length _ _ _ h4, Nat.mul_div_cancel k (by omega)] at hj
    exact mem_slotsFrom.mpr ⟨j, Nat.zero_le j, by omega, rfl⟩
  · obtain ⟨j, _, h2, e⟩ := mem_slotsFrom.mp hx
    rw [← e, slot_sourcesBytes a k sz j h4 (by omega) small, mem_seqFrom]; omega

theorem setOpE_ok {s : State} (gs : GoodS [] s) {h : Nat} (hlt : h < s.hs.length) (t : Traits) (mt : Managed t) (off : Int) (k : Nat)
    (withSrc : Bool) : OpOK [] s (setOpE s h t off k withSrc) := by
  unfold setOpE
  cases withSrc with
  | false =>
    simp only [Bool.false_eq_true, if_false]
    exact arraySet_ok gs hlt t mt _ false off [] (by intro h; cases h) (by intro _ k hk; cases hk)
  | true =>
    simp only [if_true]
    have src := sources_slots s.next k t.size mt.2.2
    have inner := arraySet_ok (goodS_sourcesInit gs k) (h := h) hlt t mt (sourcesBytes s.next k t.size) true off _ (fun _ => src.1) src.2
    generalize arraySet (sourcesInit s k) h (some t) (sourcesBytes s.next k t.size) true off = r at inner
    cases r with
    | fault w => exact inner
    | fail s' e => exact step_sources_wrap gs k s' inner
    | ok s' v => exact step_sources_wrap gs k s' inner


/-- private copy, then `mpt_buffer_set` with the buffer's own element type; the sources (if any) are ambient tokens -/
theorem bsetOp_ok {amb : List Nat} {s : State} (gs : GoodS amb s) (h pos : Nat) (bytes : List Byte) (hasSrc : Bool) (S : List Nat)
    (hS : hasSrc = true → ∀ t, ((s.handle h).bind s.buf?).bind (·.traits) = some t →
      ∀ j, j < bytes.length / t.size → slot bytes t.size j ∈ S)
    (hSl : s.next ≤ tokLimit → ∀ k ∈ S, k ∈ amb) :
    OpOK amb s (bsetOp s h pos bytes hasSrc) := by
  unfold bsetOp
  cases hh : s.handle h with
  | none => exact Step.refl gs
  | some b =>
    simp only
    obtain ⟨x, hb⟩ := gs.inv.live h b hh
    rw [hb]
    simp only
    obtain ⟨t, _, xt, _, _, _⟩ := (gs.inv.good b x hb).elems
    rcases ensure_step gs hh hb xt true (max x.used (pos + bytes.length)) with ⟨s1, e, he, es⟩ | ⟨s1, nb, he, es⟩
    · rw [he]; exact es
    · rw [he]
      obtain ⟨st, _, z, hz, zt, _⟩ := es
      simp only
      rw [xt]
      exact OpOK.after st (bufferSet_step st.good hz zt pos bytes hasSrc S (fun hs => hS hs t (by rw [hh]; simp [hb, xt]))
        (fun small k hk => Or.inl (hSl (Nat.le_trans st.next small) k hk)))

theorem bsetSrcE_ok {s : State} (gs : GoodS [] s) (h pos k : Nat) : OpOK [] s (bsetSrcE s h pos k) := by
  unfold bsetSrcE
  cases ht : ((s.handle h).bind s.buf?).bind (·.traits) with
  | none => exact Step.refl gs
  | some t =>
    simp only
    -- the buffer is managed: its elements have room for a token
    have h4 : 4 ≤ t.size := by
      cases hh : s.handle h with
      | none => rw [hh] at ht; cases ht
      | some b =>
        obtain ⟨y, hy⟩ := gs.inv.live h b hh
        obtain ⟨ty, _, yt, mty, _, _⟩ := (gs.inv.good b y hy).elems
        rw [hh] at ht
        simp only [Option.bind_some, hy, yt] at ht
        cases ht; exact mty.2.2
    have src := sources_slots s.next k t.size h4
    have inner := bsetOp_ok (goodS_sourcesInit gs k) h pos (sourcesBytes s.next k t.size) true _
      (fun _ t' ht' => by cases ht'.symm.trans ht; exact src.1) src.2
    generalize bsetOp (sourcesInit s k) h pos (sourcesBytes s.next k t.size) true = r at inner
    cases r with
    | fault w => exact inner
    | fail s' e => exact step_sources_wrap gs k s' inner
    | ok s' v => exact step_sources_wrap gs k s' inner

/-- the tokens cut at element `p`, in the shape `A ++ G ++ T` of `Rewrote` with nothing destroyed (`G = []`) -/
theorem toks_cut {x : Buf} {t : Traits} (xt : x.traits = some t) (mt : Managed t) {n : Nat} (hu : x.used = n * t.size) (p : Nat) :
    x.toks = slotsFrom x.data t.size 0 (min n p) ++ [] ++ slotsFrom x.data t.size p (n - p) := by
  have := toks_parts xt mt hu p 0
  rwa [Nat.add_zero, show min n p - p = 0 by omega] at this

/-- `mpt_buffer_insert` followed by the construction of the inserted elements (all `l`, or — for an insertion
    at or behind the end — a prefix of `m`, after which the buffer ends): a complete step -/
theorem insert_fill_step {amb : List Nat} {s s1 s2 : State} {b : Nat} {x x1 : Buf} {t : Traits} {n p l m : Nat} {d2 : List Byte} {u2 : Nat}
    {S : List Nat} (gs : GoodS amb s) (hb : s.buf? b = some x) (xt : x.traits = some t) (mt : Managed t) (hu : x.used = n * t.size)
    (ins : Inserted s s1 b x x1 t.size n p l) (fit : (max n p + l) * t.size ≤ x.size)
    (bt : Built s1 s2 b x1 t.size p m S d2 u2) (hS : ∀ k ∈ S, k ∈ amb)
    (alt : (m = l ∧ u2 = x1.used) ∨ (n ≤ p ∧ m < l ∧ u2 = (p + m) * t.size)) : Step amb s s2 := by
  have U : u2 = (p + m + (n - p)) * t.size := by
    rcases alt with ⟨e1, e2⟩ | ⟨e1, e2, e3⟩
    · rw [e2, ins.used, e1]; congr 1; omega
    · rw [e3]; congr 1; omega
  have x2t : ({ x1 with data := d2, used := u2 } : Buf).traits = some t := ins.traits.trans xt
  have ufit : (p + m + (n - p)) * t.size ≤ ({ x1 with data := d2, used := u2 } : Buf).size := by
    rw [Buf.size, bt.len, ins.len]
    refine Nat.le_trans (Nat.mul_le_mul_right _ ?_) fit
    rcases alt with ⟨e1, _⟩ | ⟨e1, e2, _⟩ <;> omega
  refine step_of_frame gs hb (ins.frame.trans bt.frame) bt.buf ins.ref (goodBuf_of x2t mt U ufit)
    (by rw [bt.next, ins.next]; omega) (fun small => ?_)
  have small1 : s1.next ≤ tokLimit := by have := bt.next; omega
  obtain ⟨ev1, l1, c1⟩ := ins.log
  obtain ⟨ev2, l2, c2⟩ := bt.log
  refine .mk (D := []) (toks_cut xt mt hu p) ?_ (by rw [bt.next, ins.next, Nat.add_assoc])
    (by rw [l2, l1]; simp) (.refl _) (Creates.append (c1.mono nofun) (ins.next ▸ c2)) (fun k hk => Or.inl (hS k hk))
  rw [toks_of_used x2t mt U, slotsFrom_rebuilt (d := x.data) (a := s.next) _
    (fun j hj => (bt.out j (Or.inl (by omega))).trans (ins.low j hj))
    (fun j h1 h2 => (bt.out j (Or.inl h2)).trans (ins.gap small1 j h1 h2))
    (fun j h1 h2 => (bt.inn small j h1 h2).trans (by rw [ins.next]))]
  refine congrArg _ ?_
  -- the moved tail (only for an insertion inside the data, which is then complete)
  by_cases c0 : n - p = 0
  · rw [c0]; rfl
  · have ml : m = l := by
      rcases alt with ⟨e1, _⟩ | ⟨e1, _, _⟩
      · exact e1
      · omega
    refine slotsFrom_shift (fun a ha => ?_)
    show slot d2 t.size _ = _
    rw [bt.out _ (Or.inr (by omega)), ins.high _ (by omega) (by omega)]
    congr 1; omega

/-- extension part of `mpt_array_slice` on a private buffer of managed elements -/
theorem sliceGrow_ok {amb : List Nat} {s : State} (gs : GoodS amb s) {nb : Nat} {z : Buf} {t : Traits} (hz : s.buf? nb = some z)
    (zt : z.traits = some t) (mt : Managed t) (h : Nat) (p l off : Nat) (zu : z.used ≤ p * t.size) (lp : 0 < l) :
    OpOK amb s (sliceGrow s h nb (some t) (p * t.size) (l * t.size) off) := by
  have h4 := mt.2.2
  have szp : 0 < t.size := by omega
  obtain ⟨t', n, zt', _, hu, hsz⟩ := (gs.inv.good nb z hz).elems
  have te : t' = t := by rw [zt] at zt'; cases zt'; rfl
  subst te
  have np : n ≤ p := by rw [hu] at zu; exact Nat.le_of_mul_le_mul_right zu szp
  unfold sliceGrow
  rcases bufferInsert_managed hz zt mt hu (p * t'.size) (l * t'.size) with ⟨e, he⟩ | ⟨_, e0, _⟩ | ⟨p', l', s2, z', ep, el, fit, he, ins⟩ |
    ⟨p', m, s2, d', ep, nm, he, afit, ap⟩
  · rw [he]; exact Step.refl gs
  · exfalso
    rcases Nat.mul_eq_zero.mp e0 with h | h <;> omega
  · have e1 : p' = p := (Nat.eq_of_mul_eq_mul_right szp ep).symm
    have e2 : l' = l := (Nat.eq_of_mul_eq_mul_right szp el).symm
    subst e1; subst e2
    rw [he]
    simp only [sliceFill, mt.1, if_true]
    rw [iters_mul l' t'.size (by omega), initLoopStop_eq]
    have mx : max n p' = p' := Nat.max_eq_right np
    have fit' : (p' + l') * t'.size ≤ z'.size := by
      rw [mx] at fit; simp only [Buf.size, ins.len]; simpa [Buf.size] using fit
    obtain ⟨s3, d', m, ml, bt, alt⟩ := genInit_spec (stopFail nb) doneUnit l' s2 nb p' t'.size z' ins.buf h4 fit'
    rcases alt with ⟨em, eg⟩ | ⟨lt, eg⟩
    · rw [eg]
      exact insert_fill_step gs hz zt mt hu ins fit bt (fun _ hk => by cases hk) (Or.inl ⟨em, rfl⟩)
    · rw [eg]
      simp only [stopFail, bt.buf]
      exact insert_fill_step gs hz zt mt hu ins fit (bt.setUsed ((p' + m) * t'.size)) (fun _ hk => by cases hk) (Or.inr ⟨np, lt, rfl⟩)
  · rw [he]
    exact append_step gs hz zt mt hu ap afit (fun _ _ hk => nomatch hk)

theorem slice_ok {amb : List Nat} {s : State} (gs : GoodS amb s) {h b : Nat} (hh : s.handle h = some b) (off len : Nat) :
    OpOK amb s (arraySlice s h off len) := by
  unfold arraySlice
  rw [hh]
  simp only
  obtain ⟨x, hb⟩ := gs.inv.live h b hh
  rw [hb]
  simp only
  obtain ⟨t, n, xt, mt, hu, hsz⟩ := (gs.inv.good b x hb).elems
  by_cases bad : sliceBad x off len = true
  · rw [if_pos bad]; exact Step.refl gs
  · rw [if_neg bad]
    rcases ensure_step gs hh hb xt (decide (off + len > x.size ∨ x.immutable = true ∨ x.shared = true)) (max (off + len) x.used) with ⟨s1, e, he, es⟩ | ⟨s1, nb, he, es⟩
    · rw [he]; exact es
    · rw [he]
      obtain ⟨st, _, z, hz, zt, zu⟩ := es
      simp only
      by_cases grow : off + len > x.used
      · rw [if_pos grow, xt]
        simp only [sliceBad, xt, decide_eq_true_eq, not_or, Decidable.not_not] at bad
        obtain ⟨_, o0, l0, _⟩ := bad
        have tot : (off + len) % t.size = 0 := by rw [Nat.add_mod, o0, l0]; simp
        have ediv : off + len = ((off + len) / t.size) * t.size := by
          have := Nat.div_add_mod (off + len) t.size; rw [tot, Nat.mul_comm] at this; omega
        have lt : n < (off + len) / t.size := by
          rw [hu, ediv] at grow
          exact Nat.lt_of_mul_lt_mul_right grow
        have em : off + len - x.used = ((off + len) / t.size - n) * t.size := by
          rw [Nat.sub_mul, ← ediv, hu]
        rw [em, hu]
        exact OpOK.after st (sliceGrow_ok st.good hz zt mt h n ((off + len) / t.size - n) off (by rw [← hu]; exact zu) (by omega))
      · rw [if_neg grow]; exact st


/-- the traits the caller of `mpt_array_insert` finds in the buffer -/
theorem managed_eq {s : State} {h nb : Nat} {z : Buf} {t : Traits} (hh : s.handle h = some nb) (hz : s.buf? nb = some z)
    (zt : z.traits = some t) (mt : Managed t) :
    (((s.handle h).bind s.buf?).bind fun x => x.traits.bind fun t =>
      if (t.init ∨ t.fini.isSome) ∧ t.size ≠ 0 then some t else none) = some t := by
  have h4 := mt.2.2
  have : t.size ≠ 0 := by omega
  simp [hh, hz, zt, mt.1, this]

/-- `mpt_array_insert` + construction of the new elements by the caller, on a handle that holds a buffer of
    managed elements -/
theorem insertOpE_ok {amb : List Nat} {s : State} (gs : GoodS amb s) {h b : Nat} (hh : s.handle h = some b) (pos : Nat) (bytes : List Byte) :
    OpOK amb s (insertOpE s h pos bytes) := by
  unfold insertOpE arrayInsert
  rw [hh]
  simp only
  obtain ⟨x, hb⟩ := gs.inv.live h b hh
  rw [hb]
  simp only
  obtain ⟨t, n0, xt, mt, _, _⟩ := (gs.inv.good b x hb).elems
  have h4 := mt.2.2
  have szp : 0 < t.size := by omega
  rcases ensure_step gs hh hb xt (decide ¬(max x.used pos + bytes.length ≤ x.size ∧ ¬x.shared = true)) (max x.used pos + bytes.length) with ⟨s1, e, he, es⟩ | ⟨s1, nb, he, es⟩
  · rw [he]; exact es
  · rw [he]
    obtain ⟨st, hh1, z, hz, zt, _⟩ := es
    simp only
    obtain ⟨t', n, zt', _, hu, hsz⟩ := (st.good.inv.good nb z hz).elems
    have te : t' = t := by rw [zt] at zt'; cases zt'; rfl
    subst te
    rcases bufferInsert_managed hz zt mt hu pos bytes.length with ⟨e, he⟩ | ⟨_, e0, _, he⟩ | ⟨p, l, s2, z', ep, el, fit, he, ins⟩ |
      ⟨p, m, s2, d', ep, nm, he, afit, ap⟩
    · rw [he]; exact st
    · rw [he]
      simp only
      rw [managed_eq hh1 hz zt mt]
      simp only [hh1, e0, Nat.zero_div, ctorLoop]
      exact st
    · rw [he]
      simp only
      have hh2 : s2.handle h = some nb := (ins.frame.handle h).trans hh1
      rw [managed_eq hh2 ins.buf (ins.traits.trans zt) mt]
      simp only [hh2]
      have el' : bytes.length / t'.size = l := by rw [el]; exact Nat.mul_div_cancel _ szp
      rw [el', ep]
      have fit' : (p + l) * t'.size ≤ z'.size := by
        have : (p + l) * t'.size ≤ (max n p + l) * t'.size := Nat.mul_le_mul_right _ (by omega)
        simp only [Buf.size, ins.len]; simp only [Buf.size] at fit; omega
      obtain ⟨s3, d', ec, bt, _⟩ := ctorLoop_spec l s2 nb p t'.size z' ins.buf h4 fit'
      rw [ec]
      exact st.trans (insert_fill_step st.good hz zt mt hu ins fit bt (fun _ hk => by cases hk) (Or.inl ⟨rfl, rfl⟩))
    · rw [he]
      exact st.trans (append_step st.good hz zt mt hu ap afit (fun _ _ hk => nomatch hk))

end Mpt.Heap
