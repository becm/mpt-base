/-
  C06: histories of registrations, what one registration does (`run_cases`), the extension order of registry states
  (all four tables are append-only), and the invariant `Inv` of reachable states with its base case.
-/
import MptModel.Impl.Registry
namespace Mpt.Registry
open Mpt.Generated Mpt.RegSpec

inductive Op where
  | basic (size : Nat)
  | generic (d : Desc)
  | iface (name : Option Name)
  | mtype (name : Option Name)
  deriving Repr

/-- what a registration returns: the new type id, if it was accepted -/
def Op.run (r : Reg) : Op → Reg × Option Nat
  | .basic size => match basicAdd r size with
    | (r', .ok id) => (r', some id)
    | (r', _) => (r', none)
  | .generic d => match genericAdd r d with
    | (r', .ok id) => (r', some id)
    | (r', _) => (r', none)
  | .iface name => match ifaceAdd r name with
    | (r', some e) => (r', some e.id)
    | (r', none) => (r', none)
  | .mtype name => match metaAdd r name with
    | (r', some e) => (r', some e.id)
    | (r', none) => (r', none)

def step (r : Reg) (op : Op) : Reg := (op.run r).1

/-- the registry after a history of requests -/
def runOps (ops : List Op) : Reg := ops.foldl step init

def Op.kind : Op → Kind
  | .basic _ => .basic
  | .generic _ => .generic
  | .iface _ => .iface
  | .mtype _ => .mtype

def ptrDesc : Desc := { size := TypeTab.pointerSize, init := false, fini := false }

/-- the description a registration asks for -/
def Op.desc : Op → Desc
  | .basic size => { size := if size = 0 then TypeTab.pointerSize else size, init := false, fini := false }
  | .generic d => d
  | .iface _ => ptrDesc
  | .mtype _ => ptrDesc

def Op.name : Op → Option Name
  | .iface n => n
  | .mtype n => n
  | _ => none

/-- with the final test in place a passed chunk walk leaves the new id within the limit -/
theorem rangeRefused_final (base chunk len m : Nat) (lm : Option Nat) :
    rangeRefused base chunk len lm (some m) = false → base + len ≤ m := by
  intro h
  simp only [rangeRefused, Bool.or_eq_false_iff, decide_eq_false_iff_not] at h
  omega

theorem rangeRefused_over (base chunk len m : Nat) (lm : Option Nat) (h : base + len > m) :
    rangeRefused base chunk len lm (some m) = true := by
  simp [rangeRefused, h]

/-- The tests of the add functions and of the length-limited lookup as the translator found them in the code are the ones
    the proofs rely on: a final range test against the range maximum, the duplicate test over the whole string, and
    the exact-length comparison in both lookup loops. -/
structure TestsInPlace : Prop where
  genericFinal : TypeTab.genericFinalMax = some TypeTab.genericMax
  metaFinal : TypeTab.metaFinalMax = some TypeTab.metaMax
  dupIface : TypeTab.dupLookupIface = "full"
  dupMeta : TypeTab.dupLookupMeta = "full"
  exactMeta : TypeTab.lenExactMeta = true
  exactIface : TypeTab.lenExactIface = true

theorem tests_in_place : TestsInPlace := ⟨by decide, by decide, by decide, by decide, by decide, by decide⟩

/-- the add functions copy the whole of `pointer_traits` -/
theorem pointerCopy_adds : pointerCopy "mpt_type_interface_add" = .known ptrDesc ∧
    pointerCopy "mpt_type_metatype_add" = .known ptrDesc := by decide

/-- A registration is refused and leaves the registry as it is, or it appends the new entry to the table of its kind
    and returns `base + old length`; then the tests of the add function have passed. -/
theorem run_cases (r : Reg) (op : Op) :
    op.run r = (r, none) ∨
    match op with
    | .basic size =>
      op.run r = ({ r with dyn := r.dyn ++ [if size = 0 then TypeTab.pointerSize else size] },
        some (TypeTab.dynamicBase + r.dyn.length)) ∧ r.dyn.length < TypeTab.dynamicCap
    | .generic d =>
      op.run r = ({ r with generics := r.generics ++ [d] }, some (TypeTab.genericBase + r.generics.length)) ∧
      TypeTab.genericBase + r.generics.length ≤ TypeTab.genericMax
    | .iface name =>
      op.run r = ({ r with ifaces := r.ifaces ++ [some ⟨name, TypeTab.interfaceBase + r.ifaces.length, .known ptrDesc⟩] },
        some (TypeTab.interfaceBase + r.ifaces.length)) ∧
      r.ifaces.length < TypeTab.interfaceCap ∧ nameRefused TypeTab.minNameLenIface "full" (ownIface r) r name = false
    | .mtype name =>
      op.run r = ({ r with metas := r.metas ++ [⟨name, TypeTab.metaBase + r.metas.length, .known ptrDesc⟩] },
        some (TypeTab.metaBase + r.metas.length)) ∧
      TypeTab.metaBase + r.metas.length ≤ TypeTab.metaMax ∧ nameRefused TypeTab.minNameLenMeta "full" (ownMeta r) r name = false := by
  cases op with
  | basic size =>
    by_cases hc : r.dyn.length < TypeTab.dynamicCap
    · exact Or.inr ⟨by simp only [Op.run, basicAdd, hc, ↓reduceIte], hc⟩
    · exact Or.inl (by simp only [Op.run, basicAdd, hc, ↓reduceIte])
  | generic d =>
    by_cases h0 : d.size = 0
    · exact Or.inl (by simp only [Op.run, genericAdd, h0, ↓reduceIte])
    cases hc : rangeRefused TypeTab.genericBase TypeTab.genericChunk r.generics.length TypeTab.genericLoopMax TypeTab.genericFinalMax
    · exact Or.inr ⟨by simp only [Op.run, genericAdd, h0, hc, ↓reduceIte, Bool.false_eq_true],
        rangeRefused_final _ _ _ _ _ (tests_in_place.genericFinal ▸ hc)⟩
    · exact Or.inl (by simp only [Op.run, genericAdd, h0, hc, ↓reduceIte])
  | iface name =>
    by_cases hc : r.ifaces.length ≥ TypeTab.interfaceCap
    · exact Or.inl (by simp only [Op.run, ifaceAdd, hc, ↓reduceIte])
    cases hn : nameRefused TypeTab.minNameLenIface TypeTab.dupLookupIface (ownIface r) r name
    · exact Or.inr ⟨by simp only [Op.run, ifaceAdd, hc, hn, pointerCopy_adds.1, ↓reduceIte, Bool.false_eq_true],
        by omega, tests_in_place.dupIface ▸ hn⟩
    · exact Or.inl (by simp only [Op.run, ifaceAdd, hc, hn, ↓reduceIte])
  | mtype name =>
    cases hn : nameRefused TypeTab.minNameLenMeta TypeTab.dupLookupMeta (ownMeta r) r name
    · cases hc : rangeRefused TypeTab.metaBase TypeTab.metaChunk r.metas.length TypeTab.metaLoopMax TypeTab.metaFinalMax
      · exact Or.inr ⟨by simp only [Op.run, metaAdd, hc, hn, pointerCopy_adds.2, ↓reduceIte, Bool.false_eq_true],
          rangeRefused_final _ _ _ _ _ (tests_in_place.metaFinal ▸ hc), tests_in_place.dupMeta ▸ hn⟩
      · exact Or.inl (by simp only [Op.run, metaAdd, hc, hn, ↓reduceIte, Bool.false_eq_true])
    · exact Or.inl (by simp only [Op.run, metaAdd, hn, ↓reduceIte])

/-- registrations only append: every table of `r` is a prefix of the table of `r'` -/
structure Ext (r r' : Reg) : Prop where
  ifaces : r.ifaces <+: r'.ifaces
  dyn : r.dyn <+: r'.dyn
  metas : r.metas <+: r'.metas
  generics : r.generics <+: r'.generics

theorem Ext.refl (r : Reg) : Ext r r := ⟨List.prefix_refl _, List.prefix_refl _, List.prefix_refl _, List.prefix_refl _⟩

theorem Ext.trans {a b c : Reg} (h1 : Ext a b) (h2 : Ext b c) : Ext a c :=
  ⟨h1.ifaces.trans h2.ifaces, h1.dyn.trans h2.dyn, h1.metas.trans h2.metas, h1.generics.trans h2.generics⟩

theorem step_ext (r : Reg) (op : Op) : Ext r (step r op) := by
  unfold step
  rcases run_cases r op with h | h
  · rw [h]; exact Ext.refl r
  · cases op <;> rw [h.1]
    · exact ⟨List.prefix_refl _, List.prefix_append _ _, List.prefix_refl _, List.prefix_refl _⟩
    · exact ⟨List.prefix_refl _, List.prefix_refl _, List.prefix_refl _, List.prefix_append _ _⟩
    · exact ⟨List.prefix_append _ _, List.prefix_refl _, List.prefix_refl _, List.prefix_refl _⟩
    · exact ⟨List.prefix_refl _, List.prefix_refl _, List.prefix_append _ _, List.prefix_refl _⟩

theorem foldl_ext (ops : List Op) (r : Reg) : Ext r (ops.foldl step r) := by
  induction ops generalizing r with
  | nil => exact Ext.refl r
  | cons op ops ih => exact (step_ext r op).trans (ih _)

theorem runOps_append (a b : List Op) : runOps (a ++ b) = b.foldl step (runOps a) := by
  simp [runOps, List.foldl_append]

theorem runOps_ext (a b : List Op) : Ext (runOps a) (runOps (a ++ b)) := by
  rw [runOps_append]; exact foldl_ext b _

theorem runOps_ext_step (a b : List Op) (op : Op) : Ext (step (runOps a) op) (runOps (a ++ op :: b)) := by
  rw [runOps_append]; exact foldl_ext b _

theorem prefix_getElem? {α} {l l' : List α} (h : l <+: l') {i : Nat} {x : α} (hx : l[i]? = some x) : l'[i]? = some x := by
  obtain ⟨t, rfl⟩ := h
  rw [List.getElem?_append_left (List.getElem?_eq_some_iff.mp hx).1]
  exact hx

theorem mem_allNamed {r : Reg} {e : Named} : e ∈ allNamed r ↔ e ∈ r.metas ∨ some e ∈ r.ifaces := by
  simp [allNamed]

theorem allNamed_mono {r r' : Reg} (h : Ext r r') : ∀ e ∈ allNamed r, e ∈ allNamed r' := by
  intro e he
  rw [mem_allNamed] at he ⊢
  exact he.imp (h.metas.subset ·) (h.ifaces.subset ·)

/-- invariant of the states that histories of registrations reach (`inv_runOps`) -/
structure Inv (r : Reg) : Prop where
  /-- the built-in entries are there -/
  ext : Ext init r
  ifaceLen : TypeTab.interfaceStart ≤ r.ifaces.length ∧ r.ifaces.length ≤ TypeTab.interfaceCap
  metaLen : 1 ≤ r.metas.length ∧ TypeTab.metaBase + r.metas.length ≤ TypeTab.metaMax + 1
  dynLen : r.dyn.length ≤ TypeTab.dynamicCap
  genLen : TypeTab.genericBase + r.generics.length ≤ TypeTab.genericMax + 1
  /-- entry k of a table carries the id `base + k` -/
  metaId : ∀ i e, r.metas[i]? = some e → e.id = TypeTab.metaBase + i
  ifaceId : ∀ i e, r.ifaces[i]? = some (some e) → e.id = TypeTab.interfaceBase + i
  /-- no registered name is empty or one of the short names that lookups rewrite -/
  noShort : ∀ e ∈ allNamed r, ∀ n, e.name = some n → resolveShort n = n ∧ n ≠ []
  /-- names are unique over both tables -/
  unique : ∀ a ∈ allNamed r, ∀ b ∈ allNamed r, a.name = b.name → a.name ≠ none → a = b

theorem inv_init : Inv init := by
  refine ⟨Ext.refl _, by decide, by decide, by decide, by decide, ?_, ?_, by decide +kernel, by decide +kernel⟩
  -- `decide` cannot sweep `∀ i e, l[i]? = some e → …`; over `zipIdx` the same statement is a bounded one
  · intro i e h
    exact (by decide : ∀ p ∈ init.metas.zipIdx, p.1.id = TypeTab.metaBase + p.2) (e, i) (List.mem_zipIdx_iff_getElem?.2 h)
  · intro i e h
    exact (by decide : ∀ p ∈ init.ifaces.zipIdx, ∀ e ∈ p.1, e.id = TypeTab.interfaceBase + p.2) (some e, i)
      (List.mem_zipIdx_iff_getElem?.2 h) e rfl

end Mpt.Registry
