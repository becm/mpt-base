/-
  What a run of the block loop leaves behind: the readings of `Ran` (Lemmas/DecodeStep.lean), one per property.  The
  index trace (`Safe`); the offsets of the state (`Bnd`); work area for an open block and, outside a peek call, no stall on a
  complete frame (`SlackOk`, `Ran.live`, for C02); where the call stops (`Scan`).  `Susp` is a record of what a suspended call leaves;
  no lemma mentions it.
-/
import MptModel.Lemmas.DecodeStep
namespace Mpt.Codec
open Mpt.Cobs

/-- properties of the index trace and storage size kept by every exit -/
structure Safe (total : Nat) (st : DecState) (dpos : Nat) (o : DecOut) : Prop where
  nofault : o.ret ≠ .oob ∧ o.ret ≠ .clobber
  md : o.ret = .err .MissingData → o.st.pos = st.pos ∧ dpos + o.st.len ≤ o.st.curr ∧ o.st.curr < total
  len : o.store.length = total
  writes : ∀ x ∈ o.writes, x.1 < x.2 ∧ x.2 ≤ total
  reads : o.reads.Pairwise (· < ·) ∧ ∀ x ∈ o.reads, x < total

/-- what `Ran.safe` asks of the loop variables a run starts from: stores so far inside `total`, loads so far increasing
    and below `rb` (the callers give the read index); `n` and `unread` say that `n` bytes are unread, which the reading
    of the trace does not need -/
structure LSafe (total : Nat) (dpos : Nat) (l : Loc) (n rb : Nat) : Prop where
  done : l.done = dpos
  len : l.store.length = total
  unread : l.r + n = total
  writes : ∀ x ∈ l.writes, x.1 < x.2 ∧ x.2 ≤ total
  reads : l.reads.Pairwise (· < ·) ∧ ∀ x ∈ l.reads, x < rb
  rb : rb ≤ total

theorem Ran.safe {v : Variant} {st : DecState} {peek : Bool} {l : Loc} {o : DecOut} (hran : Ran v st peek l o)
    {total dpos n : Nat} (h : LSafe total dpos l n l.r) : Safe total st dpos o := by
  obtain ⟨k, out, lf, hrun, hfin⟩ := hran
  obtain ⟨rs, hrs, hp, hrb⟩ := hrun.reads
  obtain ⟨ws, hws, hwb⟩ := hrun.writes
  rw [h.len] at hrb hwb
  have hw : ∀ x ∈ lf.writes, x.1 < x.2 ∧ x.2 ≤ total := fun x hx => by
    rw [hws] at hx
    exact (List.mem_append.mp hx).elim (h.writes x) (hwb x)
  have hrd : lf.reads.Pairwise (· < ·) ∧ ∀ x ∈ lf.reads, x < total := by
    rw [hrs]
    refine ⟨List.pairwise_append.mpr ⟨h.reads.1, hp, fun a ha b hb => Nat.lt_of_lt_of_le (h.reads.2 a ha) (hrb b hb).1⟩, fun x hx => ?_⟩
    exact (List.mem_append.mp hx).elim (fun hx => Nat.lt_of_lt_of_le (h.reads.2 x hx) h.rb) (fun hx => (hrb x hx).2)
  have hlen := hrun.len.trans h.len
  rcases hfin with ⟨ret, hs, _, e⟩ | ⟨_, _, _, e⟩ <;> rw [e]
  · refine ⟨hs.ne_one.2, fun hmd => ?_, hlen, hw, hrd⟩
    subst hmd
    have := (List.getElem?_eq_some_iff.mp hs.md.2).1
    have := hrun.done; have := h.done
    simp only [Loc.save, Loc.r] at *
    exact ⟨trivial, by omega, by omega⟩
  · exact ⟨by simp, by simp, hlen, hw, hrd⟩

/-- the offsets of a decoder state inside `total` bytes of storage: decoded bytes lie in front of the
    input position, a waiting message is exactly the decoded data -/
structure Bnd (total : Nat) (st : DecState) : Prop where
  le : st.pos + st.len ≤ st.curr
  tot : st.curr ≤ total
  msg : ∀ m, st.msg = some m → m = st.len

theorem Bnd.mono {total total' : Nat} {st : DecState} (h : Bnd total st) (ht : total ≤ total') : Bnd total' st :=
  ⟨h.le, Nat.le_trans h.tot ht, h.msg⟩

theorem save_bnd (total : Nat) (l : Loc) (st : DecState) (ret : DecRet) (hp : st.pos = l.done) (hm : st.msg = none)
    (hr : l.r ≤ total) : Bnd total (l.save st ret).st := by
  refine ⟨?_, ?_, ?_⟩
  · simp only [Loc.save, Loc.r] at *; omega
  · simp only [Loc.save]; exact hr
  · intro m h; simp only [Loc.save, hm] at h; cases h

theorem Ran.bnd {v : Variant} {st : DecState} {peek : Bool} {l : Loc} {o : DecOut} (hran : Ran v st peek l o)
    (hm : st.msg = none) (hp : st.pos = l.done) : Bnd l.store.length o.st := by
  obtain ⟨k, out, lf, hrun, ⟨ret, hs, _, e⟩ | ⟨_, h0, _, e⟩⟩ := hran <;> rw [e]
  · exact save_bnd _ lf st ret (hp.trans hrun.done.symm) hm (by rw [← hrun.len]; exact hs.le)
  · have := (List.getElem?_eq_some_iff.mp h0).1
    exact ⟨by show lf.done + lf.mlen ≤ lf.r + 1; simp only [Loc.r]; omega, by show lf.r + 1 ≤ _; omega,
      by intro m hmm; cases hmm; rfl⟩

/-- a block that is open in its data part has work area left (`pos + len < curr`) -/
def SlackOk (v : Variant) (st : DecState) : Prop :=
  st.ctx / 256 < 256 ∧ (st.ctx / 256 < lenData v (st.ctx % 256) → st.pos + st.len < st.curr)

theorem lenData_zero (v : Variant) : lenData v 0 = 0 := by
  unfold lenData; split <;> simp

theorem slackOk_ctx0 (v : Variant) (st : DecState) (h : st.ctx = 0) : SlackOk v st := by
  refine ⟨by rw [h]; decide, fun hp => ?_⟩
  rw [h] at hp
  simp only [Nat.zero_div, Nat.zero_mod, lenData_zero] at hp
  omega

theorem save_slack (v : Variant) (l : Loc) (st : DecState) (ret : DecRet) (hp : st.pos = l.done) (hj : JL v l) :
    SlackOk v (l.save st ret).st := by
  obtain ⟨hc, hpp, hs⟩ := hj
  have e1 : (l.pos * 256 + l.code) / 256 = l.pos := by omega
  have e2 : (l.pos * 256 + l.code) % 256 = l.code := by omega
  refine ⟨by simp only [Loc.save, e1]; exact hpp, fun hlt => ?_⟩
  simp only [Loc.save, e1, e2] at hlt ⊢
  have := hs hlt
  simp only [Loc.r]; omega

/-- the block loop never stalls on a complete frame, nor asks for work area when that exceeds `pre` by two: a block
    implies at most two zeros (`lenZero_le`) -/
theorem Ran.live {v : Variant} {st : DecState} {peek : Bool} {l : Loc} {o : DecOut} (hran : Ran v st peek l o) (hj : JL v l) (hp : st.pos = l.done) :
    SlackOk v o.st ∧
    (peek = false → ∀ pre junk, l.store.drop l.r = pre ++ 0 :: junk →
      (o.ret = .val 1 ∨ o.ret = .err .MissingData ∨ o.ret = .err .MissingBuffer) ∧
      (pre.length + 2 ≤ l.proc → o.ret ≠ .err .MissingBuffer)) := by
  obtain ⟨k, out, lf, hrun, hfin⟩ := hran
  rcases hfin with ⟨ret, hs, hmb, e⟩ | ⟨_, _, _, e⟩ <;> rw [e]
  · refine ⟨save_slack v lf st ret (hp.trans hrun.done.symm) (hrun.jl hj), fun hpk pre junk hd => ?_⟩
    -- the run ends at or in front of the first zero byte of the input, which lies inside the storage
    have h0 : l.store[l.r + pre.length]? = some 0 := by
      have := congrArg (fun x => x[pre.length]?) hd
      simpa [List.getElem?_drop] using this
    have hk : k ≤ pre.length := Nat.le_of_not_lt fun hlt => hrun.nz _ (Nat.le_add_right _ _) (by rw [hrun.r]; omega) h0
    have := (List.getElem?_eq_some_iff.mp h0).1
    have := hrun.r; have := hrun.len
    cases hs with
    | out h => omega
    | zeroIn => exact ⟨Or.inr (Or.inl rfl), fun _ h => nomatch h⟩
    | full hd _ hp0 => exact absurd hp0 (by have := (hrun.jl hj).2.2 hd; omega)
    | peeked _ _ ht => rw [hpk] at ht; cases ht
    | noRoom => exact ⟨Or.inr (Or.inr rfl), fun h _ => by have := hmb rfl; omega⟩
  · exact ⟨slackOk_ctx0 v _ rfl, fun _ _ _ _ => ⟨Or.inl rfl, fun _ h => nomatch h⟩⟩

/-- what a call that started reading at index `c` of the storage `s` consumed -/
structure Scan (s : List Byte) (c : Nat) (o : DecOut) : Prop where
  unread : o.store.drop o.st.curr = s.drop o.st.curr
  len : o.store.length = s.length
  ge : c ≤ o.st.curr
  le : o.st.curr ≤ s.length
  nz : ∀ i, c ≤ i → i + (if o.ret = .val 1 then 1 else 0) < o.st.curr → s[i]? ≠ some 0
  last : o.ret = .val 1 → c < o.st.curr ∧ s[o.st.curr - 1]? = some 0
  md : o.ret = .err .MissingData → s[o.st.curr]? = some 0

theorem Scan.ofSave (s : List Byte) (c : Nat) (l : Loc) (st : DecState) (ret : DecRet) (hne : ret ≠ .val 1)
    (hd : l.store.drop l.r = s.drop l.r) (hl : l.store.length = s.length) (hc : c ≤ l.r)
    (hr : l.r ≤ s.length) (hnz : ∀ i, c ≤ i → i < l.r → s[i]? ≠ some 0) (hmd : ret = .err .MissingData → s[l.r]? = some 0) :
    Scan s c (l.save st ret) := by
  refine ⟨hd, hl, hc, hr, ?_, ?_, hmd⟩
  · intro i h1 h2
    simp only [Loc.save, hne, if_false, Nat.add_zero] at h2
    exact hnz i h1 h2
  · intro h; exact absurd h hne

theorem Ran.scan {v : Variant} {st : DecState} {peek : Bool} {l : Loc} {o : DecOut} (hran : Ran v st peek l o) {s : List Byte} {c : Nat}
    (hd : l.store.drop l.r = s.drop l.r) (hl : l.store.length = s.length) (hc : c ≤ l.r)
    (hnz : ∀ i, c ≤ i → i < l.r → s[i]? ≠ some 0) : Scan s c o := by
  obtain ⟨k, out, lf, hrun, hfin⟩ := hran
  have hr := hrun.r
  have hu : lf.store.drop lf.r = s.drop lf.r := hrun.unread.trans (drop_ge_of_drop hd (by omega))
  have hnz' : ∀ i, c ≤ i → i < lf.r → s[i]? ≠ some 0 := fun i h1 h2 => by
    by_cases hi : i < l.r
    · exact hnz i h1 hi
    · rw [← getElem?_of_drop_eq hd i (by omega)]; exact hrun.nz i (by omega) h2
  rcases hfin with ⟨ret, hs, _, e⟩ | ⟨_, h0, _, e⟩ <;> rw [e]
  · refine Scan.ofSave s c lf st ret hs.ne_one.1 hu (hrun.len.trans hl) (by omega)
      (by have := hs.le; have := hrun.len; omega) hnz' (fun hmd => ?_)
    subst hmd
    rw [← getElem?_of_drop_eq hu _ (Nat.le_refl _)]; exact hs.md.2
  · have h0s : s[lf.r]? = some 0 := by rw [← getElem?_of_drop_eq hd _ (by omega)]; exact h0
    have := (List.getElem?_eq_some_iff.mp h0s).1
    exact ⟨drop_ge_of_drop hu (Nat.le_succ _), hrun.len.trans hl, show c ≤ lf.r + 1 by omega, this,
      fun i h1 h2 => hnz' i h1 (by simpa using h2), fun _ => ⟨show c < lf.r + 1 by omega, h0s⟩, fun h => nomatch h⟩

/-- a message is finished exactly behind the first zero byte of the input the call started on -/
theorem Scan.frame {s : List Byte} {c : Nat} {o : DecOut} (h : Scan s c o) (h1 : o.ret = .val 1) {pre junk : List Byte}
    (hin : s.drop c = pre ++ 0 :: junk) (hnz : ∀ x ∈ pre, x ≠ 0) :
    o.st.curr = c + pre.length + 1 ∧ o.store.drop o.st.curr = junk := by
  have hget : ∀ i, s[c + i]? = (pre ++ 0 :: junk)[i]? := fun i => by rw [← hin, List.getElem?_drop]
  have hz : s[c + pre.length]? = some 0 := by rw [hget]; simp
  obtain ⟨hlt, hlast⟩ := h.last h1
  have hcurr : o.st.curr = c + pre.length + 1 := by
    rcases Nat.lt_trichotomy (o.st.curr - 1) (c + pre.length) with hl | hl | hl
    · -- the byte in front of the input position would be a byte of `pre`
      rw [show o.st.curr - 1 = c + (o.st.curr - 1 - c) by omega, hget, List.getElem?_append_left (by omega)] at hlast
      exact absurd rfl (hnz 0 (List.mem_of_getElem? hlast))
    · omega
    · exact absurd hz (h.nz _ (Nat.le_add_right _ _) (by rw [if_pos h1]; omega))
  refine ⟨hcurr, ?_⟩
  rw [h.unread, hcurr, Nat.add_assoc, ← List.drop_drop, hin]
  simp

/-- what an exit of the loop on the unread input `inp` leaves in state and storage: where it stopped, the unread
    bytes untouched, and unless it delivered the saved block `c`, `p` from which the machine goes on over the rest of
    `inp` — the loop-level form of what `Ran.call` says with `Hist` for a whole frame -/
structure Susp (v : Variant) (st : DecState) (l : Loc) (inp : List Byte) (o : DecOut) : Prop where
  len : o.store.length = l.store.length
  curr : l.r ≤ o.st.curr ∧ o.st.curr ≤ l.r + inp.length
  unread : o.store.drop o.st.curr = l.store.drop o.st.curr
  sv : o.ret ≠ .val 1 → ∃ out c p,
    o.st = { st with ctx := p * 256 + c, curr := o.st.curr, len := l.mlen + out.length } ∧
    0 < c ∧ c < 256 ∧ p < 256 ∧
    (o.store.drop l.done).take (l.mlen + out.length) = l.acc ++ out ∧
    ∀ more, mach v l.code l.pos (inp ++ more) = (mach v c p (inp.drop (o.st.curr - l.r) ++ more)).pre out

end Mpt.Codec
