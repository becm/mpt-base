/-
  The parts `mpt_queue_load` offers to `readv`, `mpt_queue_save` with a descriptor that takes only part, and the
  views of `mpt_message_get`, as operations on the content.
-/
import MptModel.Lemmas.RingAccess
import MptModel.Impl.RingOps
namespace Mpt
namespace Ring
variable {r : Ring} {cap : Nat} {d : List Byte}

theorem loadParts_spec (low high len : Nat) :
    (loadParts low high len).1 + (loadParts low high len).2 =
        (if len = 0 ∨ len ≥ low + high then low + high else len) ∧
      (loadParts low high len).1 ≤ low ∧ (loadParts low high len).2 ≤ high ∧
      ((loadParts low high len).2 ≠ 0 → (loadParts low high len).1 = low) := by
  unfold loadParts
  repeat' split
  all_goals refine ⟨?_, ?_, ?_, fun _ => ?_⟩
  all_goals first | trivial | omega

theorem load_spec (H : r.Holds cap d) (len : Nat) (bytes : List Byte) (hfree : d.length < cap) :
    ∃ r', r.load len bytes =
        .ok (r', min bytes.length (if len = 0 ∨ len ≥ cap - d.length then cap - d.length else len)) ∧
      r'.Holds cap
        (d ++ bytes.take (min bytes.length (if len = 0 ∨ len ≥ cap - d.length then cap - d.length else len))) := by
  have hlen := H.len
  obtain ⟨h, rfl, rfl⟩ := H
  rw [← hlen] at hfree ⊢
  obtain ⟨st, low, high, he, hlh, P⟩ := empty_parts r h hfree
  obtain ⟨hsum, hle1, hle2, hfirst⟩ := loadParts_spec low high len
  unfold load
  rw [he]
  simp only []
  generalize loadParts low high len = lohi at hsum hle1 hle2 hfirst ⊢
  obtain ⟨lo, hi⟩ := lohi
  rw [hlh] at hsum
  rw [hsum]
  -- `K` bytes are taken; from here on only its two bounds matter (`K ≤ bytes.length`, `K ≤ lo + hi`)
  have hK1 := Nat.min_le_left bytes.length (lo + hi)
  have hK2 := Nat.min_le_right bytes.length (lo + hi)
  rw [hsum] at hK1 hK2
  generalize min bytes.length (if len = 0 ∨ len ≥ r.store.length - r.len then r.store.length - r.len else len) = K
    at hK1 hK2 ⊢
  rw [← hsum] at hK2
  -- what `readv` stores: the first `min K lo` bytes in the first free part, the rest at the storage start
  have hla : (bytes.take (min K lo)).length = min K lo := by rw [List.length_take]; omega
  have hlb : ((bytes.drop (min K lo)).take (K - min K lo)).length = K - min K lo := by
    rw [List.length_take, List.length_drop]; omega
  have hsplit : bytes.take (min K lo) ++ (bytes.drop (min K lo)).take (K - min K lo) = bytes.take K := by
    rw [← List.take_add]; congr 1; omega
  have P' : Parts r.store.length r.off r.len st (bytes.take (min K lo)).length
      ((bytes.drop (min K lo)).take (K - min K lo)).length := by
    rw [hla, hlb]
    exact P.sub _ _ (by omega) (by omega) (fun hne => by have := hfirst (by omega); omega)
  obtain ⟨e1, e2⟩ := wr_parts _ _ _ _ _ _ h.2 P'
  have hl := write_parts_length _ _ _ _ _ _ h.2 P'
  rw [e1]
  simp only []
  rw [e2]
  refine ⟨_, rfl, ⟨by simp only []; omega, by simp only []; rw [hl]; exact h.2⟩, hl, ?_⟩
  rw [← hsplit, ← content_append_parts r h st _ _ P', hla, hlb, show min K lo + (K - min K lo) = K by omega]

theorem saveN_spec (H : r.Holds cap d) (accept : Nat) :
    ∃ r', r.saveN accept = .ok (r', d.take (min d.length accept)) ∧ r'.Holds cap (d.drop (min d.length accept)) := by
  have hlen := H.len
  have h := H.wf
  unfold saveN
  by_cases h0 : r.len = 0
  · rw [if_pos h0, show min d.length accept = 0 by omega]
    exact ⟨r, rfl, H⟩
  · rw [if_neg h0]
    simp only []
    obtain ⟨e1, e2⟩ := rd_parts _ _ _ _ _ _ h.2 (parts_low r h)
    rw [e1, e2]
    simp only []
    rw [← content_parts r h, H.content]
    have hlt : (d.take accept).length = min d.length accept := by
      rw [List.length_take]; omega
    have htk : d.take accept = d.take (min d.length accept) := by
      rw [List.take_eq_take_min, Nat.min_comm]
    rw [hlt, htk]
    by_cases hz : min d.length accept = 0
    · rw [if_pos hz, hz]
      exact ⟨r, rfl, H⟩
    · rw [if_neg hz]
      obtain ⟨r1, k, hc, H1, _⟩ := crop_front H (min d.length accept) (Nat.min_le_left _ _)
      rw [hc]
      exact ⟨r1, rfl, H1⟩

/-- `Ring.save`, the descriptor that accepts everything, is `Ring.saveN` with room for the whole content -/
theorem save_eq_saveN (r : Ring) (h : r.WF) (accept : Nat) (ha : r.len ≤ accept) : r.save = r.saveN accept := by
  unfold save saveN
  by_cases h0 : r.len = 0
  · rw [if_pos h0, if_pos h0]
  · rw [if_neg h0, if_neg h0]
    simp only []
    obtain ⟨e1, e2⟩ := rd_parts _ _ _ _ _ _ h.2 (parts_low r h)
    have hl : (Mem.read r.store r.off r.low ++ Mem.read r.store 0 (r.len - r.low)).length = r.len := by
      rw [← content_parts r h, content_length r h.1]
    rw [e1, e2]
    simp only []
    obtain ⟨c, hc⟩ := crop_zero_eq r r.len (Nat.le_refl _)
    rw [List.take_of_length_le (by omega), hl, if_neg h0, hc]

/-- `mpt_message_get`: a view inside the content is delivered (in one or two parts) with exactly those bytes;
    without a continuation vector a two-part view is refused; a view reaching past the content is refused -/
theorem mget_spec (H : r.Holds cap d) (off take : Nat) (vec : Bool) :
    (off + take ≤ d.length →
      (∃ a b, r.mget off take vec = .ok (a, b) ∧ a ++ b = (d.drop off).take take) ∨
      (vec = false ∧ r.mget off take vec = .err .BadType)) ∧
    (¬ off + take ≤ d.length → ∃ e, r.mget off take vec = .err e) := by
  have hlen := H.len
  obtain ⟨h, rfl, rfl⟩ := H
  rw [← hlen]
  obtain ⟨hl1, hl2, hl3⟩ := low_spec r h
  have h1 := h.1
  unfold mget
  simp only []
  -- `L` bytes of the content lie before the wrap, `high` behind it
  generalize r.low = L at hl1 hl2 hl3 ⊢
  obtain ⟨high, hh⟩ : ∃ high, r.len - L = high := ⟨_, rfl⟩
  have hlen : r.len = L + high := by omega
  rw [hh]
  constructor
  · intro hin
    by_cases hlt : off < L
    · rw [if_pos hlt]
      simp only []
      rw [if_neg (by omega)]
      by_cases ht : take ≤ L - off
      · rw [if_pos ht, Mem.rd_ok _ _ _ (by omega)]
        refine Or.inl ⟨_, [], rfl, ?_⟩
        rw [List.append_nil, ← read_content r off take hin, read_unroll_upper _ _ _ _ (by omega)]
      · rw [if_neg ht]
        cases vec with
        | false => right; exact ⟨rfl, rfl⟩
        | true =>
          rw [Mem.rd_ok _ _ _ (by omega), Mem.rd_ok _ _ _ (by omega)]
          refine Or.inl ⟨_, _, rfl, ?_⟩
          rw [read_parts _ r.off off _ _ _ h.2 ⟨by omega, by omega, by omega⟩, Nat.add_sub_cancel' (by omega),
            read_content r off take hin]
    · rw [if_neg hlt, if_neg (by omega)]
      simp only []
      rw [if_neg (by omega), if_pos (by omega), Mem.rd_ok _ _ _ (by omega)]
      refine Or.inl ⟨_, [], rfl, ?_⟩
      rw [List.append_nil, ← read_content r off take hin]
      by_cases hw : high = 0
      · rw [show take = 0 by omega, Mem.read_zero, Mem.read_zero]
      · rw [read_unroll_lower _ _ _ _ h.2 (by omega) (by omega)]
        congr 1; omega
  · intro hout
    by_cases hlt : off < L
    · rw [if_pos hlt]
      simp only []
      rw [if_pos (by omega)]
      exact ⟨_, rfl⟩
    · rw [if_neg hlt]
      by_cases hh : off - L > high
      · rw [if_pos hh]; exact ⟨_, rfl⟩
      · rw [if_neg hh]
        simp only []
        rw [if_pos (by omega)]
        exact ⟨_, rfl⟩

end Ring
end Mpt
