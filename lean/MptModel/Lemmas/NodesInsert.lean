/-
  node_insert.c: the position search (gnode_pos.c) on a realised sibling list finds what the specification names
  (`gnodePos_real`), the cases of `node_insert` by the results of its lookups, and `node_insert` run on the indices of
  the sibling list (`insAt` over a lookup `lookIdx`): by position it places the node at `addIdx` (`insAt_pos`).  The
  model follows `insAt` for both lookups (NodesNames, where the name search is).  Insertion below a childless parent.
-/
import MptModel.Lemmas.NodesReal
namespace Mpt.Nodes
open Mpt Mpt.Forest

theorem stepNext_real {s : Store} {L : Forest} {par prev : Option Nat} (hL : Real s par prev L) :
    ∀ (k j : Nat) (t : Tree), L[j]? = some t → s.stepNext k (some t.id) = .ok ((L[j + k]?).map Tree.id)
  | 0, j, t, h => by simp [Store.stepNext, h]
  | k + 1, j, t, h => by
    have hrec := hL.rec_idx h
    simp only [Store.stepNext, Store.get_ok ⟨hrec, rfl⟩, Res.bind_ok]
    rw [headId_drop]
    cases hn : L[j + 1]? with
    | none =>
      have : L[j + (k + 1)]? = none := by
        apply List.getElem?_eq_none
        have := List.getElem?_eq_none_iff.1 hn
        omega
      cases k <;> simp [Store.stepNext, this]
    | some t' =>
      simp only [Option.map_some]
      rw [stepNext_real hL k (j + 1) t' hn]
      rw [show j + 1 + k = j + (k + 1) by omega]

theorem stepPrev_real {s : Store} {L : Forest} {par : Option Nat} (hL : Real s par none L) :
    ∀ (k j : Nat) (t : Tree), L[j]? = some t →
    s.stepPrev k (some t.id) = .ok (if k ≤ j then (L[j - k]?).map Tree.id else none)
  | 0, j, t, h => by simp [Store.stepPrev, h]
  | k + 1, j, t, h => by
    have hrec := hL.rec_idx h
    simp only [Store.stepPrev, Store.get_ok ⟨hrec, rfl⟩, Res.bind_ok]
    rw [prevAt_none_eq]
    cases j with
    | zero =>
      simp only [↓reduceIte]
      cases k <;> simp [Store.stepPrev]
    | succ j' =>
      simp only [Nat.add_one_ne_zero, ↓reduceIte, Nat.add_sub_cancel]
      have hlt : j' < L.length := by
        have := (List.getElem?_eq_some_iff.1 h).1
        omega
      obtain ⟨t', ht'⟩ : ∃ t', L[j']? = some t' := ⟨L[j'], List.getElem?_eq_getElem hlt⟩
      simp only [ht', Option.map_some]
      rw [stepPrev_real hL k j' t' ht']
      by_cases hk : k ≤ j'
      · have : k + 1 ≤ j' + 1 := by omega
        simp only [hk, this, ↓reduceIte]
        rw [show j' + 1 - (k + 1) = j' - k by omega]
      · have : ¬ (k + 1 ≤ j' + 1) := by omega
        simp [hk, this]

theorem lastOf_real {s : Store} {L : Forest} {par prev : Option Nat} (hL : Real s par prev L) :
    ∀ (fuel j : Nat) (t : Tree), L[j]? = some t → L.length - j ≤ fuel →
    s.lastOf fuel t.id = .ok ((L[L.length - 1]?).map Tree.id |>.getD 0)
  | 0, j, t, h, hf => by
    have := (List.getElem?_eq_some_iff.1 h).1
    omega
  | f + 1, j, t, h, hf => by
    have hrec := hL.rec_idx h
    have hlt := (List.getElem?_eq_some_iff.1 h).1
    simp only [Store.lastOf, Store.get_ok ⟨hrec, rfl⟩, Res.bind_ok]
    rw [headId_drop]
    cases hn : L[j + 1]? with
    | none =>
      have hlen : L.length = j + 1 := by
        have := List.getElem?_eq_none_iff.1 hn
        omega
      simp only [Option.map_none]
      have : L.length - 1 = j := by omega
      rw [this, h]
      rfl
    | some t' =>
      simp only [Option.map_some]
      exact lastOf_real hL f (j + 1) t' hn (by omega)

theorem gnodePos_real {s : Store} {L : Forest} {par : Option Nat} {f : Nat} {tf : Tree} (pos : Int)
    (hL : Real s par none L) (hf : L[f]? = some tf) (hfuel : L.length ≤ s.fuel) :
    s.gnodePos (some tf.id) pos = .ok ((posIdx L.length f pos).bind fun k => (L[k]?).map Tree.id) := by
  have hflt := (List.getElem?_eq_some_iff.1 hf).1
  simp only [Store.gnodePos, posIdx]
  by_cases hneg : pos < 0
  · have h0 : pos ≠ 0 := by omega
    have hp : ¬ pos > 0 := by omega
    rw [if_pos hneg, if_neg h0, if_neg hp, stepPrev_real hL _ f tf hf]
    split <;> rfl
  by_cases hp : pos > 0
  · have h0 : pos ≠ 0 := by omega
    rw [if_neg hneg, if_pos hp, if_neg h0, if_pos hp, stepNext_real hL _ f tf hf]
    split
    · rfl
    · rw [List.getElem?_eq_none (by omega)]; rfl
  · have h0 : pos = 0 := by omega
    have hn : L.length ≠ 0 := by omega
    rw [if_neg hneg, if_neg hp, lastOf_real hL s.fuel f tf hf (by omega), if_pos h0, if_neg hn]
    obtain ⟨tl, htl⟩ := getElem?_last (L := L) (by rintro rfl; exact hn rfl)
    simp [htl]

section
variable {s : Store} {first node : Nat} {pos : Int} {byName : Bool}

/-- nothing found from `first` on: behind the last element -/
theorem nodeInsert_none {t : Option Nat}
    (h1 : s.getnode byName node (some first) (if pos > 0 then 1 else 0) = .ok none)
    (h4 : s.gnodePos (some first) 0 = .ok t) :
    s.nodeInsert first pos node byName = s.gnodeAfter t node := by
  simp [Store.nodeInsert, h1, h4]

/-- position 0 or 1: relative to the first lookup's result -/
theorem nodeInsert_start {a : Nat}
    (h1 : s.getnode byName node (some first) (if pos > 0 then 1 else 0) = .ok (some a)) (hp : pos = 0 ∨ pos = 1) :
    s.nodeInsert first pos node byName =
      if pos < 1 then s.gnodeAfter (some a) node else s.gnodeBefore (some a) node := by
  simp [Store.nodeInsert, h1, hp]

/-- the second lookup (from the first one's result) succeeds -/
theorem nodeInsert_found {a t : Nat}
    (h1 : s.getnode byName node (some first) (if pos > 0 then 1 else 0) = .ok (some a)) (hp0 : pos ≠ 0) (hp1 : pos ≠ 1)
    (h2 : s.getnode byName node (some a) pos = .ok (some t)) :
    s.nodeInsert first pos node byName =
      if pos < 1 then s.gnodeAfter (some t) node else s.gnodeBefore (some t) node := by
  simp [Store.nodeInsert, h1, hp0, hp1, h2]

/-- the second lookup fails: relative to the other end -/
theorem nodeInsert_other {a : Nat} {t : Option Nat}
    (h1 : s.getnode byName node (some first) (if pos > 0 then 1 else 0) = .ok (some a)) (hp0 : pos ≠ 0) (hp1 : pos ≠ 1)
    (h2 : s.getnode byName node (some a) pos = .ok none)
    (h3 : s.getnode byName node (some first) (if pos < 0 then 1 else 0) = .ok t) :
    s.nodeInsert first pos node byName = if -pos < 1 then s.gnodeAfter t node else s.gnodeBefore t node := by
  simp [Store.nodeInsert, h1, hp0, hp1, h2, h3]

end

theorem getnode_false (s : Store) (node : Nat) (first : Option Nat) (pos : Int) :
    s.getnode false node first pos = s.gnodePos first pos := by
  simp [Store.getnode]

theorem gnodePos_last {s : Store} {L : Forest} {par : Option Nat} {f : Nat} {tf tl : Tree}
    (hL : Real s par none L) (hf : L[f]? = some tf) (hfuel : L.length ≤ s.fuel) (htl : L[L.length - 1]? = some tl) :
    s.gnodePos (some tf.id) 0 = .ok (some tl.id) := by
  have hflt := (List.getElem?_eq_some_iff.1 hf).1
  rw [gnodePos_real 0 hL hf hfuel, show posIdx L.length f 0 = some (L.length - 1) by
    rw [posIdx, if_pos rfl, if_neg (by omega)]]
  simp only [Option.bind_some, htl, Option.map_some]

/-- the lookup `node_insert` is run with, on indices of the sibling list: `node_locate` by the name `nm`, or
    `mpt_gnode_pos` -/
def lookIdx (byName : Bool) (L : Forest) (nm : Name) (f : Nat) (pos : Int) : Option Nat :=
  if byName then locIdx L f nm pos else posIdx L.length f pos

/-- `node_insert(first, pos, ·, look)` on indices: the index the node is placed at in a list of `n` elements, `none` =
    not placed.  `look f p` is the callback's answer from the `f`-th element. -/
def insAt (look : Nat → Int → Option Nat) (n f : Nat) (pos : Int) : Option Nat :=
  match look f (if pos > 0 then 1 else 0) with
  | none => some n
  | some a =>
    match (if pos = 0 ∨ pos = 1 then some a else look a pos) with
    | some t => some (if pos < 1 then t + 1 else t)
    | none => (look f (if pos < 0 then 1 else 0)).map fun t => if -pos < 1 then t + 1 else t

theorem posIdx_lt {n f : Nat} {pos : Int} {i : Nat} (hf : f < n) (h : posIdx n f pos = some i) : i < n := by
  simp only [posIdx] at h
  split at h
  · split at h
    · cases h
    · cases h; omega
  · split at h
    · split at h
      · cases h; assumption
      · cases h
    · split at h
      · cases h; omega
      · cases h

theorem insAt_pos (L : Forest) (nm : Name) {f : Nat} (pos : Int) (hf : f < L.length) :
    insAt (lookIdx false L nm) L.length f pos = some (addIdx L.length f pos) := by
  have hlook : ∀ j p, lookIdx false L nm j p = posIdx L.length j p := fun _ _ => rfl
  generalize L.length = n at hf hlook
  have e1 : posIdx n f 1 = some f := by simp [posIdx, hf]
  have e0 : posIdx n f 0 = some (n - 1) := by rw [posIdx, if_pos rfl, if_neg (by omega)]
  by_cases hp : pos > 0
  · -- counted forwards: the first lookup (`pos 1` from `first`) answers `first` itself
    by_cases hp1 : pos = 1
    · subst hp1; simp [insAt, hlook, e1, addIdx]; omega
    · have h0 : pos ≠ 0 := by omega
      have hn : ¬ pos < 0 := by omega
      have hn1 : ¬ pos < 1 := by omega
      have hneg : -pos < 1 := by omega
      simp only [insAt, hlook, hp, hp1, h0, hn, or_self, ↓reduceIte, e1, e0]
      simp only [posIdx, addIdx, h0, hp, hn1, hneg, ↓reduceIte]
      -- the second lookup counts `pos` from `first`: in front of that element, or (none there, third lookup = the
      -- last element) behind the last
      generalize pos.toNat - 1 = m
      by_cases hlt : f + m < n
      · simp only [hlt, ↓reduceIte]; congr 1; omega
      · simp only [hlt, ↓reduceIte, Option.map_some]; congr 1; omega
  · -- counted backwards: the first lookup (`pos 0`) answers the last element
    by_cases hp0 : pos = 0
    · subst hp0; simp [insAt, hlook, e0, addIdx]; omega
    · have h1 : pos ≠ 1 := by omega
      have hn : pos < 0 := by omega
      have hlt1 : pos < 1 := by omega
      have hneg : ¬ -pos < 1 := by omega
      simp only [insAt, hlook, hp, hp0, h1, hn, or_self, ↓reduceIte, e1, e0]
      simp only [posIdx, addIdx, hp0, hp, hlt1, hneg, ↓reduceIte]
      -- the second lookup steps `-pos` back from the last element: behind that element, or (the list is shorter,
      -- third lookup = `first`) in front of `first`
      generalize (-pos).toNat = k
      by_cases hk : k ≤ n - 1
      · simp only [hk, ↓reduceIte, show k < n by omega]; congr 1; omega
      · simp only [hk, ↓reduceIte, Option.map_some, show ¬ k < n by omega]

/-- `mpt_gnode_insert`/`mpt_node_insert(parent, pos, x)` for a parent without children: `x` becomes the only child -/
theorem insert_empty_refines {s : Store} {parent x : Nat} {n' : Name} {v' : Val} {cs' l0 : Forest} {rest : List Forest}
    {tp : Tree} (pos : Int) (byName : Bool)
    (hR : Realises s ([.node x n' v' cs'] :: l0 :: rest)) (hf : find? parent l0 = some tp) (hempty : tp.children = []) :
    ∃ s', s.insert parent pos x byName = .ok s' ∧
      Realises s' (modKids parent (fun _ => [.node x n' v' cs']) l0 :: rest) := by
  obtain ⟨hT, hl0, hnd0, hndT, hdisj⟩ := hR.detached
  have hnd := hR.nodup
  simp only [List.flatMap_cons] at hnd
  obtain ⟨-, hnd1, hdx⟩ := List.nodup_append.1 hnd
  obtain ⟨-, -, hdr⟩ := List.nodup_append.1 hnd1
  obtain ⟨⟨nx, pv, pr, hprec⟩, _⟩ := Real.of_find hl0.2 hf
  have hpl0 := (find?_mem hf).1
  have hpx : parent ≠ x := (hdisj parent hpl0).1
  have hplive : s.Live parent (recOf nx pv pr tp.children tp.name tp.value) := ⟨hprec, rfl⟩
  -- two writes, the parent's child link and the parent link of `x`; every other record stays (`hunch`)
  obtain ⟨s1, e1, u1⟩ := Store.modify_ok hplive (fun n => { n with children := some x })
  have hx1 : s1.Live x (recOf none none none cs' n' v') := u1.live_other ⟨hT.1, rfl⟩ (Ne.symm hpx)
  obtain ⟨s2, e2, u2⟩ := Store.modify_ok hx1 (fun n => { n with parent := some parent })
  have heff : ∀ i, s2.nodes[i]? =
      if i = x then some { recOf none none none cs' n' v' with parent := some parent }
      else if i = parent then some { recOf nx pv pr tp.children tp.name tp.value with children := some x }
      else s.nodes[i]? := by
    intro i
    rw [u2.2.2, u1.2.2]
  have hunch : ∀ i, i ≠ x → i ≠ parent → s2.nodes[i]? = s.nodes[i]? := fun i h1 h2 => by
    rw [heff i, if_neg h1, if_neg h2]
  refine ⟨s2, ?_, ?_⟩
  · simp only [Store.insert, Store.get_ok hplive, Res.bind_ok]
    simp only [hempty, headId_nil]
    rw [e1]
    simp only [Res.bind_ok]
    exact e2
  · -- the child list of `parent` is empty, so no `SibsAt` names it: the lifting to the store (`SibsAt.realises` elsewhere)
    -- is done here through `real_modKids`
    refine hR.of_sameLife ⟨by rw [u2.1, u1.1], ?_⟩ ?_ ?_
    · intro i
      rw [heff i]
      by_cases h1 : i = x
      · subst h1; simp [hT.1]
      · by_cases h2 : i = parent
        · subst h2; simp [h1, hprec]
        · simp [h1, h2]
    · intro l' hl'
      rcases List.mem_cons.1 hl' with rfl | hl'
      · refine ⟨modKids_ne_nil hl0.1, real_modKids hl0.2 hnd0 hf ?_ ?_ fun i hi h1 _ => hunch i (hdisj i hi).1 h1⟩
        · rw [Real_cons]
          refine ⟨by rw [heff x, if_pos rfl]; rfl, hT.2.frame fun k hk => ?_, by simp⟩
          exact hunch k (fun e => hndT.1 (e ▸ hk)) (fun e => (hdisj parent hpl0).2 (e ▸ hk))
        · rw [heff parent, if_neg hpx, if_pos rfl, hprec]; rfl
      · have hr := hR.real l' (by simp [hl'])
        refine ⟨hr.1, hr.2.frame fun i hi => ?_⟩
        have hirest : i ∈ rest.flatMap ids := List.mem_flatMap.2 ⟨l', hl', hi⟩
        exact hunch i (fun e => hdx x (by simp) i (by simp [hirest]) e.symm) (fun e => hdr i (e ▸ hpl0) i hirest rfl)
    · simp only [List.flatMap_cons]
      have := ids_modKids_perm (g := fun _ => [Tree.node x n' v' cs']) (E := ids [Tree.node x n' v' cs']) hnd0 hf
        (by rw [hempty]; simp)
      have h2 := List.Perm.append_right (rest.flatMap ids) this
      simpa [List.append_assoc] using h2

end Mpt.Nodes
