/-
  The command text encoder model `encodeString` as an instance of the encoder contract: its data and terminating
  calls (`cmd_push`, `cmd_term`) and `cmdContract`.  What the contract then gives for call splits, growth schedules
  (`encodeSched .command`) and the retry loop of `mpt_array_push` is drawn in Props/C01.lean (`cmd_encoder_sched_*`,
  `cmd_array_push_refines`).
-/
import MptModel.Lemmas.ListFacts
import MptModel.Lemmas.ArrayPush
namespace Mpt.Codec

/-- command text encoder between two calls: finished data `pre`, bytes `p` of the message in progress -/
def CmdInv (st : EncState) (win pre p : List Byte) : Prop :=
  st.scratch = 0 ∧ st.ctx = 0 ∧ st.done ≤ win.length ∧ win.take st.done = pre ++ p ∧ (0 : Byte) ∉ p

theorem cmd_push (st : EncState) (win pre p bytes : List Byte) (h : CmdInv st win pre p) :
    (bytes = [] ∧ encode .command st win (some bytes) = .err .BadArgument) ∨
    (st.done = win.length ∧ encode .command st win (some bytes) = .err .MissingBuffer) ∨
    ((0 : Byte) ∈ bytes.take (min bytes.length (win.length - st.done)) ∧
      encode .command st win (some bytes) = .err .BadEncoding) ∨
    ∃ o, encode .command st win (some bytes) = .ok o ∧ o.ret = min bytes.length (win.length - st.done) ∧
      o.win.length = win.length ∧ o.st.done = st.done + o.ret ∧ CmdInv o.st o.win pre (p ++ bytes.take o.ret) := by
  obtain ⟨a, b, c, d, e⟩ := h
  unfold encode encodeString
  simp only [a, b, ne_eq, not_true_eq_false, or_self, if_false]
  rw [if_neg (by omega)]
  by_cases hb : bytes.length = 0
  · left; rw [if_pos hb]; exact ⟨List.length_eq_zero_iff.mp hb, rfl⟩
  rw [if_neg hb]
  by_cases hm : win.length - st.done = 0
  · right; left; rw [if_pos hm]; exact ⟨by omega, rfl⟩
  rw [if_neg hm]
  have ht : st.done + min bytes.length (win.length - st.done) ≤ win.length ∧
      min bytes.length (win.length - st.done) ≤ bytes.length := by
    omega
  generalize min bytes.length (win.length - st.done) = t at ht ⊢
  by_cases hz : (0 : Byte) ∈ bytes.take t
  · right; right; left; rw [if_pos hz]; exact ⟨hz, rfl⟩
  rw [if_neg hz, if_pos ht.1]
  right; right; right
  have htl : (bytes.take t).length = t := by rw [List.length_take, Nat.min_eq_left ht.2]
  have hpl : (win.take st.done ++ bytes.take t).length = st.done + t := by
    rw [List.length_append, htl, List.length_take, Nat.min_eq_left c]
  refine ⟨_, rfl, rfl, ?_, rfl, rfl, rfl, ?_, ?_, ?_⟩
  · simp only [List.length_append, List.length_take, List.length_drop]; omega
  · simp only [List.length_append, List.length_take, List.length_drop]; omega
  · simp only
    rw [List.take_left' hpl, d, List.append_assoc]
  · simp only
    intro hmem
    rcases List.mem_append.mp hmem with h1 | h1
    · exact e h1
    · exact hz h1

theorem cmd_term (st : EncState) (win pre p : List Byte) (h : CmdInv st win pre p) :
    (st.done = win.length ∧ encode .command st win none = .err .MissingBuffer) ∨
    ∃ o, encode .command st win none = .ok o ∧ o.ret = 0 ∧ CmdInv o.st o.win (pre ++ (p ++ [0])) [] := by
  obtain ⟨a, b, c, d, e⟩ := h
  unfold encode encodeString
  simp only [a, b, ne_eq, not_true_eq_false, or_self, if_false]
  rw [if_neg (by omega)]
  by_cases hm : win.length - st.done = 0
  · left; rw [if_pos hm]; exact ⟨by omega, rfl⟩
  rw [if_neg hm]
  right
  have hlt : st.done < win.length := by omega
  rw [show wr win st.done 0 = .ok (win.set st.done 0) from if_pos hlt]
  refine ⟨_, rfl, rfl, rfl, rfl, by simp; omega, ?_, by simp⟩
  simp only [List.append_nil]
  rw [take_succ_set hlt, d, List.append_assoc]

/-- command text behind finished data `pre`: one window byte per message byte and one for the delimiter; an
    empty piece and a piece with a zero byte are refused -/
def cmdContract (pre : List Byte) : Contract .command (List Byte) where
  J st win p := CmdInv st win pre p
  msg p := p
  init p := pre = [] ∧ p = []
  ok ch := ch ≠ [] ∧ (0 : Byte) ∉ ch
  need st n := st.done + n + 1
  Fin p o := o.st.scratch = 0 ∧ o.st.ctx = 0 ∧ o.st.done ≤ o.win.length ∧
    o.win.take o.st.done = pre ++ (p ++ [0]) ∧ (0 : Byte) ∉ p
  refusal e := e = .BadArgument ∨ e = .BadEncoding
  start h win := by obtain ⟨rfl, rfl⟩ := h; exact ⟨rfl, rfl, by simp, by simp, by simp⟩
  le h := by have := h.1; have := h.2.2.1; omega
  congr h hl ht := by
    obtain ⟨a, b, _, d, e⟩ := h
    rw [a, Nat.add_zero] at ht hl
    exact ⟨a, b, hl, by rw [ht]; exact d, e⟩
  mono st n m h := by omega
  need_le st := by omega
  ok_ne h := h.1
  ok_drop h hn := ⟨fun h0 => by have := congrArg List.length h0; simp at this; omega,
    fun h0 => h.2 (List.mem_of_mem_drop h0)⟩
  push {st win p} ch h := by
    rcases cmd_push st win pre p ch h with ⟨hnil, he⟩ | ⟨hfull, he⟩ | ⟨hzz, he⟩ | ⟨o, he, hret, hlen, hdone, hinv'⟩
    · exact Or.inl ⟨fun h => h.1 hnil, _, he, by simp, Or.inl rfl⟩
    · exact Or.inr (Or.inl ⟨he, by omega⟩)
    · exact Or.inl ⟨fun h => h.2 (List.mem_of_mem_take hzz), _, he, by simp, Or.inr rfl⟩
    · exact Or.inr (Or.inr ⟨o, _, he, hlen, by omega, hinv', rfl, fun m => by omega, fun k hk hfit => by omega⟩)
  term {st win p} h := by
    rcases cmd_term st win pre p h with ⟨hfull, he⟩ | ⟨o, he, hret, hsc, hctx, hl, ht, _⟩
    · exact Or.inl ⟨he, by omega⟩
    · exact Or.inr ⟨o, he, hret, hsc, hctx, hl, by simpa using ht, h.2.2.2.2⟩

/-- state of an encode array for command text between two `mpt_array_push` calls; `(cmdContract pre).Arr a p`
    written out (`cmdArrInv_iff_arr`) -/
def CmdArrInv (a : EncArray) (pre p : List Byte) : Prop :=
  (a.buf = none ∧ a.st = {} ∧ a.used = 0 ∧ pre = [] ∧ p = []) ∨
  (∃ buf, a.buf = some buf ∧ a.used = a.st.done + a.st.scratch ∧ CmdInv a.st buf pre p)

theorem cmdArrInv_iff_arr {a : EncArray} {pre p : List Byte} : CmdArrInv a pre p ↔ (cmdContract pre).Arr a p := Iff.rfl

end Mpt.Codec
