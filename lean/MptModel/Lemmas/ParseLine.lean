/-
  Symbolic evaluation of the parser model on the text the reference writer (Spec/Render.lean) produces, for
  C09: a loop over a known prefix (`runSteps`, `scan_prefix_done`), what `mpt_parse_nextvis` skips (`visSkip`, for
  any text: `nextvis_skip` up to a visible character, `nextvis_end` up to the end of the input),
  the canonical path and parser states (`Pth`, `Clean`, `Stt`) with the path operations on them, the name
  restriction of the writer against `mpt_parse_ncheck`, and what the parser sees in a name character and in a
  blank of the writer (`NameChar`, `BlankChar`).
-/
import MptModel.Impl.Parse
import MptModel.Spec.Render

namespace Mpt.Parse
open Mpt.Render


/-- run the loop body over characters that all continue the loop -/
def runSteps {σ ρ : Type} (step : σ → UInt8 → Step σ ρ) : σ → List UInt8 → Option σ
  | s, [] => some s
  | s, c :: cs =>
    match step s c with
    | .more s' => runSteps step s' cs
    | .done _ => none

theorem runSteps_append {σ ρ : Type} (step : σ → UInt8 → Step σ ρ) (s s' s'' : σ) (a b : List UInt8)
    (h1 : runSteps step s a = some s') (h2 : runSteps step s' b = some s'') :
    runSteps step s (a ++ b) = some s'' := by
  induction a generalizing s with
  | nil => simp only [runSteps, Option.some.injEq] at h1; subst h1; exact h2
  | cons c cs ih =>
    simp only [List.cons_append, runSteps] at h1 ⊢
    split at h1
    · rename_i s1 hs; exact ih s1 h1
    · cases h1

theorem scanAux_prefix {σ ρ : Type} (step : σ → UInt8 → Step σ ρ) (atEnd : σ → ρ) (cs rest : List UInt8) :
    ∀ (n : Nat) (t : List UInt8) (s s' : σ), runSteps step s cs = some s' →
      scanAux step atEnd (cs ++ rest) n t s = scanAux step atEnd rest (n + cs.length) (cs.reverse ++ t) s' := by
  induction cs with
  | nil => intro n t s s' h; simp only [runSteps, Option.some.injEq] at h; subst h; simp
  | cons c cs ih =>
    intro n t s s' h
    simp only [runSteps] at h
    split at h
    · rename_i s1 hs
      simp only [List.cons_append, scanAux, hs]
      rw [ih (n + 1) (c :: t) s1 s' h]
      simp only [List.length_cons, List.reverse_cons, List.append_assoc, List.singleton_append]
      congr 1; omega
    · cases h

theorem scan_prefix_done {σ ρ : Type} (step : σ → UInt8 → Step σ ρ) (atEnd : σ → ρ)
    (cs : List UInt8) (c : UInt8) (rest : List UInt8) (src : Src) (s s' : σ) (r : ρ)
    (hsrc : src.rest = cs ++ c :: rest) (h1 : runSteps step s cs = some s') (h2 : step s' c = .done r) :
    ∃ src', scan step atEnd src s = (r, src') ∧ src'.rest = rest := by
  unfold scan
  rw [hsrc, scanAux_prefix step atEnd cs (c :: rest) _ _ s s' h1]
  simp only [scanAux, h2]
  exact ⟨_, rfl, rfl⟩

theorem scan_prefix_end {σ ρ : Type} (step : σ → UInt8 → Step σ ρ) (atEnd : σ → ρ)
    (cs : List UInt8) (src : Src) (s s' : σ)
    (hsrc : src.rest = cs) (h1 : runSteps step s cs = some s') :
    ∃ src', scan step atEnd src s = (atEnd s', src') ∧ src'.rest = [] := by
  unfold scan
  have := scanAux_prefix step atEnd cs [] src.reads src.trace s s' h1
  rw [List.append_nil] at this
  rw [hsrc, this]
  simp only [scanAux]
  exact ⟨_, rfl, rfl⟩


/-- `#` is the only comment character, as in the formats of the reference writer (all that `mpt_parse_nextvis` needs of a
    format; `DataFmt` of ParseValue asks the same of the data part in its field `com`) -/
def HashOnly (f : Format) : Prop := f.com = [35, 0, 0, 0]

theorem HashOnly.isComment {f : Format} (h : HashOnly f) (c : UInt8) : f.isComment c = (c == 35) := by
  unfold Format.isComment
  rw [h]
  by_cases h0 : c = 0
  · subst h0; decide
  · by_cases h35 : c = 35
    · subst h35; decide
    · simp [h0, h35]

/-- one character of insignificant text: the new in-comment flag, `none` for a visible character or a zero byte -/
def visStep : Bool → UInt8 → Option Bool
  | true, c => some (c != 10)
  | false, c => if c == 0 then none else if isspace c then some false else if c == 35 then some true else none

/-- state after skipping: `some inComment`, `none` if a visible character or a zero byte is met -/
def visSkip (b : Bool) (l : List UInt8) : Option Bool := l.foldlM visStep b

theorem visSkip_cons (b : Bool) (c : UInt8) (r : List UInt8) :
    visSkip b (c :: r) = (visStep b c).bind fun b' => visSkip b' r := by
  simp [visSkip]

theorem visSkip_append (a b : List UInt8) (x y z : Bool) (h1 : visSkip x a = some y) (h2 : visSkip y b = some z) :
    visSkip x (a ++ b) = some z := by
  unfold visSkip at h1 h2 ⊢
  rw [List.foldlM_append, h1]
  exact h2

theorem visSkip_space (c : UInt8) (r : List UInt8) (h : isspace c = true) : visSkip false (c :: r) = visSkip false r := by
  have h0 : (c == 0) = false := beq_false_of_ne (by rintro rfl; exact absurd h (by decide))
  simp [visSkip_cons, visStep, h0, h]

theorem visSkip_hash (r : List UInt8) : visSkip false (35 :: r) = visSkip true r := rfl

/-- inside a comment only a line feed matters; it ends a blank line as well -/
theorem visSkip_in_comment (c : UInt8) (r : List UInt8) : visSkip true (c :: r) = visSkip (c != 10) r := by
  simp [visSkip_cons, visStep]

theorem visSkip_nl (b : Bool) (r : List UInt8) : visSkip b (10 :: r) = visSkip false r := by
  cases b <;> rfl

/-- a character that ends the skipping -/
def visible (c : UInt8) : Bool := c != 0 && !isspace c && c != 35

/-- `mpt_parse_nextvis` goes on over a character exactly where `visStep` does -/
theorem nextvisStep_more {f : Format} (hf : HashOnly f) (b b1 : Bool) (c : UInt8) (line : Nat)
    (h : visStep b c = some b1) :
    ∃ line', nextvisStep f { line := line, skip := b } c = .more { line := line', skip := b1 } := by
  cases b with
  | true =>
    simp only [visStep, Option.some.injEq] at h
    subst h
    by_cases hc : c = 10 <;> simp [nextvisStep, hc]
  | false =>
    simp only [visStep] at h
    split at h
    · cases h
    · rename_i h0
      split at h
      · rename_i hsp
        cases h
        exact ⟨if c == 10 then line + 1 else line, by simp only [nextvisStep, Bool.false_eq_true, ↓reduceIte, h0, hsp]⟩
      · rename_i hsp
        split at h
        · rename_i h35
          cases h
          exact ⟨if c == 10 then line + 1 else line,
            by simp only [nextvisStep, Bool.false_eq_true, ↓reduceIte, h0, hsp, hf.isComment, h35]⟩
        · cases h

theorem nextvis_runSteps {f : Format} (hf : HashOnly f) :
    ∀ (junk : List UInt8) (b b' : Bool) (line : Nat), visSkip b junk = some b' →
      ∃ line', runSteps (nextvisStep f) { line := line, skip := b } junk = some { line := line', skip := b' } := by
  intro junk
  induction junk with
  | nil => intro b b' line h; cases h; exact ⟨line, rfl⟩
  | cons c r ih =>
    intro b b' line h
    rw [visSkip_cons] at h
    obtain ⟨b1, h1, hr⟩ := Option.bind_eq_some_iff.mp h
    obtain ⟨line1, hstep⟩ := nextvisStep_more hf b b1 c line h1
    simp only [runSteps, hstep]
    exact ih b1 b' line1 hr

theorem nextvisStep_visible {f : Format} (hf : HashOnly f) (c : UInt8) (hc : visible c = true) (line : Nat) :
    nextvisStep f { line := line, skip := false } c = .done (some c, line) := by
  unfold visible at hc
  simp only [Bool.and_eq_true, bne_iff_ne, ne_eq, Bool.not_eq_eq_eq_not, Bool.not_true] at hc
  obtain ⟨⟨h0, hsp⟩, h35⟩ := hc
  have hnl : (c == 10) = false := beq_eq_false_iff_ne.mpr (by rintro rfl; exact absurd hsp (by decide))
  simp only [nextvisStep, Bool.false_eq_true, ↓reduceIte, beq_iff_eq, h0, hsp, hf.isComment, hnl]
  simp [h35]

theorem nextvis_skip {f : Format} (hf : HashOnly f) (junk : List UInt8) (c : UInt8) (rest : List UInt8)
    (s : St) (src : Src) (hj : visSkip false junk = some false) (hc : visible c = true)
    (hsrc : src.rest = junk ++ c :: rest) :
    ∃ line' src', nextvis f s src = (some c, { s with line := line' }, src') ∧ src'.rest = rest := by
  obtain ⟨line', hrun⟩ := nextvis_runSteps hf junk false false s.line hj
  obtain ⟨src', hs, hr⟩ := scan_prefix_done (nextvisStep f) (fun v => (none, v.line)) junk c rest src
    { line := s.line, skip := false } { line := line', skip := false } (some c, line') hsrc hrun
    (nextvisStep_visible hf c hc line')
  refine ⟨line', src', ?_, hr⟩
  unfold nextvis
  simp only [hs]

theorem nextvis_end {f : Format} (hf : HashOnly f) (junk : List UInt8) (b : Bool)
    (s : St) (src : Src) (hj : visSkip false junk = some b) (hsrc : src.rest = junk) :
    ∃ line' src', nextvis f s src = (none, { s with line := line' }, src') ∧ src'.rest = [] := by
  obtain ⟨line', hrun⟩ := nextvis_runSteps hf junk false b s.line hj
  obtain ⟨src', hs, hr⟩ := scan_prefix_end (nextvisStep f) (fun v => (none, v.line)) junk src
    { line := s.line, skip := false } { line := line', skip := b } hsrc hrun
  refine ⟨line', src', ?_, hr⟩
  unfold nextvis
  simp only [hs]

theorem endline_line (cs rest : List UInt8) (s : St) (src : Src) (hcs : cs.contains 10 = false)
    (hsrc : src.rest = cs ++ 10 :: rest) :
    ∃ line' src', endline s src = ({ s with line := line' }, src') ∧ src'.rest = rest := by
  have hrun : ∀ (l : List UInt8) (line : Nat), l.contains 10 = false →
      runSteps endlineStep line l = some line := by
    intro l
    induction l with
    | nil => intro line _; rfl
    | cons c r ih =>
      intro line h
      simp only [List.contains_cons, Bool.or_eq_false_iff] at h
      have hc : (c == 10) = false := beq_eq_false_iff_ne.mpr fun hh => by simp [hh] at h
      simp only [runSteps, endlineStep, hc]
      exact ih line h.2
  obtain ⟨src', hs, hr⟩ := scan_prefix_done endlineStep (fun l => l) cs 10 rest src s.line s.line (s.line + 1)
    hsrc (hrun cs s.line hcs) (by simp [endlineStep])
  refine ⟨s.line + 1, src', ?_, hr⟩
  unfold endline
  simp only [hs]


/-- a path with buffer: committed elements `e`, pending bytes `l`, KeepPost `k` -/
def Pth (e : List (List UInt8)) (l : List UInt8) (k : Bool) (fi : UInt8) : Path :=
  { elems := e, pending := l.toArray, keep := k, hasBuf := true, first := fi }

/-- a path without pending bytes as the element loop leaves it (fresh, invalidated or shortened) -/
def Clean (e : List (List UInt8)) (p : Path) : Prop := p.elems = e ∧ p.pending = #[] ∧ p.keep = false

theorem clean_init : Clean [] ({} : Path) := ⟨rfl, rfl, rfl⟩
theorem clean_pth (e : List (List UInt8)) (fi : UInt8) : Clean e (Pth e [] false fi) := ⟨rfl, rfl, rfl⟩

theorem addchar_clean {e : List (List UInt8)} {p : Path} (h : Clean e p) (c : UInt8) :
    p.addchar c = Pth e [c] false p.first := by
  obtain ⟨h1, h2, h3⟩ := h
  cases p
  simp only at h1 h2 h3
  subst h1 h2 h3
  simp only [Path.addchar, Pth]
  split <;> simp_all

@[simp] theorem addchar_keep (e : List (List UInt8)) (l : List UInt8) (fi c : UInt8) :
    (Pth e l true fi).addchar c = Pth e (l ++ [c]) true fi := by
  simp [Path.addchar, Pth]

@[simp] theorem addchar_nil (e : List (List UInt8)) (k : Bool) (fi c : UInt8) :
    (Pth e [] k fi).addchar c = Pth e [c] k fi := by
  simp [Path.addchar, Pth]

theorem addchar_over (e : List (List UInt8)) (l : List UInt8) (fi c : UInt8) (hl : l ≠ []) :
    (Pth e l false fi).addchar c = Pth e (l.dropLast ++ [c]) false fi := by
  have : l.length ≠ 0 := by intro h; exact hl (List.length_eq_zero_iff.mp h)
  simp [Path.addchar, Pth, this]

@[simp] theorem delchar_pth (e : List (List UInt8)) (l : List UInt8) (k : Bool) (fi : UInt8) :
    (Pth e l k fi).delchar = Pth e l.dropLast k fi := by
  simp [Path.delchar, Pth]

@[simp] theorem valid_pth (e : List (List UInt8)) (l : List UInt8) (k : Bool) (fi : UInt8) :
    (Pth e l k fi).valid = (l.length, Pth e l (k || !l.isEmpty) fi) := by
  cases l <;> simp [Path.valid, Pth]

@[simp] theorem invalidate_pth (e : List (List UInt8)) (l : List UInt8) (k : Bool) (fi : UInt8) :
    (Pth e l k fi).invalidate = Pth e [] false fi := by
  simp [Path.invalidate, Pth]

@[simp] theorem head_pth (e : List (List UInt8)) (l : List UInt8) (k : Bool) (fi : UInt8) (n : Nat) :
    (Pth e l k fi).head n = l.take n := by
  simp [Path.head, Pth]

theorem add_pth (e : List (List UInt8)) (l : List UInt8) (k : Bool) (fi : UInt8) (n : Nat)
    (hn : n ≤ l.length) (hsep : (l.take n).contains Path.sep = false) :
    (Pth e l k fi).add n = .ok (Pth (e ++ [l.take n]) (l.drop (n + 1)) false
      (if e.isEmpty then UInt8.ofNat n else fi)) := by
  unfold Path.add
  rw [head_pth, hsep]
  have h1 : ¬ l.length < n := by omega
  simp [Pth, h1, List.take_of_length_le]

/-- the parser state on such a path: committed elements `e`, pending bytes `l`, KeepPost `k`, `first` byte `fi`,
    then `valid`, `curr`, `line` -/
abbrev Stt (e : List (List UInt8)) (l : List UInt8) (k : Bool) (fi : UInt8) (v cur ln : Nat) : St :=
  { path := Pth e l k fi, valid := v, curr := cur, line := ln }

theorem save_stt (e : List (List UInt8)) (l : List UInt8) (k : Bool) (fi : UInt8) (v cur ln : Nat) (c : UInt8)
    (h0 : c ≠ 0) :
    (Stt e l k fi v cur ln).save c =
      { path := (Pth e l k fi).addchar c, valid := v, curr := cur, line := if c == 10 then ln + 1 else ln } := by
  simp [St.save, h0]

@[simp] theorem markValid_stt (e : List (List UInt8)) (l : List UInt8) (k : Bool) (fi : UInt8) (v cur ln : Nat) :
    (Stt e l k fi v cur ln).markValid = Stt e l (k || !l.isEmpty) fi l.length cur ln := by
  simp [St.markValid]

/-- the name restriction of the specification is the one `mpt_parse_ncheck` applies: the case analysis follows the
    if-chain of `ncheckChars` (space, digit, printable, alphanumeric), each leaf asks for one flag bit -/
theorem charsFit_ncheck (flags : Nat) : ∀ (l : List UInt8) (b : Bool), charsFit flags b l = true →
    ncheckChars flags b l = none := by
  intro l
  induction l with
  | nil => intro b _; rfl
  | cons c r ih =>
    intro b h
    simp only [charsFit, Bool.and_eq_true] at h
    obtain ⟨hc, hr⟩ := h
    have hr' := ih false hr
    unfold ncheckChars
    have e1 : Render.isSpace c = isspace c := rfl
    have e2 : Render.isDigit c = isdigit c := rfl
    have e3 : Render.isPrint c = isprint c := rfl
    have e4 : Render.isAlnum c = isalnum c := by
      simp [Render.isAlnum, isalnum, isalpha, Render.isDigit, isdigit, Bool.or_assoc]
    rw [e1, e2, e3, e4] at hc
    by_cases h1 : isspace c = true
    · simp only [h1, ↓reduceIte] at hc ⊢
      have : has flags NameFlag.space = true := hc
      simp [this, hr']
    · simp only [h1, Bool.false_eq_true, ↓reduceIte] at hc ⊢
      by_cases h2 : isdigit c = true
      · simp only [h2, ↓reduceIte] at hc ⊢
        have : has flags (if b = true then NameFlag.numStart else NameFlag.numCont) = true := by
          cases b <;> exact hc
        simp [this, hr']
      · simp only [h2, Bool.false_eq_true, ↓reduceIte] at hc ⊢
        by_cases h3 : isprint c = true
        · simp only [h3, Bool.not_true, Bool.false_eq_true, ↓reduceIte] at hc ⊢
          by_cases h4 : isalnum c = true
          · simp [h4, hr']
          · simp only [h4, Bool.not_false, ↓reduceIte] at hc ⊢
            have : has flags NameFlag.special = true := hc
            simp [this, hr']
        · simp only [h3, Bool.not_false, ↓reduceIte] at hc ⊢
          have : has flags NameFlag.binary = true := hc
          simp [this, hr']

theorem nameFits_ncheck (flags : Nat) (n : List UInt8) (h : nameFits flags n = true) : ncheck n flags = none := by
  unfold nameFits at h
  unfold ncheck
  split
  · rename_i he
    rw [if_pos he] at h
    have : has flags NameFlag.empty = true := h
    simp [this]
  · rename_i he
    rw [if_neg he] at h
    exact charsFit_ncheck flags n true h

/-- every name fits the word with all flags set: each test of the per-character chain asks for one bit -/
theorem charsFit_all : ∀ (l : List UInt8) (b : Bool), charsFit 0xff b l = true := by
  intro l
  induction l with
  | nil => intro _; rfl
  | cons c r ih =>
    intro b
    have hd : (0xff &&& (if b = true then flagNumStart else flagNumCont) != 0) = true := by cases b <;> decide
    have hs : (0xff &&& flagSpace != 0) = true := by decide
    have hb : (0xff &&& flagBinary != 0) = true := by decide
    have hp : (0xff &&& flagSpecial != 0) = true := by decide
    simp only [charsFit, ih, Bool.and_true, hd, hs, hb, hp, ite_self]

theorem nameFits_all (n : List UInt8) : nameFits 0xff n = true := by
  unfold nameFits
  split
  · decide
  · exact charsFit_all n true

theorem ncheck_all (n : List UInt8) : ncheck n 0xff = none := nameFits_ncheck 0xff n (nameFits_all n)

/-- what the name characters of the reference writer are not: NUL, line feed, `#`, `.` (`Path.sep`), `=`, `{`, `}`, `[`, `]`,
    white space -/
structure NameChar (c : UInt8) : Prop where
  ne0 : c ≠ 0
  ne10 : c ≠ 10
  ne35 : c ≠ 35
  ne46 : c ≠ 46
  ne61 : c ≠ 61
  ne123 : c ≠ 123
  ne125 : c ≠ 125
  ne91 : c ≠ 91
  ne93 : c ≠ 93
  nosp : isspace c = false

theorem nameChar_facts (c : UInt8) (h : nameChar c = true) : NameChar c := by
  simp only [nameChar, Bool.and_eq_true, bne_iff_ne, ne_eq, Bool.not_eq_eq_eq_not, Bool.not_true] at h
  obtain ⟨⟨⟨⟨⟨⟨⟨⟨⟨h0, hsp⟩, h35⟩, h61⟩, h123⟩, h125⟩, h91⟩, h93⟩, _⟩, h46⟩ := h
  exact ⟨h0, by rintro rfl; exact absurd hsp (by decide), h35, h46, h61, h123, h125, h91, h93, hsp⟩

theorem nameOk_nosep (n : List UInt8) (h : n.all nameChar = true) : n.contains Path.sep = false := by
  induction n with
  | nil => rfl
  | cons c r ih =>
    simp only [List.all_cons, Bool.and_eq_true] at h
    have := (nameChar_facts c h.1).ne46
    simp only [List.contains_cons, Bool.or_eq_false_iff]
    refine ⟨?_, ih h.2⟩
    simp [Path.sep]; exact fun hh => this hh.symm

theorem nameOk_parts (n : List UInt8) (h : nameOk n = true) : n ≠ [] ∧ n.all nameChar = true ∧ n.length < 65535 := by
  simpa [nameOk, and_assoc] using h

theorem nameOk_cons (n : List UInt8) (h : nameOk n = true) :
    ∃ c0 n', n = c0 :: n' ∧ nameChar c0 = true ∧ n'.all nameChar = true := by
  obtain ⟨hne, hall, _⟩ := nameOk_parts n h
  obtain ⟨c0, n', rfl⟩ := List.exists_cons_of_ne_nil hne
  exact ⟨c0, n', rfl, by simpa using hall⟩

/-- what the parser sees in a blank of the writer: white space that is not NUL, line feed, `"`, `#`, `'`, `=`, `{`, `}` -/
structure BlankChar (b : UInt8) : Prop where
  ne0 : b ≠ 0
  ne10 : b ≠ 10
  ne34 : b ≠ 34
  ne35 : b ≠ 35
  ne39 : b ≠ 39
  ne61 : b ≠ 61
  ne123 : b ≠ 123
  ne125 : b ≠ 125
  sp : isspace b = true

/-- the writer has five blanks -/
theorem isBlank_facts (b : UInt8) (h : isBlank b = true) : BlankChar b := by
  have hb : b = 32 ∨ b = 9 ∨ b = 11 ∨ b = 12 ∨ b = 13 := by simpa [isBlank, or_assoc] using h
  rcases hb with h | h | h | h | h <;> subst h <;> constructor <;> decide

end Mpt.Parse
