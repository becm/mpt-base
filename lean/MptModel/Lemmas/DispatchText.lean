/-
  Text lemmas for C11: the id `mpt_dispatch_hash` computes for a command message (model `hashId`) is one of the
  readings the spec accepts (`cmdIds`).  What is needed of the quoting tokenizer `memtok` is read off the C17 model's
  token search, which it equals (`flat_tok`, `tok_eq_go` of DispatchFrag).
-/
import MptModel.Lemmas.DispatchFrag
import MptModel.Lemmas.ListFacts
namespace Mpt.Dispatch

theorem djb2Loop_eq (h : UInt64) (bs : List Byte) :
    djb2Loop h bs = bs.foldl (fun h b => (h * 33) ^^^ signExt b) h := by
  induction bs generalizing h with
  | nil => rfl
  | cons c rest ih => simp [djb2Loop, ih]

theorem mptHash_eq (bs : List Byte) : mptHash bs = hashDjb2 bs := djb2Loop_eq _ _

theorem nextChar_findIdx (data : List Byte) (tok : Byte) : nextChar data tok = data.findIdx (· == tok) := by
  unfold nextChar
  cases hf : data.findIdx? (· == tok) with
  | none => exact (List.findIdx?_eq_none_iff_findIdx_eq.mp hf).symm
  | some i => exact (List.findIdx?_eq_some_iff_findIdx_eq.mp hf).2.symm

theorem take_nextChar (data : List Byte) (tok : Byte) :
    data.take (nextChar data tok) = data.takeWhile (· != tok) := by
  rw [nextChar_findIdx, List.takeWhile_eq_take_findIdx_not]
  simp [bne]

theorem nextChar_le (data : List Byte) (tok : Byte) : nextChar data tok ≤ data.length :=
  nextChar_findIdx data tok ▸ List.findIdx_le_length

theorem nextChar_len (data : List Byte) (tok : Byte) :
    nextChar data tok = (data.takeWhile (· != tok)).length := by
  rw [← take_nextChar, List.length_take, Nat.min_eq_left (nextChar_le data tok)]

theorem getElem_lt_nextChar {data : List Byte} {tok : Byte} {i : Nat} (h : i < nextChar data tok) :
    data[i]? ≠ some tok := by
  rw [nextChar_findIdx] at h
  intro hc
  obtain ⟨hi, rfl⟩ := List.getElem?_eq_some_iff.mp hc
  simpa using List.not_of_lt_findIdx h

theorem memtok_lt {data : List Byte} {p : Nat} (h : memtok data = some p) : p < data.length :=
  tok_lt (flat_tok data ▸ h)

theorem memtok_zero {data : List Byte} (h : memtok data = some 0) : ∃ c rest, data = c :: rest ∧ isTokWs c = true := by
  cases data with
  | nil => cases h
  | cons c rest =>
    refine ⟨c, rest, rfl, ?_⟩
    -- the first step of the scan: a later find has a position from 1 on
    rw [memtok, show memtokGo (c :: rest) 0 0 32 = _ from tok_eq_go _ 0 none 32 nofun, foundAt_scan_cons, tokStep_memtok] at h
    have later : ∀ s : Flat.Scan Flat.TokSt, foundAt 1 s ≠ some 0 := fun s hs => by
      cases s <;> simp [foundAt] at hs
    by_cases hq : isQuote c = true
    · simp only [hq, if_true] at h
      exact absurd h (later _)
    · by_cases hw : isTokWs c = true
      · exact hw
      · simp only [hq, hw, Bool.false_eq_true, if_false] at h
        exact absurd h (later _)

theorem isTokWs_iff (c : Byte) : isTokWs c = true ↔ (c = 9 ∨ c = 32 ∨ c = 10 ∨ c = 13 ∨ c = 11) := by
  simp [isTokWs, or_assoc]

theorem tokWs_space {c : Byte} (h : isTokWs c = true) : isSpace c = true ∧ isQuote c = false := by
  rcases (isTokWs_iff c).mp h with rfl | rfl | rfl | rfl | rfl <;> decide

theorem take_mem_prefixes {t : List Byte} {n : Nat} (h0 : 0 < n) (hn : n ≤ t.length) : t.take n ∈ prefixes t := by
  unfold prefixes
  simp only [List.mem_map, List.mem_range]
  exact ⟨n - 1, by omega, by congr 1; omega⟩

theorem nextChar_zero_head {data : List Byte} {tok : Byte} (hne : data ≠ []) (h : nextChar data tok = 0) :
    data.head? = some tok := by
  cases data with
  | nil => exact absurd rfl hne
  | cons c rest =>
    rw [nextChar_len, List.takeWhile_cons] at h
    by_cases hc : c = tok
    · simp [hc]
    · have : (c != tok) = true := by simpa using hc
      simp [this] at h

theorem argWs_spec (d : List Byte) :
    argWs d ≤ d.length ∧ (argWs d = 0 → d ≠ [] → (∃ c rest, d = c :: rest ∧ isTokWs c = true) ∨ d.head? = some 0) := by
  unfold argWs
  cases hm : memtok d with
  | some p =>
    refine ⟨Nat.le_of_lt (memtok_lt hm), ?_⟩
    intro h0 _
    subst h0
    exact Or.inl (memtok_zero hm)
  | none =>
    refine ⟨nextChar_le _ _, ?_⟩
    intro h0 hne'
    exact Or.inr (nextChar_zero_head hne' h0)

theorem memtokGo_plain (w rest : List Byte) (pos : Nat) (prev : Byte)
    (hw : ∀ c, c ∈ w → isQuote c = false ∧ isTokWs c = false) :
    ∃ prev', memtokGo (w ++ rest) pos 0 prev = memtokGo rest (pos + w.length) 0 prev' := by
  induction w generalizing pos prev with
  | nil => exact ⟨prev, rfl⟩
  | cons a w' ih =>
    obtain ⟨hq, ht⟩ := hw a (by simp)
    obtain ⟨prev', ih⟩ := ih (pos + 1) a (fun c hc => hw c (by simp [hc]))
    refine ⟨prev', ?_⟩
    rw [List.cons_append, memtokGo]
    simp only [ne_eq, not_true_eq_false, if_false, hq, ht, Bool.false_eq_true]
    rw [ih, List.length_cons, Nat.add_assoc, Nat.add_comm 1]

/-- white-space separated arguments, plain case: the first argument is the command word -/
theorem plain_argWs {payload : List Byte} (hp : plainWord payload = true) :
    wsWord payload ≠ [] ∧ argWs (payload.dropWhile isSpace) = (wsWord payload).length ∧
      (payload.dropWhile isSpace).take (wsWord payload).length = wsWord payload := by
  unfold plainWord at hp
  simp only [Bool.and_eq_true, Bool.not_eq_true', List.isEmpty_eq_false_iff] at hp
  obtain ⟨⟨hne, hq⟩, hafter⟩ := hp
  -- the spec's `isQuoteCh`, `isBlank` are the model's `isQuote`, `isTokWs` written again: `hq`, `hafter` serve for both
  have hsplit := List.takeWhile_append_dropWhile (p := fun c => !isSpace c && c != 0) (l := payload.dropWhile isSpace)
  have hw : ∀ c, c ∈ wsWord payload → isQuote c = false ∧ isTokWs c = false ∧ c ≠ 0 := by
    intro c hc
    have h1 : isQuoteCh c = false := by
      rw [List.any_eq_false] at hq
      simpa using hq c hc
    have h2 := List.all_eq_true.mp List.all_takeWhile c hc
    simp only [Bool.and_eq_true, Bool.not_eq_true', bne_iff_ne, ne_eq] at h2
    refine ⟨h1, ?_, h2.2⟩
    cases ht : isTokWs c with
    | false => rfl
    | true => rw [(tokWs_space ht).1] at h2; cases h2.1
  refine ⟨hne, ?_, ?_⟩
  · unfold argWs memtok
    have hw' : ∀ c, c ∈ wsWord payload → isQuote c = false ∧ isTokWs c = false := fun c hc => ⟨(hw c hc).1, (hw c hc).2.1⟩
    unfold wsWord at hw hw' hne ⊢
    generalize List.dropWhile (fun c => !isSpace c && c != 0) (List.dropWhile isSpace payload) = after at hafter hsplit
    generalize List.takeWhile (fun c => !isSpace c && c != 0) (List.dropWhile isSpace payload) = w at hw hw' hne hsplit ⊢
    rw [← hsplit]
    cases after with
    | nil =>
      obtain ⟨prev', hgo⟩ := memtokGo_plain w [] 0 0x20 hw'
      rw [hgo, memtokGo, List.append_nil]
      rw [nextChar_findIdx, List.findIdx_eq_length_of_false fun c hc => by simpa using (hw c hc).2.2]
    | cons c rest =>
      have hc : isTokWs c = true := hafter
      obtain ⟨prev', hgo⟩ := memtokGo_plain w (c :: rest) 0 0x20 hw'
      rw [hgo, memtokGo]
      simp [hc, (tokWs_space hc).2]
  · unfold wsWord
    exact take_length_takeWhile _ _

/-- `mpt_message_argv` on one part in closed form: leading white space goes, unless there is nothing else -/
theorem messageArgv_eq (d : List Byte) (sep : Byte) :
    messageArgv d sep =
      if d.isEmpty then none else if sep = 0 then some (d, nextChar d 0) else
        let t := if d.dropWhile isSpace = [] then d else d.dropWhile isSpace
        if isGraph sep then some (t, nextChar t sep) else some (t, argWs t) := by
  unfold messageArgv
  cases hf : d.findIdx? (fun c => !isSpace c) with
  | none =>
    have hdw : d.dropWhile isSpace = [] := by
      rw [List.dropWhile_eq_drop_findIdx_not, List.findIdx?_eq_none_iff_findIdx_eq.mp hf, List.drop_length]
    simp only [hdw, if_true]
  | some p =>
    obtain ⟨hp, rfl⟩ := List.findIdx?_eq_some_iff_findIdx_eq.mp hf
    simp only [← List.dropWhile_eq_drop_findIdx_not, if_neg fun hc => Nat.not_le_of_lt hp (List.drop_eq_nil_iff.mp
      (List.dropWhile_eq_drop_findIdx_not ▸ hc))]

/-- the reading of the message `mpt_dispatch_hash` arrived at, in the spec's terms -/
def HashId.cid : HashId → Option Id
  | .id v => some v
  | .fail => none

/-- Cases: no header or no payload: no text.  Separator 0: the text up to the first zero byte.  Graphic separator: the
    text up to it, after the leading white space.  Blank separator and a plain word: that word (one reading).
    Otherwise `memtok` follows quoting rules that `cmdIds` does not mirror, and all that is shown is that the text is
    a non-empty prefix of the trimmed payload. -/
theorem hashId_cmdIds (msg : List Byte) : (hashId msg).cid ∈ cmdIds msg := by
  suffices h : (∃ v, hashId msg = .id v ∧ some v ∈ cmdIds msg) ∨ (hashId msg = .fail ∧ none ∈ cmdIds msg) by
    rcases h with ⟨v, hv, hmem⟩ | ⟨hf, hmem⟩
    · rw [hv]; exact hmem
    · rw [hf]; exact hmem
  unfold hashId cmdIds
  match msg with
  | [] => right; simp
  | [_] => right; simp
  | ty :: arg :: payload =>
    simp only
    generalize (if ty = msgCommand then arg else 0) = sep
    rw [messageArgv_eq]
    by_cases hemp : payload = []
    · subst hemp; right; simp [prefixes, plainWord, wsWord]
    · have hne : payload.isEmpty = false := by simpa using hemp
      simp only [hne, Bool.false_eq_true, if_false]
      by_cases hs0 : sep = 0
      · subst hs0
        simp only [if_true]
        have hlen := nextChar_len payload 0
        by_cases hz : nextChar payload 0 = 0
        · right
          simp only [hz, if_true, true_and]
          have : (payload.takeWhile (· != 0)).isEmpty = true := by
            rw [List.isEmpty_iff_length_eq_zero, ← hlen]; exact hz
          simp [this]
        · left
          simp only [hz, if_false]
          have hnz : (payload.takeWhile (· != 0)).isEmpty = false := by
            rw [← Bool.not_eq_true, List.isEmpty_iff_length_eq_zero, ← hlen]; exact hz
          have hlast : payload[nextChar payload 0 - 1]? ≠ some 0 := getElem_lt_nextChar (by omega)
          simp only [hlast, and_false, if_false, hnz, Bool.false_eq_true]
          refine ⟨_, rfl, ?_⟩
          rw [take_nextChar, mptHash_eq]; simp
      · simp only [hs0, if_false, false_and]
        by_cases hgr : isGraph sep = true
        · -- both sides now speak of the same `takeWhile (· != sep)`; what is left is which list `cmdIds` builds when it
          -- is empty
          simp only [hgr, if_true, nextChar_len, take_length_takeWhile, mptHash_eq]
          by_cases ht : payload.dropWhile isSpace = []
          · simp only [ht, if_true, List.takeWhile_nil, List.isEmpty_nil]
            by_cases hz : payload.takeWhile (· != sep) = [] <;> simp [hz]
          · simp only [ht, if_false]
            by_cases hz : (payload.dropWhile isSpace).takeWhile (· != sep) = [] <;> simp [hz]
            split <;> simp
        · -- white-space separated arguments with quoting
          have hgr' : isGraph sep = false := by simpa using hgr
          simp only [hgr', Bool.false_eq_true, if_false]
          by_cases hp : plainWord payload = true
          · -- plain command word: exactly one reading
            obtain ⟨hne', hlen, htake⟩ := plain_argWs hp
            have ht : payload.dropWhile isSpace ≠ [] := fun hc => hne' (by unfold wsWord; rw [hc]; rfl)
            have hl0 : (wsWord payload).length ≠ 0 := fun h0 => hne' (List.eq_nil_of_length_eq_zero h0)
            left
            simp only [hp, if_true, ht, if_false, hlen, hl0, htake, mptHash_eq]
            exact ⟨_, rfl, List.mem_singleton.mpr rfl⟩
          · simp only [hp, Bool.false_eq_true, if_false]
            by_cases ht : payload.dropWhile isSpace = []
            · simp only [ht, if_true, List.isEmpty_nil]
              obtain ⟨hle, _⟩ := argWs_spec payload
              by_cases hz : argWs payload = 0
              · right; simp [hz]
              · left
                simp only [hz, if_false]
                refine ⟨_, rfl, ?_⟩
                rw [mptHash_eq]
                simp only [List.mem_cons, reduceCtorEq, List.mem_map, Option.some.injEq, false_or]
                exact ⟨_, take_mem_prefixes (by omega) hle, rfl⟩
            · have hte : (payload.dropWhile isSpace).isEmpty = false := by simpa using ht
              simp only [ht, if_false, hte, Bool.false_eq_true]
              have hhead := List.head?_dropWhile_not isSpace payload
              generalize payload.dropWhile isSpace = t at ht hte hhead
              obtain ⟨hle, hzero⟩ := argWs_spec t
              by_cases hz : argWs t = 0
              · right
                simp only [hz, if_true, true_and]
                rcases hzero hz ht with ⟨c, rest, hc, hws⟩ | h0
                · subst hc
                  simp only [List.head?_cons] at hhead
                  rw [(tokWs_space hws).1] at hhead
                  cases hhead
                · simp [h0]
              · left
                simp only [hz, if_false]
                refine ⟨_, rfl, ?_⟩
                rw [mptHash_eq]
                simp only [List.mem_append, List.mem_map, Option.some.injEq]
                exact Or.inr ⟨_, take_mem_prefixes (by omega) hle, rfl⟩

end Mpt.Dispatch
