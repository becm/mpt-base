/-
  The configuration tree (node_query / node_assign / remove of config_global.c on ordered trees)
  refines the path -> value map.

  First the notions the statements of C10 are written in: `valueAt`, `Uniq`, the histories `Op` with one step of the tree
  (`stepM`) and of the map (`stepS`), and `Agree`.

  `alterAt leaf` is the walk that remove, clear and unset share; what such a walk does to the value read at any
  key (`valueAt_alterAt`) and to sibling uniqueness (`Uniq_alterAt`) is proved once.  An assignment is
  `ensure` (make the path exist, as `make_global` does for a view's base) followed by such a walk that sets the
  value of the last node (`nodeAssign_eq`).  Clearing beneath a node and dropping its value (remove through a view with an
  empty / NULL path) are two more such walks; assign / query / remove through a view act at `base ++ path`
  (`configAssign_ok`, `configQuery_ok`, `configRemove_ok`, `configRemoveP_empty`, `configRemoveP_null`).

  Last the map side: every tree operation reads as "the keys in `Q` read `r`, the others what they read", the map
  operations as the same (`get_filter`, `get_set`), so agreement is kept step by step (`agree_hide`, `agree_step`,
  `agree_foldl`).
-/
import MptModel.Impl.Config
import MptModel.Spec.PathMap
import MptModel.Lemmas.ListFacts
namespace Mpt.Config
open Mpt Mpt.PathMap

/-- the value a query for exactly this path finds (`none`: no such node, or a node without value) -/
def valueAt (l : List CNode) (k : Key) : Option Value := (findExact l k).bind CNode.value

/-- sibling names are unique, at every level -/
def Uniq : List CNode → Prop
  | [] => True
  | (.mk n _ ks) :: ts => (∀ c ∈ ts, c.name ≠ n) ∧ Uniq ks ∧ Uniq ts

/-- the calls of a history: assign a value at a path, remove a path -/
inductive Op where
  | set (k : Key) (v : Value)
  | del (k : Key)

def Op.key : Op → Key
  | .set k _ => k
  | .del k => k

/-- one step of the tree model (assign / remove of the global configuration object) -/
def stepM (l : List CNode) : Op → List CNode
  | .set k v => (nodeAssign l k v).getD l
  | .del k => (removeExact l k).getD l

/-- the same step on the map -/
def stepS (m : PMap) : Op → PMap
  | .set k v => PathMap.set m k v
  | .del k => removePrefix m k

/-- every non-empty path reads in the tree what the map holds (the empty path names no node) -/
def Agree (l : List CNode) (m : PMap) : Prop := ∀ k, k ≠ [] → valueAt l k = PathMap.get m k

theorem locate_eq : ∀ (l : List CNode) (nm : List Byte), locate l nm = l.findIdx? (fun c => c.name = nm)
  | [], _ => rfl
  | c :: cs, nm => by simp [locate, List.findIdx?_cons, locate_eq cs nm]

theorem locate_name {l : List CNode} {nm : List Byte} {i : Nat} (h : locate l nm = some i) :
    ∃ c, l[i]? = some c ∧ c.name = nm := by
  rw [locate_eq] at h
  obtain ⟨c, hc, hn⟩ := getElem?_of_findIdx? h
  exact ⟨c, hc, by simpa using hn⟩

theorem locate_lt {l : List CNode} {nm : List Byte} {i : Nat} (h : locate l nm = some i) : i < l.length := by
  rw [locate_eq, List.findIdx?_eq_some_iff_getElem] at h
  exact h.1

theorem locate_none_iff {l : List CNode} {nm : List Byte} : locate l nm = none ↔ ∀ c ∈ l, c.name ≠ nm := by
  simp [locate_eq, List.findIdx?_eq_none_iff]

theorem locate_append_none {l : List CNode} {nm : List Byte} (h : locate l nm = none) (m : List CNode) :
    locate (l ++ m) nm = (locate m nm).map (· + l.length) := by
  rw [locate_eq] at h
  simp [locate_eq, List.findIdx?_append, h]

theorem locate_append_some {l : List CNode} {nm : List Byte} {i : Nat} (h : locate l nm = some i) (m : List CNode) :
    locate (l ++ m) nm = some i := by
  rw [locate_eq] at h
  simp [locate_eq, List.findIdx?_append, h]
theorem locate_set : ∀ {l : List CNode} {i : Nat} {c : CNode} {nm : List Byte},
    (∀ d, l[i]? = some d → c.name = d.name) → locate (l.set i c) nm = locate l nm
  | [], _, _, _, _ => by simp
  | d :: ts, 0, c, nm, hc => by
    have := hc d (by simp)
    simp [List.set, locate, this]
  | d :: ts, j + 1, c, nm, hc => by
    simp only [List.set, locate]
    rw [locate_set (fun e he => hc e (by simpa using he))]

theorem chain_ne_nil (e : List Byte) (es : Key) (v : Option Value) : chain (e :: es) v ≠ [] := by
  cases es <;> simp [chain]

@[simp] theorem CNode.name_mk (n : List Byte) (v : Option (List Byte)) (k : List CNode) : (CNode.mk n v k).name = n := rfl
@[simp] theorem CNode.value_mk (n : List Byte) (v : Option (List Byte)) (k : List CNode) : (CNode.mk n v k).value = v := rfl
@[simp] theorem CNode.kids_mk (n : List Byte) (v : Option (List Byte)) (k : List CNode) : (CNode.mk n v k).kids = k := rfl

theorem valueAt_nil_key (l : List CNode) : valueAt l [] = none := by simp [valueAt, findExact]

theorem valueAt_cons_key (l : List CNode) (e : List Byte) (es : Key) :
    valueAt l (e :: es) =
      match locate l e with
      | none => none
      | some i =>
        match l[i]? with
        | none => none
        | some c => if es.isEmpty then c.value else valueAt c.kids es := by
  simp only [valueAt, findExact]
  cases h1 : locate l e with
  | none => simp
  | some i =>
    simp only
    cases h2 : l[i]? with
    | none => simp
    | some c => by_cases h : es.isEmpty <;> simp_all

theorem valueAt_at {l : List CNode} {e : List Byte} {i : Nat} {c : CNode} (h : locate l e = some i) (hc : l[i]? = some c)
    (es : Key) : valueAt l (e :: es) = if es.isEmpty then c.value else valueAt c.kids es := by
  rw [valueAt_cons_key, h]
  simp only [hc]

theorem valueAt_nil_list (k : Key) : valueAt [] k = none := by
  cases k <;> simp [valueAt, findExact, locate]

theorem valueAt_singleton (c : CNode) (e : List Byte) (es : Key) :
    valueAt [c] (e :: es) = if e = c.name then (if es.isEmpty then c.value else valueAt c.kids es) else none := by
  by_cases he : c.name = e
  · simp [valueAt_cons_key, locate, he]
  · have he' : ¬ e = c.name := fun h => he h.symm
    simp [valueAt_cons_key, locate, he, he']

theorem valueAt_cons_skip {c : CNode} {ts : List CNode} {e : List Byte} (h : c.name ≠ e) (es : Key) :
    valueAt (c :: ts) (e :: es) = valueAt ts (e :: es) := by
  rw [valueAt_cons_key, valueAt_cons_key]
  simp only [locate, h, ↓reduceIte]
  cases locate ts e with
  | none => simp
  | some j => simp

theorem valueAt_cons_hit {c : CNode} {ts : List CNode} {e : List Byte} (h : c.name = e) (es : Key) :
    valueAt (c :: ts) (e :: es) = if es.isEmpty then c.value else valueAt c.kids es := by
  rw [valueAt_cons_key]
  simp [locate, h]

theorem valueAt_chain : ∀ (k : Key) (v : Option Value) (k' : Key), k ≠ [] →
    valueAt (chain k v) k' = if k' = k then v else none
  | [], _, _, h => absurd rfl h
  | _ :: _, _, [], _ => by simp [valueAt_nil_key]
  | [e], v, e' :: es', _ => by
    cases es' <;> simp [chain, valueAt_singleton, valueAt_nil_list]
  | e :: e2 :: es, v, e' :: es', _ => by
    rw [chain, valueAt_singleton]
    cases es' with
    | nil => simp
    | cons a as => by_cases he : e' = e <;> simp [he, valueAt_chain (e2 :: es) v (a :: as) (by simp)]
theorem valueAt_append_none {l : List CNode} {e : List Byte} (h : locate l e = none) (m : List CNode) (es : Key) :
    valueAt (l ++ m) (e :: es) = valueAt m (e :: es) := by
  rw [valueAt_cons_key, valueAt_cons_key, locate_append_none h]
  cases hm : locate m e with
  | none => simp
  | some j =>
    simp only [Option.map_some]
    rw [List.getElem?_append_right (by omega)]
    simp

theorem valueAt_append_some {l : List CNode} {e : List Byte} {i : Nat} (h : locate l e = some i) (m : List CNode) (es : Key) :
    valueAt (l ++ m) (e :: es) = valueAt l (e :: es) := by
  rw [valueAt_cons_key, valueAt_cons_key, locate_append_some h, h]
  simp only
  rw [List.getElem?_append_left (locate_lt h)]

theorem valueAt_set {l : List CNode} {e : List Byte} {i : Nat} {c c' : CNode}
    (h : locate l e = some i) (hc : l[i]? = some c) (hn : c'.name = c.name) (e' : List Byte) (es' : Key) :
    valueAt (l.set i c') (e' :: es') =
      if e' = e then (if es'.isEmpty then c'.value else valueAt c'.kids es') else valueAt l (e' :: es') := by
  have hi := locate_lt h
  have hloc : locate (l.set i c') e' = locate l e' := locate_set (by intro d hd; rw [hc] at hd; cases hd; exact hn)
  rw [valueAt_cons_key, hloc]
  by_cases he : e' = e
  · subst he
    simp only [h, ↓reduceIte]
    simp [hi]
  · simp only [he, ↓reduceIte]
    rw [valueAt_cons_key]
    cases hj : locate l e' with
    | none => simp
    | some j =>
      have hji : j ≠ i := by
        rintro rfl
        obtain ⟨d, hd, hdn⟩ := locate_name hj
        obtain ⟨d', hd', hdn'⟩ := locate_name h
        rw [hd] at hd'
        cases hd'
        exact he (hdn.symm.trans hdn')
      simp only
      rw [List.getElem?_set_ne (Ne.symm hji)]

/-- `hq` compares `c` and its replacement `c'` alone, each as a one-node tree; the conclusion is the `hleaf` that
    `valueAt_alterAt` asks of a leaf that replaces the node found. -/
theorem valueAt_set_node {l : List CNode} {e : List Byte} {i : Nat} {c : CNode} (c' : CNode) (h : locate l e = some i)
    (hc : l[i]? = some c) (hn : c'.name = c.name) {q : Key → Bool} {r : Option Value}
    (hq : ∀ es', valueAt [c'] (c.name :: es') = if q es' then r else valueAt [c] (c.name :: es')) (e' : List Byte) (es' : Key) :
    valueAt (l.set i c') (e' :: es') = if e' = e ∧ q es' = true then r else valueAt l (e' :: es') := by
  rw [valueAt_set h hc hn]
  by_cases he : e' = e
  · subst he
    have := hq es'
    rw [valueAt_singleton, valueAt_singleton, hn] at this
    simpa [valueAt_at h hc] using this
  · simp [he]

theorem nodeAssign_some : ∀ (k : Key) (l : List CNode) (v : Value), k ≠ [] → ∃ l', nodeAssign l k v = some l'
  | [], _, _, h => absurd rfl h
  | e :: es, l, v, _ => by
    simp only [nodeAssign]
    cases hl : locate l e with
    | none => exact ⟨_, rfl⟩
    | some i =>
      obtain ⟨c, hc, _⟩ := locate_name hl
      simp only [hc]
      by_cases hes : es.isEmpty
      · simp [hes]
      · simp only [hes]
        have : es ≠ [] := by intro h; simp [h] at hes
        obtain ⟨ks', hk⟩ := nodeAssign_some es c.kids v this
        simp [hk]

theorem Uniq_cons (c : CNode) (ts : List CNode) :
    Uniq (c :: ts) ↔ (∀ d ∈ ts, d.name ≠ c.name) ∧ Uniq c.kids ∧ Uniq ts := by
  cases c with
  | mk n v ks => simp [Uniq]

theorem Uniq_iff : ∀ (l : List CNode), Uniq l ↔ (l.map (·.name)).Nodup ∧ ∀ c ∈ l, Uniq c.kids
  | [] => by simp [Uniq]
  | (.mk n v ks) :: ts => by
    simp only [Uniq, Uniq_iff ts, List.map_cons, List.nodup_cons, List.mem_map, List.mem_cons, forall_eq_or_imp, CNode.name, CNode.kids]
    constructor
    · rintro ⟨h1, h2, h3, h4⟩
      exact ⟨⟨fun ⟨c, hc, hn⟩ => h1 c hc hn, h3⟩, h2, h4⟩
    · rintro ⟨⟨h1, h3⟩, h2, h4⟩
      exact ⟨fun c hc hn => h1 ⟨c, hc, hn⟩, h2, h3, h4⟩

theorem Uniq_getElem {l : List CNode} {i : Nat} {c : CNode} (hu : Uniq l) (h : l[i]? = some c) : Uniq c.kids :=
  ((Uniq_iff l).1 hu).2 c (List.mem_of_getElem? h)

theorem Uniq_eraseIdx {l : List CNode} (i : Nat) (hu : Uniq l) : Uniq (l.eraseIdx i) := by
  rw [Uniq_iff] at hu ⊢
  exact ⟨hu.1.sublist ((List.eraseIdx_sublist l i).map _), fun c hc => hu.2 c (List.mem_of_mem_eraseIdx hc)⟩

theorem Uniq_append {l m : List CNode} (hl : Uniq l) (hm : Uniq m) (hd : ∀ c ∈ l, ∀ d ∈ m, d.name ≠ c.name) : Uniq (l ++ m) := by
  rw [Uniq_iff] at hl hm ⊢
  refine ⟨?_, fun c hc => (List.mem_append.1 hc).elim (hl.2 c) (hm.2 c)⟩
  rw [List.map_append, List.nodup_append]
  refine ⟨hl.1, hm.1, ?_⟩
  intro a ha b hb hab
  obtain ⟨c, hc, rfl⟩ := List.mem_map.1 ha
  obtain ⟨d, hd', rfl⟩ := List.mem_map.1 hb
  exact hd c hc d hd' hab.symm

theorem Uniq_set {l : List CNode} {i : Nat} {c c' : CNode} (hu : Uniq l) (h : l[i]? = some c) (hn : c'.name = c.name)
    (hk : Uniq c'.kids) : Uniq (l.set i c') := by
  rw [Uniq_iff] at hu ⊢
  have hmap : (l.set i c').map (·.name) = l.map (·.name) := by
    rw [List.map_set, hn]
    apply List.ext_getElem? 
    intro j
    by_cases hj : i = j
    · subst hj
      obtain ⟨hi, hc⟩ := List.getElem?_eq_some_iff.1 h
      simp [hi, hc]
    · simp [hj]
  refine ⟨hmap ▸ hu.1, fun d hd => ?_⟩
  rcases List.mem_or_eq_of_mem_set hd with h1 | rfl
  · exact hu.2 d h1
  · exact hk
theorem valueAt_eraseIdx : ∀ {l : List CNode} {e : List Byte} {i : Nat}, Uniq l → locate l e = some i →
    ∀ (e' : List Byte) (es' : Key),
    valueAt (l.eraseIdx i) (e' :: es') = if e' = e then none else valueAt l (e' :: es')
  | [], _, _, _, h, _, _ => by simp [locate] at h
  | c :: ts, e, i, hu, h, e', es' => by
    rw [Uniq_cons] at hu
    simp only [locate] at h
    by_cases hc : c.name = e
    · simp [hc] at h; subst h
      simp only [List.eraseIdx_zero, List.tail_cons]
      by_cases he : e' = e
      · subst he
        -- `Uniq`: behind the erased node no other node has its name
        have : locate ts e' = none := locate_none_iff.2 (fun d hd => by rw [← hc]; exact hu.1 d hd)
        rw [valueAt_cons_key, this]
        simp
      · simp only [he, ↓reduceIte]
        rw [valueAt_cons_skip (by rw [hc]; exact fun h => he h.symm)]
    · simp [hc] at h
      obtain ⟨j, hj, rfl⟩ := h
      simp only [List.eraseIdx_cons_succ]
      by_cases hce : c.name = e'
      · have he : ¬ e' = e := by rintro rfl; exact hc hce
        rw [valueAt_cons_hit hce, valueAt_cons_hit hce]
        simp [he]
      · rw [valueAt_cons_skip hce, valueAt_cons_skip hce]
        exact valueAt_eraseIdx hu.2.2 hj e' es'


theorem Uniq_chain : ∀ (k : Key) (v : Option Value), Uniq (chain k v)
  | [], _ => by simp [chain, Uniq]
  | [e], v => by simp [chain, Uniq]
  | e :: e2 :: es, v => by
    simp only [chain, Uniq]
    exact ⟨by simp, Uniq_chain (e2 :: es) v, trivial⟩

theorem chain_names (e : List Byte) (es : Key) (v : Option Value) : ∀ d ∈ chain (e :: es) v, d.name = e := by
  cases es <;> simp [chain, CNode.name]

/-- `make_global` never changes what any path reads (new nodes have no value) -/
theorem valueAt_ensure : ∀ (b : Key) (l : List CNode) (k : Key), valueAt (ensure l b) k = valueAt l k
  | [], l, k => by simp [ensure]
  | e :: es, l, k => by
    cases k with
    | nil => simp [valueAt_nil_key]
    | cons e' es' =>
      simp only [ensure]
      cases h : locate l e with
      | none =>
        simp only
        cases h' : locate l e' with
        | none =>
          rw [valueAt_append_none h', valueAt_chain _ _ _ (by simp)]
          simp [valueAt_cons_key, h']
        | some j => rw [valueAt_append_some h']
      | some i =>
        simp only
        cases hc : l[i]? with
        | none => rfl
        | some c =>
          cases c with
          | mk n val ks =>
            simp only
            rw [valueAt_set h hc (by simp [CNode.name]) e' es']
            by_cases he : e' = e
            · subst he
              rw [valueAt_at h hc]
              by_cases hes : es'.isEmpty <;> simp [hes, valueAt_ensure es ks es']
            · simp [he]

theorem Uniq_ensure : ∀ (b : Key) (l : List CNode), Uniq l → Uniq (ensure l b)
  | [], l, h => by simpa [ensure] using h
  | e :: es, l, hu => by
    simp only [ensure]
    cases h : locate l e with
    | none =>
      simp only
      refine Uniq_append hu (Uniq_chain _ _) ?_
      intro c hc d hd
      rw [chain_names e es none d hd]
      exact fun he => (locate_none_iff.1 h) c hc he.symm
    | some i =>
      simp only
      cases hc : l[i]? with
      | none => exact hu
      | some c =>
        cases c with
        | mk n val ks =>
          simp only
          exact Uniq_set hu hc (by simp [CNode.name]) (by simpa using Uniq_ensure es ks (by simpa using Uniq_getElem hu hc))


/-- the walk shared by remove, clear, unset, the emptying of an item (`wipeC` of `ConfigItemsMap`) and (behind `ensure`) assignment: follow `k`, apply
    `leaf` to the list in which the last element is found -/
def alterAt (leaf : List CNode → Nat → CNode → List CNode) : List CNode → Key → Option (List CNode)
  | _, [] => none
  | l, e :: es =>
    match locate l e with
    | none => none
    | some i =>
      match l[i]? with
      | none => none
      | some c =>
        if es.isEmpty then some (leaf l i c)
        else
          match alterAt leaf c.kids es with
          | some ks' => some (l.set i (.mk c.name c.value ks'))
          | none => none

abbrev eraseLeaf : List CNode → Nat → CNode → List CNode := fun l i _ => l.eraseIdx i
abbrev clearLeaf : List CNode → Nat → CNode → List CNode := fun l i c => l.set i (.mk c.name c.value [])
abbrev unsetLeaf : List CNode → Nat → CNode → List CNode := fun l i c => l.set i (.mk c.name none c.kids)

theorem removeExact_eq : ∀ (k : Key) (l : List CNode), removeExact l k = alterAt eraseLeaf l k
  | [], _ => rfl
  | e :: es, l => by simp only [removeExact, alterAt, removeExact_eq es]; rfl

theorem clearExact_eq : ∀ (k : Key) (l : List CNode),
    clearExact l k = alterAt clearLeaf l k
  | [], _ => rfl
  | e :: es, l => by simp only [clearExact, alterAt, clearExact_eq es]; rfl

theorem unsetExact_eq : ∀ (k : Key) (l : List CNode),
    unsetExact l k = alterAt unsetLeaf l k
  | [], _ => rfl
  | e :: es, l => by simp only [unsetExact, alterAt, unsetExact_eq es]; rfl

theorem alterAt_isSome {leaf : List CNode → Nat → CNode → List CNode} : ∀ (k : Key) (l : List CNode),
    (alterAt leaf l k).isSome = (findExact l k).isSome
  | [], _ => rfl
  | e :: es, l => by
    simp only [alterAt, findExact]
    cases hl : locate l e with
    | none => rfl
    | some i =>
      dsimp only
      cases hc : l[i]? with
      | none => rfl
      | some c =>
        dsimp only
        by_cases hes : es.isEmpty
        · simp [hes]
        · have ih := alterAt_isSome (leaf := leaf) es c.kids
          simp only [hes, Bool.false_eq_true, ↓reduceIte, ← ih]
          cases alterAt leaf c.kids es <;> rfl

theorem Uniq_alterAt {leaf : List CNode → Nat → CNode → List CNode}
    (hleaf : ∀ l i c, Uniq l → l[i]? = some c → Uniq (leaf l i c)) :
    ∀ (k : Key) (l l' : List CNode), Uniq l → alterAt leaf l k = some l' → Uniq l'
  | [], _, _, _, h => by simp [alterAt] at h
  | e :: es, l, l', hu, h => by
    simp only [alterAt] at h
    cases hl : locate l e with
    | none => simp [hl] at h
    | some i =>
      obtain ⟨c, hc, _⟩ := locate_name hl
      simp only [hl, hc] at h
      by_cases hes : es.isEmpty
      · simp only [hes, ↓reduceIte, Option.some.injEq] at h
        exact h ▸ hleaf l i c hu hc
      · simp only [hes, Bool.false_eq_true, ↓reduceIte] at h
        cases hk : alterAt leaf c.kids es with
        | none => simp [hk] at h
        | some ks' =>
          simp only [hk, Option.some.injEq] at h
          exact h ▸ Uniq_set hu hc rfl (Uniq_alterAt hleaf es c.kids ks' (Uniq_getElem hu hc) hk)

theorem Uniq_alterAt_getD {leaf : List CNode → Nat → CNode → List CNode}
    (hleaf : ∀ l i c, Uniq l → l[i]? = some c → Uniq (leaf l i c)) (k : Key) (l : List CNode) (hu : Uniq l) :
    Uniq ((alterAt leaf l k).getD l) := by
  cases h : alterAt leaf l k with
  | none => exact hu
  | some l' => exact Uniq_alterAt hleaf k l l' hu h

/-- `Q k k'` = "an operation at `k` changes what `k'` reads" (to `none` for remove, clear, unset — hence the name —, to the
    new value for an assignment) is decided element by element along `k`; what `Q []` says of the rest of the key is the
    behaviour of the operation at the node itself (the node and everything beneath: prefix; everything beneath: strict
    prefix; the node only: equality) -/
structure Hides (Q : Key → Key → Bool) : Prop where
  nil : ∀ e es, Q (e :: es) [] = false
  cons : ∀ e es e' es', Q (e :: es) (e' :: es') = (e == e' && Q es es')

theorem Hides.sub_prefix {Q : Key → Key → Bool} (hQ : Hides Q) : ∀ (k k' : Key), Q k k' = true → k.isPrefixOf k' = true
  | [], _, _ => by simp [List.isPrefixOf]
  | e :: es, [], h => by simp [hQ.nil] at h
  | e :: es, e' :: es', h => by
    rw [hQ.cons, Bool.and_eq_true] at h
    simp only [List.isPrefixOf, Bool.and_eq_true]
    exact ⟨h.1, hQ.sub_prefix es es' h.2⟩

/-- If `leaf`, applied to the list `l` in which the last element `e` of the path is found (lists satisfying `P`, which
    children inherit), makes the keys `e :: es'` with `Q [] es'` read `r` and changes no other key of `l`, then the walk to
    `k` makes the keys `k'` with `Q k k'` read `r` and changes no other. -/
theorem valueAt_alterAt {leaf : List CNode → Nat → CNode → List CNode} {Q : Key → Key → Bool} (hQ : Hides Q)
    {P : List CNode → Prop} (hP : ∀ (l : List CNode) (i : Nat) (c : CNode), P l → l[i]? = some c → P c.kids)
    {r : Option Value} (hleaf : ∀ l e i c, P l → locate l e = some i → l[i]? = some c → ∀ e' es',
      valueAt (leaf l i c) (e' :: es') = if e' = e ∧ Q [] es' = true then r else valueAt l (e' :: es')) :
    ∀ (k : Key) (l l' : List CNode), P l → alterAt leaf l k = some l' →
    ∀ k', valueAt l' k' = if Q k k' then r else valueAt l k'
  | [], _, _, _, h, _ => by simp [alterAt] at h
  | e :: es, l, l', hp, h, k' => by
    simp only [alterAt] at h
    cases k' with
    | nil => simp [valueAt_nil_key, hQ.nil]
    | cons e' es' =>
      cases hl : locate l e with
      | none => simp [hl] at h
      | some i =>
        obtain ⟨c, hc, _⟩ := locate_name hl
        simp only [hl, hc] at h
        rw [hQ.cons]
        by_cases hes : es.isEmpty
        · simp only [hes, ↓reduceIte, Option.some.injEq] at h
          have hes' : es = [] := by simpa using hes
          subst h hes'
          rw [hleaf l e i c hp hl hc]
          by_cases he : e' = e
          · simp [he]
          · have : (e == e') = false := by simpa using fun h' : e = e' => he h'.symm
            simp [he, this]
        · simp only [hes, Bool.false_eq_true, ↓reduceIte] at h
          cases hk : alterAt leaf c.kids es with
          | none => simp [hk] at h
          | some ks' =>
            simp only [hk, Option.some.injEq] at h
            subst h
            rw [valueAt_set (c' := .mk c.name c.value ks') hl hc rfl]
            by_cases he : e' = e
            · subst he
              rw [valueAt_at hl hc]
              simp only [↓reduceIte, beq_self_eq_true, Bool.true_and, CNode.value_mk, CNode.kids_mk]
              by_cases hes'' : es'.isEmpty
              · -- `k'` ends at this node and `k` goes on: the node keeps its value, and `Q` says no
                have : es' = [] := by simpa using hes''
                subst this
                cases es with
                | nil => simp at hes
                | cons a as => simp [hQ.nil]
              · simp only [hes'', Bool.false_eq_true, ↓reduceIte]
                exact valueAt_alterAt hQ hP hleaf es c.kids ks' (hP l i c hp hc) hk es'
            · have : (e == e') = false := by simpa using fun h' : e = e' => he h'.symm
              simp [he, this]

theorem findExact_prefix_none : ∀ (b : Key) (l : List CNode) (k : Key), b ≠ [] → findExact l b = none →
    b.isPrefixOf k = true → findExact l k = none
  | [], _, _, h, _, _ => absurd rfl h
  | e :: es, l, k, _, hf, hp => by
    cases k with
    | nil => simp [List.isPrefixOf] at hp
    | cons e' es' =>
      simp only [List.isPrefixOf, Bool.and_eq_true, beq_iff_eq] at hp
      obtain ⟨rfl, hp'⟩ := hp
      simp only [findExact] at hf ⊢
      cases h : locate l e with
      | none => simp
      | some i =>
        simp only [h] at hf ⊢
        cases hc : l[i]? with
        | none => simp
        | some c =>
          simp only [hc] at hf ⊢
          cases es with
          | nil => simp at hf
          | cons a as =>
            cases es' with
            | nil => simp [List.isPrefixOf] at hp'
            | cons a' as' => simpa using findExact_prefix_none (a :: as) c.kids (a' :: as') (by simp) (by simpa using hf) hp'


/-- `valueAt_alterAt` for `r = none` also covers a path that does not exist: nothing is changed, and nothing was readable
    at the keys in `Q k` (they lie at or beneath `k`) -/
theorem valueAt_alterAt_getD {leaf : List CNode → Nat → CNode → List CNode} {Q : Key → Key → Bool} (hQ : Hides Q)
    {P : List CNode → Prop} (hP : ∀ (l : List CNode) (i : Nat) (c : CNode), P l → l[i]? = some c → P c.kids)
    (hleaf : ∀ l e i c, P l → locate l e = some i → l[i]? = some c → ∀ e' es',
      valueAt (leaf l i c) (e' :: es') = if e' = e ∧ Q [] es' = true then none else valueAt l (e' :: es'))
    (k : Key) (hk : k ≠ []) (l : List CNode) (hp : P l) (k' : Key) :
    valueAt ((alterAt leaf l k).getD l) k' = if Q k k' then none else valueAt l k' := by
  cases h : alterAt leaf l k with
  | some l' => exact valueAt_alterAt hQ hP hleaf k l l' hp h k'
  | none =>
    by_cases hq : Q k k' = true
    · have hf : findExact l k = none := by simpa [h] using alterAt_isSome (leaf := leaf) k l
      simp [hq, valueAt, findExact_prefix_none k l k' hk hf (hQ.sub_prefix k k' hq)]
    · simp [hq]

theorem hides_prefix : Hides List.isPrefixOf := ⟨fun _ _ => rfl, fun _ _ _ _ => rfl⟩

theorem valueAt_remove (k : Key) (hk : k ≠ []) (l : List CNode) (hu : Uniq l) (k' : Key) :
    valueAt ((removeExact l k).getD l) k' = if k.isPrefixOf k' then none else valueAt l k' := by
  rw [removeExact_eq]
  refine valueAt_alterAt_getD hides_prefix (fun _ _ _ h hc => Uniq_getElem h hc) ?_ k hk l hu k'
  intro l e i c hu hl hc e' es'
  simp [valueAt_eraseIdx hu hl, List.isPrefixOf]

theorem Uniq_remove (k : Key) (l : List CNode) (hu : Uniq l) : Uniq ((removeExact l k).getD l) := by
  rw [removeExact_eq]
  exact Uniq_alterAt_getD (fun l i _ hu _ => Uniq_eraseIdx i hu) k l hu



theorem hides_exact : Hides (fun b k' => k' == b) :=
  ⟨fun _ _ => rfl, fun e es e' es' => by
    by_cases he : e = e'
    · simp [he]
    · have h1 : (e == e') = false := by simpa using he
      have h2 : (e' == e) = false := by simpa using fun h : e' = e => he h.symm
      simp [h1, h2]⟩

/-- `mpt_meta_set` on the node found -/
abbrev setLeaf (v : Value) : List CNode → Nat → CNode → List CNode := fun l i c => l.set i (.mk c.name (some v) c.kids)

theorem alterAt_chain (v : Value) : ∀ (k : Key), k ≠ [] → alterAt (setLeaf v) (chain k none) k = some (chain k (some v))
  | [], h => absurd rfl h
  | [e], _ => by simp [alterAt, chain, locate]
  | e :: e2 :: es, _ => by
    rw [chain, alterAt]
    simp [locate, chain, alterAt_chain v (e2 :: es) (by simp)]

theorem nodeAssign_eq (v : Value) : ∀ (k : Key) (l : List CNode),
    nodeAssign l k v = alterAt (setLeaf v) (ensure l k) k
  | [], _ => rfl
  | e :: es, l => by
    -- element missing: `ensure` appends the chain, in which the walk sets the last node (`alterAt_chain`); element there:
    -- both sides descend into its children
    simp only [nodeAssign, ensure]
    cases hl : locate l e with
    | none =>
      have hloc : locate (l ++ chain (e :: es) none) e = some l.length := by
        rw [locate_append_none hl]
        cases es <;> simp [chain, locate]
      rw [alterAt]
      simp only [hloc]
      cases es with
      | nil => simp [chain]
      | cons e2 es' => simp [chain, alterAt_chain v (e2 :: es') (by simp)]
    | some i =>
      obtain ⟨c, hc, _⟩ := locate_name hl
      obtain ⟨n, val, ks⟩ := c
      have hi := locate_lt hl
      rw [alterAt]
      simp only [hc, locate_set (c := .mk n val (ensure ks es)) (fun d hd => by rw [hc] at hd; cases hd; rfl), hl]
      by_cases hes : es.isEmpty
      · have : es = [] := by simpa using hes
        subst this
        simp [hi, ensure]
      · simp [hes, hi, nodeAssign_eq v es ks]
        cases alterAt (setLeaf v) (ensure ks es) es <;> simp

theorem valueAt_assign (k : Key) (l l' : List CNode) (v : Value) (h : nodeAssign l k v = some l') (k' : Key) :
    valueAt l' k' = if k' = k then some v else valueAt l k' := by
  rw [nodeAssign_eq] at h
  have := valueAt_alterAt hides_exact (P := fun _ => True) (fun _ _ _ _ _ => trivial) (r := some v) ?_ k _ l' trivial h k'
  · simpa [valueAt_ensure] using this
  · exact fun l e i c _ hl hc => valueAt_set_node (.mk c.name (some v) c.kids) hl hc rfl fun es' => by cases es' <;> simp [valueAt_singleton]

theorem Uniq_assign (k : Key) (l l' : List CNode) (v : Value) (hu : Uniq l) (h : nodeAssign l k v = some l') : Uniq l' := by
  rw [nodeAssign_eq] at h
  exact Uniq_alterAt (leaf := setLeaf v) (fun l i c hu hc => Uniq_set hu hc rfl (Uniq_getElem (c := c) hu hc)) k _ l'
    (Uniq_ensure k l hu) h


theorem hides_below : Hides (fun b k' => b.isPrefixOf k' && k' != b) :=
  ⟨fun _ _ => rfl, fun e es e' es' => by
    by_cases he : e = e'
    · simp [List.isPrefixOf, he, bne]
    · have h1 : (e == e') = false := by simpa using he
      simp [List.isPrefixOf, h1]⟩

theorem valueAt_clear (b : Key) (hb : b ≠ []) (l : List CNode) (k' : Key) :
    valueAt ((clearExact l b).getD l) k' = if (b.isPrefixOf k' && k' != b) then none else valueAt l k' := by
  rw [clearExact_eq]
  refine valueAt_alterAt_getD hides_below (P := fun _ => True) (fun _ _ _ _ _ => trivial) ?_ b hb l trivial k'
  exact fun l e i c _ hl hc => valueAt_set_node (.mk c.name c.value []) hl hc rfl fun es' => by
    cases es' <;> simp [valueAt_singleton, valueAt_nil_list, List.isPrefixOf]

theorem valueAt_unset (b : Key) (hb : b ≠ []) (l : List CNode) (k' : Key) :
    valueAt ((unsetExact l b).getD l) k' = if k' == b then none else valueAt l k' := by
  rw [unsetExact_eq]
  refine valueAt_alterAt_getD hides_exact (P := fun _ => True) (fun _ _ _ _ _ => trivial) ?_ b hb l trivial k'
  exact fun l e i c _ hl hc => valueAt_set_node (.mk c.name none c.kids) hl hc rfl fun es' => by cases es' <;> simp [valueAt_singleton]

theorem Uniq_clear (b : Key) (l : List CNode) (hu : Uniq l) : Uniq ((clearExact l b).getD l) := by
  rw [clearExact_eq]
  exact Uniq_alterAt_getD (leaf := clearLeaf) (fun l i c hu hc => Uniq_set hu hc rfl (by simp [Uniq])) b l hu

theorem Uniq_unset (b : Key) (l : List CNode) (hu : Uniq l) : Uniq ((unsetExact l b).getD l) := by
  rw [unsetExact_eq]
  exact Uniq_alterAt_getD (leaf := unsetLeaf)
    (fun l i c hu hc => Uniq_set hu hc rfl (Uniq_getElem (c := c) hu hc)) b l hu


theorem configAssign_ok {l l' : List CNode} {b k : Key} {v : Value} (hne : b ++ k ≠ []) :
    configAssign l b k v = .ok l' ↔ nodeAssign (ensure l b) (b ++ k) v = some l' := by
  cases k with
  | nil =>
    have hb : b ≠ [] := by simpa using hne
    simp only [configAssign, hb, ↓reduceIte, List.append_nil]
    cases nodeAssign (ensure l b) b v <;> simp
  | cons e es =>
    simp only [configAssign]
    cases nodeAssign (ensure l b) (b ++ e :: es) v <;> simp

theorem configQuery_ok {l : List CNode} {b k : Key} {x : Value} :
    configQuery l b k = .ok x ↔ valueAt l (b ++ k) = some x := by
  simp only [configQuery, valueAt]
  cases hk : b ++ k with
  | nil => simp [findExact]
  | cons e es =>
    cases hf : findExact l (e :: es) with
    | none => simp [hf]
    | some c => cases hv : c.value <;> simp [hf, hv]

/-- beneath a base that does not exist `removeExact` fails by itself: the test for the base in `configRemove` decides nothing -/
theorem removeExact_below_missing {l : List CNode} {b : Key} (hb : b ≠ []) (h : findExact l b = none) (k : Key) :
    removeExact l (b ++ k) = none := by
  have := findExact_prefix_none b l (b ++ k) hb h (List.isPrefixOf_iff_prefix.2 (List.prefix_append b k))
  simpa [removeExact_eq, this] using alterAt_isSome (leaf := eraseLeaf) (b ++ k) l

/-- the tree after a remove through a view (the 1/0 answer is not characterised) -/
theorem configRemove_ok {l l' : List CNode} {b k : Key} {r : Int} (hk : k ≠ []) (h : configRemove l b k = .ok (l', r)) :
    l' = (removeExact l (b ++ k)).getD l := by
  cases k with
  | nil => exact absurd rfl hk
  | cons e es =>
    simp only [configRemove] at h
    by_cases hl : l.isEmpty
    · simp [hl] at h
    · simp only [hl, Bool.false_eq_true, ↓reduceIte] at h
      by_cases hb : b ≠ [] ∧ (findExact l b).isNone
      · rw [if_pos hb] at h
        rw [removeExact_below_missing hb.1 (by simpa using hb.2)]
        simp at h; exact h.1.symm
      · rw [if_neg hb] at h
        cases hr : removeExact l (b ++ e :: es) <;> simp [hr] at h <;> simp [h.1]


/-- remove through a view with an empty path: `mpt_node_clear` of the base -/
theorem configRemoveP_empty {l l' : List CNode} {b : Key} {r : Int} (hb : b ≠ []) (h : configRemoveP l b (some []) = .ok (l', r)) :
    l' = (clearExact l b).getD l := by
  simp only [configRemoveP, configRemove] at h
  by_cases hl : l.isEmpty
  · simp [hl] at h
  · cases hc : clearExact l b <;> simp [hl, hb, hc] at h <;> simp [h.1]

/-- remove through a view with a NULL path: the value of the base is dropped -/
theorem configRemoveP_null {l l' : List CNode} {b : Key} {r : Int} (hb : b ≠ []) (h : configRemoveP l b none = .ok (l', r)) :
    l' = (unsetExact l b).getD l := by
  simp only [configRemoveP] at h
  by_cases hl : l.isEmpty
  · simp [hl] at h
  · cases hc : unsetExact l b <;> simp [hl, hb, hc] at h <;> simp [h.1]

theorem get_filter (P : Key → Bool) (m : PMap) (k' : Key) :
    PathMap.get (m.filter (fun e => !(P e.1))) k' = if P k' then none else PathMap.get m k' := by
  simp only [PathMap.get]
  rw [List.find?_filter]
  by_cases hp : P k'
  · simp only [hp, ↓reduceIte]
    have : ∀ o : Option (Key × Value), o = none → o.map (fun x => x.2) = none := by intro o h; rw [h]; rfl
    apply this
    apply List.find?_eq_none.2
    intro x _
    by_cases hx : x.1 = k'
    · simp [hx, hp]
    · simp [hx]
  · simp only [hp, Bool.false_eq_true, ↓reduceIte]
    congr 1
    apply find?_congr_mem
    intro x _
    by_cases hx : x.1 = k'
    · simp [hx, hp]
    · simp [hx]

theorem get_set (m : PMap) (k k' : Key) (v : Value) :
    PathMap.get (PathMap.set m k v) k' = if k' = k then some v else PathMap.get m k' := by
  by_cases h : k' = k
  · simp [PathMap.get, PathMap.set, h]
  · have h' : (k == k') = false := by simpa using fun e : k = k' => h e.symm
    simpa [PathMap.get, PathMap.set, List.find?_cons, h', h, bne] using get_filter (fun x => x == k) m k'


theorem agree_hide {l l' : List CNode} {m : PMap} (Q : Key → Bool) (ha : Agree l m)
    (h : ∀ k', valueAt l' k' = if Q k' then none else valueAt l k') : Agree l' (m.filter fun e => !Q e.1) := by
  intro k' hk'
  rw [h, get_filter, ha k' hk']

theorem agree_assign {l l' : List CNode} {m : PMap} {k : Key} {v : Value} (ha : Agree l m) (h : nodeAssign l k v = some l') :
    Agree l' (PathMap.set m k v) := fun k' hk' => by
  rw [valueAt_assign k l l' v h k', get_set, ha k' hk']

theorem agree_nil : Agree [] [] := fun k _ => by simp [valueAt_nil_list, PathMap.get]

theorem agree_step {l : List CNode} {m : PMap} (hu : Uniq l) (ha : Agree l m) (op : Op) (hk : op.key ≠ []) :
    Uniq (stepM l op) ∧ Agree (stepM l op) (stepS m op) := by
  cases op with
  | set k v =>
    obtain ⟨l', hl'⟩ := nodeAssign_some k l v hk
    simp only [stepM, stepS, hl', Option.getD_some]
    exact ⟨Uniq_assign k l l' v hu hl', agree_assign ha hl'⟩
  | del k => exact ⟨Uniq_remove k l hu, agree_hide k.isPrefixOf ha (valueAt_remove k hk l hu)⟩

theorem agree_foldl : ∀ (ops : List Op) (l : List CNode) (m : PMap), Uniq l → Agree l m → (∀ op ∈ ops, op.key ≠ []) →
    Uniq (ops.foldl stepM l) ∧ Agree (ops.foldl stepM l) (ops.foldl stepS m)
  | [], l, m, hu, ha, _ => ⟨hu, ha⟩
  | op :: ops, l, m, hu, ha, hk => by
    obtain ⟨hu', ha'⟩ := agree_step hu ha op (hk op (by simp))
    exact agree_foldl ops _ _ hu' ha' (fun o ho => hk o (by simp [ho]))

end Mpt.Config
