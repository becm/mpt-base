/-
  The buffer-level functions on buffers whose element traits have no callbacks ("plain": raw and plain-old-data
  buffers; C04): each as one chain of tests with an explicit result buffer, and what that buffer reads as a vector.
-/
import MptModel.Lemmas.Heap
import MptModel.Lemmas.HeapVec
namespace Mpt.Heap

/-- `unref` as an equation, for rewriting a call whose result state is needed literally (`unref_fresh_sem`); what `unref` does
    to a buffer of any element type is `unref_spec` (Lemmas/HeapGraph), on which `replaceBuf_some` and `detachCopy_refused` rest -/
theorem unref_plain {s : State} {b : Nat} {x : Buf} (hb : s.buf? b = some x) (hp : PlainT x.traits) :
    unref s b =
      if x.ref = 0 then .ok s ()
      else if x.ref ≠ 1 then .ok (s.setBuf b { x with ref := x.ref - 1 }) ()
      else .ok ((s.setBuf b { x with ref := 0 }).freeBuf b) () := by
  unfold unref
  rw [hb]
  cases ht : x.traits with
  | none => simp only [ht]
  | some t => simp only [ht, (hp t ht).2.1, Option.isSome_none, Bool.false_eq_true, and_false, if_false]

theorem finiTail_plain (s : State) (b : Nat) {x : Buf} (hp : PlainT x.traits) (len : Nat) : finiTail s b x len = .ok s () := by
  unfold finiTail
  cases ht : x.traits with
  | none => simp only [ite_self]
  | some t => simp only [(hp t ht).2.1, Option.isSome_none, Bool.false_eq_true, if_false, ite_self]

theorem poke_eq {s : State} {h nb : Nat} {y : Buf} (hh : s.handle h = some nb) (hy : s.buf? nb = some y)
    (off : Nat) (bytes : List Byte) (fit : off + bytes.length ≤ y.size) :
    poke s h off bytes = .ok (s.setBuf nb { y with data := Mem.write y.data off bytes }) () := by
  unfold poke
  rw [hh]; simp only; rw [hy]; simp only
  rw [if_neg (by omega)]

/-- plain part of `mpt_buffer_set` (whole elements in use): zero the gap, store the bytes -/
def setPlain (z : Buf) (pos : Nat) (bytes : List Byte) : Buf :=
  { z with data := Mem.write (Mem.write z.data z.used (zeros (pos - z.used))) pos bytes,
           used := max z.used (pos + bytes.length) }

theorem bufferSet_plain {s : State} {b : Nat} {z : Buf} (hb : s.buf? b = some z) (hp : PlainT z.traits)
    (ha : z.used % esize z.traits = 0) (pos : Nat) (bytes : List Byte) (hasSrc : Bool) :
    bufferSet s b z.traits pos bytes hasSrc =
      if pos + bytes.length > z.size then .fail s (.err .MissingBuffer)
      else if pos % esize z.traits ≠ 0 ∨ bytes.length % esize z.traits ≠ 0 then .fail s (.err .BadArgument)
      else .ok (s.setBuf b (setPlain z pos bytes))
        (match z.traits with | some t => Int.ofNat (bytes.length / t.size) | none => 0) := by
  unfold bufferSet
  rw [hb]
  cases ht : z.traits with
  | none =>
    simp only [ht, Option.isSome_none, Bool.false_eq_true, if_false, esize, Nat.mod_one, ne_eq, not_true_eq_false, or_self,
      zero_gap_if, setUsed, setPlain]
  | some t =>
    have pt := hp t ht
    rw [ht, esize] at ha
    simp only [ht, bufferSetTyped, esize, pt.1, pt.2.1, pt.2.2, ha, false_or, ne_eq, not_true_eq_false, false_and,
      Option.isNone_none, and_self, if_true, if_false, Nat.sub_zero, zero_gap_if, setUsed, setPlain]

theorem setPlain_content (z : Buf) (pos : Nat) (bytes : List Byte) (hu : z.used ≤ z.size) (fit : pos + bytes.length ≤ z.size) :
    (setPlain z pos bytes).content = Vec.write z.content pos bytes ∧ (setPlain z pos bytes).used ≤ (setPlain z pos bytes).size := by
  refine ⟨take_write_set z.data z.used pos bytes hu fit, ?_⟩
  simp only [setPlain, Buf.size] at hu fit ⊢
  rw [Mem.write_length _ _ _ (by rw [Mem.write_length _ _ _ (by rw [zeros_length]; omega)]; exact fit),
    Mem.write_length _ _ _ (by rw [zeros_length]; omega)]
  omega

/-- effect of `mpt_buffer_cut` on a plain buffer: remove `[off, off+len)` -/
def cutPlain (x : Buf) (off len : Nat) : Buf :=
  { x with data := Mem.move x.data off (off + len) (x.used - len - off), used := off + (x.used - len - off) }

theorem bufferCut_plain {s : State} {b : Nat} {x : Buf} (hb : s.buf? b = some x) (hp : PlainT x.traits) (off len : Nat) :
    bufferCut s b off len =
      if len > x.used then .fail s (.err .BadArgument)
      else if len = 0 ∧ off > x.used then .fail s (.err .MissingData)
      else if x.used - (if len = 0 then x.used - off else len) < off then .fail s (.err .MissingData)
      else if off % esize x.traits ≠ 0 ∨ (if len = 0 then x.used - off else len) % esize x.traits ≠ 0 then
        .fail s (.err .BadArgument)
      else .ok (s.setBuf b (cutPlain x off (if len = 0 then x.used - off else len)))
        (off + (x.used - (if len = 0 then x.used - off else len) - off)) := by
  unfold bufferCut
  rw [hb]
  cases ht : x.traits with
  | none => simp only [ht, esize, Nat.mod_one, ne_eq, not_true_eq_false, or_self, if_false, move_if, setUsed, cutPlain]
  | some t =>
    have pt := hp t ht
    simp only [ht, esize, pt.2.1, pt.2.2, false_or, Option.isSome_none, Bool.false_eq_true, if_false, hb, move_if, setUsed,
      cutPlain]

theorem cutPlain_content (x : Buf) (off len : Nat) (hu : x.used ≤ x.size) (fit : off + len ≤ x.used) :
    (cutPlain x off len).content = x.content.take off ++ x.content.drop (off + len) ∧
    (cutPlain x off len).used ≤ (cutPlain x off len).size ∧ (cutPlain x off len).used = x.used - len := by
  simp only [Buf.size] at hu
  have rl := Mem.read_length x.data (off + len) (x.used - len - off) (by omega)
  refine ⟨?_, ?_, by simp only [cutPlain]; omega⟩
  · simp only [cutPlain, Buf.content, Mem.move]
    generalize hR : Mem.read x.data (off + len) (x.used - len - off) = R at rl
    rw [← rl, Mem.take_write_end _ _ _ (by omega), List.take_take, Nat.min_eq_left (by omega), List.drop_take, ← hR,
      Mem.read]
    congr 2; omega
  · simp only [cutPlain, Buf.size]
    rw [Mem.move_length _ _ _ _ (by omega) (by omega)]; omega

/-- effect of `mpt_buffer_insert` on a plain buffer: the tail moves up, a gap in front of `pos` is zeroed -/
def insPlain (x : Buf) (pos len : Nat) : Buf :=
  { x with data := Mem.write (Mem.move x.data (pos + len) pos (x.used - pos)) x.used (zeros (pos - x.used)),
           used := max x.used pos + len }

theorem insPlain_zero (x : Buf) (pos len : Nat) (h : max x.used pos + len = 0) : insPlain x pos len = x := by
  cases x with
  | mk ref flags traits used data =>
    have h1 : used = 0 := by simp only at h; omega
    have h2 : pos = 0 := by omega
    have h3 : len = 0 := by omega
    subst h1 h2 h3
    simp [insPlain, Mem.move_zero, zeros, Mem.write_nil]

/-- `mpt_buffer_insert` refuses: no room, an immutable buffer (unless there is nothing to do), no whole elements -/
def insRefused (x : Buf) (pos len : Nat) : Prop :=
  max x.used pos + len > x.size ∨ (x.immutable = true ∧ max x.used pos + len ≠ 0) ∨
    pos % esize x.traits ≠ 0 ∨ len % esize x.traits ≠ 0

instance (x : Buf) (pos len : Nat) : Decidable (insRefused x pos len) := by unfold insRefused; infer_instance

theorem bufferInsert_plain {s : State} {b : Nat} {x : Buf} (hb : s.buf? b = some x) (hp : PlainT x.traits)
    (ha : x.used % esize x.traits = 0) (pos len : Nat) :
    bufferInsert s b pos len =
      if insRefused x pos len then .fail s .null else .ok (s.setBuf b (insPlain x pos len)) pos := by
  have chain :
      bufferInsert s b pos len =
        if max x.used pos + len = 0 then .ok s 0
        else if max x.used pos + len > x.size then .fail s .null
        else if x.immutable then .fail s .null
        else if pos % esize x.traits ≠ 0 ∨ len % esize x.traits ≠ 0 then .fail s .null
        else .ok (s.setBuf b (insPlain x pos len)) pos := by
    unfold bufferInsert
    rw [hb]
    cases ht : x.traits with
    | none =>
      simp only [ht, esize, Nat.mod_one, ne_eq, not_true_eq_false, or_self, if_false, move_if, zero_gap_if, setUsed, insPlain]
    | some t =>
      have pt := hp t ht
      rw [ht, esize] at ha
      simp only [ht, esize, pt.1, pt.2.2, ha, false_or, ne_eq, not_true_eq_false, Bool.false_eq_true, if_false, move_if,
        zero_gap_if, setUsed, insPlain]
  -- nothing to insert into an empty buffer: the code returns early, with the same result
  rw [chain]
  by_cases t0 : max x.used pos + len = 0
  · have h2 : pos = 0 := by omega
    have h3 : len = 0 := by omega
    rw [if_pos t0, insPlain_zero x pos len t0, State.setBuf_self hb, if_neg (by unfold insRefused; rw [t0, h2, h3]; simp), h2]
  · rw [if_neg t0]
    generalize ht : max x.used pos + len = total at t0
    by_cases hA : total > x.size
    · rw [if_pos hA, if_pos (show insRefused x pos len from Or.inl (ht ▸ hA))]
    · rw [if_neg hA]
      by_cases hB : x.immutable = true
      · rw [if_pos hB, if_pos (show insRefused x pos len from Or.inr (Or.inl ⟨hB, ht ▸ t0⟩))]
      · rw [if_neg hB]
        by_cases hC : pos % esize x.traits ≠ 0 ∨ len % esize x.traits ≠ 0
        · rw [if_pos hC, if_pos (show insRefused x pos len from Or.inr (Or.inr hC))]
        · rw [if_neg hC, if_neg (fun c : insRefused x pos len => hC ((c.resolve_left (ht ▸ hA)).resolve_left (fun d => hB d.1)))]

theorem not_insRefused {x : Buf} {pos len : Nat} (wr : x.immutable = false) (fit : max x.used pos + len ≤ x.size)
    (ap : pos % esize x.traits = 0) (al : len % esize x.traits = 0) : ¬ insRefused x pos len := by
  rintro (c | c | c | c)
  · omega
  · rw [wr] at c; cases c.1
  · exact c ap
  · exact c al

/-- the caller's copy into the inserted region completes the insertion -/
theorem insPlain_poke_content (x : Buf) (pos : Nat) (bytes : List Byte) (hu : x.used ≤ x.size)
    (fit : max x.used pos + bytes.length ≤ x.size) :
    (Mem.write (insPlain x pos bytes.length).data pos bytes).take (insPlain x pos bytes.length).used
      = Vec.insert x.content pos bytes ∧
    (insPlain x pos bytes.length).data.length = x.data.length := by
  have lc : x.content.length = x.used := content_length x hu
  have f1 : x.used + bytes.length ≤ x.data.length := Nat.le_trans (Nat.add_le_add_right (Nat.le_max_left _ _) _) fit
  have f2 : pos + bytes.length ≤ x.data.length := Nat.le_trans (Nat.add_le_add_right (Nat.le_max_right _ _) _) fit
  clear fit hu
  simp only [insPlain, Vec.insert]
  by_cases c : pos < x.used
  · have ml := Mem.move_length x.data (pos + bytes.length) pos (x.used - pos) (by omega) (by omega)
    have rl := Mem.read_length x.data pos (x.used - pos) (by omega)
    rw [Nat.sub_eq_zero_of_le (Nat.le_of_lt c), zeros, List.replicate_zero, Mem.write_nil]
    refine ⟨?_, ml⟩
    rw [Nat.max_eq_left (Nat.le_of_lt c), take_write_ge _ _ _ _ (by omega) (by omega), Mem.move,
      take_write_le _ _ _ _ (by omega) (by omega), drop_write _ _ _ (by omega), List.take_left' (by omega),
      padTo_take _ _ _ (by omega), Buf.content, List.take_take, Nat.min_eq_left (by omega), List.drop_take, Mem.read]
  · have z : x.used - pos = 0 := by omega
    rw [z, Mem.move_zero, Nat.max_eq_right (by omega)]
    exact ⟨by rw [take_write_gap x.data x.used pos bytes (by omega) (by omega), padTo_take_self _ _ (by omega), lc,
      List.drop_of_length_le (by omega), List.append_nil]; rfl, Mem.write_length _ _ _ (by rw [zeros_length]; omega)⟩
end Mpt.Heap
