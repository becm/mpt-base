/-
  The command text decoder model `decodeCommand`: its zero scan `findZero`, safety of every call in both modes
  (`CmdSafe`), the delivery of a call between two messages (`decodeCommand_honest`), and, over arbitrary arrival of
  the input, the state inside a command text (`CmdMid`) with the receiver `arriveCmd` on it.
-/
import MptModel.Lemmas.DecodeStep
namespace Mpt.Codec
open Mpt.Cobs

theorem findZero_iff (store : List Byte) : ∀ (n i z : Nat), findZero store n i = some z ↔
    i ≤ z ∧ z < i + n ∧ store[z]? = some 0 ∧ ∀ j, i ≤ j → j < z → store[j]? ≠ some 0 := by
  intro n
  induction n with
  | zero => intro i z; simp only [findZero]; constructor
            · intro h; cases h
            · intro h; omega
  | succ n ih =>
    intro i z
    simp only [findZero]
    by_cases h0 : store[i]? = some 0
    · rw [if_pos h0]
      constructor
      · intro h; cases h; exact ⟨Nat.le_refl _, by omega, h0, fun j h1 h2 => by omega⟩
      · intro ⟨h1, _, _, h4⟩
        rcases Nat.lt_or_ge i z with hlt | hge
        · exact absurd h0 (h4 i (Nat.le_refl _) hlt)
        · rw [show i = z by omega]
    · rw [if_neg h0, ih]
      constructor
      · intro ⟨h1, h2, h3, h4⟩
        refine ⟨by omega, by omega, h3, fun j hj1 hj2 => ?_⟩
        rcases Nat.lt_or_ge i j with hlt | hge
        · exact h4 j hlt hj2
        · rw [show j = i by omega]; exact h0
      · intro ⟨h1, h2, h3, h4⟩
        have : i ≠ z := fun e => h0 (e ▸ h3)
        exact ⟨by omega, by omega, h3, fun j hj1 hj2 => h4 j (by omega) hj2⟩

theorem findZero_spec (store : List Byte) (body : List Byte) (i n : Nat) (junk : List Byte)
    (h : store.drop i = body ++ 0 :: junk) (hnz : ∀ x ∈ body, x ≠ 0) (hn : n = store.length - i) :
    findZero store n i = some (i + body.length) := by
  have hget : ∀ k, store[i + k]? = (body ++ 0 :: junk)[k]? := fun k => by rw [← h, List.getElem?_drop]
  have hz : store[i + body.length]? = some 0 := by rw [hget]; simp
  have := (List.getElem?_eq_some_iff.mp hz).1
  refine (findZero_iff store n i _).mpr ⟨Nat.le_add_right _ _, by omega, hz, fun j h1 h2 he => ?_⟩
  rw [show j = i + (j - i) by omega, hget, List.getElem?_append_left (by omega)] at he
  exact hnz 0 (List.mem_of_getElem? he) rfl

theorem findZero_none (store : List Byte) (n i : Nat) (h : ∀ x ∈ store.drop i, x ≠ 0) : findZero store n i = none := by
  cases hf : findZero store n i with
  | none => rfl
  | some z =>
    obtain ⟨h1, _, h3, _⟩ := (findZero_iff store n i z).mp hf
    have : store[z]? = (store.drop i)[z - i]? := by rw [List.getElem?_drop, Nat.add_sub_cancel' h1]
    exact absurd rfl (h 0 (List.mem_of_getElem? (this ▸ h3)))

/-- what every call of the command decoder guarantees; `orig` = the storage as handed over -/
structure CmdSafe (orig : List Byte) (peek : Bool) (st : DecState) (o : DecOut) : Prop where
  nofault : o.ret ≠ .oob ∧ o.ret ≠ .clobber
  len : o.store.length = orig.length
  writes : ∀ x ∈ o.writes, x.1 < x.2 ∧ x.2 = st.curr ∧ x.1 < orig.length
  reads : o.reads.Pairwise (· < ·) ∧ ∀ x ∈ o.reads, st.curr ≤ x ∧ x < orig.length
  keep : ∀ i, (∀ x ∈ o.writes, x.1 ≠ i) → o.store[i]? = orig[i]?
  pure : (peek = true ∨ st.len - st.msg.getD 0 ≠ 0) → o.writes = [] ∧ o.store = orig

theorem scan_reads (k p total : Nat) (h : p + k ≤ total) :
    ((List.range k).map (· + p)).Pairwise (· < ·) ∧ ∀ x ∈ (List.range k).map (· + p), p ≤ x ∧ x < total := by
  refine ⟨?_, ?_⟩
  · rw [List.pairwise_map]
    exact List.Pairwise.imp (fun h => by omega) List.pairwise_lt_range
  · intro x hx
    simp only [List.mem_map, List.mem_range] at hx
    obtain ⟨a, ha, rfl⟩ := hx
    omega

/-- an exit that stored nothing and scanned `k` bytes (`k = 0`: a refusal) -/
theorem CmdSafe.scan (orig : List Byte) (peek : Bool) (st st' : DecState) (ret : DecRet) (k : Nat)
    (hr : ret ≠ .oob ∧ ret ≠ .clobber) (hk : st.curr + k ≤ orig.length ∨ k = 0) :
    CmdSafe orig peek st { ret := ret, st := st', store := orig, reads := (List.range k).map (· + st.curr) } := by
  refine ⟨hr, rfl, by simp, ?_, fun _ _ => rfl, fun _ => ⟨rfl, rfl⟩⟩
  rcases hk with hk | rfl
  · exact scan_reads k st.curr orig.length hk
  · simp

theorem CmdSafe.header (orig : List Byte) (st st' : DecState) (ret : DecRet) (k : Nat)
    (hr : ret ≠ .oob ∧ ret ≠ .clobber) (h2 : 2 ≤ st.curr) (hk : st.curr + k ≤ orig.length)
    (hlen : st.len - st.msg.getD 0 = 0) :
    CmdSafe orig false st
      { ret := ret, st := st', store := (orig.set (st.curr - 2) 0x04).set (st.curr - 1) 0x20,
        reads := (List.range k).map (· + st.curr), writes := [(st.curr - 2, st.curr), (st.curr - 1, st.curr)] } := by
  refine ⟨hr, by simp, ?_, scan_reads k st.curr orig.length hk, ?_, ?_⟩
  · intro x hx
    simp only [List.mem_cons, List.not_mem_nil, or_false] at hx
    rcases hx with rfl | rfl <;> exact ⟨by dsimp only; omega, rfl, by dsimp only; omega⟩
  · intro i hi
    have h1 : st.curr - 2 ≠ i := hi (st.curr - 2, st.curr) (by simp)
    have h2' : st.curr - 1 ≠ i := hi (st.curr - 1, st.curr) (by simp)
    simp [h1, h2']
  · intro h; rcases h with h | h
    · cases h
    · exact absurd hlen h

theorem decodeCommand_safe (st : DecState) (segs : List Seg) (peek : Bool) :
    CmdSafe (flat (if peek then segs.take 1 else segs)) peek st (decodeCommand st segs peek) := by
  unfold decodeCommand
  simp only
  generalize flat (if peek = true then List.take 1 segs else segs) = store
  have refuse : ∀ e, CmdSafe store peek st { ret := .err e, st := st, store := store } :=
    fun e => CmdSafe.scan store peek st st (.err e) 0 (by simp) (Or.inr rfl)
  by_cases h0 : st.msg.isSome = true ∧ peek = true
  · rw [if_pos h0]; exact refuse _
  rw [if_neg h0]
  by_cases hlen : st.len - st.msg.getD 0 = 0
  · rw [if_pos hlen]
    cases peek with
    | true => exact refuse _
    | false =>
    simp only [Bool.false_eq_true, if_false]
    -- `pos < sizeof(mt)`; the skip to `pos - 2` falls short; the header copy loop runs out of data in front of its
    -- first, then its second byte
    by_cases h2 : st.curr < 2
    · rw [if_pos h2]; exact refuse _
    rw [if_neg h2]
    by_cases h3 : store.length < st.curr - 2
    · rw [if_pos h3]; exact refuse _
    rw [if_neg h3]
    by_cases h4 : store.length < st.curr - 1
    · rw [if_pos h4]; exact refuse _
    rw [if_neg h4]
    by_cases h5 : store.length < st.curr
    · -- room for the first header byte only
      rw [if_pos h5]
      refine ⟨by simp, by simp, ?_, by simp, ?_, fun h => by simp [hlen] at h⟩
      · intro x hx
        simp only [List.mem_singleton] at hx
        subst hx
        exact ⟨by dsimp only; omega, rfl, by dsimp only; omega⟩
      · intro i hi
        have : st.curr - 2 ≠ i := hi (st.curr - 2, st.curr) (by simp)
        simp [this]
    rw [if_neg h5]
    split
    · rename_i z hz
      have z2 := ((findZero_iff _ _ _ _).mp hz).2.1
      simp only [List.length_set] at z2
      exact CmdSafe.header store st _ _ _ (by simp) (by omega) (by omega) hlen
    · exact CmdSafe.header store st _ _ _ (by simp) (by omega) (by simp only [List.length_set]; omega) hlen
  · rw [if_neg hlen]
    by_cases h6 : st.curr ≠ st.pos + (st.len - st.msg.getD 0)
    · rw [if_pos h6]; exact refuse _
    rw [if_neg h6]
    by_cases h7 : store.length < st.curr
    · rw [if_pos h7]; exact refuse _
    rw [if_neg h7]
    split
    · rename_i z hz
      have z2 := ((findZero_iff _ _ _ _).mp hz).2.1
      split <;> exact CmdSafe.scan store peek st _ _ _ (by simp) (Or.inl (by omega))
    · exact CmdSafe.scan store peek st _ _ _ (by simp) (Or.inl (by omega))

theorem drop_set_set (s : List Byte) (p : Nat) (a b : Byte) (h2 : 2 ≤ p) (hl : p ≤ s.length) :
    ((s.set (p - 2) a).set (p - 1) b).drop (p - 2) = a :: b :: s.drop p := by
  obtain ⟨k, rfl⟩ : ∃ k, p = k + 2 := ⟨p - 2, by omega⟩
  apply List.ext_getElem?
  intro i
  simp only [Nat.add_sub_cancel, show k + 2 - 1 = k + 1 by omega, List.getElem?_drop, List.getElem?_set, List.length_set]
  match i with
  | 0 => simp; omega
  | 1 => simp; omega
  | i + 2 =>
    rw [if_neg (by omega), if_neg (by omega)]
    simp only [List.getElem?_cons_succ, List.getElem?_drop]
    congr 1; omega

theorem decCmd_frame (body : List Byte) (hnz : ∀ x ∈ body, x ≠ 0) : decCmd (body ++ [0]) = some (cmdHeader ++ body) := by
  simp [decCmd]; intro h0; exact hnz 0 h0 rfl

/-- `hpos`: the two header bytes are stored in front of the input position -/
theorem decodeCommand_honest (st : DecState) (segs : List Seg) (body junk : List Byte)
    (hlen : st.len - st.msg.getD 0 = 0) (hpos : 2 ≤ st.curr)
    (hin : (flat segs).drop st.curr = body ++ 0 :: junk) (hnz : ∀ x ∈ body, x ≠ 0) :
    (decodeCommand st segs false).ret = .val 1 ∧
    decCmd (body ++ [0]) = some (decodeCommand st segs false).region ∧
    (decodeCommand st segs false).st.curr = st.curr + body.length + 1 ∧
    (∀ x ∈ (decodeCommand st segs false).writes, x.1 < x.2 ∧ x.2 ≤ (flat segs).length) := by
  have hle : st.curr < (flat segs).length := by
    rcases Nat.lt_or_ge st.curr (flat segs).length with h1 | h1
    · exact h1
    · rw [List.drop_eq_nil_of_le h1] at hin; simp at hin
  unfold decodeCommand
  simp only [Bool.false_eq_true, if_false, and_false, hlen, if_true]
  rw [if_neg (by omega), if_neg (by omega), if_neg (by omega), if_neg (by omega)]
  have hdrop2 : (((flat segs).set (st.curr - 2) 0x04).set (st.curr - 1) 0x20).drop st.curr = body ++ 0 :: junk := by
    rw [List.drop_set_of_lt (by omega), List.drop_set_of_lt (by omega), hin]
  have hfz := findZero_spec (((flat segs).set (st.curr - 2) 0x04).set (st.curr - 1) 0x20) body st.curr
    ((flat segs).length - st.curr) junk hdrop2 hnz (by simp)
  simp only [List.length_set] at hfz ⊢
  rw [hfz]
  refine ⟨rfl, ?_, by first | rfl | (simp only; omega), ?_⟩
  · simp only [DecOut.region]
    rw [drop_set_set _ _ _ _ hpos (by omega), hin, show 2 + (st.curr + body.length - st.curr) = body.length + 2 by omega,
      List.take_succ_cons, List.take_succ_cons, List.take_left']
    · rw [decCmd_frame body hnz]; rfl
    · rfl
  · intro x hx
    simp only [List.mem_cons, List.mem_nil_iff, or_false] at hx
    rcases hx with rfl | rfl <;> simp <;> omega

/-- the command decoder has written its header and consumed the zero-free text `text` so far -/
structure CmdMid (st : DecState) (store : List Byte) (p0 : Nat) (text : List Byte) : Prop where
  msg : st.msg = none
  hp0 : 2 ≤ p0
  pos : st.pos = p0 - 2
  len : st.len = 2 + text.length
  curr : st.curr = p0 + text.length
  total : store.length = p0 + text.length
  front : store.drop (p0 - 2) = cmdHeader ++ text
  nz : ∀ x ∈ text, x ≠ 0

theorem cmd_resume (a : Nat) (st : DecState) (store p : List Byte) (p0 : Nat) (text : List Byte)
    (h : CmdMid st store p0 text) :
    (∀ pre post, p = pre ++ 0 :: post → (∀ x ∈ pre, x ≠ 0) →
      (decodeCommand st [(a, store ++ p)] false).ret = .val 1 ∧
      (decodeCommand st [(a, store ++ p)] false).region = cmdHeader ++ text ++ pre) ∧
    ((∀ x ∈ p, x ≠ 0) → (decodeCommand st [(a, store ++ p)] false).ret = .val 0 ∧
      CmdMid (decodeCommand st [(a, store ++ p)] false).st (decodeCommand st [(a, store ++ p)] false).store p0 (text ++ p)) := by
  have h2 := h.hp0
  have hdrop : (store ++ p).drop st.curr = p := by rw [h.curr, ← h.total]; simp
  have hfront : (store ++ p).drop (p0 - 2) = cmdHeader ++ text ++ p := by
    rw [List.drop_append_of_le_length (by rw [h.total]; omega), h.front]
  -- inside a text the guards in front of the scan pass by `CmdMid`: the call is the zero scan of the unread bytes
  have hpre : decodeCommand st [(a, store ++ p)] false =
      (match findZero (store ++ p) ((store ++ p).length - st.curr) st.curr with
      | some z => { ret := .val 1, st := { st with len := st.len + (z - st.curr), msg := some (st.len + (z - st.curr)), curr := st.pos + (st.len + (z - st.curr)) + 1 },
                    store := store ++ p, reads := (List.range (z + 1 - st.curr)).map (· + st.curr) }
      | none => { ret := .val 0, st := { st with len := st.len + ((store ++ p).length - st.curr), curr := st.pos + (st.len + ((store ++ p).length - st.curr)) },
                  store := store ++ p, reads := (List.range ((store ++ p).length - st.curr)).map (· + st.curr) }) := by
    unfold decodeCommand
    simp only [Bool.false_eq_true, if_false, and_false, flat_single, h.msg, Option.getD_none, Nat.sub_zero, Option.isSome_none, or_self]
    rw [if_neg (by rw [h.len]; omega), if_neg (by rw [h.curr, h.pos, h.len]; omega)]
    rw [if_neg (by simp only [List.length_append, h.curr, h.total]; omega)]
    cases findZero (store ++ p) ((store ++ p).length - st.curr) st.curr <;> rfl
  rw [hpre]
  constructor
  · intro pre post hp hnz
    have hz := findZero_spec (store ++ p) pre st.curr ((store ++ p).length - st.curr) post (by rw [hdrop, hp]) hnz rfl
    rw [hz]
    refine ⟨rfl, ?_⟩
    simp only [DecOut.region]
    rw [h.pos, hfront, h.len, hp]
    have : 2 + text.length + (st.curr + pre.length - st.curr) = (cmdHeader ++ text ++ pre).length := by simp [cmdHeader]; omega
    rw [this, ← List.append_assoc, List.take_append_of_le_length (Nat.le_refl _), List.take_length]
  · intro hnz
    have hz := findZero_none (store ++ p) ((store ++ p).length - st.curr) st.curr (by rw [hdrop]; exact hnz)
    rw [hz]
    refine ⟨rfl, h.msg, h2, h.pos, ?_, ?_, ?_, by simp only; rw [hfront, List.append_assoc], ?_⟩
    · simp [h.len, h.curr, h.total]; omega
    · simp [h.len, h.curr, h.total, h.pos]; omega
    · simp [h.total]; omega
    · intro x hx
      simp only [List.mem_append] at hx
      rcases hx with hx | hx
      · exact h.nz x hx
      · exact hnz x hx

theorem cmd_start (st : DecState) (segs : List Seg)
    (hlen : st.len - st.msg.getD 0 = 0) (hpos : 2 ≤ st.curr) (hle : st.curr ≤ (flat segs).length)
    (hnz : ∀ x ∈ (flat segs).drop st.curr, x ≠ 0) :
    (decodeCommand st segs false).ret = .val 0 ∧
    CmdMid (decodeCommand st segs false).st (decodeCommand st segs false).store st.curr ((flat segs).drop st.curr) := by
  unfold decodeCommand
  simp only [Bool.false_eq_true, if_false, and_false, hlen, if_true]
  rw [if_neg (by omega), if_neg (by omega), if_neg (by omega), if_neg (by omega)]
  have hdrop2 : (((flat segs).set (st.curr - 2) 0x04).set (st.curr - 1) 0x20).drop st.curr = (flat segs).drop st.curr := by
    rw [List.drop_set_of_lt (by omega), List.drop_set_of_lt (by omega)]
  have hfz := findZero_none (((flat segs).set (st.curr - 2) 0x04).set (st.curr - 1) 0x20)
    ((flat segs).length - st.curr) st.curr (by rw [hdrop2]; exact hnz)
  simp only [List.length_set] at hfz ⊢
  rw [hfz]
  refine ⟨rfl, rfl, hpos, rfl, by simp, by simp; omega, by simp; omega, ?_, hnz⟩
  rw [drop_set_set _ _ _ _ hpos hle]; rfl

theorem arriveCmd_mid (a : Nat) (p0 : Nat) (pieces : List (List Byte)) : ∀ (st : DecState) (store text tl junk : List Byte) (o : DecOut),
    CmdMid st store p0 text → (∀ x ∈ tl, x ≠ 0) → pieces.flatten = tl ++ 0 :: junk →
    arriveCmd a st store pieces = some o → o.ret = .val 1 → o.region = cmdHeader ++ (text ++ tl) := by
  induction pieces with
  | nil => intro st store text tl junk o _ _ _ h; simp [arriveCmd] at h
  | cons p ps ih =>
    intro st store text tl junk o hm htl hS h h1
    have hcall := cmd_resume a st store p p0 text hm
    simp only [arriveCmd] at h
    simp only [List.flatten_cons] at hS
    rcases first_zero_split hS with ⟨tl', rfl, hrest⟩ | ⟨post, rfl⟩
    · -- the piece lies inside the text
      obtain ⟨r0, hmid⟩ := hcall.2 (fun x hx => htl x (by simp [hx]))
      rw [if_pos r0] at h
      rw [ih _ _ (text ++ p) tl' junk o hmid (fun x hx => htl x (by simp [hx])) hrest h h1]; simp
    · obtain ⟨r1, hreg⟩ := hcall.1 tl post rfl htl
      rw [if_neg (by rw [r1]; simp)] at h
      cases h
      rw [hreg]; simp

end Mpt.Codec
