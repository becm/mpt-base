/-
  `Sem`, the statement about one operation of the heap model on plain buffers (C04), and the rules by which it is used:
  `Kept` (what every operation leaves alone) composes along a sequence of calls; `Sem` reads the state before the call
  only through the values of the handles (`Sem.after`); the returned value and a weaker relation (`Sem.mapv`,
  `Sem.weaken`); a call that is not refused succeeded (`ok_of_sem`); an in-place change of a buffer its handle owns
  (`Own.sem_update`).
-/
import MptModel.Lemmas.Heap
namespace Mpt.Heap

/-- outcome predicate: op on handle `h`, allowed content change `R old new` -/
def Sem {α : Type} (s : State) (h : Nat) (R : Vec.Vec → Vec.Vec → Prop) (r : Out α) : Prop :=
  match r with
  | .fault _ => False
  | .fail s' _ => Inv s' ∧ s'.hs.length = s.hs.length ∧ ∀ h', s'.abs h' = s.abs h'
  | .ok s' _ => Inv s' ∧ s'.hs.length = s.hs.length ∧ R (s.abs h) (s'.abs h) ∧ ∀ h', h' ≠ h → s'.abs h' = s.abs h'

theorem Sem.fail_same {α : Type} {s : State} (inv : Inv s) (h : Nat) (R : Vec.Vec → Vec.Vec → Prop) (e : Fail) :
    Sem (α := α) s h R (.fail s e) := ⟨inv, rfl, fun _ => rfl⟩

/-- from `s` to `s'` the heap stays sound and only handle `h` may read something else -/
structure Kept (s : State) (h : Nat) (s' : State) : Prop where
  inv : Inv s'
  len : s'.hs.length = s.hs.length
  others : ∀ h', h' ≠ h → s'.abs h' = s.abs h'

theorem Kept.refl {s : State} (inv : Inv s) (h : Nat) : Kept s h s := ⟨inv, rfl, fun _ _ => rfl⟩

theorem Kept.trans {s s1 s2 : State} {h : Nat} (a : Kept s h s1) (b : Kept s1 h s2) : Kept s h s2 :=
  ⟨b.inv, b.len.trans a.len, fun h' ne => (b.others h' ne).trans (a.others h' ne)⟩

theorem Kept.sem_ok {α : Type} {s s' : State} {h : Nat} (st : Kept s h s') {R : Vec.Vec → Vec.Vec → Prop}
    (hR : R (s.abs h) (s'.abs h)) (v : α) : Sem s h R (.ok s' v) := ⟨st.inv, st.len, hR, st.others⟩

theorem Kept.sem_fail {α : Type} {s s' : State} {h : Nat} (st : Kept s h s') (same : s'.abs h = s.abs h)
    (R : Vec.Vec → Vec.Vec → Prop) (e : Fail) : Sem (α := α) s h R (.fail s' e) :=
  ⟨st.inv, st.len, fun h' => by
    by_cases c : h' = h
    · rw [c, same]
    · exact st.others h' c⟩

theorem Sem.kept {α : Type} {s s' : State} {h : Nat} {R : Vec.Vec → Vec.Vec → Prop} {v : α}
    (sem : Sem s h R (.ok s' v)) : Kept s h s' ∧ R (s.abs h) (s'.abs h) :=
  ⟨⟨sem.1, sem.2.1, sem.2.2.2⟩, sem.2.2.1⟩

/-- `Sem` reads `s` only through the values of the handles: a step before the call that kept the value of `h`
    (`ensure` with room for the whole content, a fresh buffer for an empty handle) can be forgotten -/
theorem Sem.after {α : Type} {s s1 : State} {h : Nat} {R : Vec.Vec → Vec.Vec → Prop} {r : Out α}
    (st : Kept s h s1) (same : s1.abs h = s.abs h) (sem : Sem s1 h R r) : Sem s h R r := by
  cases r with
  | fault w => exact sem
  | fail s2 e =>
    exact (st.trans ⟨sem.1, sem.2.1, fun h' _ => sem.2.2 h'⟩).sem_fail ((sem.2.2 h).trans same) R e
  | ok s2 v =>
    exact (st.trans ⟨sem.1, sem.2.1, sem.2.2.2⟩).sem_ok (by rw [← same]; exact sem.2.2.1) v

/-- the operation alphabet (`exec`) forgets the returned value with it; `Out.unit` of Impl/HeapXX.lean is the same map
    (`unit_eq`) -/
def Out.mapv {α β : Type} (f : α → β) : Out α → Out β
  | .ok s v => .ok s (f v)
  | .fail s e => .fail s e
  | .fault w => .fault w

theorem Sem.mapv {α β : Type} {s : State} {h : Nat} {R : Vec.Vec → Vec.Vec → Prop} {r : Out α} (f : α → β)
    (hs : Sem s h R r) : Sem s h R (Out.mapv f r) := by
  cases r <;> exact hs

theorem Sem.weaken {α : Type} {s : State} {h : Nat} {R R' : Vec.Vec → Vec.Vec → Prop} {r : Out α}
    (hs : Sem s h R r) (imp : ∀ v', R (s.abs h) v' → R' (s.abs h) v') : Sem s h R' r := by
  cases r with
  | fault w => exact hs
  | fail s1 e => exact hs
  | ok s1 v => exact ⟨hs.1, hs.2.1, imp _ hs.2.2.1, hs.2.2.2⟩

theorem ok_of_sem {α : Type} {s : State} {h : Nat} {R : Vec.Vec → Vec.Vec → Prop} {r : Out α} (sem : Sem s h R r)
    (nf : ∀ s' e, r ≠ .fail s' e) :
    ∃ s' v, r = .ok s' v ∧ R (s.abs h) (s'.abs h) := by
  cases r with
  | fault w => exact sem.elim
  | fail s' e => exact absurd rfl (nf s' e)
  | ok s' v => exact ⟨s', v, rfl, sem.2.2.1⟩

theorem Own.sem_update {α : Type} {s : State} {h nb : Nat} {z : Buf} (inv : Inv s) (o : Own s h nb z)
    {R : Vec.Vec → Vec.Vec → Prop} (z' : Buf) (r' : z'.ref = 1) (f' : z'.flags = z.flags) (u' : z'.used ≤ z'.size)
    (p' : PlainT z'.traits) (a' : z'.used % esize z'.traits = 0) (hR : R z.content z'.content) (v : α) :
    Sem s h R (.ok (s.setBuf nb z') v) ∧ Own (s.setBuf nb z') h nb z' := by
  obtain ⟨inv', o', ab, oth, len⟩ := o.update inv z' r' f' u' p' a'
  exact ⟨⟨inv', len, by rw [State.abs_of o.hh o.hb, ab]; exact hR, oth⟩, o'⟩

end Mpt.Heap
