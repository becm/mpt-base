/-
  In front, that the bounds-checked `Mem.rd` / `Mem.wr` / `Mem.mv` of the ring model succeed inside the storage.
  Then the ring as a list.  `unroll s off` is the storage read once around from the offset; the content is its first
  `len` bytes (by definition of `Ring.content`).  What the C code does with indices becomes list operations on the
  unrolled ring: changing the offset rotates it (`unroll_unroll`), the two-part accesses of the queue functions
  (`Parts`: some bytes up to the storage end, the rest from the storage start) are plain reads and writes of it
  (`read_parts`, `write_parts`), a `memmove` that does not straddle the wrap is a `memmove` of it (`mv_unroll`).
  `Holds r cap d` ties a ring to the deque state it stands for.  Last, the one queue function that is offset
  arithmetic and nothing else: `mpt_queue_crop(q, 0, n)` (`crop_front`), which the access functions and the storage
  reorganisation both build on.
-/
import MptModel.Impl.Ring
import MptModel.Lemmas.Mem
namespace Mpt

namespace Mem

theorem mv_ok (s : List Byte) (d src n : Nat) (h1 : src + n ≤ s.length) (h2 : d + n ≤ s.length) :
    Mem.mv s d src n = .ok (Mem.move s d src n) := by
  unfold Mem.mv; simp [h1, h2]

/-- a `memmove` that the code skips when it would change nothing -/
theorem mv_unless (c : Prop) [Decidable c] (s : List Byte) (d src n : Nat) (h1 : src + n ≤ s.length)
    (h2 : d + n ≤ s.length) (hskip : ¬c → n = 0 ∨ d = src) :
    (if c then Mem.mv s d src n else .ok s) = .ok (Mem.move s d src n) := by
  split
  · exact Mem.mv_ok s d src n h1 h2
  · rcases hskip (by assumption) with rfl | rfl
    · rw [Mem.move_zero]
    · rw [Mem.move_self _ _ _ h1]

theorem rd_ok (s : List Byte) (src n : Nat) (h1 : src + n ≤ s.length) :
    Mem.rd s src n = .ok (Mem.read s src n) := by
  unfold Mem.rd; simp [h1]

theorem wr_ok (s : List Byte) (d : Nat) (b : List Byte) (h1 : d + b.length ≤ s.length) :
    Mem.wr s d b = .ok (Mem.write s d b) := by
  unfold Mem.wr; simp [h1]

end Mem

namespace Ring

/-- well-formed ring: what every queue function maintains -/
def WF (r : Ring) : Prop := r.len ≤ r.store.length ∧ r.off ≤ r.store.length

def unroll (s : List Byte) (off : Nat) : List Byte := s.drop off ++ s.take off

theorem content_eq (r : Ring) : r.content = (unroll r.store r.off).take r.len := rfl

theorem unroll_length (s : List Byte) (off : Nat) : (unroll s off).length = s.length := by
  simp [unroll]; omega

theorem read_unroll_upper (s : List Byte) (off p n : Nat) (h : off + p + n ≤ s.length) :
    Mem.read (unroll s off) p n = Mem.read s (off + p) n := by
  rw [Mem.read, Mem.read, unroll, List.drop_append_of_le_length (by simp; omega),
    List.take_append_of_le_length (by simp; omega), List.drop_drop]

theorem read_unroll_lower (s : List Byte) (off p n : Nat) (ho : off ≤ s.length) (hp : s.length ≤ off + p)
    (h : p + n ≤ s.length) :
    Mem.read (unroll s off) p n = Mem.read s (off + p - s.length) n := by
  rw [Mem.read, Mem.read, unroll, List.drop_append, List.drop_of_length_le (by simp; omega), List.nil_append,
    List.length_drop, List.drop_take, List.take_take]
  congr 2 <;> omega

theorem unroll_append (A B : List Byte) (n : Nat) (h : A.length = n) : unroll (A ++ B) n = B ++ A := by
  rw [unroll, List.drop_left' h, List.take_left' h]

theorem write_unroll_upper (s : List Byte) (off p : Nat) (b : List Byte) (h : off + p + b.length ≤ s.length) :
    unroll (Mem.write s (off + p) b) off = Mem.write (unroll s off) p b := by
  obtain ⟨A, X, B, rfl, hA, hX⟩ := Mem.frame s (off + p) b.length h
  rw [Mem.write_frame A X B b _ hA hX, ← List.take_append_drop off A, List.append_assoc, List.append_assoc,
    unroll_append _ _ _ (by simp; omega), unroll_append _ _ _ (by simp; omega)]
  simp only [List.append_assoc]
  rw [Mem.write_frame _ X _ b _ (by simp; omega) hX]

theorem write_unroll_lower (s : List Byte) (off p : Nat) (b : List Byte) (ho : off ≤ s.length)
    (hp : s.length ≤ off + p) (h : p + b.length ≤ s.length) :
    unroll (Mem.write s (off + p - s.length) b) off = Mem.write (unroll s off) p b := by
  obtain ⟨A, X, B, rfl, hA, hX⟩ := Mem.frame s (off + p - s.length) b.length (by omega)
  simp only [List.length_append] at *
  have e (Y : List Byte) : A ++ (Y ++ B) = (A ++ (Y ++ B.take (off - A.length - X.length))) ++
      B.drop (off - A.length - X.length) := by simp
  rw [Mem.write_frame A X B b _ hA hX, e b, e X, unroll_append _ _ _ (by simp; omega),
    unroll_append _ _ _ (by simp; omega)]
  simp only [← List.append_assoc]
  rw [List.append_assoc _ X, List.append_assoc _ b, Mem.write_frame _ X _ b _ (by simp; omega) hX]

/-- offset arithmetic is rotation of the unrolled ring: `off'` is `off + k` modulo the storage size -/
theorem unroll_unroll (s : List Byte) (off k off' : Nat) (hk : k ≤ s.length)
    (h : (off' = off + k ∧ off' ≤ s.length) ∨ (off' + s.length = off + k ∧ off ≤ s.length)) :
    unroll (unroll s off) k = unroll s off' := by
  rcases h with ⟨rfl, h⟩ | ⟨h, ho⟩
  · obtain ⟨A, B, C, rfl, hA, hB⟩ := Mem.frame s off k h
    rw [unroll_append A _ _ hA, List.append_assoc, unroll_append B _ _ hB, ← List.append_assoc A,
      unroll_append (A ++ B) _ _ (by simp; omega), List.append_assoc]
  · obtain ⟨A, B, C, rfl, hA, hB⟩ := Mem.frame s off' (s.length - k) (by omega)
    simp only [List.length_append] at *
    rw [← List.append_assoc A, unroll_append (A ++ B) _ _ (by simp; omega), ← List.append_assoc C,
      unroll_append (C ++ A) _ _ (by simp; omega), List.append_assoc A, unroll_append A _ _ hA,
      List.append_assoc]

/-- `(a, l, h)` is a two-part access to the stretch `[p, p+l+h)` of the ring: `l` bytes at the physical index
    `a` of `p` (which may itself lie behind the wrap: `a + M = off + p`), then `h` bytes at the storage start, used
    only when the first part reaches the storage end -/
structure Parts (M off p a l h : Nat) : Prop where
  fit : p + l + h ≤ M
  base : (a = off + p ∧ off + p + l ≤ M) ∨ a + M = off + p
  wrap : h = 0 ∨ off + p + l = M

namespace Parts
variable {M off p a l h : Nat}

theorem upper (ha : a = off + p) (hl : off + p + l ≤ M) : Parts M off p a l 0 :=
  ⟨by omega, .inl ⟨ha, hl⟩, .inl rfl⟩

theorem lower (ha : a + M = off + p) (hl : p + l ≤ M) : Parts M off p a l 0 :=
  ⟨hl, .inr ha, .inl rfl⟩

theorem of_min {n : Nat} (ho : off ≤ M) (hn : p + n ≤ M) (ha : (a = off + p ∧ a ≤ M) ∨ a + M = off + p) :
    Parts M off p a (min (M - a) n) (n - min (M - a) n) :=
  ⟨by omega, by omega, by omega⟩

theorem sub (P : Parts M off p a l h) (l' h' : Nat) (hl : l' ≤ l) (hh : h' ≤ h) (hw : h' ≠ 0 → l' = l) :
    Parts M off p a l' h' := by
  obtain ⟨f, b, w⟩ := P
  exact ⟨by omega, by omega, by omega⟩

theorem inside (P : Parts M off p a l h) (ho : off ≤ M) : a + l ≤ M ∧ h ≤ M := by
  obtain ⟨f, b, w⟩ := P
  omega

end Parts

theorem read_parts (s : List Byte) (off p a l h : Nat) (ho : off ≤ s.length) (P : Parts s.length off p a l h) :
    Mem.read s a l ++ Mem.read s 0 h = Mem.read (unroll s off) p (l + h) := by
  obtain ⟨hf, hb, hw⟩ := P
  rw [Mem.read_append]
  congr 1
  · rcases hb with ⟨rfl, hb⟩ | hb
    · rw [read_unroll_upper _ _ _ _ hb]
    · rw [read_unroll_lower _ _ _ _ ho (by omega) (by omega)]; congr 1; omega
  · rcases hw with rfl | hw
    · rw [Mem.read_zero, Mem.read_zero]
    · rw [read_unroll_lower _ _ _ _ ho (by omega) (by omega)]; congr 1; omega

theorem write_parts (s : List Byte) (off p a : Nat) (x y : List Byte) (ho : off ≤ s.length)
    (P : Parts s.length off p a x.length y.length) :
    unroll (Mem.write (Mem.write s a x) 0 y) off = Mem.write (unroll s off) p (x ++ y) := by
  have hl := Mem.write_length s a x (P.inside ho).1
  obtain ⟨hf, hb, hw⟩ := P
  have h1 : unroll (Mem.write s a x) off = Mem.write (unroll s off) p x := by
    rcases hb with ⟨rfl, hb⟩ | hb
    · rw [write_unroll_upper _ _ _ _ hb]
    · rw [← write_unroll_lower _ _ _ _ ho (by omega) (by omega)]; congr 2; omega
  rw [Mem.write_append _ _ _ _ (by rw [unroll_length]; omega), ← h1]
  rcases hw with hw | hw
  · rw [List.eq_nil_of_length_eq_zero hw, Mem.write_nil, Mem.write_nil]
  · rw [← write_unroll_lower _ off _ y (by omega) (by omega) (by omega)]
    congr 2; omega

theorem rd_parts (s : List Byte) (off p a l h : Nat) (ho : off ≤ s.length) (P : Parts s.length off p a l h) :
    Mem.rd s a l = .ok (Mem.read s a l) ∧ Mem.rd s 0 h = .ok (Mem.read s 0 h) :=
  ⟨Mem.rd_ok _ _ _ (P.inside ho).1, Mem.rd_ok _ _ _ (by have := (P.inside ho).2; omega)⟩

theorem wr_parts (s : List Byte) (off p a : Nat) (x y : List Byte) (ho : off ≤ s.length)
    (P : Parts s.length off p a x.length y.length) :
    Mem.wr s a x = .ok (Mem.write s a x) ∧
      Mem.wr (Mem.write s a x) 0 y = .ok (Mem.write (Mem.write s a x) 0 y) :=
  ⟨Mem.wr_ok _ _ _ (P.inside ho).1,
    Mem.wr_ok _ _ _ (by have := (P.inside ho).2; rw [Mem.write_length _ _ _ (P.inside ho).1]; omega)⟩

theorem content_length (r : Ring) (h1 : r.len ≤ r.store.length) :
    r.content.length = r.len := by
  rw [content_eq, List.length_take, unroll_length]; omega

/-- `r` is a well-formed ring with `cap` bytes of storage that stands for the byte list `d`: the relation every
    queue function is specified in (from `r.Holds cap d` and the deque's guard on `cap` and `d.length` to the
    ring afterwards holding the deque's result) -/
structure Holds (r : Ring) (cap : Nat) (d : List Byte) : Prop where
  wf : r.WF
  cap : r.store.length = cap
  content : r.content = d

theorem WF.holds {r : Ring} (h : r.WF) : r.Holds r.store.length r.content := ⟨h, rfl, rfl⟩

namespace Holds
variable {r : Ring} {cap : Nat} {d : List Byte}

theorem len (H : r.Holds cap d) : r.len = d.length := by
  rw [← H.content, content_length r H.wf.1]

theorem le (H : r.Holds cap d) : d.length ≤ cap := by
  rw [← H.len, ← H.cap]; exact H.wf.1

/-- the ring is well-formed and its state, as the pair of capacity and content that `C13.step_refines` compares with
    the deque's (beside an output `o`, the same on both sides), is `(cap, d)` -/
theorem state_eq (H : r.Holds cap d) {β : Type} (o : β) :
    r.WF ∧ ((r.store.length, r.content), o) = ((cap, d), o) := by
  rw [H.cap, H.content]; exact ⟨H.wf, rfl⟩

end Holds

theorem content_take (r : Ring) (n : Nat) (hn : n ≤ r.len) :
    ({ r with len := n } : Ring).content = r.content.take n := by
  rw [content_eq, content_eq, List.take_take, Nat.min_eq_left hn]

theorem content_nil (r : Ring) (h : r.len = 0) : r.content = [] := by
  rw [content_eq, h, List.take_zero]

theorem read_content (r : Ring) (p n : Nat) (h : p + n ≤ r.len) :
    Mem.read (unroll r.store r.off) p n = (r.content.drop p).take n := by
  rw [content_eq, Mem.read, List.drop_take, List.take_take, Nat.min_eq_left (by omega)]

theorem read_content_tail (r : Ring) (h : r.WF) (n : Nat) (hn : n ≤ r.len) :
    Mem.read (unroll r.store r.off) (r.len - n) n = r.content.drop (r.len - n) := by
  rw [read_content r _ _ (by omega), List.take_of_length_le (by rw [List.length_drop, content_length r h.1]; omega)]

theorem read_content_head (r : Ring) (n : Nat) (hn : n ≤ r.len) :
    Mem.read (unroll r.store r.off) 0 n = r.content.take n := by
  rw [read_content r _ _ (by omega), List.drop_zero]

theorem content_shift (s : List Byte) (off off' len n : Nat) (hn : len + n ≤ s.length)
    (h : (off' = off + n ∧ off' ≤ s.length) ∨ (off' + s.length = off + n ∧ off ≤ s.length)) :
    (Ring.mk s len off').content = (Ring.mk s (len + n) off).content.drop n := by
  rw [content_eq, content_eq, ← unroll_unroll s off n off' (by omega) h]
  simp only []
  rw [unroll, List.take_append_of_le_length (by rw [List.length_drop, unroll_length]; omega), List.drop_take,
    Nat.add_sub_cancel]

/-- physical index of logical position `pos` -/
def physIdx (M off pos : Nat) : Nat := if off + pos < M then off + pos else off + pos - M

/-- the content as the C struct denotes it, `base[(off + i) % max]` for `i < len`; the index is spelled `physIdx`,
    one subtraction for the remainder, which is right also at `off = max` -/
theorem getElem?_content (r : Ring) (i : Nat) (h1 : r.len ≤ r.store.length) (h2 : r.off ≤ r.store.length) :
    r.content[i]? = if i < r.len then r.store[physIdx r.store.length r.off i]? else none := by
  rw [content_eq, List.getElem?_take, unroll, List.getElem?_append, List.length_drop, List.getElem?_drop,
    List.getElem?_take, physIdx]
  ite_idx

theorem low_eq (r : Ring) : r.low = min (r.store.length - r.off) r.len := rfl

theorem low_spec (r : Ring) (h : r.WF) :
    r.low ≤ r.len ∧ r.off + r.low ≤ r.store.length ∧ (r.low < r.len → r.off + r.low = r.store.length) := by
  have := h.1; have := h.2
  rw [low_eq]; omega

/-- the content in the two parts `mpt_queue_data` hands out -/
theorem parts_low (r : Ring) (h : r.WF) : Parts r.store.length r.off 0 r.off r.low (r.len - r.low) :=
  Parts.of_min h.2 (by have := h.1; omega) (.inl ⟨rfl, h.2⟩)

theorem content_parts (r : Ring) (h : r.WF) :
    r.content = Mem.read r.store r.off r.low ++ Mem.read r.store 0 (r.len - r.low) := by
  rw [read_parts _ _ _ _ _ _ h.2 (parts_low r h), Nat.add_sub_cancel' (low_spec r h).1]
  rfl

/-- `WF` of a ring written out as `Ring.mk …`, with the projections already reduced: the two goals are plain
    inequalities that `omega` takes -/
theorem WF.mk {s : List Byte} {len off : Nat} (h1 : len ≤ s.length) (h2 : off ≤ s.length) :
    (Ring.mk s len off).WF := ⟨h1, h2⟩

theorem content_contig (s : List Byte) (len off : Nat) (hc : off + len ≤ s.length) :
    (Ring.mk s len off).content = Mem.read s off len := by
  rw [content_parts _ (.mk (by omega) (by omega)), show (Ring.mk s len off).low = len by rw [low_eq]; simp only []; omega,
    Nat.sub_self, Mem.read_zero, List.append_nil]

theorem content_wrapped (s : List Byte) (len off : Nat) (h1 : len ≤ s.length) (h2 : off ≤ s.length)
    (hw : s.length ≤ off + len) :
    (Ring.mk s len off).content = Mem.read s off (s.length - off) ++ Mem.read s 0 (len - (s.length - off)) := by
  rw [content_parts _ (.mk h1 h2), show (Ring.mk s len off).low = s.length - off by rw [low_eq]; simp only []; omega]

theorem read_part (s : List Byte) (off p a l : Nat) (ho : off ≤ s.length) (P : Parts s.length off p a l 0) :
    Mem.read s a l = Mem.read (unroll s off) p l := by
  have := read_parts s off p a l 0 ho P
  rwa [Mem.read_zero, List.append_nil, Nat.add_zero] at this

theorem write_part (s : List Byte) (off p a : Nat) (x : List Byte) (ho : off ≤ s.length)
    (P : Parts s.length off p a x.length 0) :
    unroll (Mem.write s a x) off = Mem.write (unroll s off) p x := by
  have := write_parts s off p a x [] ho P
  rwa [Mem.write_nil, List.append_nil] at this

/-- a `memmove` between two stretches that do not straddle the wrap is a `memmove` of the unrolled ring.  The storage
    size is a variable `M` with `s.length = M` (here and in the crop lemmas on top of it), so that a chain of moves can
    hand on each intermediate store with the length it has just been shown to have -/
theorem mv_unroll (s : List Byte) (M off d src k pd ps : Nat) (hM : s.length = M) (ho : off ≤ M)
    (Pd : Parts M off pd d k 0) (Ps : Parts M off ps src k 0) :
    ∃ s', Mem.mv s d src k = .ok s' ∧ s'.length = M ∧ unroll s' off = Mem.move (unroll s off) pd ps k := by
  subst hM
  have hs := (Ps.inside ho).1
  have hd := (Pd.inside ho).1
  have hl := Mem.read_length s src k hs
  refine ⟨_, Mem.mv_ok _ _ _ _ hs hd, Mem.move_length _ _ _ _ hs hd, ?_⟩
  rw [Mem.move, Mem.move, write_part s off pd d _ ho (by rw [hl]; exact Pd), read_part s off ps src k ho Ps]

theorem write_parts_length (s : List Byte) (off p a : Nat) (x y : List Byte) (ho : off ≤ s.length)
    (P : Parts s.length off p a x.length y.length) :
    (Mem.write (Mem.write s a x) 0 y).length = s.length := by
  have hi := P.inside ho
  rw [Mem.write_length _ _ _ (by rw [Mem.write_length _ _ _ hi.1]; omega), Mem.write_length _ _ _ hi.1]

theorem content_write_parts (r : Ring) (h : r.WF) (p a : Nat) (x y : List Byte)
    (P : Parts r.store.length r.off p a x.length y.length) (hn : p + (x.length + y.length) ≤ r.len) :
    (Mem.write (Mem.write r.store a x) 0 y).length = r.store.length ∧
      (Ring.mk (Mem.write (Mem.write r.store a x) 0 y) r.len r.off).content = Mem.write r.content p (x ++ y) := by
  refine ⟨write_parts_length _ _ _ _ _ _ h.2 P, ?_⟩
  rw [content_eq, content_eq]
  rw [write_parts _ _ _ _ _ _ h.2 P, Mem.take_write _ _ _ _ (by rw [List.length_append]; omega) (by rw [unroll_length]; exact h.1)]

theorem content_append_parts (r : Ring) (h : r.WF) (a : Nat) (x y : List Byte)
    (P : Parts r.store.length r.off r.len a x.length y.length) :
    (Ring.mk (Mem.write (Mem.write r.store a x) 0 y) (r.len + (x.length + y.length)) r.off).content
      = r.content ++ (x ++ y) := by
  rw [content_eq, content_eq]
  rw [write_parts _ _ _ _ _ _ h.2 P, ← List.length_append, Mem.take_write_end _ _ _ (by rw [unroll_length]; exact h.1)]

theorem content_move_down (r : Ring) (h : r.WF) (s' : List Byte) (pos n : Nat) (hn : pos + n ≤ r.len)
    (hu : unroll s' r.off = Mem.move (unroll r.store r.off) pos (pos + n) (r.len - (pos + n))) :
    (Ring.mk s' (r.len - n) r.off).content = r.content.take pos ++ r.content.drop (pos + n) := by
  have hl := Mem.read_length (unroll r.store r.off) (pos + n) (r.len - (pos + n))
    (by rw [unroll_length]; have := h.1; omega)
  rw [content_eq, content_eq]
  rw [hu, Mem.move, show r.len - n = pos + (Mem.read (unroll r.store r.off) (pos + n) (r.len - (pos + n))).length by omega,
    Mem.take_write_end _ _ _ (by rw [unroll_length]; have := h.1; omega), List.take_take, Nat.min_eq_left (by omega),
    List.drop_take, Mem.read]

theorem crop_zero_eq (r : Ring) (n : Nat) (hn : n ≤ r.len) :
    ∃ c, r.crop 0 n = .ok (Ring.mk r.store (r.len - n)
      (if n ≥ min (r.store.length - r.off) r.len then n - min (r.store.length - r.off) r.len else r.off + n), c) := by
  unfold crop low
  simp only [↓reduceIte, max]
  rw [if_neg (by omega)]
  split
  · exact ⟨_, rfl⟩
  · exact ⟨_, rfl⟩

/-- `mpt_queue_crop(q, 0, n)` only moves the offset (that the storage stays as it is matters to the coded queue, whose
    windows into it stay valid) -/
theorem crop_front {r : Ring} {cap : Nat} {d : List Byte} (H : r.Holds cap d) (n : Nat) (hn : n ≤ d.length) :
    ∃ r' c, r.crop 0 n = .ok (r', c) ∧ r'.Holds cap (d.drop n) ∧ r'.store = r.store := by
  have hl := H.len
  obtain ⟨⟨h1, h2⟩, rfl, rfl⟩ := H
  rw [← hl] at hn
  have hnil (hge : r.len ≤ n) : r.content.drop n = [] := List.drop_of_length_le (hl ▸ hge)
  clear hl
  obtain ⟨c, hc⟩ := crop_zero_eq r n hn
  refine ⟨_, c, hc, ⟨⟨by simp only []; omega, by simp only []; split <;> omega⟩, rfl, ?_⟩, rfl⟩
  by_cases hlt : n < r.len
  · rw [content_shift _ r.off _ _ n (by omega) (by split <;> omega), Nat.sub_add_cancel hn]
  · rw [content_nil _ (by simp only []; omega), hnil (by omega)]

end Ring
end Mpt
