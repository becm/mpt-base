/-
  `mpt_array_reserve` on heaps of managed buffers is a complete step, by its two branches: copy into a fresh buffer
  (`reserveNew_ok`), or on a private buffer destruction of incompatible content and retyping (`reserveKeep_ok`).
-/
import MptModel.Lemmas.TokDetach
namespace Mpt.Heap

/-- outcome of the copy part of `mpt_array_reserve` into the fresh buffer (not yet referenced by a handle) -/
theorem reserveCopy_res {s : State} {x : Buf} {tx t : Traits} (xt : x.traits = some tx) (mt : Managed t)
    {N : Nat} (hu : x.used = N * tx.size) (hsz : x.used ≤ x.size) (L : Nat) :
    (∃ e, reserveCopy (s.newBuf L 0 (some t)) s.bufs.length x L (some t) = .fail (s.newBuf L 0 (some t)) e) ∨
    (∃ s2 v z m cre, reserveCopy (s.newBuf L 0 (some t)) s.bufs.length x L (some t) = .ok s2 v ∧
       Frame (s.newBuf L 0 (some t)) s2 s.bufs.length ∧ s2.buf? s.bufs.length = some z ∧
       z.ref = 1 ∧ z.traits = some t ∧ GoodBuf z ∧ s2.next = s.next + m ∧ s2.log = s.log ++ cre ∧ Creates x.toks s.next cre m ∧
       (s2.next ≤ tokLimit → z.toks = seqFrom s.next m)) := by
  have hz : (s.newBuf L 0 (some t)).buf? s.bufs.length = some (State.fresh L 0 (some t)) := by
    rw [State.buf?_newBuf]; simp
  unfold reserveCopy
  split
  · rename_i cond
    obtain ⟨te, _, _⟩ := cond
    have e : tx = t := by rw [xt] at te; cases te; rfl
    subst e
    have m0 : x.used % esize x.traits = 0 := by rw [xt, hu]; exact Nat.mul_mod_left _ _
    rw [m0, Nat.sub_zero]
    rcases bufferSet_copy hz rfl rfl xt mt hu hsz (min x.used L) (Nat.min_le_left _ _) with
      ⟨e, he⟩ | ⟨s2, v, z, m, cre, he, fr, hb2, zr, zt, zg, _, hnx, hlog, crc, ztoks⟩
    · exact Or.inl ⟨e, he⟩
    · exact Or.inr ⟨s2, v, z, m, cre, he, fr, hb2, zr, zt, zg, hnx, hlog, crc, ztoks⟩
  · right
    refine ⟨_, 0, State.fresh L 0 (some t), 0, [], rfl, Frame.refl _ _, hz, rfl, rfl,
      goodBuf_of (n := 0) rfl mt (by simp [State.fresh]) (by simp), rfl, by show s.log = _; simp, Creates.nil _, ?_⟩
    intro _
    rw [fresh_toks _ _ t mt]; rfl


/-- shared / immutable / empty branch of `mpt_array_reserve`: a fresh buffer gets copies of the elements, the
    handle's reference to the old buffer is dropped (the last one destroys its elements) -/
theorem reserveNew_ok {amb : List Nat} {s : State} (gs : GoodS amb s) {h : Nat} (hlt : h < s.hs.length) (t : Traits) (mt : Managed t)
    (L : Nat) : OpOK amb s (reserveNew s h (s.handle h) L (some t)) := by
  have hnb : s.buf? s.bufs.length = none := State.buf?_ge_length s _ (Nat.le_refl _)
  unfold reserveNew
  cases hh : s.handle h with
  | none =>
    simp only
    exact (attach_managed_step gs hlt hh L 0 t mt).1
  | some b =>
    simp only
    obtain ⟨x, hb⟩ := gs.inv.live h b hh
    rw [hb]
    simp only
    obtain ⟨tx, N, xt, mtx, hu, hsz⟩ := (gs.inv.good b x hb).elems
    have blt := State.buf?_lt hb
    have nbne : s.bufs.length ≠ b := by omega
    have bne : ¬ b = s.bufs.length := fun e => nbne e.symm
    have r := gs.inv.ref b x hb
    have ez : ¬ esize x.traits = 0 := by rw [xt]; have := mtx.2.2; simp only [esize]; omega
    rw [if_neg ez]
    have hz1 : (s.newBuf L 0 (some t)).buf? s.bufs.length = some (State.fresh L 0 (some t)) := by
      rw [State.buf?_newBuf]; simp
    rcases reserveCopy_res (s := s) xt mt hu hsz L with ⟨e, he⟩ | ⟨s2, v, z, m, cre, he, fr, hz, zr, zt, zg, hnx, hlog, crc, ztoks⟩
    · -- the copy was refused: the new buffer is released again
      rw [he]
      simp only
      obtain ⟨s4, hu4, o4, hb4, lg4⟩ := unref_spec hz1 (Nat.le_refl 1) (by simp [State.fresh])
      rw [hu4]
      simp only
      refine step_of_same gs (fun c => ?_) o4.hs (by rw [lg4, toks_empty rfl]; show s.log ++ _ = _; simp) o4.next
      by_cases e2 : c = s.bufs.length
      · rw [e2, hb4, dropRef, hz1, hnb]; rfl
      · rw [o4.other c e2, State.buf?_newBuf, if_neg e2]
    · -- the handle drops its reference to the old buffer: the last one destroys the old elements, after the copy
      rw [he]
      simp only
      have hb2 : s2.buf? b = some x := by rw [fr.other b bne, State.buf?_newBuf]; simp [bne, hb]
      obtain ⟨s3, hu3, o3, hb3, lg3⟩ := unref_spec hb2 r.2 hsz
      rw [hu3]
      rw [dropRef, hb2] at hb3
      simp only at hb3
      refine (retarget_step (s' := s3.setHandle h (some s.bufs.length)) (y := s3.buf? b) gs hh hb hb3
        (by rw [State.setHandle_hs, o3.hs, fr.hs]; rfl) (fun c => ?_) zr zg (by show s.next ≤ s3.next; rw [o3.next]; omega)
        (fun small => ?_)).1
      · show s3.buf? c = _
        by_cases e1 : c = s.bufs.length
        · rw [if_pos e1, e1, o3.other _ nbne, hz]
        · by_cases e2 : c = b
          · rw [if_neg e1, if_pos e2, e2]
          · rw [if_neg e1, if_neg e2, o3.other c e2, fr.other c e1, State.buf?_newBuf, if_neg e1]
      · have small2 : s2.next ≤ tokLimit := by rw [← o3.next]; exact small
        have srcs : ∀ k ∈ x.toks, k ∈ amb ∨ k ∈ stored s := fun k hk => Or.inr (mem_stored.mpr ⟨b, x, hb, hk⟩)
        rw [hb3, ztoks small2]
        by_cases r1 : x.ref = 1
        · rw [if_pos r1]
          exact .mk (A := []) (G := x.toks) (T := []) (by simp) (by simp [bufToks, bufToks_ref])
            (by show s3.next = _; rw [o3.next, hnx]) (by show s3.log = _; rw [lg3, if_pos r1, hlog]) (.refl _) crc srcs
        · rw [if_neg r1]
          exact .mk (A := x.toks) (G := []) (T := []) (D := []) (by simp) (by simp [bufToks, bufToks_ref])
            (by show s3.next = _; rw [o3.next, hnx]) (by show s3.log = _; rw [lg3, if_neg r1, hlog]; simp) (.refl _) crc srcs


/-- incompatible content of a private buffer is destroyed by `mpt_array_reserve` before the type is replaced -/
theorem reserveClear_step {amb : List Nat} {s : State} {b : Nat} {x : Buf} {tx : Traits} (gs : GoodS amb s) (hb : s.buf? b = some x)
    (xt : x.traits = some tx) (t : Traits) :
    match reserveClear s b x (some t) with
    | .fault _ => False
    | .fail _ _ => False
    | .ok s1 _ => Step amb s s1 ∧ Frame s s1 b ∧ ∃ x1, s1.buf? b = some x1 ∧ x1.traits = some tx ∧
        (x1.used = 0 ∨ tx = t ∨ tx.size = t.size) := by
  obtain ⟨tx', N, xt', mtx, hu, hsz⟩ := (gs.inv.good b x hb).elems
  have e : tx' = tx := by rw [xt] at xt'; cases xt'; rfl
  subst e
  have h4 := mtx.2.2
  have sz0 : tx'.size ≠ 0 := by omega
  unfold reserveClear
  by_cases cond : x.traits ≠ some t ∧ (x.traits.isNone = true ∨ (x.traits.bind (·.fini)).isNone = true ∨ (some t).isNone = true
      ∨ x.traits.bind (·.fini) ≠ (some t).bind (·.fini) ∨ esize x.traits ≠ esize (some t))
  · rw [if_pos cond]
    unfold reserveFini
    simp only [xt, mtx.2.1, if_true, if_neg sz0]
    have cnt : (x.used - x.used % tx'.size) / tx'.size = N := by
      rw [hu, Nat.mul_mod_left, Nat.sub_zero, Nat.mul_div_cancel N (Nat.pos_of_ne_zero sz0)]
    rw [cnt]
    obtain ⟨s1, d', h1, ob, lg, hb1, dl, _⟩ := finiLoop_slots N s b 0 tx'.size x hb h4 (by rw [Nat.zero_add, ← hu]; exact hsz)
    rw [Nat.zero_mul] at h1
    rw [h1]
    simp only [hb1]
    have blt1 := State.buf?_lt hb1
    have fr : Frame s (s1.setBuf b { x with data := d', used := 0 }) b := ob.frame.setBuf _ blt1
    have hb' := State.buf?_setBuf_self s1 b { x with data := d', used := 0 } blt1
    refine ⟨?_, fr, _, hb', xt, Or.inl rfl⟩
    have tk' : ({ x with data := d', used := 0 } : Buf).toks = [] := by
      rw [toks_of_used (x := { x with data := d', used := 0 }) (n := 0) xt mtx (by simp)]; rfl
    refine step_of_frame gs hb fr hb' rfl (goodBuf_of (n := 0) xt mtx (by simp) (by simp)) (by show s.next ≤ s1.next; rw [ob.next]; exact Nat.le_refl _) ?_
    intro _
    rw [tk']
    exact .mk (A := []) (G := x.toks) (T := []) (cre := []) (m := 0) (S := []) (by simp) (by simp [seqFrom])
      (by show s1.next = _; rw [ob.next]; rfl)
      (by show s1.log = _; rw [lg, toks_of_used xt mtx hu]; simp) (.refl _) (Creates.nil _) nofun
  · rw [if_neg cond]
    refine ⟨Step.refl gs, Frame.refl s b, x, hb, xt, Or.inr ?_⟩
    by_cases e1 : tx' = t
    · exact Or.inl e1
    · right
      simp only [ne_eq, xt, Option.isNone_some, Option.bind_some, Bool.false_eq_true, false_or, esize] at cond
      apply Decidable.byContradiction
      intro nf
      exact cond ⟨fun e => by cases e; exact e1 rfl, Or.inr (Or.inr nf)⟩

theorem retype_step {amb : List Nat} {s : State} {nb : Nat} {z : Buf} {tx t : Traits} (gs : GoodS amb s) (hz : s.buf? nb = some z)
    (zt : z.traits = some tx) (mt : Managed t) (ok : z.used = 0 ∨ tx.size = t.size) :
    Step amb s (s.setBuf nb { z with traits := some t }) := by
  obtain ⟨tx', N, zt', mtx, hu, hsz⟩ := (gs.inv.good nb z hz).elems
  have e : tx' = tx := by rw [zt] at zt'; cases zt'; rfl
  subst e
  have blt := State.buf?_lt hz
  have hb' := State.buf?_setBuf_self s nb { z with traits := some t } blt
  -- the tokens stay where they are: an empty buffer stores none, and with the same element size the slots are the same
  have both : ∃ M, z.used = M * t.size ∧ ({ z with traits := some t } : Buf).toks = z.toks := by
    rcases ok with u0 | se
    · refine ⟨0, by rw [u0]; simp, ?_⟩
      have n0 : N = 0 := by
        rw [u0] at hu
        rcases Nat.mul_eq_zero.mp hu.symm with h | h
        · exact h
        · have := mtx.2.2; omega
      rw [toks_of_used (x := { z with traits := some t }) (n := 0) rfl mt (by rw [u0]; simp), toks_of_used zt mtx hu, n0]
      rfl
    · refine ⟨N, by rw [← se]; exact hu, ?_⟩
      rw [toks_of_used (x := { z with traits := some t }) (n := N) rfl mt (by rw [← se]; exact hu), toks_of_used zt mtx hu, se]
  obtain ⟨M, hM, tk⟩ := both
  refine step_of_frame gs hz ((Frame.refl s nb).setBuf _ blt) hb' rfl (goodBuf_of (n := M) rfl mt hM (by rw [← hM]; exact hsz)) (Nat.le_refl _) ?_
  intro _
  rw [tk]
  exact .mk (A := z.toks) (G := []) (T := []) (D := []) (cre := []) (m := 0) (S := []) (by simp) (by simp [seqFrom])
    rfl (by show s.log = _; simp) (.refl _) (Creates.nil _) nofun

theorem reserveKeep_ok {amb : List Nat} {s : State} (gs : GoodS amb s) {h b : Nat} {x : Buf} {tx : Traits} (hh : s.handle h = some b)
    (hb : s.buf? b = some x) (xt : x.traits = some tx) (t : Traits) (mt : Managed t) (L : Nat) :
    OpOK amb s (reserveKeep s h b x L (some t)) := by
  unfold reserveKeep
  have rc := reserveClear_step gs hb xt t
  generalize reserveClear s b x (some t) = r at rc
  cases r with
  | fault w => exact rc
  | fail s1 e => exact rc.elim
  | ok s1 u =>
    obtain ⟨st1, fr1, x1, hb1, x1t, alt⟩ := rc
    simp only
    rcases ensure_step st1.good ((fr1.handle h).trans hh) hb1 x1t true L with ⟨s2, e, he, es⟩ | ⟨s2, nb, he, es⟩
    · rw [he]; exact st1.trans es
    · rw [he]
      obtain ⟨st2, _, z, hz, zt, zu⟩ := es
      simp only [hz]
      refine st1.trans (st2.trans (retype_step st2.good hz zt mt ?_))
      rcases alt with u0 | e | e
      · left; omega
      · right; rw [e]
      · right; exact e

/-- `mpt_array_reserve` with managed element traits (a differently typed private buffer keeps its data only when the
    types share destructor and element size) -/
theorem reserve_ok {amb : List Nat} {s : State} (gs : GoodS amb s) {h : Nat} (hlt : h < s.hs.length) (len : Nat) (t : Traits) (mt : Managed t) :
    OpOK amb s (arrayReserve s h len (some t)) := by
  have h4 := mt.2.2
  have sz0 : ¬ esize (some t) = 0 := by simp only [esize]; omega
  unfold arrayReserve
  rw [if_neg sz0]
  cases hh : s.handle h with
  | none =>
    simp only
    have := reserveNew_ok gs hlt t mt (roundUp len (esize (some t)))
    rw [hh] at this
    exact this
  | some b =>
    simp only
    obtain ⟨x, hb⟩ := gs.inv.live h b hh
    rw [hb]
    simp only
    split
    · split
      · exact Step.refl gs
      · have := reserveNew_ok gs hlt t mt (reserveLen x (roundUp len (esize (some t))) (some t))
        rw [hh] at this
        exact this
    · obtain ⟨tx, _, xt, _, _, _⟩ := (gs.inv.good b x hb).elems
      exact reserveKeep_ok gs hh hb xt t mt _

end Mpt.Heap
