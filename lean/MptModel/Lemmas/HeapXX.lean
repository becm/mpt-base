/-
  Semantics of the C++ wrappers (Impl/HeapXX.lean) on plain buffers, built on the lemmas of the C layer: `mpt::array` and
  `reference` (`arraySetX_sem`, `arrayAppendX_sem`, `refAssign_sem`), then `unique_array<T>` / `typed_array<T>`
  (`uReserve_sem`, `uResize_sem`, `uInsert_sem`).
-/
import MptModel.Impl.HeapXX
import MptModel.Lemmas.HeapOps
namespace Mpt.Heap

theorem setFresh_sem {s : State} (inv : Inv s) {h : Nat} (hlt : h < s.hs.length) (bytes : List Byte) :
    Sem s h (fun _ v' => v' = bytes) (setFresh s h bytes) := by
  unfold setFresh
  simp only
  rw [show (s.newBuf bytes.length 0).buf? s.bufs.length = some (State.fresh bytes.length 0 none) by
    rw [State.buf?_newBuf, if_pos rfl]]
  simp only
  have asz := le_allocSize bytes.length
  rw [if_neg (by rw [fresh_size]; omega)]
  have rs := replaceBuf_filled_sem inv hlt bytes.length bytes.length bytes rfl asz
    (s2 := setUsed (s.newBuf bytes.length 0) s.bufs.length (State.fresh bytes.length 0 none)
      (Mem.write (State.fresh bytes.length 0 none).data 0 bytes) bytes.length)
    rfl
    (by intro c; simp only [setUsed]; rw [State.buf?_setBuf _ _ _ _ (by simp), State.buf?_newBuf]; split <;> rfl)
  generalize replaceBuf _ h (some s.bufs.length) (s.handle h) = r at rs
  cases r <;> exact rs

theorem arraySetX_sem {s : State} (inv : Inv s) {h : Nat} (hlt : h < s.hs.length) (bytes : List Byte) :
    Sem s h (fun _ v' => v' = bytes) (arraySetX s h bytes) := by
  unfold arraySetX
  cases hh : s.handle h with
  | none => exact setFresh_sem inv hlt bytes
  | some b =>
    simp only
    obtain ⟨x, hb⟩ := inv.live h b hh
    rw [hb]
    simp only
    have hu := inv.used b x hb
    have r := inv.ref b x hb
    -- the write in place, taken only for a raw buffer that is not shared and has room; every other branch is `setFresh`
    have inplace : ¬ (x.traits.isSome = true ∨ x.shared = true) → bytes.length ≤ x.size →
        Sem s h (fun _ v' => v' = bytes) (Out.ok (setUsed s b x (Mem.write x.data 0 bytes) bytes.length) 0) := by
      intro c fit
      simp only [not_or, Bool.not_eq_true, Option.isSome_eq_false_iff, Option.isNone_iff_eq_none] at c
      have r1 : x.ref = 1 := by have := c.2; simp [Buf.shared] at this; omega
      simp only [Buf.size] at fit
      have pm := inv.setBuf_private hh hb r1 { x with data := Mem.write x.data 0 bytes, used := bytes.length } r1
        (by simp only [Buf.size]; rw [Mem.write_length _ _ _ (by omega)]; exact fit)
        (by rw [c.1]; exact PlainT.none) (by simp [c.1, esize, Nat.mod_one])
      refine ⟨pm.1, by simp [setUsed], ?_, pm.2.2⟩
      simp only [setUsed]
      rw [pm.2.1]
      simp only [Buf.content]
      exact take_write_zero _ _
    split
    · exact setFresh_sem inv hlt bytes
    · rename_i c
      split
      · rename_i le
        exact inplace c (by simp only [Buf.size] at hu ⊢; omega)
      · split
        · exact setFresh_sem inv hlt bytes
        · rename_i gt nofresh
          exact inplace c (by simp only [Buf.size] at hu nofresh ⊢; omega)

theorem arrayInsertX_sem {s : State} (inv : Inv s) {h : Nat} (hlt : h < s.hs.length) (off : Nat) (bytes : List Byte) :
    Sem s h (fun v v' => v' = Vec.insert v off bytes) (arrayInsertX s h off bytes) := by
  unfold arrayInsertX
  cases handleTyped s h with
  | true => exact Sem.fail_same inv _ _ _
  | false => exact insert_sem inv hlt off bytes

theorem arrayAppendX_sem {s : State} (inv : Inv s) {h : Nat} (hlt : h < s.hs.length) (bytes : List Byte) :
    Sem s h (fun v v' => v' = Vec.append v bytes) (arrayAppendX s h bytes) :=
  append_sem inv hlt bytes

theorem unit_eq {α : Type} (r : Out α) : r.unit = Out.mapv (fun _ => ()) r := by
  cases r <;> rfl

theorem refDrop_sem {s : State} (inv : Inv s) {h : Nat} (hlt : h < s.hs.length) :
    Sem s h (fun _ v' => v' = []) (refDrop s h) := by
  unfold refDrop
  rw [unit_eq]
  have := clone_sem inv hlt none
  unfold arrayClone at this
  exact this.mapv _

theorem refAssign_sem {s : State} (inv : Inv s) {dst : Nat} (hlt : dst < s.hs.length) (src : Nat) :
    Sem s dst (fun _ v' => v' = s.abs src) (refAssign s dst src) := by
  unfold refAssign
  split
  · rename_i same
    refine ⟨inv, rfl, ?_, fun _ _ => rfl⟩
    simp [State.abs_eq, same]
  · rename_i diff
    cases hs : s.handle src with
    | none =>
      simp only
      rw [unit_eq]
      exact (unshare_sem inv hlt hs diff).mapv _
    | some a =>
      simp only
      obtain ⟨x, ha⟩ := inv.live src a hs
      obtain ⟨k, e⟩ := addref_live ha (inv.ref a x ha).2
      rw [e]
      simp only
      rw [unit_eq]
      exact (share_sem inv hlt hs ha diff).mapv _

/-! ### `unique_array<T>` / `typed_array<T>` with plain element types: `reserve`, `detach`, `resize` (with
  `content<T>::set_length`, `buffer::trim`) and `insert` -/

/-- outcome of `unique_array::reserve(n)`: refused without a trace, or the handle owns a buffer of its type with
    room for `n` elements whose content is the old content (cut behind at least `n` elements) -/
def ReservePost (s : State) (h : Nat) (k : XKind) (n : Nat) (r : Out Unit) : Prop :=
  match r with
  | .fault _ => False
  | .fail s' _ => Kept s h s' ∧ s'.abs h = s.abs h
  | .ok s' _ => ∃ nb z, Detached s h (some k.t) (n * k.t.size) s' nb z

theorem uReserve_post {s : State} (inv : Inv s) {h : Nat} (hlt : h < s.hs.length) (k : XKind) (pt : PlainT (some k.t))
    (hk : ∀ b x, s.handle h = some b → s.buf? b = some x → x.traits = some k.t) (n : Nat) :
    ReservePost s h k n (uReserve s h k n) := by
  unfold uReserve
  cases hh : s.handle h with
  | none =>
    simp only [xCreate]
    have lm : n * k.t.size - n * k.t.size % k.t.size = n * k.t.size := by rw [Nat.mul_mod_left]; rfl
    rw [lm]
    obtain ⟨d, _⟩ := attach inv hlt hh (n * k.t.size) (if k.unique then 2 else 0) (some k.t) pt
      (by cases k.unique <;> simp [Buf.immutable, State.fresh])
    exact ⟨_, _, d⟩
  | some b =>
    simp only
    obtain ⟨x, hb⟩ := inv.live h b hh
    have es := ensure_sem inv hh hb true (n * k.t.size) (by intro c; cases c)
    rw [hk b x hh hb] at es
    generalize ensure s h b true (n * k.t.size) = r at es
    cases r with
    | fault w => exact es
    | fail s1 e => exact ⟨es.1, es.2.1⟩
    | ok s1 nb => exact ⟨nb, es⟩

theorem uReserve_sem {s : State} (inv : Inv s) {h : Nat} (hlt : h < s.hs.length) (k : XKind) (pt : PlainT (some k.t))
    (hk : ∀ b x, s.handle h = some b → s.buf? b = some x → x.traits = some k.t) (n : Nat) :
    Sem s h (fun v v' => ∃ m, n * k.t.size ≤ m ∧ v' = v.take m) (uReserve s h k n) := by
  have rp := uReserve_post inv hlt k pt hk n
  generalize uReserve s h k n = r at rp
  cases r with
  | fault w => exact rp
  | fail s1 e => exact rp.1.sem_fail rp.2 _ _
  | ok s1 u =>
    obtain ⟨nb, z, d⟩ := rp
    obtain ⟨m, hm, e, _⟩ := d.content
    exact d.kept.sem_ok ⟨m, hm, e⟩ _

theorem uDetach_sem {s : State} (inv : Inv s) {h : Nat} (hlt : h < s.hs.length) (k : XKind) (pt : PlainT (some k.t))
    (hk : ∀ b x, s.handle h = some b → s.buf? b = some x → x.traits = some k.t) :
    Sem s h (fun v v' => v' = v) (uDetach s h k) := by
  unfold uDetach
  cases hh : s.handle h with
  | none =>
    simp only [xCreate]
    obtain ⟨d, same⟩ := attach inv hlt hh (0 - 0 % k.t.size) (if k.unique then 2 else 0) (some k.t) pt
      (by cases k.unique <;> simp [Buf.immutable, State.fresh])
    exact d.kept.sem_ok same _
  | some b =>
    simp only
    obtain ⟨x, hb⟩ := inv.live h b hh
    rw [hb]
    simp only
    have al := inv.aligned b x hb
    rw [hk b x hh hb] at al
    simp only [esize] at al
    have eu : x.used / k.t.size * k.t.size = x.used := by
      have := Nat.div_add_mod x.used k.t.size
      rw [al, Nat.mul_comm] at this; omega
    rw [eu]
    exact ensure_then inv hh hb true x.used (by intro c; cases c) (Nat.le_refl _) (f := fun _ e => e)
      fun s1 _ _ inv1 _ _ _ _ => ⟨inv1, rfl, rfl, fun _ _ => rfl⟩

theorem contentSetLength_own {s : State} {h nb : Nat} {z : Buf} {t : Traits} (inv : Inv s) (o : Own s h nb z) (zt : z.traits = some t)
    (pt : PlainT (some t)) (n : Nat) (fit : n * t.size ≤ z.size) :
    ∃ s', contentSetLength s nb n t.size = .ok s' () ∧ Kept s h s' ∧
      s'.abs h = if n * t.size ≤ (s.abs h).length then (s.abs h).take (n * t.size) else Vec.padTo (s.abs h) (n * t.size) := by
  have sz0 := (pt t rfl).2.2
  have zu := inv.used nb z o.hb
  have zp := inv.plain nb z o.hb
  have za := inv.aligned nb z o.hb
  have cl := content_length z zu
  rw [State.abs_of o.hh o.hb, cl]
  unfold contentSetLength
  rw [o.hb]
  simp only
  -- same length: nothing; shorter: `buffer::trim`; longer: `mpt_buffer_insert` of no bytes at the new end zeroes the gap
  by_cases e : n * t.size = z.used
  · rw [if_pos e]
    refine ⟨s, rfl, Kept.refl inv h, ?_⟩
    rw [if_pos (by omega), State.abs_of o.hh o.hb, e]
    exact (List.take_of_length_le (by omega)).symm
  · rw [if_neg e]
    by_cases lt : n * t.size < z.used
    · rw [if_pos lt]
      unfold bufTrim
      rw [o.hb]
      simp only
      rw [if_neg (by omega)]
      have k1 : z.used - (z.used - n * t.size) = n * t.size := by omega
      simp only [zt, k1]
      have a2 : z.used % t.size = 0 := by rw [zt] at za; exact za
      rw [if_neg (by simp [sz0, a2, Nat.mul_mod_left])]
      simp only [(pt t rfl).2.1, Option.isSome_none, Bool.false_eq_true, if_false, o.hb]
      have up := o.update inv { z with used := n * t.size } o.ref rfl (by simp only [Buf.size]; simp only [Buf.size] at fit; exact fit)
        zp (by show (n * t.size) % esize z.traits = 0; rw [zt]; exact Nat.mul_mod_left _ _)
      obtain ⟨inv', _, abs', oth', len'⟩ := up
      refine ⟨_, rfl, ⟨inv', len', oth'⟩, ?_⟩
      rw [abs', if_pos (by omega)]
      simp only [Buf.content, List.take_take]
      rw [Nat.min_eq_left (by omega)]
    · rw [if_neg lt]
      rw [bufferInsert_plain o.hb zp za, if_neg (not_insRefused o.wr (by omega)
        (by rw [zt]; exact Nat.mul_mod_left _ _) (Nat.zero_mod _))]
      simp only
      have ipc := insPlain_poke_content z (n * t.size) [] zu (by simp; omega)
      simp only [List.length_nil, Mem.write_nil] at ipc
      have up := o.update inv (insPlain z (n * t.size) 0) o.ref rfl
        (by
          simp only [Buf.size, ipc.2]
          show max z.used (n * t.size) + 0 ≤ z.data.length
          simp only [Buf.size] at fit; omega)
        zp
        (by
          show (max z.used (n * t.size) + 0) % esize z.traits = 0
          have : max z.used (n * t.size) + 0 = n * t.size := by omega
          rw [this, zt]; exact Nat.mul_mod_left _ _)
      obtain ⟨inv', _, abs', oth', len'⟩ := up
      refine ⟨_, rfl, ⟨inv', len', oth'⟩, ?_⟩
      rw [abs', if_neg (by omega)]
      show (insPlain z (n * t.size) 0).data.take (insPlain z (n * t.size) 0).used = _
      rw [ipc.1]
      simp only [Vec.insert, List.append_nil]
      rw [List.drop_of_length_le (by omega), List.append_nil]
      apply List.take_of_length_le
      rw [padTo_length]
      omega

theorem uResize_sem {s : State} (inv : Inv s) {h : Nat} (hlt : h < s.hs.length) (k : XKind) (pt : PlainT (some k.t))
    (hk : ∀ b x, s.handle h = some b → s.buf? b = some x → x.traits = some k.t) (n : Nat) :
    Sem s h (fun v v' => v' = if n * k.t.size ≤ v.length then v.take (n * k.t.size) else Vec.padTo v (n * k.t.size))
      (uResize s h k n) := by
  unfold uResize
  have rp := uReserve_post inv hlt k pt hk n
  generalize uReserve s h k n = r at rp
  cases r with
  | fault w => exact rp
  | fail s1 e => exact rp.1.sem_fail rp.2 _ _
  | ok s1 u =>
    obtain ⟨nb, z, d⟩ := rp
    simp only [d.own.hh]
    obtain ⟨s2, q, st2, abs2⟩ := contentSetLength_own d.kept.inv d.own d.traits pt n d.size
    rw [q]
    refine (d.kept.trans st2).sem_ok ?_ _
    -- the reservation kept at least `n` elements of the old value
    obtain ⟨m, hm, e, _⟩ := d.content
    rw [abs2, e, List.length_take]
    by_cases c : n * k.t.size ≤ (s.abs h).length
    · rw [if_pos (by omega), if_pos c, List.take_take, Nat.min_eq_left hm]
    · rw [if_neg (by omega), if_neg c, List.take_of_length_le (by omega)]

theorem placeElem_plain (s : State) (h nb p : Nat) (k : XKind) (val : List Byte) (pt : PlainT (some k.t)) :
    placeElem s h nb p k (some val) none = poke s h p val := by
  unfold placeElem
  have := (pt k.t rfl).1
  simp [this]

theorem insertPos_need {len : Nat} {pos : Int} {p need : Nat} (e : insertPos len pos = some (p, need)) : max len p + 1 ≤ need := by
  unfold insertPos at e
  have c : Int.ofNat len = (len : Int) := rfl
  split at e
  · split at e
    · cases e
    · cases e; omega
  · cases e; omega

theorem uInsert_sem {s : State} (inv : Inv s) {h : Nat} (hlt : h < s.hs.length) (k : XKind) (pt : PlainT (some k.t))
    (hk : ∀ b x, s.handle h = some b → s.buf? b = some x → x.traits = some k.t) (pos : Int) (val : List Byte)
    (vl : val.length = k.t.size) :
    Sem s h (fun v v' => ∃ p need, insertPos (v.length / k.t.size) pos = some (p, need) ∧ v' = Vec.insert v (p * k.t.size) val)
      (uInsert s h k pos (some val) none) := by
  have xl : xLength s h k = (s.abs h).length / k.t.size := by
    unfold xLength
    cases hh : s.handle h with
    | none => simp [State.abs_none hh]
    | some b =>
      obtain ⟨x, hb⟩ := inv.live h b hh
      simp only [Option.bind_some, hb]
      rw [State.abs_of hh hb, content_length x (inv.used b x hb)]
  unfold uInsert
  rw [xl]
  cases hip : insertPos ((s.abs h).length / k.t.size) pos with
  | none => exact Sem.fail_same inv _ _ _
  | some pn =>
    obtain ⟨p, need⟩ := pn
    simp only
    have rp := uReserve_post inv hlt k pt hk need
    generalize uReserve s h k need = r at rp
    cases r with
    | fault w => exact rp
    | fail s1 e => exact rp.1.sem_fail rp.2 _ _
    | ok s1 u =>
      obtain ⟨nb, z, d⟩ := rp
      -- the reservation kept the whole value: `need` elements are more than there are
      have same : s1.abs h = s.abs h := by
        apply d.same
        have := Nat.mul_le_mul_right k.t.size (insertPos_need hip)
        have := Nat.mul_le_mul_right k.t.size (Nat.le_max_left ((s.abs h).length / k.t.size) p)
        have := Nat.lt_div_mul_add (a := (s.abs h).length) (Nat.pos_of_ne_zero (pt k.t rfl).2.2)
        rw [Nat.add_mul, Nat.one_mul] at *
        omega
      simp only [d.own.hh, placeElem_plain _ _ _ _ _ _ pt]
      refine Sem.after d.kept same ?_
      rcases d.own.insert_cases d.kept.inv (p * k.t.size) _ val vl with ⟨_, q⟩ | ⟨s3, q, hpk, sem, _⟩
      · rw [q]; exact Sem.fail_same d.kept.inv _ _ _
      · rw [q]
        simp only
        rw [hpk]
        exact Sem.weaken (sem ()) fun v' e => ⟨p, need, by rw [same]; exact hip, e⟩

end Mpt.Heap
