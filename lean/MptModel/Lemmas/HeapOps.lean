/-
  Op-level semantics of the heap model on plain buffers (C04): every array operation, run on a state
  satisfying the invariant, never faults, preserves the invariant, leaves every other handle's content
  unchanged and changes the content of its own handle as the vector spec says (`Sem`).  Which lemma speaks of which model
  function is read off `exec` and `exec_sem` (Lemmas/HeapHist).

  Each proof follows the code: the handle is empty and gets a fresh buffer (`attach`) or `ensure` hands it a private
  one; the rest of the operation is judged in the state reached then (`ensure_then`, `Sem.after`), where the handle owns
  its buffer and the buffer-level function changes it in place (`HeapOwn`).  Two groups do not go that way: clone / drop
  re-point the handle (`replaceBuf_move` on `Inv.move`, with `share_sem`, `unshare_sem`), and reserve has its own allocation
  and copy (`reserveNew_sem`) beside the `ensure` of its private branch (`reserveKeep_sem`).
-/
import MptModel.Lemmas.HeapDetach
import MptModel.Lemmas.HeapOwn
namespace Mpt.Heap

theorem append_sem {s : State} (inv : Inv s) {h : Nat} (hlt : h < s.hs.length) (bytes : List Byte) :
    Sem s h (fun v v' => v' = Vec.append v bytes) (arrayAppend s h bytes) := by
  unfold arrayAppend
  cases hh : s.handle h with
  | none =>
    obtain ⟨d, same⟩ := attach inv hlt hh bytes.length 0 none PlainT.none (fresh_mutable _ _)
    exact Sem.after d.kept same
      (d.own.appendAt_sem d.kept.inv bytes (by rw [fresh_used, Nat.zero_add]; exact d.size) rfl)
  | some b =>
    obtain ⟨x, hb⟩ := inv.live h b hh
    simp only [hb]
    split
    · exact Sem.fail_same inv _ _ _
    · rename_i raw
      by_cases l0 : bytes.length = 0
      · -- nothing to append: no detach, no write
        rw [List.eq_nil_of_length_eq_zero l0]
        simp [ensure, appendAt, Sem, Vec.append, inv]
      refine ensure_then inv hh hb _ _ ?_ (Nat.le_add_right _ _) (f := fun _ _ => .null)
        fun s1 nb z inv1 o zs zt zu => ?_
      · intro hn
        simp only [decide_eq_false_iff_not, not_or, not_and, Buf.shared, decide_eq_true_eq, Bool.not_eq_true] at hn
        have c := hn.2 l0
        exact ⟨by omega, c.2, by omega⟩
      · rw [← zu] at zs ⊢
        exact o.appendAt_sem inv1 bytes zs (by rw [zt]; simpa using raw)

theorem bset_sem {s : State} (inv : Inv s) (h pos : Nat) (bytes : List Byte) (hasSrc : Bool) :
    Sem s h (fun v v' => v' = Vec.write v pos bytes) (bsetOp s h pos bytes hasSrc) := by
  unfold bsetOp
  cases hh : s.handle h with
  | none => exact Sem.fail_same inv _ _ _
  | some b =>
    obtain ⟨x, hb⟩ := inv.live h b hh
    simp only [hb]
    exact ensure_then inv hh hb true _ (by intro e; cases e) (Nat.le_max_left _ _) (f := fun _ e => e)
      fun s1 nb z inv1 o _ zt _ => zt ▸ o.bufferSet_sem inv1 pos bytes hasSrc

theorem cut_sem {s : State} (inv : Inv s) (h off len : Nat) :
    Sem s h (fun v v' => Vec.cut v off len = some v') (cutOp s h off len) := by
  unfold cutOp
  cases hh : s.handle h with
  | none => exact Sem.fail_same inv _ _ _
  | some b =>
    obtain ⟨x, hb⟩ := inv.live h b hh
    simp only [hb]
    exact ensure_then inv hh hb true x.used (by intro e; cases e) (Nat.le_refl _) (f := fun _ e => e)
      fun s1 nb z inv1 o _ _ _ => o.bufferCut_sem inv1 off len

theorem insert_sem {s : State} (inv : Inv s) {h : Nat} (hlt : h < s.hs.length) (pos : Nat) (bytes : List Byte) :
    Sem s h (fun v v' => v' = Vec.insert v pos bytes) (insertOp s h pos bytes) := by
  unfold insertOp arrayInsert
  cases hh : s.handle h with
  | none =>
    obtain ⟨d, same⟩ := attach inv hlt hh (bytes.length + pos) 0 none PlainT.none (fresh_mutable _ _)
    simp only
    have asz := d.size
    -- the fresh buffer is set up as `mpt_buffer_insert` would do it
    have e : ∀ s1 : State, setUsed s1 s.bufs.length (State.fresh (bytes.length + pos) 0 none)
        (if pos ≠ 0 then Mem.write (State.fresh (bytes.length + pos) 0 none).data 0 (zeros pos)
          else (State.fresh (bytes.length + pos) 0 none).data) (bytes.length + pos)
        = s1.setBuf s.bufs.length (insPlain (State.fresh (bytes.length + pos) 0 none) pos bytes.length) := by
      intro s1
      simp only [setUsed, insPlain, zero_fill_if, fresh_used, Nat.zero_sub, Mem.move_zero, Nat.sub_zero, Nat.zero_max,
        Nat.add_comm]
    simp only [d.own.hb, e]
    rcases d.own.insert_cases d.kept.inv pos _ bytes rfl with ⟨c, _⟩ | ⟨s3, _, hpk, sem, _⟩
    · exact absurd c (not_insRefused d.own.wr (by rw [fresh_used]; omega) (Nat.mod_one _) (Nat.mod_one _))
    · rw [hpk]; exact Sem.after d.kept same (sem _)
  | some b =>
    obtain ⟨x, hb⟩ := inv.live h b hh
    simp only [hb]
    have hu := inv.used b x hb
    by_cases imm : (max x.used pos + bytes.length ≤ x.size ∧ ¬ x.shared = true) ∧ x.immutable = true
    · -- no detach; `mpt_buffer_insert` refuses an immutable buffer unless there is nothing to do
      have dn : decide (¬(max x.used pos + bytes.length ≤ x.size ∧ ¬x.shared = true)) = false := by simp [imm.1]
      rw [dn, ensure, if_neg (by simp)]
      simp only
      rw [bufferInsert_plain hb (inv.plain b x hb) (inv.aligned b x hb)]
      by_cases c : insRefused x pos bytes.length
      · rw [if_pos c]; exact Sem.fail_same inv _ _ _
      · rw [if_neg c]
        simp only [insRefused, not_or, not_and, Decidable.not_not] at c
        have t0 := c.2.1 imm.2
        have b0 : bytes = [] := List.eq_nil_of_length_eq_zero (by omega)
        have p0 : pos = 0 := by omega
        have u0 : x.content = [] := List.eq_nil_of_length_eq_zero (by rw [content_length x hu]; omega)
        subst b0 p0
        simp only [List.length_nil]
        rw [insPlain_zero x 0 0 t0, State.setBuf_self hb, poke_eq hh hb 0 [] (Nat.zero_le _), Mem.write_nil,
          State.setBuf_self hb]
        exact (Kept.refl inv h).sem_ok (by rw [State.abs_of hh hb, u0]; rfl) _
    · have hp : decide (¬(max x.used pos + bytes.length ≤ x.size ∧ ¬x.shared = true)) = false →
          x.ref < 2 ∧ x.immutable = false ∧ max x.used pos + bytes.length ≤ x.size := by
        intro hn
        simp only [decide_eq_false_iff_not, Decidable.not_not] at hn
        have ns := hn.2
        simp only [Buf.shared, decide_eq_true_eq] at ns
        exact ⟨by omega, by simpa using fun c => imm ⟨hn, c⟩, hn.1⟩
      -- `insertOp` matches on the result of `arrayInsert`: the two `match`es are taken apart by the outcome of `ensure`
      rcases ensure_cases inv hh hb _ _ hp (by omega) with ⟨s1, e, he, st, same, _⟩ | ⟨s1, nb, z, he, st, same, o, _⟩
      · rw [he]; exact st.sem_fail same _ _
      · rw [he]; exact Sem.after st same (o.insert_sem st.inv pos bytes)

/-- slice and set ask for no detach only when the buffer is private, mutable and large enough -/
theorem no_detach {x : Buf} {total : Nat} (hu : x.used ≤ x.size)
    (hn : decide (x.size < total ∨ x.immutable = true ∨ x.shared = true) = false) :
    x.ref < 2 ∧ x.immutable = false ∧ max total x.used ≤ x.size := by
  simp only [decide_eq_false_iff_not, not_or, Buf.shared, decide_eq_true_eq, Bool.not_eq_true] at hn
  exact ⟨by omega, hn.2.1, by omega⟩

theorem sliceFill_plain (s : State) (h nb : Nat) (t : Option Traits) (pt : PlainT t) (p m : Nat) :
    sliceFill s h nb t p m = poke s h p (zeros m) := by
  unfold sliceFill
  cases t with
  | none => rfl
  | some t => simp [(pt t rfl).1]

theorem esize_one_mod (t : Option Traits) (h : esize t = 1) (n : Nat) : n % esize t = 0 := by rw [h]; exact Nat.mod_one n

theorem sliceBad_false (x : Buf) (h1 : esize x.traits = 1) (off len : Nat) : sliceBad x off len = false := by
  unfold sliceBad
  cases ht : x.traits with
  | none => rfl
  | some t =>
    rw [ht] at h1
    simp only [esize] at h1
    simp [h1, Nat.mod_one]

/-- `mpt_array_slice`: the region exists afterwards (new bytes zero) and lies in a buffer the handle owns; on a
    handle that owns a buffer of byte-sized elements the call is never refused -/
theorem arraySlice_post {s : State} (inv : Inv s) {h : Nat} (hlt : h < s.hs.length) (off len : Nat) :
    Sem s h (fun v v' => v' = Vec.slice v off len) (arraySlice s h off len) ∧
    match arraySlice s h off len with
    | .ok s' v => v = off ∧ ∃ nb z, Own s' h nb z ∧ off + len ≤ z.size ∧
        z.traits = ((s.handle h).bind s.buf?).bind (·.traits)
    | .fail _ _ => ∀ nb z, Own s h nb z → esize z.traits = 1 → False
    | .fault _ => True := by
  unfold arraySlice
  cases hh : s.handle h with
  | none =>
    obtain ⟨d, same⟩ := attach inv hlt hh (off + len) 0 none PlainT.none (fresh_mutable _ _)
    simp only [d.own.hb, zero_fill_if]
    have asz : 0 + (zeros (off + len)).length ≤ (State.fresh (off + len) 0 none).size := by
      rw [zeros_length, Nat.zero_add]; exact d.size
    obtain ⟨st, ab, z', o', zs', zt'⟩ := d.own.write d.kept.inv 0 (zeros (off + len)) (Nat.zero_le _) asz (Nat.mod_one _)
    rw [zeros_length, fresh_used, Nat.zero_add, Nat.zero_max] at st ab o'
    refine ⟨(d.kept.trans st).sem_ok ?_ _, trivial, _, z', o', by rw [zs']; exact d.size, zt'⟩
    rw [ab, same, State.abs_none hh]
    simp [Vec.write, Vec.slice, Vec.padTo, Vec.zeros, zeros]
  | some b =>
    obtain ⟨x, hb⟩ := inv.live h b hh
    simp only [hb, Option.bind_some]
    have hu := inv.used b x hb
    have hal := inv.aligned b x hb
    have cl : (s.abs h).length = x.used := by rw [State.abs_of hh hb, content_length x hu]
    by_cases bad : sliceBad x off len = true
    · rw [if_pos bad]
      refine ⟨Sem.fail_same inv _ _ _, fun nb z o e1 => ?_⟩
      rw [(o.eq hh hb).2] at e1
      rw [sliceBad_false x e1] at bad
      cases bad
    · rw [if_neg bad]
      have algn : off % esize x.traits = 0 ∧ len % esize x.traits = 0 := by
        unfold sliceBad at bad
        cases ht : x.traits with
        | none => exact ⟨Nat.mod_one _, Nat.mod_one _⟩
        | some t =>
          rw [ht] at bad
          simp only [decide_eq_true_eq, not_or, Decidable.not_not] at bad
          exact ⟨bad.2.1, bad.2.2.1⟩
      rcases ensure_cases inv hh hb (decide (off + len > x.size ∨ x.immutable = true ∨ x.shared = true)) _
          (no_detach hu) (Nat.le_max_right _ _) with ⟨s1, e, he, st, same, nown⟩ | ⟨s1, nb, z, he, st, same, o, zs, zt, zu⟩
      · rw [he]
        exact ⟨st.sem_fail same _ _, fun nb z o _ => nown nb z o⟩
      rw [he]
      simp only
      -- growing is `mpt_buffer_insert` of zeros at `used`; mutable, private, large enough and aligned: not refused
      by_cases grow : off + len > x.used
      · rw [if_pos grow, sliceGrow]
        rcases o.insert_cases st.inv x.used _ (zeros (off + len - x.used)) (zeros_length _) with
          ⟨c, _⟩ | ⟨s3, q, hpk, sem, z', o', zs', zt'⟩
        · exact absurd c (not_insRefused o.wr (by omega) (by rw [zt]; exact hal)
            (by rw [zt]; exact sub_mod_zero (add_mod_zero algn.1 algn.2) hal))
        rw [q]
        simp only [sliceFill_plain _ _ _ _ (inv.plain b x hb)]
        rw [hpk]
        refine ⟨Sem.after st same (Sem.weaken (sem off) fun v' e => ?_), rfl, nb, z', o', by rw [zs']; omega, by rw [zt', zt]⟩
        rw [e, same, ← cl, vec_insert_end, cl, Vec.slice]
        congr 1; omega
      · rw [if_neg grow]
        refine ⟨st.sem_ok ?_ _, rfl, nb, z, o, by omega, zt⟩
        rw [same, Vec.slice, Vec.padTo, Nat.sub_eq_zero_of_le (by omega)]
        simp [Vec.zeros]

theorem slice_sem {s : State} (inv : Inv s) {h : Nat} (hlt : h < s.hs.length) (off len : Nat) :
    Sem s h (fun v v' => v' = Vec.slice v off len) (arraySlice s h off len) :=
  (arraySlice_post inv hlt off len).1

theorem set_sem {s : State} (inv : Inv s) {h : Nat} (hlt : h < s.hs.length) (t : Traits) (pt : PlainT (some t))
    (bytes : List Byte) (hasSrc : Bool) (off : Int) :
    Sem s h (fun v v' => Vec.setAt v t.size off bytes = some v') (arraySet s h (some t) bytes hasSrc off) := by
  -- `mpt_buffer_set` on the owned buffer of `s1`, behind the position test
  have tail : ∀ (s1 : State) (nb : Nat) (z : Buf) (pos1 : Int), Inv s1 → Own s1 h nb z → z.traits = some t →
      (if off < 0 then off * Int.ofNat t.size + Int.ofNat (s1.abs h).length else off * Int.ofNat t.size) = pos1 →
      ¬ pos1 < 0 →
      Sem s1 h (fun v v' => Vec.setAt v t.size off bytes = some v')
        (match bufferSet s1 nb (some t) pos1.toNat bytes hasSrc with
          | .ok s2 _ => .ok s2 pos1.toNat
          | .fail s2 _ => .fail s2 .null
          | .fault w => .fault w) := by
    intro s1 nb z pos1 inv1 o zt hpos posok
    have bs := Sem.weaken (R' := fun v v' => Vec.setAt v t.size off bytes = some v')
      (o.bufferSet_sem inv1 pos1.toNat bytes hasSrc) fun v' e => by rw [setAt_of_pos bytes hpos, if_neg posok, e]
    rw [zt] at bs
    generalize bufferSet s1 nb (some t) pos1.toNat bytes hasSrc = r at bs
    cases r <;> exact bs
  unfold arraySet
  simp only
  split
  · exact Sem.fail_same inv _ _ _
  · cases hh : s.handle h with
    | none =>
      simp only
      split
      · exact Sem.fail_same inv _ _ _
      · rename_i posok
        obtain ⟨d, same⟩ := attach inv hlt hh ((off * Int.ofNat t.size).toNat + bytes.length) 0 (some t) pt
          (fresh_mutable _ _)
        exact Sem.after d.kept same (tail _ _ _ _ d.kept.inv d.own rfl
          (by rw [same, State.abs_none hh]; simp) posok)
    | some b =>
      obtain ⟨x, hb⟩ := inv.live h b hh
      simp only [hb]
      have hu := inv.used b x hb
      split
      · exact Sem.fail_same inv _ _ _
      · rename_i sameT
        have xt : x.traits = some t := by simpa using sameT
        generalize hpos : (if off < 0 then off * Int.ofNat t.size + Int.ofNat x.used else off * Int.ofNat t.size) = pos1
        split
        · exact Sem.fail_same inv _ _ _
        · rename_i posok
          exact ensure_then inv hh hb _ _ (no_detach hu) (Nat.le_max_right _ _) (f := fun _ _ => .null)
            fun s1 nb z inv1 o _ zt zu => tail s1 nb z pos1 inv1 o (zt.trans xt)
              (by rw [State.abs_of o.hh o.hb, content_length z (inv1.used nb z o.hb), zu]; exact hpos) posok

/-- what a handle holding `a` reads in `s` (`contentOf_handle`); for the buffer a handle is about to be pointed at -/
def contentOf (s : State) (a : Option Nat) : List Byte :=
  match a with
  | some a => (match s.buf? a with | some x => x.content | none => [])
  | none => []

theorem contentOf_handle (s : State) (h : Nat) : contentOf s (s.handle h) = s.abs h := rfl

/-- `replaceBuf` after its target has been prepared in `s1` (a fresh buffer, or a live one with the reference
    taken): whatever `unref` does to the old buffer, the handle has moved -/
theorem replaceBuf_move {s s1 : State} (inv : Inv s) {dst : Nat} (hlt : dst < s.hs.length) (new : Option Nat)
    (hne : s.handle dst ≠ new) (hs1hs : s1.hs = s.hs)
    (hnew : ∀ a, new = some a → ∃ z, s1.buf? a = some z ∧ z.ref = s.hs.count (some a) + 1 ∧ z.used ≤ z.size ∧
      PlainT z.traits ∧ z.used % esize z.traits = 0 ∧ ∀ x, s.buf? a = some x → z.content = x.content)
    (hold : ∀ c, new ≠ some c → s1.buf? c = s.buf? c) :
    Sem s dst (fun _ v' => v' = contentOf s1 new) (replaceBuf s1 dst new (s.handle dst)) := by
  have fin : ∀ (s3 : State) (v : Int), s3.hs = s.hs.set dst new → (∀ a, new = some a → s3.buf? a = s1.buf? a) →
      (∀ c, new ≠ some c → s3.buf? c = if s.handle dst = some c then dropRef s c else s.buf? c) →
      Sem s dst (fun _ v' => v' = contentOf s1 new) (.ok s3 v) := by
    intro s3 v h3 b3 o3
    have mv := inv.move hlt new hne h3 (fun a e => by rw [b3 a e]; exact hnew a e) o3
    refine ⟨mv.1, by rw [h3, List.length_set], ?_, mv.2.2⟩
    show s3.abs dst = contentOf s1 new
    rw [← contentOf_handle, mv.2.1]
    cases new with
    | none => rfl
    | some a => simp only [contentOf, b3 a rfl]
  cases hd : s.handle dst with
  | none =>
    exact fin _ _ (by simp [hs1hs]) (fun _ _ => rfl)
      (fun c n1 => by rw [State.buf?_setHandle, hold c n1, hd, if_neg (by simp)])
  | some b =>
    obtain ⟨x, hb⟩ := inv.live dst b hd
    have nb : new ≠ some b := fun e => hne (hd.trans e.symm)
    have hb1 : s1.buf? b = some x := by rw [hold b nb, hb]
    obtain ⟨s', he, hhs, _, _, _, _, hbuf, _⟩ := replaceBuf_some dst new hb1 (inv.ref b x hb).2 (inv.used b x hb)
    rw [he]
    refine fin s' _ (by rw [hhs, hs1hs]) (fun a e => by rw [hbuf, if_neg (fun ab => nb (by rw [← ab]; exact e))]) (fun c n1 => ?_)
    rw [hbuf, hd]
    by_cases cb : c = b
    · rw [if_pos cb, cb, if_pos rfl, dropRef, dropRef, hb1, hb]
    · rw [if_neg cb, if_neg (fun e => cb (Option.some.inj e).symm), hold c n1]

/-- `replaceBuf` after the reference on `new` has been taken (`s1` = `s` with that reference added) -/
theorem replaceBuf_sem {s s1 : State} (inv : Inv s) {dst : Nat} (hlt : dst < s.hs.length) (new : Option Nat)
    (hnew : ∀ a, new = some a → ∃ x, s.buf? a = some x)
    (hne : s.handle dst ≠ new)
    (hs1hs : s1.hs = s.hs)
    (hs1 : ∀ c, s1.buf? c = if new = some c then (s.buf? c).map (fun x => { x with ref := x.ref + 1 }) else s.buf? c) :
    Sem s dst (fun _ v' => v' = contentOf s new) (replaceBuf s1 dst new (s.handle dst)) := by
  have e : contentOf s1 new = contentOf s new := by
    cases new with
    | none => rfl
    | some a => simp only [contentOf, hs1 a, if_true]; cases s.buf? a <;> rfl
  rw [← e]
  refine replaceBuf_move inv hlt new hne hs1hs (fun a e => ?_)
    (fun c n1 => by rw [hs1, if_neg n1])
  obtain ⟨x, hx⟩ := hnew a e
  exact ⟨{ x with ref := x.ref + 1 }, by rw [hs1, if_pos e, hx]; rfl, by rw [(inv.ref a x hx).1], inv.used a x hx,
    inv.plain a x hx, inv.aligned a x hx, fun x' hx' => by rw [hx] at hx'; cases hx'; rfl⟩

/-- `set_instance(new buffer)` -/
theorem replaceBuf_fresh_sem {s s2 : State} (inv : Inv s) {h : Nat} (hlt : h < s.hs.length) {z : Buf}
    (hs2hs : s2.hs = s.hs)
    (hs2 : ∀ c, s2.buf? c = if c = s.bufs.length then some z else s.buf? c)
    (zr : z.ref = 1) (zu : z.used ≤ z.size) (zp : PlainT z.traits) (za : z.used % esize z.traits = 0) :
    Sem s h (fun _ v' => v' = z.content) (replaceBuf s2 h (some s.bufs.length) (s.handle h)) := by
  have hnb : s.buf? s.bufs.length = none := State.buf?_ge_length s _ (Nat.le_refl _)
  have hz : s2.buf? s.bufs.length = some z := by rw [hs2, if_pos rfl]
  have e : contentOf s2 (some s.bufs.length) = z.content := by simp only [contentOf, hz]
  rw [← e]
  refine replaceBuf_move inv hlt _ (inv.refs.no_handle_of_dead hnb h) hs2hs (fun a e => ?_)
    (fun c n1 => by rw [hs2, if_neg (fun e => n1 (by rw [e]))])
  cases e
  exact ⟨z, hz, by rw [inv.refs.count_dead hnb, zr], zu, zp, za, fun x hx => by rw [hnb] at hx; cases hx⟩

/-- `set_instance` of a fresh raw buffer into which `c` has been copied -/
theorem replaceBuf_filled_sem {s s2 : State} (inv : Inv s) {h : Nat} (hlt : h < s.hs.length) (len u : Nat) (c : List Byte)
    (hu : c.length = u) (hc : u ≤ allocSize len) (hs2hs : s2.hs = s.hs)
    (hs2 : ∀ b, s2.buf? b = if b = s.bufs.length then
        some { State.fresh len 0 none with data := Mem.write (State.fresh len 0 none).data 0 c, used := u }
      else s.buf? b) :
    Sem s h (fun _ v' => v' = c) (replaceBuf s2 h (some s.bufs.length) (s.handle h)) := by
  subst hu
  have fc := filled_content (State.fresh len 0 none) c (by rw [fresh_size]; exact hc)
  rw [← fc.1]
  exact replaceBuf_fresh_sem inv hlt hs2hs hs2 rfl (by rw [fc.2, fresh_size]; exact hc) PlainT.none (Nat.mod_one _)

/-- `replaceBuf_fresh_sem` with the old buffer released before `arr->_buf = nb` is stored, as `mpt_array_reserve` does it
    (`unref` does not look at the handles) -/
theorem unref_fresh_sem {α : Type} {s s2 : State} (inv : Inv s) {h b : Nat} {x z : Buf} (hh : s.handle h = some b)
    (hb : s.buf? b = some x) (hs2hs : s2.hs = s.hs)
    (hs2 : ∀ c, s2.buf? c = if c = s.bufs.length then some z else s.buf? c)
    (zr : z.ref = 1) (zu : z.used ≤ z.size) (zp : PlainT z.traits) (za : z.used % esize z.traits = 0) (v : α) :
    ∃ s3, unref s2 b = .ok s3 () ∧ Sem s h (fun _ v' => v' = z.content) (.ok (s3.setHandle h (some s.bufs.length)) v) := by
  have rs := replaceBuf_fresh_sem inv (State.handle_lt hh) hs2hs hs2 zr zu zp za
  have hb2 : s2.buf? b = some x := by
    rw [hs2, if_neg (Nat.ne_of_lt (State.buf?_lt hb)), hb]
  rw [hh, replaceBuf] at rs
  rw [unref_plain (s := s2.setHandle h (some s.bufs.length)) hb2 (inv.plain b x hb)] at rs
  rw [unref_plain hb2 (inv.plain b x hb)]
  by_cases r0 : x.ref = 0
  · rw [if_pos r0] at rs ⊢; exact ⟨_, rfl, rs⟩
  · rw [if_neg r0] at rs ⊢
    by_cases r1 : x.ref ≠ 1
    · rw [if_pos r1] at rs ⊢; exact ⟨_, rfl, rs⟩
    · rw [if_neg r1] at rs ⊢; exact ⟨_, rfl, rs⟩

/-- the assignment `dst = src` after the reference on the buffer of a non-empty `src` has been taken -/
theorem share_sem {s : State} (inv : Inv s) {dst : Nat} (hlt : dst < s.hs.length) {src a : Nat} {x : Buf}
    (hs : s.handle src = some a) (ha : s.buf? a = some x) (diff : ¬ s.handle src = s.handle dst) :
    Sem s dst (fun _ v' => v' = s.abs src)
      (replaceBuf (s.setBuf a { x with ref := x.ref + 1 }) dst (some a) (s.handle dst)) := by
  have := replaceBuf_sem (s1 := s.setBuf a { x with ref := x.ref + 1 }) inv hlt (some a)
    (by intro a' e; cases e; exact ⟨x, ha⟩) (by rw [← hs]; exact fun e => diff e.symm) rfl
    (by
      intro c
      rw [State.buf?_setBuf _ _ _ _ (State.buf?_lt ha)]
      by_cases ca : c = a
      · subst ca; simp [ha]
      · have : ¬ some a = some c := by intro e; cases e; exact ca rfl
        simp [ca, this])
  refine Sem.weaken this ?_
  intro v' e; rw [e, ← hs]; exact contentOf_handle s src

/-- the assignment `dst = src` from an empty `src`: `dst` lets go of its buffer -/
theorem unshare_sem {s : State} (inv : Inv s) {dst : Nat} (hlt : dst < s.hs.length) {src : Nat}
    (hs : s.handle src = none) (diff : ¬ s.handle src = s.handle dst) :
    Sem s dst (fun _ v' => v' = s.abs src) (replaceBuf s dst none (s.handle dst)) := by
  have := replaceBuf_sem inv hlt none (by intro a e; cases e) (by rw [← hs]; exact fun e => diff e.symm) rfl
    (by intro c; simp)
  refine Sem.weaken this ?_
  intro v' e; rw [e, ← hs]; exact contentOf_handle s src

theorem clone_sem {s : State} (inv : Inv s) {dst : Nat} (hlt : dst < s.hs.length) (src : Option Nat) :
    Sem s dst (fun _ v' => v' = match src with | some hsrc => s.abs hsrc | none => []) (arrayClone s dst src) := by
  unfold arrayClone
  cases src with
  | none =>
    simp only
    by_cases hd : s.handle dst = none
    · rw [hd]
      simp only [replaceBuf]
      rw [show s.setHandle dst none = s from hd ▸ State.setHandle_handle s dst]
      exact ⟨inv, rfl, by simp [State.abs_none hd], fun _ _ => rfl⟩
    · exact replaceBuf_sem inv hlt none (by intro a e; cases e) hd rfl (by intro c; simp)
  | some hsrc =>
    simp only
    split
    · rename_i same
      refine ⟨inv, rfl, ?_, fun _ _ => rfl⟩
      simp [State.abs_eq, same]
    · rename_i diff
      split
      · exact Sem.fail_same inv _ _ _
      · cases hs : s.handle hsrc with
        | none => exact unshare_sem inv hlt hs diff
        | some a =>
          simp only
          obtain ⟨x, ha⟩ := inv.live hsrc a hs
          -- `mpt_array_clone` tests the count `addref` returns against 0
          obtain ⟨k, e⟩ := addref_live ha (inv.ref a x ha).2
          rw [e]
          exact share_sem inv hlt hs ha diff

theorem detachOp_sem {s : State} (inv : Inv s) {h : Nat} (n : Nat) :
    Sem s h (fun v v' => v' = v ∨ (ownerImmutable s h = true ∧ ∃ k, n ≤ k ∧ k < v.length ∧ v' = v.take k)) (detachOp s h n) := by
  unfold detachOp
  cases hh : s.handle h with
  | none => exact Sem.fail_same inv _ _ _
  | some b =>
    obtain ⟨x, hb⟩ := inv.live h b hh
    simp only
    have es := ensure_sem inv hh hb true n (by intro e; cases e)
    generalize ensure s h b true n = r at es
    rcases r with ⟨s1, nb⟩ | ⟨s1, e⟩ | w
    · obtain ⟨z, d⟩ := es
      obtain ⟨k, hk, e, ktr⟩ := d.content
      refine d.kept.sem_ok ?_ _
      rw [e]
      by_cases lt : k < (s.abs h).length
      · exact Or.inr ⟨ktr lt, k, hk, lt, rfl⟩
      · exact Or.inl (List.take_of_length_le (Nat.le_of_not_lt lt))
    · exact es.1.sem_fail es.2.1 _ _
    · exact es

theorem reduce_sem {s : State} (inv : Inv s) {h : Nat} :
    Sem s h (fun v v' => v' = v) (arrayReduce s h) := by
  unfold arrayReduce
  cases hh : s.handle h with
  | none => exact ⟨inv, rfl, rfl, fun _ _ => rfl⟩
  | some b =>
    obtain ⟨x, hb⟩ := inv.live h b hh
    simp only [hb]
    -- a refused `detach` is no failure of `mpt_array_reduce`
    rcases ensure_cases inv hh hb true x.used (by intro e; cases e) (Nat.le_refl _) with
      ⟨s1, e, he, st, same, _⟩ | ⟨s1, nb, z, he, st, same, o, _⟩
    · rw [he]; exact st.sem_ok same _
    · rw [he]; simp only [o.hb]; exact st.sem_ok same _

/-- the branch of `mpt_array_reserve` that allocates (the C code takes it for a shared or immutable buffer; nothing here
    depends on that): compatible, copyable content is carried over, cut at `len`; anything else is dropped -/
theorem reserveNew_sem {s : State} (inv : Inv s) {h b : Nat} {x : Buf} (hh : s.handle h = some b)
    (hb : s.buf? b = some x) (len : Nat) (traits : Option Traits) (pt : PlainT traits)
    (lal : len % esize traits = 0) :
    Sem s h (fun v v' => (x.traits = traits ∧ x.uncopyable = false ∧ v' = v.take len) ∨ (v' = [] ∧ ¬ (x.traits = traits ∧ x.uncopyable = false))) (reserveNew s h (some b) len traits) := by
  have hu := inv.used b x hb
  have hal := inv.aligned b x hb
  have absx : s.abs h = x.content := State.abs_of hh hb
  unfold reserveNew
  simp only
  rw [hb]
  simp only
  rw [if_neg (inv.plain b x hb).esize_ne_zero]
  -- the new buffer after the copy step
  have copy : ∃ z, z.ref = 1 ∧ z.used ≤ z.size ∧ PlainT z.traits ∧ z.used % esize z.traits = 0 ∧
      ((x.traits = traits ∧ x.uncopyable = false ∧ z.content = x.content.take len) ∨
        (z.content = [] ∧ ¬ (x.traits = traits ∧ x.uncopyable = false))) ∧
      ∃ v, reserveCopy (s.newBuf len 0 traits) s.bufs.length x len traits =
        .ok ((s.newBuf len 0 traits).setBuf s.bufs.length z) v := by
    unfold reserveCopy
    have hz : (s.newBuf len 0 traits).buf? s.bufs.length = some (State.fresh len 0 traits) := by
      rw [State.buf?_newBuf]; simp
    have same : (s.newBuf len 0 traits).setBuf s.bufs.length (State.fresh len 0 traits) = s.newBuf len 0 traits := by
      simp [State.setBuf, State.newBuf, State.fresh]
    split
    · rename_i c
      have te : x.traits = traits := c.1
      rw [hal, Nat.sub_zero]
      have tk : x.data.take (min x.used len) = x.content.take len := by rw [Buf.content, List.take_take, Nat.min_comm]
      have tl : (x.content.take len).length = min len x.used := by rw [List.length_take, content_length x hu]
      rw [tk]
      have asz := le_allocSize len
      have bs := bufferSet_plain hz pt (Nat.zero_mod _) 0 (x.content.take len) true
      rw [show (State.fresh len 0 traits).traits = traits from rfl, fresh_size] at bs
      have m0 : (x.content.take len).length % esize traits = 0 := by rw [tl]; exact min_mod_zero lal (te ▸ hal)
      rw [bs, if_neg (by rw [tl]; omega), if_neg (by rw [m0, Nat.zero_mod]; simp)]
      have sc := setPlain_content (State.fresh len 0 traits) 0 (x.content.take len) (Nat.zero_le _)
        (by rw [fresh_size, tl]; omega)
      refine ⟨setPlain (State.fresh len 0 traits) 0 (x.content.take len), rfl, sc.2, pt, ?_,
        Or.inl ⟨te, by simpa using c.2.1, ?_⟩, _, rfl⟩
      · show max 0 (0 + (x.content.take len).length) % esize traits = 0
        rw [Nat.zero_add, Nat.zero_max]; exact m0
      · rw [sc.1]; simp [State.fresh, Buf.content, Vec.write, Vec.padTo, Vec.zeros]
    · rename_i nc
      refine ⟨State.fresh len 0 traits, rfl, by simp [State.fresh], pt, by simp [State.fresh], ?_, 0, ?_⟩
      · by_cases tc : x.traits = traits ∧ x.uncopyable = false
        · left
          refine ⟨tc.1, tc.2, ?_⟩
          have m0 : min (x.used - x.used % esize x.traits) len = 0 := by
            apply Decidable.byContradiction
            intro ne
            exact nc ⟨tc.1, by simp [tc.2], ne⟩
          rw [hal, Nat.sub_zero] at m0
          have : x.content.take len = [] := by
            apply List.eq_nil_of_length_eq_zero
            rw [List.length_take, content_length x hu]; omega
          rw [this]; simp [State.fresh, Buf.content]
        · right; exact ⟨by simp [State.fresh, Buf.content], tc⟩
      · rw [same]
  obtain ⟨z, zr, zu, zp, za, zc, v, hcopy⟩ := copy
  rw [hcopy]
  simp only
  -- the old buffer loses its reference, the handle moves to the new one
  obtain ⟨s3, hun, sem⟩ := unref_fresh_sem (s2 := (s.newBuf len 0 traits).setBuf s.bufs.length z) inv hh hb rfl
    (by intro c; rw [State.buf?_setBuf _ _ _ _ (by simp), State.buf?_newBuf]; split <;> rfl) zr zu zp za s.bufs.length
  rw [hun]
  refine Sem.weaken sem fun v' e => ?_
  rw [e, absx]
  exact zc

theorem reserveFini_plain (s : State) (b : Nat) (x : Buf) (hp : PlainT x.traits) : reserveFini s b x = .ok s () := by
  unfold reserveFini
  cases ht : x.traits with
  | none => rfl
  | some t => simp [(hp t ht).2.1]

theorem reserveClear_plain (s : State) (b : Nat) (x : Buf) (traits : Option Traits) (hb : s.buf? b = some x)
    (hp : PlainT x.traits) :
    reserveClear s b x traits = if x.traits ≠ traits then .ok (s.setBuf b { x with used := 0 }) () else .ok s () := by
  unfold reserveClear
  rw [reserveFini_plain s b x hp]
  have fn : (x.traits.bind (·.fini)).isNone = true := by
    cases ht : x.traits with
    | none => rfl
    | some t => simp [(hp t ht).2.1]
  by_cases ne : x.traits = traits
  · simp [ne]
  · simp only [ne, ne_eq, not_false_eq_true, fn, true_or, or_true, and_self, if_true, hb]

theorem reserveKeep_sem {s : State} (inv : Inv s) {h b : Nat} {x : Buf} (hh : s.handle h = some b)
    (hb : s.buf? b = some x) (priv : x.shared = false) (mu : x.immutable = false) (len : Nat)
    (traits : Option Traits) (pt : PlainT traits) :
    Sem s h (fun v v' => v' = v ∨ (v' = [] ∧ x.traits ≠ traits)) (reserveKeep s h b x len traits) := by
  have hp := inv.plain b x hb
  have o : Own s h b x :=
    ⟨hh, hb, by have := inv.ref b x hb; simp only [Buf.shared, decide_eq_false_iff_not] at priv; omega, mu⟩
  unfold reserveKeep
  rw [reserveClear_plain s b x traits hb hp]
  -- the state after the optional clearing, and its buffer
  have mid : ∃ s1 x1, (if x.traits ≠ traits then Out.ok (s.setBuf b { x with used := 0 }) () else Out.ok s ()) = Out.ok s1 () ∧
      Kept s h s1 ∧ Own s1 h b x1 ∧ x1.traits = x.traits ∧
      ((x.traits = traits ∧ s1.abs h = s.abs h) ∨ (x.traits ≠ traits ∧ s1.abs h = [])) := by
    by_cases ne : x.traits = traits
    · exact ⟨s, x, by rw [if_neg (by simp [ne])], Kept.refl inv h, o, rfl, Or.inl ⟨ne, rfl⟩⟩
    · obtain ⟨i, o1, ab, oth, l⟩ := o.update inv { x with used := 0 } o.ref rfl (Nat.zero_le _) hp (Nat.zero_mod _)
      exact ⟨_, _, by rw [if_pos ne], ⟨i, l, oth⟩, o1, rfl, Or.inr ⟨ne, by rw [ab]; rfl⟩⟩
  obtain ⟨s1, x1, he, st1, o1, xt1, xc1⟩ := mid
  rw [he]
  simp only
  -- an owner is never refused, and its content is not cut
  have es := ensure_sem st1.inv o1.hh o1.hb true len (fun c => by cases c)
  generalize ensure s1 h b true len = r at es
  rcases r with ⟨s2, nb⟩ | ⟨s2, e⟩ | w
  · obtain ⟨z, d⟩ := es
    have same := d.same_mutable (by simp [ownerImmutable, o1.hh, o1.hb, o1.wr])
    simp only [d.own.hb]
    have zu := d.kept.inv.used nb z d.own.hb
    have zc := State.abs_of d.own.hh d.own.hb
    obtain ⟨inv3, _, ab3, oth3, len3⟩ := d.own.update d.kept.inv { z with traits := traits } d.own.ref rfl zu pt
      (by
        show z.used % esize traits = 0
        rcases xc1 with ⟨e, _⟩ | ⟨_, u0⟩
        · rw [← e, ← xt1, ← d.traits]; exact d.kept.inv.aligned nb z d.own.hb
        · rw [← content_length z zu, ← zc, same, u0]; rfl)
    refine ((st1.trans d.kept).trans ⟨inv3, len3, oth3⟩).sem_ok ?_ _
    rw [ab3]
    show z.content = s.abs h ∨ (z.content = [] ∧ x.traits ≠ traits)
    rw [← zc, same]
    rcases xc1 with ⟨_, c⟩ | ⟨ne, u0⟩
    · exact Or.inl c
    · exact Or.inr ⟨u0, ne⟩
  · exact (es.2.2 b x1 o1).elim
  · exact es.elim

theorem reserveLen_mod (x : Buf) (len : Nat) (traits : Option Traits) (h : len % esize traits = 0) :
    reserveLen x len traits % esize traits = 0 := by
  unfold reserveLen
  split
  · rename_i c
    rw [c.1]
    have e : (x.used - x.used % esize traits) % esize traits = 0 := by
      have := Nat.div_add_mod x.used (esize traits)
      have e2 : x.used - x.used % esize traits = esize traits * (x.used / esize traits) := by omega
      rw [e2]; exact Nat.mul_mod_right _ _
    rw [Nat.max_def]
    split
    · exact e
    · exact h
  · exact h

theorem reserve_sem {s : State} (inv : Inv s) {h : Nat} (hlt : h < s.hs.length) (n : Nat) (traits : Option Traits)
    (pt : PlainT traits) :
    Sem s h (fun v v' => v' = v ∨ (typeDiffers s h traits = true ∧ v' = [])) (arrayReserve s h n traits) := by
  have e0 := pt.esize_ne_zero
  unfold arrayReserve
  rw [if_neg e0]
  have lal := roundUp_mod n (esize traits) e0
  cases hh : s.handle h with
  | none =>
    simp only [reserveNew]
    obtain ⟨d, same⟩ := attach inv hlt hh (roundUp n (esize traits)) 0 traits pt (fresh_mutable _ _)
    exact d.kept.sem_ok (Or.inl same) _
  | some b =>
    simp only
    obtain ⟨x, hb⟩ := inv.live h b hh
    rw [hb]
    simp only
    have hu := inv.used b x hb
    have hal := inv.aligned b x hb
    have absx : s.abs h = x.content := State.abs_of hh hb
    have bx : (s.handle h).bind s.buf? = some x := by rw [hh]; simp [hb]
    split
    · by_cases guard : x.traits = traits ∧ x.uncopyable = true ∧ x.used - x.used % esize x.traits ≠ 0
      · rw [if_pos guard]; exact Sem.fail_same inv _ _ _
      · rw [if_neg guard]
        refine Sem.weaken (reserveNew_sem inv hh hb _ traits pt (reserveLen_mod x _ traits lal)) fun v' r => ?_
        have cl := content_length x hu
        rcases r with ⟨te, cp, e⟩ | ⟨e, nc⟩
        · left
          rw [e]
          apply List.take_of_length_le
          rw [absx, cl]
          unfold reserveLen
          rw [if_pos ⟨te, by simp [cp]⟩, hal]
          exact Nat.le_max_right _ _
        · by_cases te : x.traits = traits
          · left
            have unc : x.uncopyable = true := by
              cases hc : x.uncopyable with
              | true => rfl
              | false => exact absurd ⟨te, hc⟩ nc
            have u0 : x.used = 0 := by
              apply Decidable.byContradiction
              intro ne
              exact guard ⟨te, unc, by rw [hal]; omega⟩
            rw [e, absx]
            exact (List.eq_nil_of_length_eq_zero (by rw [cl]; exact u0)).symm
          · exact Or.inr ⟨by simp [typeDiffers, bx, te], e⟩
    · rename_i priv
      simp only [not_or, Bool.not_eq_true] at priv
      refine Sem.weaken (reserveKeep_sem inv hh hb priv.1 priv.2 (roundUp n (esize traits)) traits pt) fun v' r => ?_
      rcases r with e | ⟨e, ne⟩
      · exact Or.inl e
      · exact Or.inr ⟨by simp [typeDiffers, bx, ne], e⟩

end Mpt.Heap
