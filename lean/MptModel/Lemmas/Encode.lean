/-
  The encoder model (Impl/Encode.lean) against the reference encoder of Spec/Cobs.lean: single byte stores into
  the window, the window between two calls (`Shape`: nothing open, or an open block behind its code byte), the
  entry checks of `mpt_encode_cobs` as equations, and the terminating calls of `mpt_encode_cobs` /
  `mpt_encode_cobs_r` for all four framings (`TermPost`: what they leave).  The data loop is in
  Lemmas/EncodeLoop.lean; Lemmas/EncodeWin.lean adds the reference encoder's state to `Shape`.
-/
import MptModel.Impl.Encode
import MptModel.Lemmas.Cobs
namespace Mpt.Codec
open Mpt.Cobs

theorem wr_ok (w : List Byte) (i : Nat) (b : Byte) (h : i < w.length) : wr w i b = .ok (w.set i b) := by
  simp [wr, h]

theorem take_set_mid (w : List Byte) (n : Nat) (pre : List Byte) (ph x : Byte) (tl : List Byte)
    (h : w.take n = pre ++ ph :: tl) : (w.set pre.length x).take n = pre ++ x :: tl := by
  rw [List.take_set, h]; simp

theorem take_of_take_append {w a b : List Byte} {n : Nat} (h : w.take n = a ++ b) : w.take a.length = a := by
  have hl : a.length ≤ n := by have := congrArg List.length h; simp at this; omega
  have := congrArg (List.take a.length) h
  rwa [List.take_take, Nat.min_eq_left hl, List.take_left' rfl] at this

theorem take_succ_ex (w : List Byte) (n : Nat) (h : n < w.length) : ∃ x, w.take (n + 1) = w.take n ++ [x] :=
  ⟨w[n], by rw [List.take_add_one]; simp [h]⟩

/-- the two shapes of the window between two calls of a message: behind the finished bytes `vis` it shows, nothing is
    open yet, or an open block `run` stands behind its code byte (`WInv` of Lemmas/EncodeWin.lean adds the reference
    encoder's state) -/
def Shape (st : EncState) (win vis run : List Byte) : Prop :=
  (st.scratch = 0 ∧ run = [] ∧ win.take st.done = vis ∧ st.done ≤ win.length) ∨
  (st.scratch = run.length + 1 ∧ win.take (st.done + st.scratch) = vis ++ codeOf run :: run ∧
     st.done + st.scratch ≤ win.length)

/-- `ph` is the byte at the place of the code byte: `codeOf run` if a block is open, any byte if none is yet -/
theorem Shape.open {st : EncState} {win vis run : List Byte} (h : Shape st win vis run)
    (hroom : st.done + max st.scratch 1 < win.length) :
    max st.scratch 1 = run.length + 1 ∧ ∃ ph, win.take (st.done + max st.scratch 1) = vis ++ ph :: run := by
  rcases h with ⟨a, b, e, f⟩ | ⟨a, b, c⟩
  · obtain ⟨ph, hph⟩ := take_succ_ex win st.done (by omega)
    refine ⟨by simp [a, b], ph, ?_⟩
    rw [a, show max 0 1 = 1 from rfl, hph, e, b]
  · have hm : max st.scratch 1 = st.scratch := by omega
    exact ⟨by omega, codeOf run, by rw [hm, b]⟩

theorem Shape.le {st : EncState} {win vis run : List Byte} (h : Shape st win vis run) :
    st.done + st.scratch ≤ win.length := by
  rcases h with ⟨a, _, _, f⟩ | ⟨_, _, c⟩ <;> omega

theorem Shape.take_vis {st : EncState} {win vis run : List Byte} (h : Shape st win vis run) (h1 : st.done = vis.length) :
    (win.take (st.done + st.scratch)).take st.done = vis := by
  rcases h with ⟨a, _, e, _⟩ | ⟨_, b, _⟩
  · rw [a, Nat.add_zero, List.take_take, Nat.min_self]; exact e
  · rw [b, h1, List.take_left]

theorem Shape.scratch_lt {st : EncState} {win vis run : List Byte} (h : Shape st win vis run) (v : Variant)
    (hr : run.length + 1 < v.maxlen) : st.scratch < 256 := by
  have := v.maxlen_cases
  rcases h with ⟨a, _⟩ | ⟨a, _⟩ <;> omega

/-- what a successful termination leaves behind: `frame` appended to `pre` -/
def TermPost (win pre frame : List Byte) (o : EncOut) : Prop :=
  o.win.length = win.length ∧ o.st.scratch = 0 ∧ o.ret = 0 ∧ o.st.done = (pre ++ frame).length ∧
  o.st.done ≤ win.length ∧ o.win.take o.st.done = pre ++ frame

theorem encodeCobs_some (v : Variant) (st : EncState) (win bytes : List Byte) (hs : st.scratch < 256)
    (hle : st.done + st.scratch ≤ win.length) :
    encodeCobs v st win (some bytes) =
      if bytes = [] then .err .BadValue
      else if win.length ≤ st.done + max st.scratch 1 then .err .MissingBuffer
      else (do
        let o ← encLoop v win (st.done + max st.scratch 1) (max st.scratch 1) false bytes
        pure ⟨{ ctx := st.ctx + (o.dst - st.done - st.scratch), done := o.dst - o.code, scratch := o.code },
          o.win, bytes.length - o.rem⟩) := by
  have hc : (if st.scratch ≠ 0 then st.scratch else 1) = max st.scratch 1 := by split <;> omega
  unfold encodeCobs
  simp only [Nat.mod_eq_of_lt hs, hc]
  rw [if_neg (by omega), if_neg (by omega)]
  by_cases hb : bytes = []
  · rw [if_pos hb, if_pos (by simp [hb])]
  rw [if_neg hb, if_neg (by simpa using hb)]
  by_cases hr : win.length ≤ st.done + max st.scratch 1
  · rw [if_pos hr]
    by_cases h0 : st.scratch = 0
    · rw [if_neg (by omega), if_pos (by omega)]
    · rw [if_pos (by omega)]
  · rw [if_neg hr, if_neg (by omega), if_neg (by omega)]

theorem encodeCobs_none (v : Variant) (st : EncState) (win : List Byte) (hs : st.scratch < 256)
    (hle : st.done + st.scratch ≤ win.length) :
    encodeCobs v st win none =
      if win.length ≤ st.done + max st.scratch 1 then .err .MissingBuffer
      else (do
        let w ← wr win st.done (UInt8.ofNat (max st.scratch 1))
        let w ← wr w (st.done + max st.scratch 1) 0
        pure ⟨{ ctx := 0, done := st.done + max st.scratch 1 + 1, scratch := 0 }, w, 0⟩) := by
  unfold encodeCobs
  simp only [Nat.mod_eq_of_lt hs]
  rw [if_neg (by omega), if_neg (by omega)]
  by_cases h0 : st.scratch = 0
  · simp only [h0, show max 0 1 = 1 from rfl, ge_iff_le, Nat.le_zero_eq, if_true]
    by_cases hr : win.length ≤ st.done + 1
    · rw [if_pos hr]; split
      · rfl
      · rw [if_pos (by omega)]
    · rw [if_neg hr, if_neg (by omega), if_neg (by omega)]; rfl
  · have hm : max st.scratch 1 = st.scratch := by omega
    rw [hm]
    by_cases hr : win.length ≤ st.done + st.scratch
    · rw [if_pos hr, if_pos (by omega)]
    · rw [if_neg hr, if_neg (by omega), if_neg h0]

theorem encodeCobs_term (v : Variant) (st : EncState) (win vis run : List Byte)
    (h1 : st.done = vis.length) (h2 : run.length + 1 < v.maxlen) (h3 : Shape st win vis run) :
    (encodeCobs v st win none = .err .MissingBuffer ∧ win.length ≤ st.done + max st.scratch 1) ∨
    ∃ o, encodeCobs v st win none = .ok o ∧ TermPost win vis (codeOf run :: run ++ [0]) o := by
  have hle := h3.le
  rw [encodeCobs_none v st win (h3.scratch_lt v h2) hle]
  by_cases hroom : win.length ≤ st.done + max st.scratch 1
  · exact Or.inl ⟨if_pos hroom, hroom⟩
  obtain ⟨hc, ph, hw⟩ := h3.open (by omega)
  rw [if_neg hroom, wr_ok _ _ _ (by omega)]
  simp only [CRes.bind_ok]
  rw [wr_ok _ _ _ (by simp; omega)]
  refine Or.inr ⟨_, rfl, by simp, rfl, rfl, by simp; omega, by simp; omega, ?_⟩
  -- the code byte over the placeholder, the delimiter behind the data
  rw [take_succ_set (by simp; omega), h1, take_set_mid win _ vis ph _ run (h1 ▸ hw), hc]
  simp [codeOf]

theorem encodeCobsR_plain (v : Variant) (st : EncState) (win : List Byte) (hs : st.scratch < 256)
    (hle : st.done + st.scratch ≤ win.length)
    (h : 1 < st.scratch → ∀ e, win[st.done + st.scratch - 1]? = some e → checkInline v st.scratch e = false) :
    encodeCobsR v st win none = encodeCobs v st win none := by
  unfold encodeCobsR
  by_cases h0 : st.scratch = 0
  · rw [if_pos (Or.inr h0)]
  rw [if_neg (by simp [h0]), if_neg (by omega)]
  rw [encodeCobs_none v st win hs hle, show max st.scratch 1 = st.scratch by omega]
  have hend : ∀ x : CRes EncOut, (if win.length - st.done ≤ st.scratch then CRes.err Err.MissingBuffer else x) =
      if win.length ≤ st.done + st.scratch then CRes.err Err.MissingBuffer else x := by
    intro x
    by_cases hr : win.length ≤ st.done + st.scratch
    · rw [if_pos hr, if_pos (by omega)]
    · rw [if_neg hr, if_neg (by omega)]
  by_cases h1 : st.scratch > 1
  · have hlt : st.done + st.scratch - 1 < win.length := by omega
    have he : win[st.done + st.scratch - 1]? = some win[st.done + st.scratch - 1] := List.getElem?_eq_getElem hlt
    simp only [if_pos h1, rd, he, CRes.bind_ok, CRes.pure_eq, h h1 _ he, Bool.false_eq_true, if_false]
    exact hend _
  · simp only [if_neg h1, CRes.bind_ok, CRes.pure_eq]
    exact hend _

theorem encodeCobsR_term (v : Variant) (ht : v.tail = true) (st : EncState)
    (win vis run : List Byte)
    (h1 : st.done = vis.length) (h2 : run.length + 1 < v.maxlen) (h3 : Shape st win vis run) :
    (encodeCobsR v st win none = .err .MissingBuffer ∧ win.length ≤ st.done + max st.scratch 1) ∨
    ∃ o, encodeCobsR v st win none = .ok o ∧ TermPost win vis (finalBlock v run ++ [0]) o := by
  have hle := h3.le
  have hs := h3.scratch_lt v h2
  -- no tail inlining: the regular termination
  have plain : finalBlock v run = codeOf run :: run →
      (1 < st.scratch → ∀ e, win[st.done + st.scratch - 1]? = some e → checkInline v st.scratch e = false) →
      (encodeCobsR v st win none = .err .MissingBuffer ∧ win.length ≤ st.done + max st.scratch 1) ∨
      ∃ o, encodeCobsR v st win none = .ok o ∧ TermPost win vis (finalBlock v run ++ [0]) o := by
    intro hfb hno
    rw [encodeCobsR_plain v st win hs hle hno, hfb]
    exact encodeCobs_term v st win vis run h1 h2 h3
  rcases List.eq_nil_or_concat run with hr | ⟨ds, e, hr⟩
  · subst hr
    exact plain (by simp [finalBlock, codeOf]) (fun h => by
      have : st.scratch ≤ 1 := by rcases h3 with ⟨a, _⟩ | ⟨a, _⟩ <;> simp [a]
      omega)
  subst hr
  rcases h3 with ⟨_, b, _⟩ | ⟨a, b, c⟩
  · simp at b
  have hsc : st.scratch = ds.length + 2 := by simpa using a
  have hlast : win[st.done + st.scratch - 1]? = some e := by
    have h5 : (win.take (st.done + st.scratch))[st.done + st.scratch - 1]? = some e := by
      rw [b]
      have : st.done + st.scratch - 1 = (vis ++ codeOf (ds.concat e) :: ds).length := by simp; omega
      rw [this]; simp
    rw [List.getElem?_take] at h5
    split at h5
    · exact h5
    · simp at h5
  have hfb : finalBlock v (ds.concat e) =
      if ds.length + 2 < e.toNat ∧ e.toNat ≤ v.maxlen then e :: ds else codeOf (ds.concat e) :: ds.concat e := by
    unfold finalBlock
    simp [ht]
  have hchk : checkInline v st.scratch e = true ↔ (ds.length + 2 < e.toNat ∧ e.toNat ≤ v.maxlen) := by
    have hle : e.toNat ≤ 255 := Nat.le_of_lt_succ (UInt8.toNat_lt e)
    unfold checkInline
    cases hz : v.isZpe
    · have := v.nozpe_maxlen hz
      simp [hsc]; omega
    · simp [hsc]; omega
  by_cases hin : checkInline v st.scratch e = true
  · -- tail inline: the last data byte `e` is stored where the code byte would go, the delimiter where `e` was
    right
    have hlt : ds.length + 2 < e.toNat ∧ e.toNat ≤ v.maxlen := hchk.mp hin
    have hw1 : (win.set st.done e).take (st.done + st.scratch) = (vis ++ e :: ds) ++ e :: [] := by
      have := take_set_mid win (st.done + st.scratch) vis (codeOf (ds.concat e)) e (ds.concat e) b
      rw [← h1] at this
      rw [this]; simp
    have hw2 : ((win.set st.done e).set (st.done + st.scratch - 1) 0).take (st.done + st.scratch)
        = (vis ++ e :: ds) ++ (0 : Byte) :: [] := by
      have := take_set_mid (win.set st.done e) (st.done + st.scratch) (vis ++ e :: ds) e 0 [] hw1
      have hl : (vis ++ e :: ds).length = st.done + st.scratch - 1 := by simp; omega
      rw [hl] at this; exact this
    unfold encodeCobsR
    rw [if_neg (by simp; omega), if_neg (by omega), if_pos (by omega)]
    simp only [rd, hlast, CRes.bind_ok, CRes.pure_eq, hin, if_true]
    rw [wr_ok _ _ _ (by omega)]
    simp only [CRes.bind_ok]
    rw [wr_ok _ _ _ (by simp; omega)]
    refine ⟨_, rfl, by simp, rfl, rfl, ?_, by simp; omega, ?_⟩
    · simp only [hfb, if_pos hlt]; simp at h1 ⊢; omega
    · simp only [hw2, hfb, if_pos hlt]; simp
  · exact plain (by rw [hfb, if_neg (fun h => hin (hchk.mpr h))])
      (fun _ e' he' => by rw [hlast] at he'; cases he'; simpa using hin)

theorem encode_some (v : Variant) (st : EncState) (win bytes : List Byte) :
    encode (.cobs v) st win (some bytes) = encodeCobs v st win (some bytes) := by
  unfold encode
  cases hv : v.tail <;> simp [encodeCobsR]

end Mpt.Codec
