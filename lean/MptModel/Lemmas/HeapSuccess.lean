/-
  C04: success conditions.  `Sem` lets every operation refuse; here: on an empty handle or on a handle that owns a
  private, mutable buffer of the matching kind (`Free`) the operations append / insert / set, and cut on an owned
  buffer, are NOT refused — together with `Sem` they succeed with the value the vector spec prescribes.
-/
import MptModel.Lemmas.HeapOps
namespace Mpt.Heap

/-- the handle is empty, or the only owner of a writable buffer of element type `t` (`freeB` of Spec/ArrayOps.lean as a
    proposition; nothing to do with `State.freeBuf`, which deallocates) -/
def Free (s : State) (h : Nat) (t : Option Traits) : Prop :=
  s.handle h = none ∨ ∃ b x, Own s h b x ∧ x.traits = t

theorem append_not_refused {s : State} (inv : Inv s) {h : Nat} (fr : Free s h none) (bytes : List Byte) (s' : State) (e : Fail) :
    arrayAppend s h bytes ≠ .fail s' e := by
  -- `appendAt` has no refusing branch (it writes or faults)
  have tail : ∀ (st : State) (nb u : Nat), appendAt st nb u bytes ≠ .fail s' e := by
    intro st nb u
    unfold appendAt
    split
    · simp
    · split
      · simp
      · split <;> simp
  unfold arrayAppend
  rcases fr with hn | ⟨b, x, o, xt⟩
  · rw [hn]
    exact tail _ _ _
  · rw [o.hh]
    simp only [o.hb, xt, Option.isSome_none, Bool.false_eq_true, if_false]
    have hu := inv.used b x o.hb
    rcases ensure_cases inv o.hh o.hb
      (decide (bytes.length > x.size - x.used ∨ (bytes.length ≠ 0 ∧ (x.shared = true ∨ x.immutable = true)))) (x.used + bytes.length)
      (fun hn => by
        simp only [decide_eq_false_iff_not, not_or] at hn
        exact ⟨by rw [o.ref]; exact Nat.lt_succ_self 1, o.wr, by omega⟩) (Nat.le_add_right _ _)
      with ⟨_, _, _, _, _, nown⟩ | ⟨s1, nb, z, he, _⟩
    · exact (nown b x o).elim
    · rw [he]; exact tail _ _ _

theorem append_succeeds {s : State} (inv : Inv s) {h : Nat} (hlt : h < s.hs.length) (fr : Free s h none) (bytes : List Byte) :
    ∃ s' v, arrayAppend s h bytes = .ok s' v ∧ s'.abs h = Vec.append (s.abs h) bytes :=
  ok_of_sem (append_sem inv hlt bytes) (append_not_refused inv fr bytes)

theorem insert_not_refused {s : State} (inv : Inv s) {h : Nat} (fr : Free s h none) (pos : Nat) (bytes : List Byte)
    (s' : State) (e : Fail) : insertOp s h pos bytes ≠ .fail s' e := by
  -- `poke` (the caller's `memcpy`) has no refusing branch: it writes or faults
  have pokenf : ∀ (st : State) (p : Nat) (s2 : State) (e2 : Fail), poke st h p bytes ≠ .fail s2 e2 := by
    intro st p s2 e2
    unfold poke
    split
    · split <;> simp
    · split
      · simp
      · split <;> simp
  have tail : ∀ (st : State) (p : Nat), (match poke st h p bytes with
      | .ok s2 _ => Out.ok s2 p
      | .fail s2 e => .fail s2 e
      | .fault w => .fault w) ≠ .fail s' e := by
    intro st p
    generalize hp : poke st h p bytes = r
    cases r with
    | fault w => simp
    | fail s2 e2 => exact absurd hp (pokenf _ _ s2 e2)
    | ok s2 u => simp
  unfold insertOp arrayInsert
  rcases fr with hn | ⟨b, x, o, xt⟩
  · rw [hn]
    simp only
    have hz : ((s.newBuf (bytes.length + pos) 0).setHandle h (some s.bufs.length)).buf? s.bufs.length
        = some (State.fresh (bytes.length + pos) 0 none) := by
      rw [State.buf?_setHandle, State.buf?_newBuf]; simp
    rw [hz]
    exact tail _ pos
  · rw [o.hh]
    simp only [o.hb]
    rcases ensure_cases inv o.hh o.hb (decide ¬(max x.used pos + bytes.length ≤ x.size ∧ ¬x.shared = true))
      (max x.used pos + bytes.length)
      (fun hn => by
        simp only [decide_eq_false_iff_not, Decidable.not_not] at hn
        exact ⟨by rw [o.ref]; exact Nat.lt_succ_self 1, o.wr, hn.1⟩) (by omega)
      with ⟨_, _, _, _, _, nown⟩ | ⟨s1, nb, z, he, st, _, o1, zs, zt, zu⟩
    · exact (nown b x o).elim
    rw [he]
    simp only
    have e1 : esize z.traits = 1 := by rw [zt, xt]; rfl
    rw [bufferInsert_plain o1.hb (st.inv.plain nb z o1.hb) (esize_one_mod _ e1 _),
      if_neg (not_insRefused o1.wr (by omega) (esize_one_mod _ e1 _) (esize_one_mod _ e1 _))]
    exact tail _ pos

/-- any position: a gap between the data and `pos` is zero filled, in `Vec.insert` as in `mpt_buffer_insert` -/
theorem insert_succeeds {s : State} (inv : Inv s) {h : Nat} (hlt : h < s.hs.length) (fr : Free s h none) (pos : Nat) (bytes : List Byte) :
    ∃ s' v, insertOp s h pos bytes = .ok s' v ∧ s'.abs h = Vec.insert (s.abs h) pos bytes :=
  ok_of_sem (insert_sem inv hlt pos bytes) (insert_not_refused inv fr pos bytes)

/-- `inrange`: the position does not lie in front of the data -/
theorem set_not_refused {s : State} (inv : Inv s) {h : Nat} (t : Traits) (pt : PlainT (some t)) (fr : Free s h (some t))
    (bytes : List Byte) (hasSrc : Bool) (off : Int) (whole : bytes.length % t.size = 0)
    (inrange : Vec.setAt (s.abs h) t.size off bytes ≠ none) (s' : State) (e : Fail) :
    arraySet s h (some t) bytes hasSrc off ≠ .fail s' e := by
  have sz0 := (pt t rfl).2.2
  have bsnf : ∀ (st : State) (nb pos : Nat) (z : Buf), st.buf? nb = some z → z.traits = some t → PlainT z.traits →
      z.used % t.size = 0 → pos + bytes.length ≤ z.size → pos % t.size = 0 →
      (match bufferSet st nb (some t) pos bytes hasSrc with
        | .ok s2 _ => Out.ok s2 pos
        | .fail s2 _ => .fail s2 .null
        | .fault w => .fault w) ≠ .fail s' e := by
    intro st nb pos z hz zt zp za fit al
    have bs := bufferSet_plain hz zp (by rw [zt]; exact za) pos bytes hasSrc
    rw [zt] at bs
    rw [bs, if_neg (by omega), if_neg (by simp [esize, al, whole])]
    simp
  unfold arraySet
  simp only
  rw [if_neg (by simp [sz0, whole])]
  rcases fr with hn | ⟨b, x, o, xt⟩
  · rw [hn]
    simp only
    have hp : (if off < 0 then off * Int.ofNat t.size + Int.ofNat 0 else off * Int.ofNat t.size) = off * Int.ofNat t.size := by
      simp
    have nn : ¬ off * Int.ofNat t.size < 0 := fun c => inrange (by
      rw [setAt_of_pos (p := off * Int.ofNat t.size) bytes (by rw [State.abs_none hn]; exact hp), if_pos c])
    rw [if_neg nn]
    exact bsnf _ _ _ _ (by rw [State.buf?_setHandle, State.buf?_newBuf, if_pos rfl]) rfl pt (Nat.zero_mod _)
      (by rw [fresh_size]; exact le_allocSize _) (setPos_mod (Nat.zero_mod _) hp nn)
  · rw [o.hh]
    simp only [o.hb]
    rw [if_neg (by simp [xt])]
    have hu := inv.used b x o.hb
    have al : x.used % t.size = 0 := by have := inv.aligned b x o.hb; rwa [xt] at this
    generalize hp : (if off < 0 then off * Int.ofNat t.size + Int.ofNat x.used else off * Int.ofNat t.size) = pos1
    have nn : ¬ pos1 < 0 := fun c => inrange (by
      rw [setAt_of_pos (p := pos1) bytes (by rw [State.abs_of o.hh o.hb, content_length x hu]; exact hp), if_pos c])
    rw [if_neg nn]
    rcases ensure_cases inv o.hh o.hb
      (decide (x.size < pos1.toNat + bytes.length ∨ x.immutable = true ∨ x.shared = true))
      (max (pos1.toNat + bytes.length) x.used) (no_detach hu) (Nat.le_max_right _ _)
      with ⟨_, _, _, _, _, nown⟩ | ⟨s1, nb, z, he, st, _, o1, zs, zt, zu⟩
    · exact (nown b x o).elim
    rw [he]
    simp only
    exact bsnf s1 nb pos1.toNat z o1.hb (zt.trans xt) (st.inv.plain nb z o1.hb)
      (by rw [zu]; exact al) (by omega) (setPos_mod al hp nn)

theorem set_succeeds {s : State} (inv : Inv s) {h : Nat} (hlt : h < s.hs.length) (t : Traits) (pt : PlainT (some t))
    (fr : Free s h (some t)) (bytes : List Byte) (hasSrc : Bool) (off : Int) (whole : bytes.length % t.size = 0)
    (inrange : Vec.setAt (s.abs h) t.size off bytes ≠ none) :
    ∃ s' v, arraySet s h (some t) bytes hasSrc off = .ok s' v ∧ Vec.setAt (s.abs h) t.size off bytes = some (s'.abs h) :=
  ok_of_sem (set_sem inv hlt t pt bytes hasSrc off) (set_not_refused inv t pt fr bytes hasSrc off whole inrange)

theorem ownsB_own {s : State} {h : Nat} {t : Option Traits} (e : ownsB s h t = true) :
    ∃ b x, Own s h b x ∧ x.traits = t := by
  unfold ownsB at e
  cases hh : s.handle h with
  | none => rw [hh] at e; simp at e
  | some b =>
    rw [hh] at e
    simp only [Option.bind_some] at e
    cases hb : s.buf? b with
    | none => rw [hb] at e; simp at e
    | some x =>
      rw [hb] at e
      simp only [Bool.and_eq_true, decide_eq_true_eq, Bool.not_eq_true'] at e
      exact ⟨b, x, ⟨hh, hb, e.1.1, e.1.2⟩, e.2⟩

theorem freeB_free {s : State} {h : Nat} {t : Option Traits} (e : freeB s h t = true) : Free s h t := by
  unfold freeB at e
  simp only [Bool.or_eq_true, Option.isNone_iff_eq_none] at e
  rcases e with e | e
  · exact Or.inl e
  · exact Or.inr (ownsB_own e)

theorem cut_not_refused {s : State} (inv : Inv s) {h b : Nat} {x : Buf} (o : Own s h b x) (xt : x.traits = none)
    (off len : Nat) (inr : Vec.cut (s.abs h) off len ≠ none) (s' : State) (e : Fail) :
    cutOp s h off len ≠ .fail s' e := by
  have hu := inv.used b x o.hb
  unfold cutOp
  rw [o.hh]
  simp only [o.hb]
  rcases ensure_cases inv o.hh o.hb true x.used (fun c => by cases c) (Nat.le_refl _)
    with ⟨_, _, _, _, _, nown⟩ | ⟨s1, nb, z, he, st, _, o1, _, zt, zu⟩
  · exact (nown b x o).elim
  rw [he]
  simp only
  rw [State.abs_of o.hh o.hb, Vec.cut, content_length x hu, ← zu] at inr
  rw [bufferCut_plain o1.hb (st.inv.plain nb z o1.hb), zt, xt]
  simp only [esize, Nat.mod_one, ne_eq, not_true_eq_false, or_self, if_false]
  by_cases l0 : len = 0
  · have : off ≤ z.used := Decidable.byContradiction fun c => inr (by rw [if_pos l0, if_neg c])
    rw [if_pos l0, if_neg (by omega), if_neg (by omega), if_neg (by omega)]
    simp
  · have : off + len ≤ z.used := Decidable.byContradiction fun c => inr (by rw [if_neg l0, if_neg c])
    rw [if_neg l0, if_neg (by omega), if_neg (by omega), if_neg (by omega)]
    simp

theorem cut_succeeds {s : State} (inv : Inv s) {h b : Nat} {x : Buf} (o : Own s h b x)
    (xt : x.traits = none) (off len : Nat) (inr : Vec.cut (s.abs h) off len ≠ none) :
    ∃ s' v, cutOp s h off len = .ok s' v ∧ Vec.cut (s.abs h) off len = some (s'.abs h) :=
  ok_of_sem (cut_sem inv h off len) (cut_not_refused inv o xt off len inr)

end Mpt.Heap
