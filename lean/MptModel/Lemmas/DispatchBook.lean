/-
  C11: the spec's bookkeeping function `book` in arithmetic form (`book_nat`); it meets the declarative statement
  `Follows` of Spec/Dispatch.lean; what the bookkeeping sees of an answer (`book_left`, `book_quiet`).
-/
import MptModel.Spec.Dispatch
namespace Mpt.Dispatch

theorem mask_testBit (i : Nat) : (0xFFFFFFFE : Nat).testBit i = (decide (i ≠ 0) && decide (i < 32)) := by
  cases i with
  | zero => decide
  | succ j =>
    rw [Nat.testBit_succ]
    have : (0xFFFFFFFE : Nat) / 2 = 2 ^ 31 - 1 := by decide
    rw [this, Nat.testBit_two_pow_sub_one]
    by_cases h : j < 31
    · have : j + 1 < 32 := by omega
      simp [h, this]
    · have : ¬ j + 1 < 32 := by omega
      simp [h, this]

theorem clrDefault_eq (f : Nat) (hf : f < 2 ^ 32) : clrDefault f = 2 * (f / 2) := by
  unfold clrDefault
  apply Nat.eq_of_testBit_eq
  intro i
  rw [Nat.testBit_and, mask_testBit]
  cases i with
  | zero => simp [Nat.testBit_zero]
  | succ j =>
    have e : (2 * (f / 2)).testBit (j + 1) = f.testBit (j + 1) := by
      rw [Nat.testBit_succ, Nat.testBit_succ, Nat.mul_div_cancel_left _ (by omega : 0 < 2)]
    rw [e]
    by_cases hj : j + 1 < 32
    · simp [hj]
    · have : f.testBit (j + 1) = false := by
        apply Nat.testBit_lt_two_pow
        calc f < 2 ^ 32 := hf
          _ ≤ 2 ^ (j + 1) := Nat.pow_le_pow_right (by omega) (by omega)
      simp [hj, this]

theorem setDefault_eq (f : Nat) : setDefault f = 2 * (f / 2) + 1 := by
  unfold setDefault
  apply Nat.eq_of_testBit_eq
  intro i
  rw [Nat.testBit_or]
  cases i with
  | zero => simp [Nat.testBit_zero]
  | succ j =>
    have e : (2 * (f / 2) + 1).testBit (j + 1) = f.testBit (j + 1) := by
      rw [Nat.testBit_succ, Nat.testBit_succ]
      have : (2 * (f / 2) + 1) / 2 = f / 2 := by omega
      rw [this]
    rw [e]
    simp [Nat.testBit_succ]

theorem hasDefault_eq (f : Nat) : hasDefault f = decide (f % 2 = 1) := by
  unfold hasDefault
  by_cases h : f % 2 = 1
  · simp [h]
  · have : f % 2 = 0 := by omega
    simp [this]

/-- the bookkeeping of a non-negative answer `f` in arithmetic: `Default` (bit 0) of the answer chooses the new default
    id, and is replaced in the returned value by "a default event exists" -/
theorem book_nat (dflt evid : Id) (f : Nat) (z : Bool) (hf : f < 2 ^ 32) :
    book dflt evid ⟨f, z⟩ =
      let d' := if f % 2 = 1 then (if z then 0 else evid) else dflt
      (((2 * (f / 2) + if d' = 0 then 0 else 1 : Nat) : Int), d') := by
  have hneg : ¬ (f : Int) < 0 := by omega
  simp only [book, hneg, if_false, Int.toNat_natCast, hasDefault_eq, decide_eq_true_eq, Int.ofNat_eq_natCast]
  by_cases hd : f % 2 = 1
  · simp only [hd, if_true, clrDefault_eq f hf, setDefault_eq]
    by_cases h0 : (if z = true then (0 : Id) else evid) = 0 <;> simp [h0]
  · simp only [hd, if_false, setDefault_eq]
    by_cases h0 : dflt = 0 <;> simp [h0] <;> omega

/-- `2 ^ 32` is the width of the mask in `clrDefault` -/
theorem book_follows (dflt evid : Id) (h : HRes) (hv : h.val < 2 ^ 32) :
    Follows dflt (if h.zero then 0 else evid) h.val (book dflt evid h).1 (book dflt evid h).2 := by
  unfold Follows
  by_cases hneg : h.val < 0
  · simp [hneg, book]
  · obtain ⟨f, hf⟩ : ∃ f : Nat, h.val = (f : Int) := ⟨h.val.toNat, by omega⟩
    have : book dflt evid h = book dflt evid ⟨f, h.zero⟩ := by rw [← hf]
    rw [this, book_nat dflt evid f h.zero (by omega), hf, if_neg (by omega)]
    have hmod : ((f : Int) % 2 = 1) ↔ f % 2 = 1 := by omega
    simp only [hmod]
    refine ⟨trivial, ?_⟩
    generalize (if f % 2 = 1 then (if h.zero = true then 0 else evid) else dflt) = d'
    by_cases h0 : d' = 0 <;> simp [h0] <;> omega

/-- `2 ^ 31`: the handler's answer is a C `int` -/
theorem follows_of_book {dflt evid dflt' : Id} {h : HRes} {ret : Ret} (hv : h.val < 2 ^ 31)
    (hb : ret = .val (book dflt evid h).1 ∧ dflt' = (book dflt evid h).2) :
    ∃ v, ret = .val v ∧ Follows dflt (if h.zero then 0 else evid) h.val v dflt' :=
  ⟨_, hb.1, hb.2 ▸ book_follows _ _ _ (Int.lt_trans hv (by decide))⟩

/-- the bookkeeping sees the event id only as the handler left it: `h.zero` can be moved into the id -/
theorem book_left (dflt evid : Id) (h : HRes) :
    book dflt evid h = book dflt (if h.zero then 0 else evid) ⟨h.val, false⟩ := by
  simp [book]

/-- 3, 2 and 0 are the values a hash dispatch hands back when nobody is invoked (`failDefault` and the values of
    `builtinAnswer`); with the event id cleared, the returned value of the bookkeeping tells the default id -/
theorem book_quiet (dflt : Id) {v1 v2 : Int} (h1 : v1 = 3 ∨ v1 = 2 ∨ v1 = 0) (h2 : v2 = 3 ∨ v2 = 2 ∨ v2 = 0)
    (he : (book dflt 0 ⟨v1, false⟩).1 = (book dflt 0 ⟨v2, false⟩).1) :
    (book dflt 0 ⟨v1, false⟩).2 = (book dflt 0 ⟨v2, false⟩).2 := by
  by_cases hd : dflt = 0
  · subst hd
    rcases h1 with rfl | rfl | rfl <;> rcases h2 with rfl | rfl | rfl <;>
      simp [book, hasDefault, clrDefault] at he ⊢
  · have hd' : (dflt != 0) = true := by simpa using hd
    rcases h1 with rfl | rfl | rfl <;> rcases h2 with rfl | rfl | rfl <;>
      simp [book, hasDefault, clrDefault, setDefault, hd'] at he ⊢

end Mpt.Dispatch
