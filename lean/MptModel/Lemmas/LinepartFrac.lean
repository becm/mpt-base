/-
  C18: the 16-bit fraction code `mpt_linepart_code` on `[0,1]`: closed form, bounds, accuracy, monotonicity, and its
  storage in a `uint16_t`.  Arithmetic on `Rat` and `Int` only, no value lists.
-/
import MptModel.Impl.Linepart
namespace Mpt.Linepart

theorem code_eq (f : Rat) (h0 : 0 ≤ f) (h1 : f ≤ 1) :
    code f = if f ≠ 0 ∧ f * 65536 < 1 then 1 else if 65535 < f * 65536 then 65535 else (f * 65536).floor := by
  unfold code
  rw [if_neg (by grind)]

/-- on `[0,1]` the code is the floor of `f * 65536`, kept below 65536 and, for `f ≠ 0`, above 0: a composition of
    monotone maps -/
theorem code_closed (f : Rat) (h0 : 0 ≤ f) (h1 : f ≤ 1) :
    code f = max (if f = 0 then 0 else 1) (min 65535 (f * 65536).floor) := by
  rw [code_eq f h0 h1]
  by_cases hf : f = 0
  · subst hf; decide +kernel
  · rw [if_neg hf]
    by_cases hA : f * 65536 < 1
    · have : (f * 65536).floor < 1 := Rat.floor_lt_iff.2 (by simpa using hA)
      rw [if_pos ⟨hf, hA⟩]; omega
    · have : 1 ≤ (f * 65536).floor := Rat.le_floor_iff.2 (by simpa using Rat.not_lt.1 hA)
      rw [if_neg (fun h => hA h.2)]
      by_cases hB : 65535 < f * 65536
      · have : 65535 ≤ (f * 65536).floor := Rat.le_floor_iff.2 (by simpa using Rat.le_of_lt hB)
        rw [if_pos hB]; omega
      · have : (f * 65536).floor < 65536 := Rat.floor_lt_iff.2 (by grind)
        rw [if_neg hB]
        omega

theorem code_bounds (f : Rat) (h0 : 0 ≤ f) (h1 : f ≤ 1) : 0 ≤ code f ∧ code f ≤ 65535 := by
  rw [code_closed f h0 h1]
  split <;> omega

theorem code_pos (f : Rat) (h0 : 0 < f) (h1 : f ≤ 1) : 1 ≤ code f := by
  rw [code_closed f (Rat.le_of_lt h0) h1, if_neg (by grind)]
  omega

theorem code_accuracy (f : Rat) (h0 : 0 ≤ f) (h1 : f ≤ 1) :
    real (code f) - f ≤ 1 / 65536 ∧ f - real (code f) ≤ 1 / 65536 := by
  rw [code_eq f h0 h1]
  unfold real
  split
  · -- `0 < f < 1/65536` against the code 1
    constructor <;> grind
  · split
    · -- `65535/65536 < f ≤ 1` against the code 65535
      constructor <;> grind
    · -- `⌊f·65536⌋ ≤ f·65536 < ⌊f·65536⌋ + 1`, divided by 65536
      have h2 := Rat.floor_le (f * 65536)
      have h3 := Rat.lt_floor_add_one (f * 65536)
      constructor <;> grind

theorem u16_code (f : Rat) (h0 : 0 ≤ f) (h1 : f ≤ 1) : u16 (code f) = (code f).toNat := by
  obtain ⟨a, b⟩ := code_bounds f h0 h1
  unfold u16
  rw [Int.emod_eq_of_lt a (by omega)]

theorem u16_le (c : Int) : u16 c ≤ 65535 := by
  unfold u16
  omega

theorem code_mono (f g : Rat) (h0 : 0 ≤ f) (hfg : f ≤ g) (h1 : g ≤ 1) : code f ≤ code g := by
  rw [code_closed f h0 (Rat.le_trans hfg h1), code_closed g (Rat.le_trans h0 hfg) h1]
  have hm : (f * 65536).floor ≤ (g * 65536).floor := Rat.floor_monotone (by grind)
  have hz : (if f = 0 then 0 else 1 : Int) ≤ if g = 0 then 0 else 1 := by
    by_cases hg : g = 0
    · rw [if_pos hg, if_pos (Rat.le_antisymm (hg ▸ hfg) h0)]; exact Int.le_refl 0
    · rw [if_neg hg]; split <;> decide
  omega

end Mpt.Linepart
