/-
  `mpt_queue_find`: the element scan over a stretch stored in one piece, in terms of the elements of the content
  (`scan_first`; a second scan takes over from the first through its hypothesis on the elements before), the three
  answers of `Ring.find` (`find_cases`), and the spec's search function `Deque.findAt` characterised by first match /
  no match.
-/
import MptModel.Lemmas.Ring
import MptModel.Impl.RingOps
namespace Mpt
namespace Ring

/-- element `k` (of size `esz`) of a byte list -/
def elemAt (l : List Byte) (esz k : Nat) : List Byte := (l.drop (k * esz)).take esz

theorem findLoop_spec (store needle : List Byte) (esz : Nat) (iter addr : Nat)
    (hb : addr + iter * esz ≤ store.length) :
    ∃ k, k ≤ iter ∧ (∀ j, j < k → Mem.read store (addr + j * esz) esz ≠ needle) ∧
      (k < iter → findLoop store needle esz iter addr = .ok (some (addr + k * esz)) ∧
        Mem.read store (addr + k * esz) esz = needle) ∧
      (k = iter → findLoop store needle esz iter addr = .ok none) := by
  induction iter generalizing addr with
  | zero => exact ⟨0, Nat.le_refl _, fun j hj => by omega, fun hk => by omega, fun _ => rfl⟩
  | succ n ih =>
    have hm : (n + 1) * esz = n * esz + esz := Nat.succ_mul n esz
    unfold findLoop
    rw [Mem.rd_ok _ _ _ (by omega)]
    simp only []
    by_cases he : Mem.read store addr esz = needle
    · refine ⟨0, by omega, fun j hj => by omega, fun _ => ?_, fun hk => by omega⟩
      rw [if_pos he, Nat.zero_mul, Nat.add_zero]
      exact ⟨rfl, he⟩
    · rw [if_neg he]
      obtain ⟨k, hk, hno, hfound, hnone⟩ := ih (addr + esz) (by omega)
      have e (j : Nat) : addr + esz + j * esz = addr + (j + 1) * esz := by rw [Nat.succ_mul]; omega
      simp only [e] at hno hfound
      refine ⟨k + 1, by omega, ?_, fun h => hfound (by omega), fun h => hnone (by omega)⟩
      intro j hj
      cases j with
      | zero => rwa [Nat.zero_mul, Nat.add_zero]
      | succ j => exact hno j (by omega)

theorem scan_first (r : Ring) (h : r.WF) (needle : List Byte) (esz q iter addr : Nat) (hpos : 0 < esz)
    (P : Parts r.store.length r.off (q * esz) addr (iter * esz) 0) (hlen : q * esz + iter * esz ≤ r.len)
    (hq : ∀ j, j < q → elemAt r.content esz j ≠ needle) :
    (∃ k, (k + 1) * esz ≤ r.len ∧
        findLoop r.store needle esz iter addr = .ok (some (physIdx r.store.length r.off (k * esz))) ∧
        elemAt r.content esz k = needle ∧ ∀ j, j < k → elemAt r.content esz j ≠ needle) ∨
    (findLoop r.store needle esz iter addr = .ok none ∧ ∀ j, j < q + iter → elemAt r.content esz j ≠ needle) := by
  obtain ⟨hf, hbase, _⟩ := P
  have h2 := h.2
  -- element `q + j` of the content is the `j`-th element of the piece
  have el (j : Nat) (hj : j < iter) : elemAt r.content esz (q + j) = Mem.read r.store (addr + j * esz) esz ∧
      (q + j + 1) * esz ≤ r.len ∧ physIdx r.store.length r.off ((q + j) * esz) = addr + j * esz := by
    have := Nat.mul_le_mul_right esz (show j + 1 ≤ iter from hj)
    have e1 : (j + 1) * esz = j * esz + esz := Nat.succ_mul j esz
    have e2 : (q + j) * esz = q * esz + j * esz := Nat.add_mul _ _ _
    have e3 : (q + j + 1) * esz = (q + j) * esz + esz := Nat.succ_mul _ esz
    refine ⟨?_, by omega, by unfold physIdx; split <;> omega⟩
    rw [elemAt, e2, ← read_content r _ _ (by omega),
      read_part _ r.off (q * esz + j * esz) (addr + j * esz) esz h2 ⟨by omega, by omega, .inl rfl⟩]
  obtain ⟨k, hk, hno, hfound, hnone⟩ := findLoop_spec r.store needle esz iter addr (by omega)
  have before (j : Nat) (hj : j < q + k) : elemAt r.content esz j ≠ needle := by
    by_cases hjq : j < q
    · exact hq j hjq
    · have := hno (j - q) (by omega)
      rwa [← (el (j - q) (by omega)).1, Nat.add_sub_cancel' (by omega)] at this
  by_cases hki : k < iter
  · obtain ⟨hfl, hm⟩ := hfound hki
    obtain ⟨e, hb, hp⟩ := el k hki
    exact .inl ⟨q + k, hb, by rw [hfl, hp], by rw [e, hm], before⟩
  · exact .inr ⟨hnone (by omega), fun j hj => before j (by omega)⟩

theorem find_cases (r : Ring) (h : r.WF) (needle : List Byte) (hn : needle ≠ []) :
    (∃ k, (k + 1) * needle.length ≤ r.len ∧
        r.find needle = .ok (some (physIdx r.store.length r.off (k * needle.length))) ∧
        elemAt r.content needle.length k = needle ∧ ∀ j, j < k → elemAt r.content needle.length j ≠ needle) ∨
    (r.find needle = .ok none ∧ ∀ k, (k + 1) * needle.length ≤ r.len → elemAt r.content needle.length k ≠ needle) ∨
    (r.find needle = .null ∧
      (r.len < needle.length ∨ (r.frag = true ∧ (r.store.length - r.off) % needle.length ≠ 0))) := by
  have h1 := h.1
  have h2 := h.2
  have hpos : 0 < needle.length := List.length_pos_iff.mpr hn
  generalize hes : needle.length = esz at *
  -- an element that ends inside the content is one of the first `len / esz`
  have hall (hno : ∀ j, j < r.len / esz → elemAt r.content esz j ≠ needle) (k : Nat) (hk : (k + 1) * esz ≤ r.len) :
      elemAt r.content esz k ≠ needle := hno k ((Nat.le_div_iff_mul_le hpos).mpr hk)
  unfold find
  simp only [hes, Ring.max]
  rw [if_neg (by omega)]
  by_cases hlt : r.len < esz
  · rw [if_pos hlt]
    exact .inr (.inr ⟨rfl, .inl hlt⟩)
  rw [if_neg hlt]
  unfold frag
  by_cases hf : r.store.length - r.len < r.off
  · -- wrapped content: `up` bytes before the wrap, `lo` behind it
    simp only [hf, decide_true, Bool.not_true, Bool.false_eq_true, ↓reduceIte]
    obtain ⟨up, hup⟩ : ∃ up, r.store.length - r.off = up := ⟨_, rfl⟩
    obtain ⟨lo, hlo⟩ : ∃ lo, r.len - up = lo := ⟨_, rfl⟩
    have hL : r.len = up + lo := by omega
    rw [hup, hlo]
    have hq1 : up / esz * esz ≤ up := Nat.div_mul_le_self _ _
    rcases scan_first r h needle esz 0 (up / esz) r.off hpos (.upper (by rw [Nat.zero_mul]; rfl) (by omega))
      (by omega) (fun j hj => by omega) with ⟨k, hk, hfl, hr⟩ | ⟨hfl, hno⟩
    · rw [hfl]
      exact .inl ⟨k, hk, rfl, hr⟩
    rw [hfl]
    by_cases hmod : up % esz ≠ 0
    · rw [if_pos hmod]
      exact .inr (.inr ⟨rfl, .inr ⟨trivial, hmod⟩⟩)
    rw [if_neg hmod]
    have hq : up / esz * esz = up := by
      have := Nat.div_add_mod up esz
      rw [Nat.mul_comm] at this; omega
    have hm1 : lo / esz * esz ≤ lo := Nat.div_mul_le_self _ _
    have hsum : r.len / esz = up / esz + lo / esz := by
      rw [hL, ← hq, Nat.mul_comm, Nat.mul_add_div hpos, Nat.mul_comm, hq]
    rw [Nat.zero_add] at hno
    rcases scan_first r h needle esz (up / esz) (lo / esz) 0 hpos (.lower (by omega) (by omega))
      (by omega) hno with ⟨k, hk, hfl, hr⟩ | ⟨hfl, hno2⟩
    · exact .inl ⟨k, hk, hfl, hr⟩
    · exact .inr (.inl ⟨hfl, hall (hsum ▸ hno2)⟩)
  · -- contiguous content
    simp only [hf, decide_false, Bool.not_false, ↓reduceIte]
    have hq1 : r.len / esz * esz ≤ r.len := Nat.div_mul_le_self _ _
    rcases scan_first r h needle esz 0 (r.len / esz) r.off hpos (.upper (by rw [Nat.zero_mul]; rfl) (by omega))
      (by omega) (fun j hj => by omega) with ⟨k, hk, hfl, hr⟩ | ⟨hfl, hno⟩
    · exact .inl ⟨k, hk, hfl, hr⟩
    · exact .inr (.inl ⟨hfl, hall (by rwa [Nat.zero_add] at hno)⟩)

theorem logicalPos_physIdx (r : Ring) (p : Nat) (hp : p < r.store.length) :
    r.logicalPos (physIdx r.store.length r.off p) = p := by
  unfold logicalPos physIdx
  simp only [max]
  split <;> split <;> omega

theorem findAt_none (d needle : List Byte) (fuel i : Nat)
    (h : ∀ k, i ≤ k → (k + 1) * needle.length ≤ d.length → elemAt d needle.length k ≠ needle) :
    Deque.findAt d needle fuel i = none := by
  induction fuel generalizing i with
  | zero => rfl
  | succ fuel ih =>
    unfold Deque.findAt
    by_cases hr : (i + 1) * needle.length ≤ d.length
    · rw [if_pos hr]
      have := h i (Nat.le_refl _) hr
      unfold elemAt at this
      rw [if_neg this]
      exact ih (i + 1) (fun k hk => h k (by omega))
    · rw [if_neg hr]

theorem findAt_some (d needle : List Byte) (k : Nat) (hk : (k + 1) * needle.length ≤ d.length)
    (hm : elemAt d needle.length k = needle) (hf : ∀ j, j < k → elemAt d needle.length j ≠ needle)
    (fuel i : Nat) (hi : i ≤ k) (hfuel : k - i < fuel) :
    Deque.findAt d needle fuel i = some k := by
  induction fuel generalizing i with
  | zero => omega
  | succ fuel ih =>
    unfold Deque.findAt
    have hr : (i + 1) * needle.length ≤ d.length :=
      Nat.le_trans (Nat.mul_le_mul_right _ (by omega)) hk
    rw [if_pos hr]
    by_cases hik : i = k
    · subst hik
      unfold elemAt at hm
      rw [if_pos hm]
    · have := hf i (by omega)
      unfold elemAt at this
      rw [if_neg this]
      exact ih (i + 1) (by omega) (by omega)

end Ring
end Mpt
