/-
  What the string functions of `Impl/Layout.lean` compute, apart from any object: the closed form of
  `mpt_property_match`; the text conversions give "no value" only for blank text (`convText_cases`, the bridge between
  `convText` of the model and `convScalar` after `skipSpaces` of the specification); the letter loops of graph align and
  clip are the masks of `Spec/Record.lean`; `lattr_pset` on text (`lattrText_val`); a printed colour parses back.
-/
import MptModel.Impl.Layout
import MptModel.Spec.Record

namespace Mpt.Layout
open Mpt.Record

theorem laterMatch_eq_any (m : Str) (n : Nat) (l : List Str) :
    laterMatch m n l = l.any (fun c => eqNoCaseN m c n) := by
  induction l with
  | nil => rfl
  | cons c r ih => simp [laterMatch, ih]

/-- the comparison `mpt_property_match` makes for length argument `mlen` -/
def nameAgrees (m : Str) (mlen : Option Nat) (c : Str) : Bool :=
  match mlen with
  | some n => eqNoCaseN m c n
  | none => eqNoCase m c

/-- the first agreeing name `c` is refused as ambiguous: a length is given, `c` is at least that long and a name of
    `rest` agrees as well -/
def ambiguous (m : Str) (mlen : Option Nat) (c : Str) (rest : List Str) : Bool :=
  match mlen with
  | some n => decide (n ≤ c.length) && rest.any (fun d => eqNoCaseN m d n)
  | none => false

/-- the loop of property_match.c in both modes: the first agreeing name decides -/
theorem propertyMatch_eq (m : Str) (mlen : Option Nat) (names : List Str) (pos : Nat) :
    propertyMatch m mlen names pos =
      match names.findIdx? (nameAgrees m mlen) with
      | none => .missing
      | some i =>
        if ambiguous m mlen (names.getD i []) (names.drop (i + 1)) then .ambiguous else .found (pos + i) := by
  induction names generalizing pos with
  | nil => rfl
  | cons c r ih =>
    rw [List.findIdx?_cons]
    by_cases h : nameAgrees m mlen c = true
    · -- `c` agrees: the answer is here
      rw [if_pos h]
      cases mlen with
      | none => simp [propertyMatch, show eqNoCase m c = true from h, ambiguous]
      | some n => simp [propertyMatch, show eqNoCaseN m c n = true from h, ambiguous, laterMatch_eq_any]
    · -- `c` does not: the loop goes on behind it, one position further
      have hstep : propertyMatch m mlen (c :: r) pos = propertyMatch m mlen r (pos + 1) := by
        cases mlen with
        | none => simp [propertyMatch, show ¬ eqNoCase m c = true from h]
        | some n => simp [propertyMatch, show ¬ eqNoCaseN m c n = true from h]
      rw [if_neg h, hstep, ih (pos + 1)]
      cases List.findIdx? (nameAgrees m mlen) r with
      | none => rfl
      | some i => simp only [Option.map_some, List.getD_cons_succ, List.drop_succ_cons, Nat.add_assoc, Nat.add_comm 1 i]


theorem skipSpaces_idem (s : Str) : skipSpaces (skipSpaces s) = skipSpaces s := by
  induction s with
  | nil => rfl
  | cons b r ih =>
    by_cases h : isSpace b = true
    · have e : skipSpaces (b :: r) = skipSpaces r := by rw [skipSpaces]; simp [h]
      rw [e]; exact ih
    · have e : skipSpaces (b :: r) = b :: r := by rw [skipSpaces]; simp [h]
      rw [e, e]

theorem ite_ne {α : Type} {c : Prop} [Decidable c] {a b x : α} (ha : a ≠ x) (hb : b ≠ x) :
    (if c then a else b) ≠ x := by
  split <;> assumption

theorem skipSpaces_isEmpty {s : Str} (h : s.isEmpty = true) : (skipSpaces s).isEmpty = true := by
  cases s with
  | nil => rfl
  | cons _ _ => cases h

/-- the "no numeral" branch of the number conversions: no value exactly for blank text -/
theorem blank_of_ite_none {α : Type} {b : Bool} {e : Err}
    (h : (if b = true then (Conv.none : Conv α) else .err e) = .none) : b = true := by
  cases b
  · rw [if_neg Bool.false_ne_true] at h; cases h
  · rfl

/- `convUint`, `convSint`, `convFloat` return "no value" (`.none`) only for text without a visible character: below
   the test for empty text the only such branch is "no numeral, and nothing but blanks"; every branch with a numeral
   ends in a value, an error or `unsup`. -/

theorem convUint_none (base hi : Nat) (s : Str) (h : convUint base hi s = .none) :
    (skipSpaces s).isEmpty = true := by
  unfold convUint at h
  by_cases he : s.isEmpty = true
  · exact skipSpaces_isEmpty he
  · rw [if_neg he] at h
    simp only [] at h
    cases hd : strtoMag base (takeSign (skipSpaces s)).2.1 with
    | none => rw [hd] at h; exact blank_of_ite_none h
    | some p => rw [hd] at h; exact absurd h (ite_ne nofun (ite_ne nofun (ite_ne nofun nofun)))

theorem convSint_none (base : Nat) (lo hi : Int) (s : Str) (h : convSint base lo hi s = .none) :
    (skipSpaces s).isEmpty = true := by
  unfold convSint at h
  by_cases he : s.isEmpty = true
  · exact skipSpaces_isEmpty he
  · rw [if_neg he] at h
    simp only [] at h
    cases hd : strtoMag base (takeSign (skipSpaces s)).2.1 with
    | none => rw [hd] at h; exact blank_of_ite_none h
    | some p => rw [hd] at h; exact absurd h (ite_ne nofun (ite_ne nofun nofun))

theorem convFloat_none (prec : Nat) (emax : Int) (s : Str) (h : convFloat prec emax s = .none) :
    (skipSpaces s).isEmpty = true := by
  unfold convFloat at h
  by_cases he : s.isEmpty = true
  · exact skipSpaces_isEmpty he
  · rw [if_neg he] at h
    simp only [] at h
    by_cases hu : fltUnsupPrefix (takeSign (skipSpaces s)).2.1 = true
    · rw [if_pos hu] at h; cases h
    · rw [if_neg hu] at h
      cases hd : decNumeral (takeSign (skipSpaces s)).2.1 with
      | none => rw [hd] at h; exact blank_of_ite_none h
      | some p =>
        rw [hd] at h
        refine absurd h (ite_ne nofun (ite_ne nofun (ite_ne nofun ?_)))
        split
        · nofun
        · exact ite_ne nofun (ite_ne nofun nofun)

theorem convUint_val {base hi : Nat} {s : Str} {x : Int} {u : Nat} (h : convUint base hi s = .val x u) :
    s.isEmpty = false ∧ ∃ v c, strtoMag base (takeSign (skipSpaces s)).2.1 = some (v, c) ∧
      (takeSign (skipSpaces s)).1 = false ∧ v ≤ hi ∧ x = v ∧
      u = s.length - (skipSpaces s).length + (takeSign (skipSpaces s)).2.2 + c := by
  unfold convUint at h
  by_cases he : s.isEmpty = true
  · rw [if_pos he] at h; cases h
  · rw [if_neg he] at h
    simp only [] at h
    refine ⟨by simpa using he, ?_⟩
    cases hd : strtoMag base (takeSign (skipSpaces s)).2.1 with
    | none => rw [hd] at h; exact absurd h (ite_ne nofun nofun)
    | some p =>
      obtain ⟨v, c⟩ := p
      rw [hd] at h
      simp only [] at h
      -- beyond `UINTMAX_MAX`: `strtoumax` saturates with ERANGE, which the converter refuses
      by_cases h1 : v > 18446744073709551615
      · rw [if_pos h1] at h; cases h
      · rw [if_neg h1] at h
        cases hn : (takeSign (skipSpaces s)).1
        · rw [hn] at h
          by_cases h2 : v > hi
          · simp only [Bool.false_eq_true, ↓reduceIte, h2] at h; cases h
          · simp only [Bool.false_eq_true, ↓reduceIte, h2, Conv.val.injEq] at h
            exact ⟨v, c, rfl, rfl, by omega, h.1.symm, h.2.symm⟩
        · rw [hn] at h; simp only [↓reduceIte] at h; cases h

theorem convUint_convSint {base hi : Nat} {lo hi' : Int} {t : Str} {x : Int} {u : Nat} (h : convUint base hi t = .val x u)
    (hlo : lo ≤ 0) (hhi : (hi : Int) ≤ hi') (hmax : hi' ≤ 9223372036854775807) : convSint base lo hi' t = .val x u := by
  obtain ⟨he, v, c, hd, hn, hv, rfl, rfl⟩ := convUint_val h
  unfold convSint
  simp only [he, Bool.false_eq_true, ↓reduceIte, hd, hn]
  rw [if_neg (by omega), if_neg (by omega)]

theorem convChar_none (s : Str) (h : convChar s = .none) : (skipSpaces s).isEmpty = true := by
  unfold convChar at h
  simp only [] at h
  split at h
  · rename_i he; simp [he]
  · split at h <;> cases h

theorem convScalar_none (ty : Char) (s : Str) (h : convScalar ty s = .none) : (skipSpaces s).isEmpty = true := by
  -- every type code calls one of the four converters (through `lift`, `liftF` or the character match); each has its
  -- `_none` lemma, an unknown code gives an error
  unfold convScalar at h
  simp only [] at h
  split at h
  all_goals first
    | (cases h; done)
    | (split at h <;> first
        | (cases h; done)
        | exact convUint_none _ _ _ (by assumption)
        | exact convSint_none _ _ _ _ (by assumption)
        | exact convFloat_none _ _ _ (by assumption)
        | exact convChar_none _ (by assumption))

theorem convText_cases (ty : Char) (v : Str) :
    (convText ty (some v) = .none ∧ blank (some v) = true) ∨
    (∃ x u u', convText ty (some v) = .val x u ∧ convScalar ty (skipSpaces v) = .val x u') ∨
    (∃ e, convText ty (some v) = .err e ∧ convScalar ty (skipSpaces v) = .err e) ∨ convText ty (some v) = .unsup := by
  unfold convText
  simp only []
  by_cases he : v.isEmpty = true
  · left
    simp only [he, ↓reduceIte, true_and]
    cases v <;> simp_all [blank, skipSpaces]
  · simp only [he, Bool.false_eq_true, ↓reduceIte]
    cases hc : convScalar ty (skipSpaces v) with
    | val x u => right; left; exact ⟨x, _, u, rfl, rfl⟩
    | none =>
      left
      refine ⟨rfl, ?_⟩
      have := convScalar_none ty _ hc
      rw [skipSpaces_idem] at this
      simpa [blank] using this
    | err e => right; right; left; exact ⟨e, rfl, rfl⟩
    | unsup => right; right; right; rfl


theorem alignCode_lt (c : Byte) : alignCode c < 4 := by
  unfold alignCode; simp only []; (repeat' split) <;> decide

/-- four two-bit codes packed into one byte by the setter's loop (`n |= flag << 2*i`, truncated to 8 bits) -/
theorem align_bits : ∀ f0 f1 f2 f3 : Fin 4,
    ((((((((0 ||| (f0.val <<< (0 * 2))) % 256) ||| (f1.val <<< (1 * 2))) % 256) ||| (f2.val <<< (2 * 2))) % 256) |||
      (f3.val <<< (3 * 2))) % 256) = f0.val + 4 * f1.val + 16 * f2.val + 64 * f3.val := by decide

theorem alignLetters_step (c : Byte) (r : Str) (i n : Nat) (h : i < 4) :
    alignLetters (c :: r) i n = alignLetters r (i + 1) ((n ||| (alignCode c <<< (i * 2))) % 256) := by
  rw [alignLetters]
  have : ¬ i ≥ 4 := by omega
  simp only [this, ↓reduceIte, alignCode]

theorem alignLetters_stop (v : Str) (n : Nat) : alignLetters v 4 n = n := by
  cases v with
  | nil => rfl
  | cons c r => rw [alignLetters]; simp

theorem alignLetters_nil (i n : Nat) : alignLetters [] i n = n := by rw [alignLetters]

theorem alignLetters_eq (v : Str) : alignLetters v 0 0 = alignMask v := by
  -- the loop stops after four letters: by the length of `v` (0 to 3, or 4 and more) it is unrolled with
  -- `alignLetters_step`; the bit arithmetic on four two-bit codes is `align_bits`
  have z : alignCode 0 = 0 := by decide
  have hb := align_bits
  unfold alignMask
  match v with
  | [] => rw [alignLetters_nil]; simp [z]
  | [a] =>
    have := hb ⟨_, alignCode_lt a⟩ 0 0 0
    rw [alignLetters_step _ _ _ _ (by decide : 0 < 4), alignLetters_nil]
    simp only [List.getD_cons_zero, List.getD_cons_succ, List.getD_nil, z]
    simpa using this
  | [a, b] =>
    have := hb ⟨_, alignCode_lt a⟩ ⟨_, alignCode_lt b⟩ 0 0
    rw [alignLetters_step _ _ _ _ (by decide : 0 < 4), alignLetters_step _ _ _ _ (by decide : 0 + 1 < 4), alignLetters_nil]
    simp only [List.getD_cons_zero, List.getD_cons_succ, List.getD_nil, z]
    simpa using this
  | [a, b, c] =>
    have := hb ⟨_, alignCode_lt a⟩ ⟨_, alignCode_lt b⟩ ⟨_, alignCode_lt c⟩ 0
    rw [alignLetters_step _ _ _ _ (by decide : 0 < 4), alignLetters_step _ _ _ _ (by decide : 0 + 1 < 4),
      alignLetters_step _ _ _ _ (by decide : 0 + 1 + 1 < 4), alignLetters_nil]
    simp only [List.getD_cons_zero, List.getD_cons_succ, List.getD_nil, z]
    simpa using this
  | a :: b :: c :: d :: r =>
    have := hb ⟨_, alignCode_lt a⟩ ⟨_, alignCode_lt b⟩ ⟨_, alignCode_lt c⟩ ⟨_, alignCode_lt d⟩
    rw [alignLetters_step _ _ _ _ (by decide : 0 < 4), alignLetters_step _ _ _ _ (by decide : 0 + 1 < 4),
      alignLetters_step _ _ _ _ (by decide : 0 + 1 + 1 < 4), alignLetters_step _ _ _ _ (by decide : 0 + 1 + 1 + 1 < 4),
      alignLetters_stop]
    simp only [List.getD_cons_zero, List.getD_cons_succ]
    simpa using this

/-- a clip mask from its four flags -/
def mk4 (x y z w : Bool) : Nat :=
  (if x then 1 else 0) + (if y then 2 else 0) + (if z then 4 else 0) + (if w then 8 else 0)

theorem mk4_or : ∀ a b c d a' b' c' d' : Bool,
    mk4 a b c d ||| mk4 a' b' c' d' = mk4 (a || a') (b || b') (c || c') (d || d') := by decide

theorem clipBit (c : Byte) :
    (if c == 120 then 1 else if c == 121 then 2 else if c == 122 then 4 else 8) =
      mk4 (c == 120) (c == 121) (c == 122) (c != 120 && c != 121 && c != 122) := by
  by_cases h1 : c = 120
  · subst h1; decide
  · by_cases h2 : c = 121
    · subst h2; decide
    · by_cases h3 : c = 122
      · subst h3; decide
      · simp [mk4, h1, h2, h3]

theorem clipLetters_mk (v : Str) (a b c d : Bool) :
    clipLetters v (mk4 a b c d) =
      mk4 (a || v.contains 120) (b || v.contains 121) (c || v.contains 122)
        (d || v.any (fun x => x != 120 && x != 121 && x != 122)) := by
  induction v generalizing a b c d with
  | nil => simp [clipLetters]
  | cons x r ih =>
    rw [clipLetters, clipBit, mk4_or, ih]
    simp only [List.contains_cons, List.any_cons, Bool.or_assoc, BEq.comm (a := x)]

theorem clipLetters_eq (v : Str) : clipLetters v 0 = clipMask v := by
  have := clipLetters_mk v false false false false
  simp only [Bool.false_or] at this
  rw [show (0 : Nat) = mk4 false false false false from rfl, this]
  rfl


/-- `'y'` is the type code of the unsigned byte (`uint8_t`) -/
theorem convScalar_y_val (s : Str) (x : Val) (u : Nat) (h : convScalar 'y' s = .val x u) :
    (∃ n : Nat, x = .int n) ∧ convScalar 'i' s = .val x u := by
  unfold convScalar at h ⊢
  simp only [] at h ⊢
  cases hu : convUint 0 255 s with
  | val y w =>
    rw [hu] at h
    obtain ⟨rfl, rfl⟩ := Conv.val.inj h
    obtain ⟨_, v, _, _, _, _, rfl, _⟩ := convUint_val hu
    exact ⟨⟨v, rfl⟩, by rw [convUint_convSint hu (by decide) (by decide) (by decide)]⟩
  | none => rw [hu] at h; cases h
  | err e => rw [hu] at h; cases h
  | unsup => rw [hu] at h; cases h

/-- `lattr_pset` on text: the attribute's default for blank text, else a count the text denotes inside the limits
    (read as unsigned byte first, as integer within 0..255 when that fails) -/
theorem lattrText_val (d lo hi : Nat) (v : Str) (x : Int) (u : Nat) (h : lattrText d lo hi (some v) = .val x u) :
    (blank (some v) = true ∧ x = d) ∨
    (∃ u', convScalar 'i' (skipSpaces v) = .val (.int x) u' ∧ (lo : Int) ≤ x ∧ x ≤ hi) := by
  unfold lattrText at h
  rcases convText_cases 'y' v with ⟨hc, hb⟩ | ⟨y, w, u', hc, hs⟩ | ⟨e, hc, _⟩ | hc
  · rw [hc] at h; exact Or.inl ⟨hb, (Conv.val.inj h).1.symm⟩
  · obtain ⟨⟨n, rfl⟩, hi'⟩ := convScalar_y_val _ _ _ hs
    rw [hc] at h
    simp only [] at h
    split at h
    · cases h
    · obtain ⟨rfl, _⟩ := Conv.val.inj h
      exact Or.inr ⟨u', hi', by omega⟩
  · rw [hc] at h
    simp only [] at h
    rcases convText_cases 'i' v with ⟨hc2, hb⟩ | ⟨y, w, u', hc2, hs⟩ | ⟨e2, hc2, _⟩ | hc2
    · rw [hc2] at h; exact Or.inl ⟨hb, (Conv.val.inj h).1.symm⟩
    · rw [hc2] at h
      cases y with
      | int n =>
        simp only [] at h
        split at h
        · cases h
        · split at h
          · cases h
          · obtain ⟨rfl, _⟩ := Conv.val.inj h
            exact Or.inr ⟨u', hs, by omega⟩
      | _ => cases h
    · rw [hc2] at h; cases h
    · rw [hc2] at h; cases h
  · rw [hc] at h; cases h


/-- two hexadecimal digits read back as the byte they print (kernel evaluation over the 256 bytes) -/
theorem htmlPart_hex_all :
    (List.range 256).all (fun n => htmlPart (hexByte (n / 16 % 16)) (hexByte (n % 16)) == some (some n)) = true := by
  decide +kernel

theorem htmlPart_hex (n : Nat) (h : n < 256) : htmlPart (hexByte (n / 16 % 16)) (hexByte (n % 16)) = some (some n) := by
  simpa using List.all_eq_true.mp htmlPart_hex_all n (List.mem_range.mpr h)

/-- The returned length is 8 for the seven characters `#rrggbb` and 9 for `#rrggbbaa`: `htmlLoop` counts the terminator
    when the text ends before the fourth part, and `colorParse` adds one for the `#`. -/
theorem colorParse_print (tab : List NamedColor) (c : Color)
    (hr : c.r < 256) (hg : c.g < 256) (hb : c.b < 256) (ha : c.a < 256) :
    colorParse tab (colorPrint c) = some (c, if c.a = 255 then 8 else 9) := by
  obtain ⟨r, g, b, a⟩ := c
  simp only at hr hg hb ha
  unfold colorPrint colorParse
  by_cases h255 : a = 255
  · subst h255
    simp only [↓reduceIte, hex2, List.cons_append, List.nil_append, List.append_nil]
    unfold colorHtml
    simp only [htmlLoop, htmlPart_hex _ hr, htmlPart_hex _ hg, htmlPart_hex _ hb]
    simp
  · simp only [h255, ↓reduceIte, hex2, List.cons_append, List.nil_append]
    unfold colorHtml
    simp only [htmlLoop, htmlPart_hex _ hr, htmlPart_hex _ hg, htmlPart_hex _ hb, htmlPart_hex _ ha]
    simp

end Mpt.Layout
