/-
  General facts about `List` (`takeWhile` runs, single stores with `set`, `find?`/`findIdx?`, `filterMap`, `take`/`drop` around
  one position) and two about `UInt8` that several of the property towers need and core Lean does not state in this form.
-/
namespace Mpt


theorem take_length_takeWhile {α} (p : α → Bool) (l : List α) : l.take (l.takeWhile p).length = l.takeWhile p :=
  (List.prefix_iff_eq_take.mp (List.takeWhile_prefix p)).symm

theorem takeWhile_of_all {α} {p : α → Bool} {l : List α} (h : ∀ a ∈ l, p a = true) : l.takeWhile p = l := by
  simpa using List.takeWhile_append_of_pos (l₂ := []) h

theorem takeWhile_append_stop {α} (p : α → Bool) (l r : List α) (x : α) (hx : p x = false) :
    (l ++ x :: r).takeWhile p = l.takeWhile p := by
  induction l with
  | nil => simp [hx]
  | cons a t ih =>
    simp only [List.cons_append, List.takeWhile_cons]
    split
    · rw [ih]
    · rfl


theorem getD_set {α} (l : List α) (o o' : Nat) (x d : α) :
    (l.set o x).getD o' d = if o' = o ∧ o < l.length then x else l.getD o' d := by
  simp only [List.getD_eq_getElem?_getD, List.getElem?_set]
  by_cases h : o = o'
  · subst h
    by_cases hl : o < l.length
    · simp [hl]
    · simp [hl]
  · have : ¬ o' = o := fun e => h e.symm
    simp [h, this]

theorem getD_set_self {α} (l : List α) (k : Nat) (v d : α) (h : k < l.length) : (l.set k v).getD k d = v := by
  rw [getD_set, if_pos ⟨rfl, h⟩]

theorem getD_set_ne {α} (l : List α) (k k' : Nat) (v d : α) (h : k' ≠ k) : (l.set k v).getD k' d = l.getD k' d := by
  rw [getD_set, if_neg fun e => h e.1]

theorem set_getD_self {α} (l : List α) (k : Nat) (d : α) : l.set k (l.getD k d) = l := by
  apply List.ext_getElem?
  intro i
  rw [List.getElem?_set]
  split
  · rename_i e; subst e
    split
    · rename_i hl; simp [List.getD_eq_getElem?_getD, List.getElem?_eq_getElem hl]
    · rename_i hl; rw [List.getElem?_eq_none (Nat.le_of_not_lt hl)]
  · rfl

theorem getD_some_lt {α} {l : List (Option α)} {k : Nat} {x : α} (h : l.getD k none = some x) : k < l.length := by
  rcases Nat.lt_or_ge k l.length with hk | hk
  · exact hk
  · rw [List.getD_eq_getElem?_getD, List.getElem?_eq_none hk] at h; cases h

theorem set_mid {α} (l : List α) (a b : α) (r : List α) (i : Nat) (h : i = l.length) :
    (l ++ a :: r).set i b = l ++ b :: r := by
  subst h; simp


theorem find?_congr_mem {α} {p q : α → Bool} {l : List α} (h : ∀ x ∈ l, p x = q x) : l.find? p = l.find? q := by
  induction l with
  | nil => rfl
  | cons a t ih =>
    rw [List.find?_cons, List.find?_cons, h a (List.mem_cons_self ..), ih fun x hx => h x (List.mem_cons_of_mem _ hx)]

theorem getElem?_of_findIdx? {α} {p : α → Bool} {l : List α} {i : Nat} (h : l.findIdx? p = some i) :
    ∃ a, l[i]? = some a ∧ p a = true := by
  obtain ⟨hi, hp, _⟩ := List.findIdx?_eq_some_iff_getElem.mp h
  exact ⟨l[i], List.getElem?_eq_getElem hi, hp⟩

theorem filterMap_congr_mem {α β} {f g : α → Option β} {l : List α} (h : ∀ x ∈ l, f x = g x) :
    l.filterMap f = l.filterMap g := by
  induction l with
  | nil => rfl
  | cons a r ih =>
    simp only [List.filterMap_cons]
    rw [h a (List.mem_cons_self ..), ih (fun x hx => h x (List.mem_cons_of_mem _ hx))]


theorem take_succ_set {α} {l : List α} {i : Nat} (h : i < l.length) (x : α) : (l.set i x).take (i + 1) = l.take i ++ [x] := by
  rw [List.take_add_one, List.take_set_of_le (Nat.le_refl _)]
  simp [h]

theorem drop_eq_cons_of_getElem? {α} {l : List α} {i : Nat} {a : α} (h : l[i]? = some a) : l.drop i = a :: l.drop (i + 1) := by
  obtain ⟨hlt, rfl⟩ := List.getElem?_eq_some_iff.mp h
  exact List.drop_eq_getElem_cons hlt


/-- core's `UInt8.toNat_ofNat_of_lt'` with the bound written `256` (there `UInt8.size`), so that `omega` can discharge it
    after a `rw` -/
theorem toNat_ofNat_lt {n : Nat} (h : n < 256) : (UInt8.ofNat n).toNat = n := UInt8.toNat_ofNat_of_lt' h

theorem toNat_ne_zero (b : UInt8) : b.toNat ≠ 0 ↔ b ≠ 0 := not_congr (UInt8.toNat_inj (b := 0))

end Mpt
