/-
  C17: the iovec→iovec copy loop of mpt_memcpy equals one contiguous copy.  The arithmetic of how much is moved
  (`cpyAmount`) is settled on naturals first; the loop theorem then only follows the bytes.
-/
import MptModel.Impl.Message
namespace Mpt

/-- number of bytes `mpt_memcpy` moves when `s` source and `d` target bytes remain -/
def cpyAmount (len : Int) (s d : Nat) : Nat :=
  if len < 0 then min s d else min len.toNat (min s d)

theorem cpyAmount_neg {len : Int} (h : len < 0) (s d : Nat) : cpyAmount len s d = min s d := if_pos h

theorem cpyAmount_nonneg {len : Int} (h : 0 ≤ len) (s d : Nat) : cpyAmount len s d = min len.toNat (min s d) :=
  if_neg (Int.not_lt.2 h)

theorem cpyAmount_zero (s d : Nat) : cpyAmount 0 s d = 0 := by
  rw [cpyAmount_nonneg (Int.le_refl 0)]; exact Nat.zero_min _

theorem cpyAmount_src_nil (len : Int) (d : Nat) : cpyAmount len 0 d = 0 := by
  unfold cpyAmount; rw [Nat.zero_min, Nat.min_zero, ite_self]

theorem cpyAmount_dst_nil (len : Int) (s : Nat) : cpyAmount len s 0 = 0 := by
  unfold cpyAmount; rw [Nat.min_zero, Nat.min_zero, ite_self]

/-- one round of the loop moves `c = cpyAmount len l sp` bytes (`l`, `sp` what is left of the current source and
    target fragment); what remains to be moved afterwards is the whole amount less `c` -/
theorem cpyAmount_step (len : Int) (l sp s d c : Nat) (h0 : len ≠ 0) (hl : l ≠ 0) (hs : sp ≠ 0)
    (hc : c = cpyAmount len l sp) :
    1 ≤ c ∧ c ≤ l ∧ c ≤ sp ∧
    cpyAmount len (l + s) (sp + d) = c + cpyAmount (len - (c : Nat)) (l - c + s) (sp - c + d) := by
  -- with `l = c + l'`, `sp = c + sp'` (and `len = c + n'`) both sides are `c + min …`
  by_cases hn : len < 0
  · rw [cpyAmount_neg hn] at hc
    obtain ⟨c1, cl, cs⟩ : 1 ≤ c ∧ c ≤ l ∧ c ≤ sp :=
      hc ▸ ⟨Nat.le_min.2 ⟨Nat.pos_of_ne_zero hl, Nat.pos_of_ne_zero hs⟩, Nat.min_le_left _ _, Nat.min_le_right _ _⟩
    refine ⟨c1, cl, cs, ?_⟩
    obtain ⟨l', rfl⟩ := Nat.exists_eq_add_of_le cl
    obtain ⟨sp', rfl⟩ := Nat.exists_eq_add_of_le cs
    rw [cpyAmount_neg hn, cpyAmount_neg (by omega), Nat.add_sub_cancel_left, Nat.add_sub_cancel_left, Nat.add_assoc,
      Nat.add_assoc, Nat.add_min_add_left]
  · have hp : 0 ≤ len := Int.not_lt.1 hn
    rw [cpyAmount_nonneg hp] at hc
    obtain ⟨c1, cl, cs, cn⟩ : 1 ≤ c ∧ c ≤ l ∧ c ≤ sp ∧ c ≤ len.toNat :=
      hc ▸ ⟨Nat.le_min.2 ⟨by omega, Nat.le_min.2 ⟨Nat.pos_of_ne_zero hl, Nat.pos_of_ne_zero hs⟩⟩,
        Nat.le_trans (Nat.min_le_right _ _) (Nat.min_le_left _ _),
        Nat.le_trans (Nat.min_le_right _ _) (Nat.min_le_right _ _), Nat.min_le_left _ _⟩
    rw [cpyAmount_nonneg hp, cpyAmount_nonneg (by omega), Int.toNat_sub']
    refine ⟨c1, cl, cs, ?_⟩
    obtain ⟨l', rfl⟩ := Nat.exists_eq_add_of_le cl
    obtain ⟨sp', rfl⟩ := Nat.exists_eq_add_of_le cs
    obtain ⟨n', hn'⟩ := Nat.exists_eq_add_of_le cn
    rw [hn', Nat.add_sub_cancel_left, Nat.add_sub_cancel_left, Nat.add_sub_cancel_left, Nat.add_assoc, Nat.add_assoc,
      Nat.add_min_add_left, Nat.add_min_add_left]

/-- the copy loop from any of its states.  Fuel: every round leaves a source fragment or a target fragment behind or
    moves at least one source byte, so `srcs.length + ds.length +` (source bytes left) bounds the rounds that do
    something; one more round finds nothing left to do and returns, hence the strict `<` here and the `+ 1` in
    `Iov.memcpy`.  The amount is a variable `k` so that the induction hypothesis can be used at the amount still to be
    moved after a round. -/
theorem cpyLoop_eq (fuel : Nat) (len : Int) (left : Frag) (srcs done : List Frag) (tw space : Frag) (ds : List Frag)
    (total : Nat) (hf : srcs.length + ds.length + left.length + srcs.flatten.length < fuel)
    (k : Nat) (hk : k = cpyAmount len (left.length + srcs.flatten.length) (space.length + ds.flatten.length)) :
    (Iov.cpyLoop fuel len left srcs done tw space ds total).ret = ((total + k : Nat) : Int) ∧
    (Iov.cpyLoop fuel len left srcs done tw space ds total).dst.flatten =
      done.flatten ++ tw ++ (left ++ srcs.flatten).take k ++ (space ++ ds.flatten).drop k ∧
    (Iov.cpyLoop fuel len left srcs done tw space ds total).dst.map List.length =
      done.map List.length ++ [tw.length + space.length] ++ ds.map List.length := by
  induction fuel generalizing len left srcs done tw space ds total k with
  | zero => omega
  | succ fuel ih =>
    unfold Iov.cpyLoop
    -- where the loop stops nothing more is to be moved
    have stop : k = 0 → (⟨total, done ++ [tw ++ space] ++ ds⟩ : Iov.CpyRes).ret = ((total + k : Nat) : Int) ∧
        (done ++ [tw ++ space] ++ ds).flatten = done.flatten ++ tw ++ (left ++ srcs.flatten).take k ++ (space ++ ds.flatten).drop k ∧
        (done ++ [tw ++ space] ++ ds).map List.length = done.map List.length ++ [tw.length + space.length] ++ ds.map List.length := by
      intro h; subst h; simp
    by_cases h0 : len = 0
    · rw [if_pos h0]
      exact stop (by rw [hk, h0, cpyAmount_zero])
    · rw [if_neg h0]
      by_cases hl : left.length = 0
      · rw [if_pos hl]
        cases List.eq_nil_of_length_eq_zero hl
        cases srcs with
        | nil => exact stop (by rw [hk]; exact cpyAmount_src_nil _ _)
        | cons s ss =>
          have := ih len s ss done tw space ds total
            (by simp only [List.length_cons, List.length_nil, List.flatten_cons, List.length_append] at hf; omega) k
            (by rw [hk, List.length_nil, Nat.zero_add, List.flatten_cons, List.length_append])
          simpa only [List.nil_append, List.flatten_cons] using this
      · rw [if_neg hl]
        by_cases hs : space.length = 0
        · rw [if_pos hs]
          cases List.eq_nil_of_length_eq_zero hs
          cases ds with
          | nil => exact stop (by rw [hk]; exact cpyAmount_dst_nil _ _)
          | cons d dd =>
            have := ih len left srcs (done ++ [tw ++ []]) [] d dd total (by simp only [List.length_cons] at hf; omega) k
              (by rw [hk, List.length_nil, Nat.zero_add, List.flatten_cons, List.length_append])
            simpa using this
        · rw [if_neg hs]
          -- the `let copy` of the loop is `cpyAmount len left.length space.length` unfolded
          generalize hc : (if len < 0 then min left.length space.length
            else min len.toNat (min left.length space.length)) = c
          obtain ⟨c1, cl, cs, ck⟩ :=
            cpyAmount_step len left.length space.length srcs.flatten.length ds.flatten.length c h0 hl hs hc.symm
          obtain ⟨j, hj⟩ : ∃ j, k = c + j := ⟨k - c, by omega⟩
          obtain ⟨h1, h2, h3⟩ := ih (len - (c : Nat)) (left.drop c) srcs done (tw ++ left.take c) (space.drop c) ds (total + c)
            (by simp only [List.length_drop]; omega) j (by simp only [List.length_drop]; omega)
          refine ⟨?_, ?_, ?_⟩
          · rw [h1, hj, Nat.add_assoc]
          · rw [h2, hj, List.take_add, ← List.drop_drop, List.take_append_of_le_length cl,
              List.drop_append_of_le_length cl, List.drop_append_of_le_length cs]
            simp only [List.append_assoc]
          · rw [h3, List.length_append, List.length_take, List.length_drop, Nat.min_eq_left cl]
            congr 3; omega

theorem cpy_fits (len : Int) (S D : List Byte) (h1 : ¬ (len > 0 ∧ len > (S.length : Int)))
    (h2 : ¬ (len > 0 ∧ len > (D.length : Int))) :
    Flat.cpy len S D = (((cpyAmount len S.length D.length : Nat) : Int),
      S.take (cpyAmount len S.length D.length) ++ D.drop (cpyAmount len S.length D.length)) := by
  unfold Flat.cpy
  by_cases hp : len > 0
  · have : cpyAmount len S.length D.length = len.toNat := by rw [cpyAmount_nonneg (by omega)]; omega
    rw [if_pos hp, if_neg (by omega), if_neg (by omega), this, Int.toNat_of_nonneg (by omega)]
  · rw [if_neg hp]
    by_cases hz : len = 0
    · rw [if_pos hz, hz, cpyAmount_zero]; rfl
    · rw [if_neg hz, cpyAmount_neg (by omega)]

end Mpt
