/-
  The four COBS framings as an instance of the encoder contract of Lemmas/EncodeSched.lean: `cobsContract`, on
  `winv_push` / `winv_term` of Lemmas/EncodeWin.lean, with what the caller loop then does for them
  (`cobs_sched_frame`, `cobs_sched_total`) and the array state `ArrInv`; and `backToDelim` over zero-free bytes,
  on which message deletion rests.
-/
import MptModel.Lemmas.EncodeWin
import MptModel.Lemmas.ArrayPush
namespace Mpt.Codec
open Mpt.Cobs Mpt.CQ

/-- the four COBS framings behind finished data `pre`: two window bytes per message byte, one for the code
    byte of the first block and one for the delimiter always suffice -/
def cobsContract (v : Variant) (pre : List Byte) : Contract (.cobs v) (List (Byte × Bool)) where
  J st win ms := EncInvM v st win pre ms
  msg ms := ms.map Prod.fst
  init ms := pre = [] ∧ ms = []
  ok ch := ch ≠ []
  need st n := st.done + max st.scratch 1 + 2 * n + 1
  Fin ms o := o.st.scratch = 0 ∧ o.st.done = (pre ++ (encB v [] false ms ++ [0])).length ∧
    o.win.take o.st.done = pre ++ (encB v [] false ms ++ [0])
  refusal e := e = .BadValue
  start h win := by obtain ⟨rfl, rfl⟩ := h; exact EncInvM.start v {} win [] rfl rfl (by simp)
  le h := h.le
  congr h hl ht := h.congr hl ht
  mono st n m h := by omega
  need_le st := by omega
  ok_ne h := h
  ok_drop h hn h0 := by have := congrArg List.length h0; simp at this; omega
  push {st win ms} ch h := by
    obtain ⟨fin, hw⟩ := h.winv
    rcases winv_push v st win _ fin ms ch hw with ⟨hnil, he⟩ | ⟨he, hl⟩ |
      ⟨o, fin', he, hlen, hr, hs1, hbudget, hend, hinv'⟩
    · exact Or.inl ⟨fun h => h hnil, _, he, by simp, rfl⟩
    · exact Or.inr (Or.inl ⟨he, by omega⟩)
    · refine Or.inr (Or.inr ⟨o, _, he, hlen, hr, .of_winv (by rw [← List.append_assoc]; exact hinv'),
        by rw [List.map_append, markChunk_fst], fun m => by omega, fun k hk hfit => ?_⟩)
      -- less than everything is taken only at the end of the window
      by_cases hlt : o.ret < ch.length
      · have := hend hlt; omega
      · omega
  term {st win ms} h := by
    obtain ⟨fin, hw⟩ := h.winv
    rcases winv_term v st win _ fin ms hw with ⟨he, hl⟩ | ⟨o, tail, he, ⟨h1, h2, h3, h4, h5, h6⟩, hfr, _⟩
    · exact Or.inl ⟨he, by omega⟩
    · rw [List.append_assoc, ← hfr] at h4 h6
      exact Or.inr ⟨o, he, h3, h2, h4, h6⟩

/-- `ms`: the marking that cuts where the encoder calls ended, which the pieces alone do not tell (a call may take
    part of a piece) -/
theorem cobs_sched_frame (v : Variant) (fill : Byte) (fuel : Nat) (st : EncState) (win pre : List Byte)
    (chunks : List (List Byte)) (caps : List Nat) (o : EncOut)
    (hs : st.scratch = 0) (hd : st.done = pre.length) (hw : win.take st.done = pre)
    (h : encodeSched (.cobs v) fill fuel st win chunks caps = .ok o) :
    ∃ ms, ms.map Prod.fst = chunks.flatten ∧ o.win.take o.st.done = pre ++ (encB v [] false ms ++ [0]) := by
  have hsound := (cobsContract v pre).sched_sound fill fuel st win chunks caps [] (EncInvM.start v st win pre hs hd hw)
  rw [h] at hsound
  obtain ⟨ms, e1, _, _, e4⟩ := hsound
  exact ⟨ms, e1, e4⟩

/-- `2 * len + 2` is `need {} len` of `cobsContract`: the first code byte, two window bytes per message byte,
    the delimiter -/
theorem cobs_sched_total (v : Variant) (fill : Byte) (fuel : Nat) (win : List Byte) (chunks : List (List Byte))
    (caps : List Nat) (hne : ∀ c ∈ chunks, c ≠ []) (hf : chunks.length + caps.length + 1 ≤ fuel)
    (hsp : 2 * chunks.flatten.length + 2 ≤ win.length + caps.sum) :
    ∃ o, encodeSched (.cobs v) fill fuel {} win chunks caps = .ok o :=
  (cobsContract v []).sched_total fill fuel {} win chunks caps [] ((cobsContract v []).start ⟨rfl, rfl⟩ win) hne hf
    (by show 0 + max 0 1 + 2 * chunks.flatten.length + 1 ≤ _; omega)

/-- state of an encode array between two `mpt_array_push` calls: finished frames `pre`, consumed marked
    bytes `ms` of the message in progress; `(cobsContract v pre).Arr a ms` written out (`arrInv_iff_arr`) -/
def ArrInv (v : Variant) (a : EncArray) (pre : List Byte) (ms : List (Byte × Bool)) : Prop :=
  (a.buf = none ∧ a.st = {} ∧ a.used = 0 ∧ pre = [] ∧ ms = []) ∨
  (∃ buf, a.buf = some buf ∧ a.used = a.st.done + a.st.scratch ∧ EncInvM v a.st buf pre ms)

theorem arrInv_iff_arr {v : Variant} {a : EncArray} {pre : List Byte} {ms : List (Byte × Bool)} :
    ArrInv v a pre ms ↔ (cobsContract v pre).Arr a ms := Iff.rfl

theorem backToDelim_skip (win : List Byte) (d : Byte) (q : Nat) : ∀ n, (∀ i, q ≤ i → i < q + n → win[i]? ≠ some d) →
    backToDelim win d (q + n) = backToDelim win d q
  | 0, _ => rfl
  | n + 1, h => by
    show (if win[q + n]? = some d then _ else _) = _
    rw [if_neg (h _ (Nat.le_add_right _ _) (Nat.lt_succ_self _))]
    exact backToDelim_skip win d q n fun i h1 h2 => h i h1 (Nat.lt_succ_of_lt h2)

theorem backToDelim_spec (win pre : List Byte) (hpre : pre = [] ∨ pre.getLast? = some 0)
    (fin : List Byte) (hnz : ∀ x ∈ fin, x ≠ 0) (hw : win.take (pre.length + fin.length) = pre ++ fin) :
    backToDelim win 0 (pre.length + fin.length) = pre.length := by
  have hat : ∀ i, i < pre.length + fin.length → win[i]? = (pre ++ fin)[i]? := fun i hi => by
    rw [← hw, List.getElem?_take, if_pos hi]
  rw [backToDelim_skip win 0 pre.length fin.length fun i h1 h2 h0 => by
    rw [hat i h2, List.getElem?_append_right h1] at h0
    exact hnz 0 (List.mem_of_getElem? h0) rfl]
  rcases hpre with rfl | h
  · rfl
  · obtain ⟨ys, rfl⟩ := List.getLast?_eq_some_iff.mp h
    have h0 : win[ys.length]? = some 0 := by rw [hat _ (by simp; omega)]; simp
    simp [backToDelim, h0]

end Mpt.Codec
