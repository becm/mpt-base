/-
  C17: mpt_message_argv and its caller mpt_array_message on a fragment list equal the contiguous computation
  (`argv_cases` also serves mpt_dispatch_hash); the contiguous argument loop ends within its fuel.
-/
import MptModel.Lemmas.Message
namespace Mpt
open Mpt.Flat

theorem findIdx?_lt {p : Byte → Bool} {l : List Byte} {i : Nat} (h : l.findIdx? p = some i) : i < l.length := by
  rw [List.findIdx?_eq_some_iff_getElem] at h
  exact h.1

theorem memfcn_single (curr : Frag) (p : Byte → Bool) : Iov.memfcn [curr] p = curr.findIdx? p := by
  rw [memfcn_eq]; simp [Flat.find]

theorem nextChar_eq (curr : Frag) (cont : List Frag) (c : Byte) :
    Msg.nextChar curr cont c = Flat.nextChar (curr ++ cont.flatten) c := by
  unfold Msg.nextChar Flat.nextChar Flat.find
  have h1 : Iov.memchr [curr] c = curr.findIdx? (· == c) := memfcn_single curr _
  have h2 : Iov.memchr cont c = cont.flatten.findIdx? (· == c) := memfcn_eq cont _
  rw [h1, List.findIdx?_append]
  cases hc : curr.findIdx? (· == c) with
  | some p => simp
  | none =>
    have h3 : (if cont.length ≠ 0 then Iov.memchr cont c else none) = cont.flatten.findIdx? (· == c) := by
      split
      · exact h2
      · rename_i h
        have : cont = [] := List.eq_nil_of_length_eq_zero (by omega)
        simp [this]
    rw [h3]
    cases hd : cont.flatten.findIdx? (· == c) with
    | some p => simp; omega
    | none => simp [foldl_len]

theorem locate_eq (cont : List Frag) (part : Nat) (h : part < cont.flatten.length) :
    ∃ m', Msg.locate cont part = some m' ∧ m'.flat = cont.flatten.drop part := by
  induction cont generalizing part with
  | nil => simp at h
  | cons f fs ih =>
    unfold Msg.locate
    split
    · rename_i hge
      have hl : (f :: fs).flatten.length = f.length + fs.flatten.length := by simp
      have : part - f.length < fs.flatten.length := by omega
      obtain ⟨m', h1, h2⟩ := ih _ this
      refine ⟨m', h1, ?_⟩
      rw [h2]; simp [List.drop_append, List.drop_of_length_le hge]
    · rename_i hlt
      refine ⟨_, rfl, ?_⟩
      simp [Msg.flat, List.drop_append]
      have : part - f.length = 0 := by omega
      simp [this]

theorem trim_eq (m : Msg) : ∃ m1, m.trim = .ok m1 ∧ m1.flat = trimFlat m.flat := by
  unfold Msg.trim trimFlat Flat.find Msg.flat
  rw [memfcn_single, memfcn_eq, List.findIdx?_append]
  cases hb : m.base.findIdx? notSpace with
  | some part =>
    have := findIdx?_lt hb
    refine ⟨_, rfl, ?_⟩
    simp [List.drop_append]
    have : part - m.base.length = 0 := by omega
    simp [this]
  | none =>
    simp only [Option.none_or, Flat.find]
    cases hc : m.cont.flatten.findIdx? notSpace with
    | some part =>
      obtain ⟨m', h1, h2⟩ := locate_eq m.cont part (findIdx?_lt hc)
      refine ⟨m', by simp [h1], ?_⟩
      simp only [Msg.flat] at h2
      simp [h2, List.drop_append, List.drop_of_length_le]
    | none => exact ⟨m, rfl, by simp⟩

theorem spaceEnd_eq (m1 : Msg) : m1.spaceEnd = Flat.tok m1.flat wsTok := by
  unfold Msg.spaceEnd
  rw [nextSpace_eq]; rfl

/-- `mpt_message_argv` against the contiguous computation.  Each of the three separator classes (0, white space, visible
    character) searches with a function that is flat already (`nextChar_eq`, `spaceEnd_eq`), the latter two after
    `trim_eq`. -/
theorem argv_cases (m : Msg) (sep : Byte) :
    ∃ m1, (Flat.argv m.flat sep = none ∧ m.argv sep = (m1, .err .MissingData) ∧ m1.flat = m.flat) ∨
      ∃ n, Flat.argv m.flat sep = some (n, m1.flat) ∧ m.argv sep = (m1, .ok n) := by
  unfold Msg.argv Flat.argv
  have hflat : (Msg.skipEmpty m.base m.cont).flat = m.flat := by rw [skipEmpty_flat]; rfl
  have hnil := skipEmpty_base_nil m.base m.cont
  generalize Msg.skipEmpty m.base m.cont = m0 at hflat hnil ⊢
  by_cases hb : m0.base.length = 0
  · have hb' : m0.base = [] := List.eq_nil_of_length_eq_zero hb
    have : m.flat = [] := by rw [← hflat]; simp [Msg.flat, hb', hnil hb']
    exact ⟨m0, .inl ⟨by simp [this], by simp [hb], hflat⟩⟩
  · have hne : m.flat.isEmpty = false := by
      rw [← hflat]
      cases hq : m0.base with
      | nil => simp [hq] at hb
      | cons x xs => simp [Msg.flat, hq]
    simp only [hb, hne, if_false, Bool.false_eq_true]
    by_cases hs : (sep == 0) = true
    · simp only [hs, if_true]
      exact ⟨m0, .inr ⟨_, by rw [hflat], by rw [nextChar_eq, ← hflat]; rfl⟩⟩
    · simp only [hs, if_false, Bool.false_eq_true]
      obtain ⟨m1, ht, hf1⟩ := trim_eq m0
      rw [hflat] at hf1
      simp only [ht, ← hf1]
      refine ⟨m1, .inr ?_⟩
      by_cases hg : (!isGraph sep) = true
      · simp only [hg, if_true]
        rw [spaceEnd_eq m1]
        cases Flat.tok m1.flat wsTok with
        | some p => exact ⟨p, rfl, rfl⟩
        | none => exact ⟨_, rfl, by rw [nextChar_eq]; rfl⟩
      · simp only [hg, if_false, Bool.false_eq_true]
        exact ⟨_, rfl, by rw [nextChar_eq]; rfl⟩

theorem argsLoop_eq (sep : Byte) (fuel : Nat) (m : Msg) (acc : List Byte) (n : Nat) :
    Msg.argsLoop sep fuel m acc n = match Flat.argsLoop sep fuel m.flat acc n with
      | some r => .ok r
      | none => .fault := by
  induction fuel generalizing m acc n with
  | zero => simp [Msg.argsLoop, Flat.argsLoop]
  | succ fuel ih =>
    unfold Msg.argsLoop Flat.argsLoop
    obtain ⟨m1, ⟨hf, hm, -⟩ | ⟨len, hf, hm⟩⟩ := argv_cases m sep
    · rw [hf, hm]
    · rw [hf, hm]
      by_cases hz : len = 0 ∧ sep ≠ 0
      · simp [hz]
      · simp only [hz, if_false]
        have hr1 : (if len = 0 then (⟨m1, 0, []⟩ : Msg.ReadRes) else m1.read len).out = m1.flat.take len ∧
            (if len = 0 then (⟨m1, 0, []⟩ : Msg.ReadRes) else m1.read len).msg.flat = m1.flat.drop len := by
          split
          · rename_i h0; subst h0; exact ⟨rfl, rfl⟩
          · exact ⟨(read_spec m1 len).1, (read_spec m1 len).2.1⟩
        generalize (if len = 0 then (⟨m1, 0, []⟩ : Msg.ReadRes) else m1.read len) = rr at hr1 ⊢
        rw [ih, (read_spec rr.msg 1).2.1, hr1.2, List.drop_drop, hr1.1]

theorem arrayMessage_eq (m : Msg) (sep : Byte) :
    m.arrayMessage sep = match Flat.args m.flat sep with
      | some r => .ok r
      | none => .fault := by
  unfold Msg.arrayMessage Flat.args
  rw [length_eq]
  split
  · rfl
  · simp only [Bool.not_true, Bool.false_eq_true, if_false]
    exact argsLoop_eq sep _ m [] 0

theorem trimFlat_length (d : List Byte) : (trimFlat d).length ≤ d.length := by
  unfold trimFlat; split <;> simp

theorem nextChar_le (x : List Byte) (c : Byte) : Flat.nextChar x c ≤ x.length := by
  unfold Flat.nextChar Flat.find
  cases hf : x.findIdx? (· == c) with
  | none => exact Nat.le_refl _
  | some i => exact Nat.le_of_lt (findIdx?_lt hf)

theorem tok_lt {d : List Byte} {a : TokArgs} {p : Nat} (h : Flat.tok d a = some p) : p < d.length := by
  unfold Flat.tok at h
  cases hs : Flat.scan (Flat.tokStep a) {} d with
  | found i => rw [hs] at h; cases h; exact scan_found_lt _ _ _ _ hs
  | more t => rw [hs] at h; cases h

/-- an argument lies inside the content left after the white-space removal, which is a non-empty rest of the data
    (so `d'.take len` has `len` bytes and the zero padding `replicate (len - arg.length) 0` of both argument loops, which
    mirrors the C code's zero-fill before the read, is empty) -/
theorem argv_bounds (d : List Byte) (sep : Byte) (len : Nat) (d' : List Byte) (h : Flat.argv d sep = some (len, d')) :
    d ≠ [] ∧ len ≤ d'.length ∧ d'.length ≤ d.length := by
  have ht := trimFlat_length d
  unfold Flat.argv at h
  refine ⟨(fun hd => by subst hd; exact nomatch h), ?_⟩
  split at h
  · cases h
  · split at h
    · cases h; exact ⟨nextChar_le _ _, Nat.le_refl _⟩
    · simp only [] at h
      split at h
      · split at h
        · rename_i p hp; cases h; exact ⟨Nat.le_of_lt (tok_lt hp), ht⟩
        · cases h; exact ⟨nextChar_le _ _, ht⟩
      · cases h; exact ⟨nextChar_le _ _, ht⟩

theorem argsLoop_total (sep : Byte) (fuel : Nat) (d acc : List Byte) (n : Nat) (h : d.length < fuel) :
    (Flat.argsLoop sep fuel d acc n).isSome = true := by
  induction fuel generalizing d acc n with
  | zero => omega
  | succ fuel ih =>
    unfold Flat.argsLoop
    cases hf : Flat.argv d sep with
    | none => simp
    | some pr =>
      obtain ⟨len, d'⟩ := pr
      simp only []
      split
      · simp
      · obtain ⟨h1, _, h2⟩ := argv_bounds d sep len d' hf
        apply ih
        have : d.length ≠ 0 := by intro h0; exact h1 (List.eq_nil_of_length_eq_zero h0)
        simp; omega

end Mpt
