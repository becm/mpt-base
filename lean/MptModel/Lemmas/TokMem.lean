/-
  Element slots.  A buffer with elements of `sz ≥ 4` bytes is read as a sequence of slots, slot
  `j` holding the token `slot d sz j` (the first four bytes of the element; a 32-bit token is read back from the element
  it was written to, `rdTok_elemBytes`).  Bridge lemmas from byte level writes (element construction, scribbling,
  memcpy/memmove of whole elements) to slots, and from byte counts that are multiples of the element size to element counts.
-/
import MptModel.Lemmas.HeapElem
import MptModel.Lemmas.TokReplay
namespace Mpt.Heap

def slot (d : List Byte) (sz j : Nat) : Nat := rdTok d (j * sz)

def slotsFrom (d : List Byte) (sz i n : Nat) : List Nat := (List.range n).map fun j => slot d sz (i + j)

theorem toksAt_eq (d : List Byte) (sz i : Nat) : ∀ n, toksAt d (i * sz) sz n = slotsFrom d sz i n := by
  intro n
  induction n generalizing i with
  | zero => rfl
  | succ n ih =>
    simp only [toksAt, slotsFrom, List.range_succ_eq_map, List.map_cons, List.map_map]
    have : i * sz + sz = (i + 1) * sz := by rw [Nat.add_mul]; simp
    rw [this, ih (i + 1)]
    simp only [slotsFrom, slot, Nat.add_zero]
    congr 1
    apply List.map_congr_left
    intro a _
    simp only [Function.comp]
    congr 2; omega

theorem slotsFrom_length (d : List Byte) (sz i n : Nat) : (slotsFrom d sz i n).length = n := by simp [slotsFrom]

theorem slotsFrom_add (d : List Byte) (sz i n m : Nat) :
    slotsFrom d sz i (n + m) = slotsFrom d sz i n ++ slotsFrom d sz (i + n) m := by
  simp only [slotsFrom, List.range_add, List.map_append, List.map_map]
  congr 1
  apply List.map_congr_left
  intro a _; simp only [Function.comp]; congr 1; omega

theorem slotsFrom_shift {d d' : List Byte} {sz i i' c : Nat} (h : ∀ a, a < c → slot d' sz (i' + a) = slot d sz (i + a)) :
    slotsFrom d' sz i' c = slotsFrom d sz i c :=
  List.map_congr_left fun a ha => h a (List.mem_range.mp ha)

theorem slotsFrom_congr {d d' : List Byte} {sz i n : Nat} (h : ∀ j, i ≤ j → j < i + n → slot d' sz j = slot d sz j) :
    slotsFrom d' sz i n = slotsFrom d sz i n :=
  slotsFrom_shift fun a ha => h (i + a) (by omega) (by omega)

theorem slotsFrom_zero (d : List Byte) (sz i : Nat) : slotsFrom d sz i 0 = [] := rfl

theorem Buf.toks_managed {x : Buf} {t : Traits} (ht : x.traits = some t) (hf : t.fini.isSome = true) (hs : t.size ≠ 0) :
    x.toks = slotsFrom x.data t.size 0 (x.used / t.size) := by
  simp only [Buf.toks, ht, hf, hs, ne_eq, not_false_eq_true, and_self, if_true]
  have := toksAt_eq x.data t.size 0 (x.used / t.size)
  simpa using this

theorem mem_slotsFrom {d : List Byte} {sz i n t : Nat} :
    t ∈ slotsFrom d sz i n ↔ ∃ j, i ≤ j ∧ j < i + n ∧ slot d sz j = t := by
  unfold slotsFrom
  rw [List.mem_map]
  constructor
  · rintro ⟨a, ha, e⟩; exact ⟨i + a, by omega, by have := List.mem_range.mp ha; omega, e⟩
  · rintro ⟨j, h1, h2, e⟩; exact ⟨j - i, List.mem_range.mpr (by omega), by rw [← e]; congr 1; omega⟩

theorem slotsFrom_three (d : List Byte) (sz a1 a2 a3 : Nat) :
    slotsFrom d sz 0 (a1 + a2 + a3) = slotsFrom d sz 0 a1 ++ slotsFrom d sz a1 a2 ++ slotsFrom d sz (a1 + a2) a3 := by
  rw [slotsFrom_add, slotsFrom_add]; simp

/-- an empty range may start anywhere: lets a start index like `min n p + (p - n)` be read as `p` without a case split on
    whether the range is empty -/
theorem slotsFrom_start {d : List Byte} {sz i i' c : Nat} (h : c ≠ 0 → i = i') : slotsFrom d sz i c = slotsFrom d sz i' c := by
  by_cases z : c = 0
  · subst z; rfl
  · rw [h z]

theorem slotsFrom_eq_seqFrom {d : List Byte} {sz i m a : Nat} (h : ∀ j, i ≤ j → j < i + m → slot d sz j = a + (j - i)) :
    slotsFrom d sz i m = seqFrom a m := by
  induction m generalizing i a with
  | zero => rfl
  | succ m ih =>
    have e : m + 1 = 1 + m := by omega
    conv => lhs; rw [e, slotsFrom_add]
    simp only [seqFrom]
    have h0 : slotsFrom d sz i 1 = [a] := by
      simp only [slotsFrom, List.range_one, List.map_cons, List.map_nil, Nat.add_zero]
      rw [h i (Nat.le_refl _) (by omega)]; simp
    rw [h0, ih (i := i + 1) (a := a + 1) (fun j h1 h2 => by rw [h j (by omega) (by omega)]; omega)]
    rfl

/-- the replaced elements `mpt_buffer_set` saves aside, as slots -/
theorem savedToks_eq (d : List Byte) (sz p n : Nat) : savedToks d (p * sz) sz n = slotsFrom d sz p n := by
  unfold savedToks slotsFrom slot
  apply List.map_congr_left
  intro i _
  rw [Nat.add_mul]


theorem slot_write (d : List Byte) (sz i l : Nat) (bytes : List Byte) (h4 : 4 ≤ sz) (bl : bytes.length = l * sz)
    (fit : (i + l) * sz ≤ d.length) (j : Nat) :
    slot (Mem.write d (i * sz) bytes) sz j = if i ≤ j ∧ j < i + l then slot bytes sz (j - i) else slot d sz j := by
  have fit' : i * sz + bytes.length ≤ d.length := by rw [bl, ← Nat.add_mul]; exact fit
  unfold slot
  by_cases c : i ≤ j ∧ j < i + l
  · have lo : i * sz ≤ j * sz := Nat.mul_le_mul_right _ c.1
    have hi : (j + 1) * sz ≤ (i + l) * sz := Nat.mul_le_mul_right _ c.2
    rw [Nat.succ_mul, Nat.add_mul] at hi
    rw [if_pos c, Nat.sub_mul]
    exact rdTok_write_in d (i * sz) bytes (j * sz) fit' lo (by rw [bl]; omega)
  · rw [if_neg c]
    refine rdTok_write_out d (i * sz) bytes (j * sz) fit' ?_
    by_cases lt : j < i
    · have hi : (j + 1) * sz ≤ i * sz := Nat.mul_le_mul_right _ lt
      rw [Nat.succ_mul] at hi
      exact Or.inl (by omega)
    · have lo : (i + l) * sz ≤ j * sz := Nat.mul_le_mul_right _ (by omega)
      rw [Nat.add_mul] at lo
      exact Or.inr (by rw [bl]; omega)

/-- garbage token left by the destructor's scribble: four bytes `0xdd` -/
def scribbled : Nat := 3722304989

theorem elemBytes_length (tok sz : Nat) (h : 4 ≤ sz) : (elemBytes tok sz).length = sz := by
  simp [elemBytes, le32]; omega

/-- `2^32`: an element stores its token in four bytes (`elemBytes`) -/
def tokLimit : Nat := 4294967296

theorem rdTok_elemBytes (tok sz : Nat) (h4 : 4 ≤ sz) (small : tok < tokLimit) : rdTok (elemBytes tok sz) 0 = tok := by
  unfold tokLimit at small
  have h0 : 0 < sz := by omega
  have h1 : 1 < sz := by omega
  have h2 : 2 < sz := by omega
  have h3 : 3 < sz := by omega
  simp only [rdTok, elemBytes, le32, List.getD_eq_getElem?_getD, List.getElem?_take, h0, h1, h2, h3, if_true,
    List.cons_append, List.getElem?_cons_zero, List.getElem?_cons_succ, Option.getD_some, UInt8.toNat_ofNat']
  omega

theorem slot_elemBytes (tok sz : Nat) (h4 : 4 ≤ sz) (small : tok < tokLimit) : slot (elemBytes tok sz) sz 0 = tok := by
  unfold slot
  rw [Nat.zero_mul]
  exact rdTok_elemBytes tok sz h4 small

theorem slot_scribble (sz : Nat) (h4 : 4 ≤ sz) : slot (List.replicate sz (0xdd : Byte)) sz 0 = scribbled := by
  unfold slot rdTok scribbled
  have h0 : 0 < sz := by omega
  have h1 : 1 < sz := by omega
  have h2 : 2 < sz := by omega
  have h3 : 3 < sz := by omega
  simp [List.getD_eq_getElem?_getD, h0, h1, h2, h3]

theorem slot_read (d : List Byte) (sz c l k : Nat) (h4 : 4 ≤ sz) (hk : k < l) :
    slot (Mem.read d (c * sz) (l * sz)) sz k = slot d sz (c + k) := by
  unfold slot rdTok
  have e : (c + k) * sz = c * sz + k * sz := Nat.add_mul _ _ _
  have hi : (k + 1) * sz ≤ l * sz := Nat.mul_le_mul_right _ (by omega)
  have e2 : (k + 1) * sz = k * sz + sz := by rw [Nat.add_mul]; simp
  simp only [List.getD_eq_getElem?_getD, Mem.getElem?_read, e]
  have p0 : k * sz < l * sz := by omega
  have p1 : k * sz + 1 < l * sz := by omega
  have p2 : k * sz + 2 < l * sz := by omega
  have p3 : k * sz + 3 < l * sz := by omega
  simp only [p0, p1, p2, p3, if_true, Nat.add_assoc]

theorem slot_take (d : List Byte) (sz m k : Nat) (h4 : 4 ≤ sz) (hk : (k + 1) * sz ≤ m) :
    slot (d.take m) sz k = slot d sz k := by
  unfold slot rdTok
  have e2 : (k + 1) * sz = k * sz + sz := by rw [Nat.add_mul]; simp
  simp only [List.getD_eq_getElem?_getD, List.getElem?_take]
  have p0 : k * sz < m := by omega
  have p1 : k * sz + 1 < m := by omega
  have p2 : k * sz + 2 < m := by omega
  have p3 : k * sz + 3 < m := by omega
  simp only [p0, p1, p2, p3, if_true]

theorem slot_move (d : List Byte) (sz a c l : Nat) (h4 : 4 ≤ sz) (hs : (c + l) * sz ≤ d.length) (hd : (a + l) * sz ≤ d.length)
    (j : Nat) :
    slot (Mem.move d (a * sz) (c * sz) (l * sz)) sz j = if a ≤ j ∧ j < a + l then slot d sz (c + (j - a)) else slot d sz j := by
  unfold Mem.move
  have rl : (Mem.read d (c * sz) (l * sz)).length = l * sz :=
    Mem.read_length _ _ _ (by rw [← Nat.add_mul]; exact hs)
  rw [slot_write d sz a l _ h4 rl hd j]
  split
  · rename_i cnd
    rw [slot_read d sz c l (j - a) h4 (by omega)]
  · rfl

theorem move_slots_length (d : List Byte) (sz a c l : Nat) (hs : (c + l) * sz ≤ d.length) (hd : (a + l) * sz ≤ d.length) :
    (Mem.move d (a * sz) (c * sz) (l * sz)).length = d.length :=
  Mem.move_length _ _ _ _ (by rw [← Nat.add_mul]; exact hs) (by rw [← Nat.add_mul]; exact hd)


theorem used_eq_mul {u sz : Nat} (al : u % sz = 0) : u = u / sz * sz :=
  (Nat.div_mul_cancel (Nat.dvd_of_mod_eq_zero al)).symm

theorem eq_mul_of_mod {u sz : Nat} (al : u % sz = 0) : ∃ k, u = k * sz := ⟨u / sz, used_eq_mul al⟩

end Mpt.Heap
