/-
  Helper lemmas for C02: histories of a decode queue (feed / receive / shift / grow / peek in any
  order): the representation invariant for any data, and inside a valid frame stream the invariant `RInv` (delivered
  messages are the first of the stream, the decoder keeps its work area).  Liveness: the delimiters among the accepted
  bytes count the frames a receiver has finished and those it still holds; draining — give the queue free space,
  receive — delivers one message per complete frame.
-/
import MptModel.Lemmas.CodedQueueRecv
import MptModel.Lemmas.CodedQueuePeek
namespace Mpt.CQ
open Mpt.Cobs Mpt.Stream Mpt.Codec

/-- the operations of a decode queue history.  A `shift` behind a delivery removes the bytes in front of the delivered
    message only; the message stays at the start of the data until the next decoder call. -/
inductive DOp where
  | feed (bytes : List Byte)
  | recv
  | shift
  | grow (n : Nat)
  | peek (mx : Nat) (dst : Bool)
  deriving Repr

/-- one operation on the queue alone; the fall-through arms (the queue as it is) are not reached from a state with
    `DInv` and a COBS framing (`codec = some v`): every operation is total there -/
def dstep (q : DecodeQueue) : DOp → DecodeQueue
  | .feed bytes => match queueFeed q bytes with | .ok (q', _) => q' | _ => q
  | .recv => match queueRecv q with | .ok (q', _) => q' | _ => q
  | .shift => match queueShift q with | .ok q' => q' | _ => q
  | .grow n => match queueGrow q n with | .ok q' => q' | _ => q
  | .peek mx dst => match queuePeek q mx dst with | .ok (q', _, _) => q' | _ => q

theorem drun_inv (v : Variant) : ∀ (ops : List DOp) (q : DecodeQueue), DInv q → q.codec = some v →
    DInv (ops.foldl dstep q) ∧ (ops.foldl dstep q).codec = some v := by
  intro ops
  induction ops with
  | nil => intro q h hc; exact ⟨h, hc⟩
  | cons op ops ih =>
    intro q h hc
    have step : DInv (dstep q op) ∧ (dstep q op).codec = some v := by
      cases op with
      | feed bytes =>
        obtain ⟨q', c, he, K, _⟩ := queueFeed_inv q bytes h
        simp only [dstep, he]; exact ⟨K.inv, K.codec.trans hc⟩
      | recv => obtain ⟨q', r, he, K, _⟩ := queueRecv_spec v q hc h; simp only [dstep, he]; exact ⟨K.inv, K.codec.trans hc⟩
      | shift => obtain ⟨q', he, K, _⟩ := queueShift_eff q h; simp only [dstep, he]; exact ⟨K.inv, K.codec.trans hc⟩
      | grow n =>
        obtain ⟨q', he, G⟩ := queueGrow_inv q n h
        simp only [dstep, he]; exact ⟨G.inv, G.codec.trans hc⟩
      | peek mx dst =>
        obtain ⟨q', r, out, he, K, _⟩ := queuePeek_spec v q hc h mx dst
        simp only [dstep, he]; exact ⟨K.inv, K.codec.trans hc⟩
    exact ih _ step.1 step.2

/-- receiver state of a history: the queue, every byte it accepted, the messages it delivered (read
    through `mpt_message_get` right after the delivering `mpt_queue_recv`) -/
structure RSt where
  q : DecodeQueue
  fed : List Byte := []
  got : List Msg := []

abbrev RSt.fresh (v : Variant) (store : List Byte) (off base : Nat) : RSt :=
  { q := { ring := { store := store, len := 0, off := off }, codec := some v, base := base } }

/-- the message a delivering `mpt_queue_recv` leaves to be read with `mpt_message_get` (`[]` should that fail) -/
def msgOf (q : DecodeQueue) : Msg :=
  match currentMessage q with
  | some (.ok (_, m)) => m
  | _ => []

def rstep (s : RSt) : DOp → RSt
  | .feed bytes =>
    match queueFeed s.q bytes with
    | .ok (q', c) => if c < 0 then { s with q := q' } else { s with q := q', fed := s.fed ++ bytes }
    | _ => s
  | .recv =>
    match queueRecv s.q with
    | .ok (q', r) => if r = 1 then { s with q := q', got := s.got ++ [msgOf q'] } else { s with q := q' }
    | _ => s
  | .shift => match queueShift s.q with | .ok q' => { s with q := q' } | _ => s
  | .grow n => match queueGrow s.q n with | .ok q' => { s with q := q' } | _ => s
  | .peek mx dst => match queuePeek s.q mx dst with | .ok (q', _, _) => { s with q := q' } | _ => s

/-- receiver invariant inside a valid stream: the messages delivered so far are the first messages of the
    stream, the queue stands behind as many frames, and the decoder has the work area it needs to go on -/
structure RInv (v : Variant) (frames : List (List Byte)) (ms : List Msg) (s : RSt) : Prop where
  inv : DInv s.q
  codec : s.q.codec = some v
  got : s.got = ms.take s.got.length
  phase : Phase v frames s.q.st s.q.ring.content s.fed s.got.length
  slack : SlackOk v s.q.st

theorem RInv.le {v : Variant} {frames : List (List Byte)} {ms : List Msg} {s : RSt} (h : RInv v frames ms s) :
    s.got.length ≤ ms.length := by
  have := congrArg List.length h.got
  rw [List.length_take] at this
  omega

theorem RInv.fresh (v : Variant) (frames : List (List Byte)) (ms : List Msg) (store : List Byte) (off base : Nat)
    (hoff : off ≤ store.length) :
    RInv v frames ms (RSt.fresh v store off base) :=
  ⟨DInv.fresh store off hoff (some v) base, rfl, rfl, Phase.idle Fresh.init (Nat.le_refl _) rfl, slackOk_ctx0 v _ rfl⟩

theorem rstep_recv_fed (s : RSt) : (rstep s .recv).fed = s.fed := by
  simp only [rstep]
  split
  · split <;> rfl
  · rfl

theorem rstep_fed (s : RSt) (op : DOp) : ∃ more, (rstep s op).fed = s.fed ++ more := by
  cases op with
  | feed bytes =>
    simp only [rstep]
    split
    · split
      · exact ⟨[], by simp⟩
      · exact ⟨bytes, rfl⟩
    · exact ⟨[], by simp⟩
  | recv => exact ⟨[], by rw [rstep_recv_fed, List.append_nil]⟩
  | shift => simp only [rstep]; split <;> exact ⟨[], by simp⟩
  | grow n => simp only [rstep]; split <;> exact ⟨[], by simp⟩
  | peek mx dst => simp only [rstep]; split <;> exact ⟨[], by simp⟩

/-- `hfut` (the accepted bytes are a prefix of the stream) is used by `recv` only: a delivered message is compared
    with the frame of the stream it came from -/
theorem rstep_inv (v : Variant) (frames : List (List Byte)) (ms : List Msg) (hcar : Carries v frames ms) (s : RSt) (op : DOp)
    (future : List Byte) (hfut : (rstep s op).fed ++ future = frames.flatten) (h : RInv v frames ms s) :
    RInv v frames ms (rstep s op) := by
  have hle := h.inv.bnd.le
  cases op with
  | feed bytes =>
    obtain ⟨q', c, he, K, hst, hcase⟩ := queueFeed_inv s.q bytes h.inv
    simp only [rstep, he]
    rcases hcase with ⟨hneg, rfl⟩ | ⟨hpos, hcont⟩
    · rw [if_pos hneg]; exact h
    · rw [if_neg (by omega)]
      exact ⟨K.inv, K.codec.trans h.codec, h.got, by simp only; rw [hcont, hst]; exact h.phase.feed hle bytes,
        by simp only; rw [hst]; exact h.slack⟩
  | recv =>
    rw [rstep_recv_fed] at hfut
    simp only [rstep]
    obtain ⟨q', r, he, K, S⟩ := queueRecv_spec v s.q h.codec h.inv
    have hcd := K.codec.trans h.codec
    have S := S frames ms hcar s.fed future hfut _ h.phase
    have hsl := S.slack h.slack
    obtain ⟨hi, hout⟩ := S.out
    rw [he]
    simp only
    rcases hout with ⟨hne, hp⟩ | ⟨h1, hp, c, m, hm, hcm⟩
    · rw [if_neg hne]; exact ⟨hi, hcd, h.got, hp, hsl⟩
    · rw [if_pos h1]
      have hlen : (s.got ++ [msgOf q']).length = s.got.length + 1 := by simp
      refine ⟨hi, hcd, ?_, by rw [hlen]; exact hp, hsl⟩
      rw [hlen, List.take_add_one, hm, ← h.got]
      simp only [msgOf, hcm]; rfl
  | shift =>
    obtain ⟨q', he, K, sv⟩ := queueShift_eff s.q h.inv
    simp only [rstep, he]
    exact ⟨K.inv, K.codec.trans h.codec, h.got, sv.phase h.phase, sv.slack h.slack⟩
  | grow n =>
    obtain ⟨q', he, G⟩ := queueGrow_inv s.q n h.inv
    simp only [rstep, he]
    exact ⟨G.inv, G.codec.trans h.codec, h.got, by rw [G.st, G.content]; exact h.phase, by rw [G.st]; exact h.slack⟩
  | peek mx dst =>
    obtain ⟨q', r, out, he, K, _, _, hp⟩ := queuePeek_spec v s.q h.codec h.inv mx dst
    obtain ⟨hp, hsl, _⟩ := hp frames s.fed _ h.phase
    simp only [rstep, he]
    exact ⟨K.inv, K.codec.trans h.codec, h.got, hp, hsl h.slack⟩

theorem rrun_inv (v : Variant) (frames : List (List Byte)) (ms : List Msg) (hcar : Carries v frames ms) (ops : List DOp) :
    ∀ (s : RSt) (future : List Byte), (ops.foldl rstep s).fed ++ future = frames.flatten → RInv v frames ms s →
      RInv v frames ms (ops.foldl rstep s) := by
  intro s future hfut h
  -- the premise speaks of the end of the run: the invariant is carried for every continuation of what has been
  -- fed, and a continuation of a later state is one of the earlier (`rstep_fed`)
  refine List.foldlRecOn (motive := fun t => ∀ fut, t.fed ++ fut = frames.flatten → RInv v frames ms t) ops rstep
    (fun _ _ => h) (fun t ht op _ fut hf => ?_) future hfut
  obtain ⟨more, hm⟩ := rstep_fed t op
  exact rstep_inv v frames ms hcar t op fut hf (ht (more ++ fut) (by rw [← List.append_assoc, ← hm]; exact hf))

theorem rrun_fresh (v : Variant) (frames : List (List Byte)) (ms : List Msg) (hcar : Carries v frames ms)
    (store : List Byte) (off base : Nat) (hoff : off ≤ store.length) (ops : List DOp) (future : List Byte)
    (hfut : (ops.foldl rstep (RSt.fresh v store off base)).fed
      ++ future = frames.flatten) :
    RInv v frames ms (ops.foldl rstep (RSt.fresh v store off base)) :=
  rrun_inv v frames ms hcar ops _ future hfut (RInv.fresh v frames ms store off base hoff)

/-- `fed` is the `k` finished frames, then (inside a frame) its zero-free consumed bytes `c0 :: Uc`, then the unread data:
    the delimiters among the accepted bytes are those of the finished frames, one each, and those still unread -/
theorem phase_count {v : Variant} {frames : List (List Byte)} {ms : List Msg} (hcar : Carries v frames ms)
    {st : DecState} {content fed : List Byte} {k : Nat} (hk : k ≤ ms.length) (hph : Phase v frames st content fed k) :
    frameCount fed = k + (content.drop st.curr).count 0 := by
  have hP : (frames.take k).flatten.count 0 = k := by
    rw [frames_count _ (fun f hf => carries_isFrame hcar f (List.mem_of_mem_take hf)), List.length_take,
      carries_length hcar]; omega
  unfold frameCount
  cases hph with
  | idle hf hcl hfed => rw [← hfed, List.count_append, hP]
  | busy c0 Uc hc0 hnz0 hh hfed =>
    rw [← hfed, List.count_append, hP, List.count_cons_of_ne hc0, List.count_append,
      List.count_eq_zero.mpr (fun hm => hnz0 0 hm rfl), Nat.zero_add]

theorem phase_has_frame {v : Variant} {frames : List (List Byte)} {ms : List Msg} (hcar : Carries v frames ms)
    {st : DecState} {content fed : List Byte} {k : Nat} (hk : k ≤ ms.length)
    (hph : Phase v frames st content fed k) (hc : k < frameCount fed) :
    ∃ pre junk, content.drop st.curr = pre ++ 0 :: junk ∧ (∀ x ∈ pre, x ≠ 0) ∧ pre.length ≤ fed.length := by
  rw [phase_count hcar hk hph] at hc
  obtain ⟨pre, junk, e, hnz⟩ := first_zero (content.drop st.curr) (by omega)
  refine ⟨pre, junk, e, hnz, ?_⟩
  have : (content.drop st.curr).length ≤ fed.length := by
    cases hph with
    | idle hf hcl hfed => rw [← hfed, List.length_append]; omega
    | busy c0 Uc hc0 hnz0 hh hfed => rw [← hfed]; simp only [List.length_append, List.length_cons]; omega
  rw [e, List.length_append] at this; omega

/-- one round of a draining reader: the queue gets `B` bytes of storage more, then `mpt_queue_recv` -/
def drainStep (B : Nat) (s : RSt) : RSt := rstep (rstep s (.grow (s.q.ring.max + B))) .recv

/-- a round delivers the next message when its frame is complete.  `hB`: the bytes in front of the delimiter are at
    most `fed.length` (`phase_has_frame`), and `RecvSpec.answers` asks for two bytes of free space more than those -/
theorem drainStep_delivers (v : Variant) (frames : List (List Byte)) (ms : List Msg) (hcar : Carries v frames ms) (s : RSt)
    (future : List Byte) (hfut : s.fed ++ future = frames.flatten) (h : RInv v frames ms s) (B : Nat) (hB : s.fed.length + 2 ≤ B)
    (hc : s.got.length < frameCount s.fed) :
    RInv v frames ms (drainStep B s) ∧ (drainStep B s).fed = s.fed ∧ (drainStep B s).got = ms.take (s.got.length + 1) ∧
      (drainStep B s).got.length = s.got.length + 1 := by
  obtain ⟨q1, hg, G⟩ := queueGrow_inv s.q (s.q.ring.max + B) h.inv
  have hl1 := G.len
  have hlen1 := G.cap (by simp only [Ring.max]; omega)
  have hs1 : rstep s (.grow (s.q.ring.max + B)) = { s with q := q1 } := by simp only [rstep, hg]
  have hI1 : RInv v frames ms { s with q := q1 } := by
    rw [← hs1]
    exact rstep_inv v frames ms hcar s _ future (by rw [hs1]; exact hfut) h
  have hph1 : Phase v frames q1.st q1.ring.content s.fed s.got.length := hI1.phase
  obtain ⟨pre, junk, hun, hnz, hpl⟩ := phase_has_frame hcar hI1.le hph1 hc
  have hmaxlen : s.q.ring.len ≤ s.q.ring.store.length := h.inv.wf.1
  obtain ⟨q2, r, hr, _, S⟩ := queueRecv_spec v q1 hI1.codec hI1.inv
  have S := S frames ms hcar s.fed future hfut _ hI1.phase
  have hr1 : r = 1 := by
    rcases S.answers hI1.slack pre junk hun hnz with a | ⟨_, hlt⟩
    · exact a
    · -- the storage has grown by `B ≥ fed.length + 2` and the data fitted before (`hmaxlen`): free space is at least
      -- `pre.length + 2`
      rw [hlen1, hl1] at hlt; simp only [Ring.max] at hlt; omega
  subst hr1
  have hs2 : drainStep B s = { s with q := q2, got := s.got ++ [msgOf q2] } := by
    unfold drainStep
    rw [hs1]
    simp only [rstep, hr, if_true]
  have hI2 : RInv v frames ms (drainStep B s) := by
    unfold drainStep
    rw [hs1]
    exact rstep_inv v frames ms hcar _ .recv future (by simp only [rstep, hr, if_true]; exact hfut) hI1
  have hlen2 : (drainStep B s).got.length = s.got.length + 1 := by rw [hs2]; simp
  exact ⟨hI2, by rw [hs2], by rw [← hlen2]; exact hI2.got, hlen2⟩

def drainN (B : Nat) : Nat → RSt → RSt
  | 0, s => s
  | n + 1, s => drainN B n (drainStep B s)

theorem drain_all (v : Variant) (frames : List (List Byte)) (ms : List Msg) (hcar : Carries v frames ms) (B : Nat) :
    ∀ (n : Nat) (s : RSt) (future : List Byte), s.fed ++ future = frames.flatten → RInv v frames ms s →
      s.fed.length + 2 ≤ B → s.got.length + n ≤ frameCount s.fed →
      (drainN B n s).got = ms.take (s.got.length + n) ∧ (drainN B n s).fed = s.fed := by
  intro n
  induction n with
  | zero => intro s future _ h _ _; exact ⟨h.got, rfl⟩
  | succ n ih =>
    intro s future hfut h hB hc
    obtain ⟨hI, hfed, hgot, hk1⟩ := drainStep_delivers v frames ms hcar s future hfut h B hB (by omega)
    obtain ⟨a, b⟩ := ih (drainStep B s) future (by rw [hfed]; exact hfut) hI (by rw [hfed]; exact hB) (by rw [hfed, hk1]; omega)
    simp only [drainN]
    exact ⟨by rw [a, hk1]; congr 1; omega, by rw [b, hfed]⟩

end Mpt.CQ
