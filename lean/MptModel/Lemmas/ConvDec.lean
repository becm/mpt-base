/-
  C07, text to floating point.  The float parsers over any `strto*`: they refuse an overflowing numeral, given the libc
  contract `StrToF.contract` (overflow is reported as an infinity with ERANGE); never a fault, and the query gives the
  verdict and count of the storing call.  The decimal `strtod` model: what it consumes, if anything, is a decimal numeral
  (Spec/Scalar `IsDecNumeral`) and its value is the correctly rounded value of the number that numeral denotes.
-/
import MptModel.Lemmas.ConvText

namespace Mpt.Conv
open Mpt.Scalar Mpt.Flt

/-- the parser refuses when `strto*` reports ERANGE and returned an infinity: it has a guard with the disjuncts
    `errno == ERANGE && tmp > F` and `errno == ERANGE && tmp < F'` -/
def checkFloatParser (p : TextParser) : Bool :=
  p.errnoReset && p.tmpTy.isFloat &&
  p.guards.any fun g =>
    (g.conds.any fun c => match c with
      | [.erange, .val (.cmp .gt cty _)] => cty.isFloat && decide (p.tmpTy.size ≤ cty.size)
      | _ => false) &&
    (g.conds.any fun c => match c with
      | [.erange, .val (.cmp .lt cty _)] => cty.isFloat && decide (p.tmpTy.size ≤ cty.size)
      | _ => false)

/-- the libc contract the theorem relies on: an overflowing numeral yields an infinity and `errno = ERANGE` -/
def StrToF.contract (r : StrToF) : Prop := r.overflow = true → r.erange = true ∧ ∃ sg, r.value = .inf sg

theorem evalTConj_erange_cmp (c : TextCtx) (x : FVal) (hx : c.tmp = .flt x) (op : Cmp) (cty : CTy) (k : Int)
    (hf : cty.isFloat = true) (hs : c.ty.size ≤ cty.size) :
    evalTConj c [.erange, .val (.cmp op cty k)] = .ok (c.erange && cmpF op x k) := by
  simp only [evalTConj, TextAtom.eval, Atom.eval, hx, Atom.evalF, hf, hs, and_self, if_true]
  cases c.erange <;> cases cmpF op x k <;> rfl

theorem runFloatParser_eq {p : TextParser} {r : StrToF} {s : List Nat} (hs : s ≠ []) (hc : r.consumed ≠ 0) (d : Bool) :
    runFloatParser p r s d = (evalTGuards (floatCtx p r.value r.erange) p.guards).bind fun _ =>
      match p.widths with
      | [w] => if d then .ok (some r.value, r.consumed) else if w.guarded then .ok (none, r.consumed) else .fault
      | _ => .null := by
  simp only [runFloatParser, hs, hc, if_false]
  cases evalTGuards (floatCtx p r.value r.erange) p.guards <;> rfl

theorem runFloatParser_early {p : TextParser} {r : StrToF} {s : List Nat} (h : s = [] ∨ r.consumed = 0) :
    (∀ d, runFloatParser p r s d = .ok (none, 0)) ∨ ∀ d, runFloatParser p r s d = .err .BadType := by
  unfold runFloatParser
  by_cases hs : s = []
  · exact .inl fun _ => if_pos hs
  · simp only [hs, h.resolve_left hs, if_true, if_false]
    split
    · exact .inl fun _ => rfl
    · exact .inr fun _ => rfl

theorem runFloatParser_ok {p : TextParser} {r : StrToF} {s : List Nat} {d : Bool} {o : Option FVal} {n : Nat}
    (h : runFloatParser p r s d = .ok (o, n)) (hn : n ≠ 0) :
    evalTGuards (floatCtx p r.value r.erange) p.guards = .ok () ∧ n = r.consumed ∧ o = if d then some r.value else none := by
  by_cases he : s = [] ∨ r.consumed = 0
  · rcases runFloatParser_early (p := p) he with h0 | h0 <;> rw [h0] at h <;> cases h
    exact absurd rfl hn
  · rw [not_or] at he
    rw [runFloatParser_eq he.1 he.2] at h
    cases hg : evalTGuards (floatCtx p r.value r.erange) p.guards <;> rw [hg] at h <;> try cases h
    refine ⟨rfl, ?_⟩
    simp only [Res.bind] at h
    split at h
    · cases d
      · simp only [Bool.false_eq_true, if_false] at h
        split at h <;> cases h
        exact ⟨rfl, rfl⟩
      · cases h; exact ⟨rfl, rfl⟩
    · cases h

/-- by the contract an overflowing numeral comes back as an infinity with ERANGE, which one of the two disjuncts
    `checkFloatParser` asks for refuses -/
theorem guards_no_overflow (p : TextParser) (hc : checkFloatParser p = true) (r : StrToF) (hr : r.contract)
    (hg : evalTGuards (floatCtx p r.value r.erange) p.guards = .ok ()) : r.overflow = false := by
  cases hov : r.overflow with
  | false => rfl
  | true =>
    exfalso
    obtain ⟨her, sg, hval⟩ := hr hov
    simp only [checkFloatParser, Bool.and_eq_true, List.any_eq_true] at hc
    obtain ⟨_, g, hgm, ⟨cu, hcu, htu⟩, ⟨cl, hcl, htl⟩⟩ := hc
    have hdisj : anyOk (evalTConj _) g.conds = .ok false :=
      evalTDisj_eq _ _ ▸ firstErr_ok (evalTGuards_eq _ _ ▸ hg) g hgm
    cases sg with
    | false =>
      split at htu
      · rename_i cty k
        simp only [Bool.and_eq_true, decide_eq_true_eq] at htu
        have := anyOk_false hdisj _ hcu
        rw [evalTConj_erange_cmp _ _ (congrArg Src.flt hval) .gt cty k htu.1 htu.2] at this
        simp [floatCtx, her, cmpF, FVal.gtInt] at this
      · cases htu
    | true =>
      split at htl
      · rename_i cty k
        simp only [Bool.and_eq_true, decide_eq_true_eq] at htl
        have := anyOk_false hdisj _ hcl
        rw [evalTConj_erange_cmp _ _ (congrArg Src.flt hval) .lt cty k htl.1 htl.2] at this
        simp [floatCtx, her, cmpF, FVal.ltInt] at this
      · cases htl

theorem runFloatParser_no_overflow (p : TextParser) (hc : checkFloatParser p = true) (r : StrToF) (hr : r.contract)
    (s : List Nat) (d : Bool) (o : Option FVal) (n : Nat) (h : runFloatParser p r s d = .ok (o, n)) (hn : n ≠ 0) :
    r.overflow = false ∧ n = r.consumed ∧ (d = true → o = some r.value) := by
  obtain ⟨hg, hcons, ho⟩ := runFloatParser_ok h hn
  exact ⟨guards_no_overflow p hc r hr hg, hcons, fun hd => by rw [ho, hd]; rfl⟩

def floatAtomSafe (ty : CTy) : TextAtom → Bool
  | .val (.cmp _ cty _) => cty.isFloat && decide (ty.size ≤ cty.size)
  | .val _ => false
  | _ => true

/-- every test of the parser is one that a floating-point temporary can be put to, and the single width case stores
    only under `if (val)` -/
def checkFloatSafe (p : TextParser) : Bool :=
  (p.guards.all fun g => g.conds.all fun c => c.all (floatAtomSafe p.tmpTy)) &&
  (match p.widths with | [w] => w.guarded | _ => false)

def Res.plain {α} : Res α → Bool
  | .ok _ => true
  | .err _ => true
  | _ => false

theorem atom_plain (c : TextCtx) (x : FVal) (hx : c.tmp = .flt x) (a : TextAtom) (h : floatAtomSafe c.ty a = true) :
    ∃ b, a.eval c = .ok b := by
  cases a with
  | erange => exact ⟨_, rfl⟩
  | minus => exact ⟨_, rfl⟩
  | rangeArg => exact ⟨_, rfl⟩
  | val a =>
    cases a with
    | cmp op cty k =>
      simp only [floatAtomSafe, Bool.and_eq_true, decide_eq_true_eq] at h
      exact ⟨cmpF op x k, by simp [TextAtom.eval, Atom.eval, hx, Atom.evalF, h.1, h.2]⟩
    | notIsgraph i => simp [floatAtomSafe] at h

theorem guards_plain (c : TextCtx) (x : FVal) (hx : c.tmp = .flt x) (gs : List TextGuard)
    (h : gs.all (fun g => g.conds.all fun a => a.all (floatAtomSafe c.ty)) = true) :
    evalTGuards c gs = .ok () ∨ ∃ e, evalTGuards c gs = .err e := by
  simp only [List.all_eq_true] at h
  rw [evalTGuards_eq]
  refine firstErr_defined fun g hg => ?_
  rw [evalTDisj_eq]
  refine anyOk_defined fun as has => ?_
  rw [evalTConj_eq]
  exact allOk_defined fun a ha => atom_plain c x hx a (h g hg as has a ha)

def dropF : Res (Option FVal × Nat) → Res (Option FVal × Nat)
  | .ok (_, n) => .ok (none, n)
  | r => r

theorem dropF_eq (r : Res (Option FVal × Nat)) : dropF r = forget r := by cases r <;> rfl

theorem runFloatParser_safe (p : TextParser) (hc : checkFloatSafe p = true) (r : StrToF) (s : List Nat) :
    (∀ d, verdict (runFloatParser p r s d) ≠ .broken) ∧
    runFloatParser p r s false = dropF (runFloatParser p r s true) := by
  simp only [checkFloatSafe, Bool.and_eq_true] at hc
  obtain ⟨hg, hw⟩ := hc
  by_cases he : s = [] ∨ r.consumed = 0
  · rcases runFloatParser_early (p := p) he with h0 | h0 <;> exact ⟨fun d => by rw [h0]; nofun, by rw [h0, h0]; rfl⟩
  · rw [not_or] at he
    simp only [runFloatParser_eq he.1 he.2]
    split at hw
    · rcases guards_plain (floatCtx p r.value r.erange) r.value rfl p.guards hg with h | ⟨e, h⟩ <;> rw [h]
      · exact ⟨fun d => by cases d <;> simp [Res.bind, hw, verdict], by simp [Res.bind, hw, dropF]⟩
      · exact ⟨fun _ => nofun, rfl⟩
    · cases hw

theorem convertStringF_eq (tgt : Ty) (strto : List Nat → StrToF) (s : List Nat) (d : Bool) :
    convertStringF tgt strto s d = skipBlanks (convertNumberF tgt strto · d) s := by
  simp only [convertStringF, skipBlanks]
  split
  · rfl
  · cases convertNumberF tgt strto (s.dropWhile isSpace) d <;> rfl

theorem convertNumberF_safe {tgt : Ty} {p : TextParser} (hp : numberFloatTarget tgt = some p)
    (hc : checkFloatSafe p = true) (strto : List Nat → StrToF) (s : List Nat) :
    (∀ d, verdict (convertNumberF tgt strto s d) ≠ .broken) ∧
    convertNumberF tgt strto s false = dropF (convertNumberF tgt strto s true) := by
  simp only [convertNumberF, hp]
  exact runFloatParser_safe p hc (strto s) s

theorem convertStringF_safe {tgt : Ty} {p : TextParser} (hp : numberFloatTarget tgt = some p)
    (hc : checkFloatSafe p = true) (strto : List Nat → StrToF) (s : List Nat) :
    (∀ d, verdict (convertStringF tgt strto s d) ≠ .broken) ∧
    convertStringF tgt strto s false = dropF (convertStringF tgt strto s true) := by
  obtain ⟨hv, hq⟩ := convertNumberF_safe hp hc strto (s.dropWhile isSpace)
  simp only [convertStringF_eq, dropF_eq]
  exact ⟨fun d => skipBlanks_notBroken (hv d), skipBlanks_query (hq.trans (dropF_eq _))⟩

theorem splitSign_spec (s : List Nat) :
    s = (splitSign s).1 ++ (splitSign s).2 ∧
    ((splitSign s).1 = [] ∨ (splitSign s).1 = [43] ∨ (splitSign s).1 = [45]) := by
  unfold splitSign
  cases s with
  | nil => simp
  | cons c r =>
    by_cases h : c = 43 ∨ c = 45
    · simp only [h, if_true]
      rcases h with h | h <;> simp [h]
    · simp [h]

theorem splitExp_spec (s : List Nat) :
    s = (splitExp s).1 ++ ((splitExp s).2.1 ++ ((splitExp s).2.2.1 ++ (splitExp s).2.2.2)) ∧
    ((splitExp s).1 = [] ∨ (splitExp s).1 = [101] ∨ (splitExp s).1 = [69]) ∧
    ((splitExp s).2.1 = [] ∨ (splitExp s).2.1 = [43] ∨ (splitExp s).2.1 = [45]) ∧
    (splitExp s).2.2.1.all isDigit = true ∧
    ((splitExp s).1 = [] → (splitExp s).2.1 = [] ∧ (splitExp s).2.2.1 = []) ∧
    ((splitExp s).1 ≠ [] → (splitExp s).2.2.1 ≠ []) := by
  unfold splitExp
  cases s with
  | nil => simp
  | cons c r =>
    by_cases h : c = 101 ∨ c = 69
    · simp only [h, if_true]
      obtain ⟨hs, hsg⟩ := splitSign_spec r
      by_cases hd : (splitSign r).2.takeWhile isDigit = []
      · simp [hd]
      · simp only [hd, if_false]
        refine ⟨?_, ?_, hsg, List.all_takeWhile, ?_, fun _ => hd⟩
        · simp only [List.cons_append, List.nil_append, List.takeWhile_append_dropWhile]
          rw [← hs]
        · rcases h with h | h <;> simp [h]
        · simp
    · simp [h]

theorem splitFrac_spec (s : List Nat) :
    s = (splitFrac s).1 ++ ((splitFrac s).2.1 ++ (splitFrac s).2.2) ∧
    ((splitFrac s).1 = [] ∨ (splitFrac s).1 = [46]) ∧ (splitFrac s).2.1.all isDigit = true ∧
    ((splitFrac s).1 = [] → (splitFrac s).2.1 = []) := by
  unfold splitFrac
  cases s with
  | nil => simp
  | cons c r =>
    by_cases hc : c = 46
    · simp only [hc, if_true]
      exact ⟨by simp, by simp, List.all_takeWhile, by simp⟩
    · simp [hc]

theorem scanDec_spec (s : List Nat) (p : DecParts) (rest : List Nat) (h : scanDec s = some (p, rest)) :
    p.valid ∧ s = p.text ++ rest := by
  simp only [scanDec] at h
  split at h
  · cases h
  rename_i hne
  simp only [Option.some.injEq, Prod.mk.injEq] at h
  obtain ⟨hp, hr⟩ := h
  obtain ⟨hs1, hsg⟩ := splitSign_spec (s.dropWhile isSpace)
  obtain ⟨hf1, hdot, hfp, hdot0⟩ := splitFrac_spec ((splitSign (s.dropWhile isSpace)).2.dropWhile isDigit)
  obtain ⟨hex, hem, hes, hed, hem0, hem1⟩ :=
    splitExp_spec (splitFrac ((splitSign (s.dropWhile isSpace)).2.dropWhile isDigit)).2.2
  subst hp hr
  refine ⟨⟨List.all_takeWhile, hsg, List.all_takeWhile, hdot, hfp, hdot0, ?_, hem, hes, hed, hem0, hem1⟩, ?_⟩
  · by_cases hip : (splitSign (s.dropWhile isSpace)).2.takeWhile isDigit = []
    · right; intro hf; exact hne ⟨hip, hf⟩
    · left; exact hip
  · simp only [DecParts.text, List.append_assoc]
    rw [← hex, ← hf1, List.takeWhile_append_dropWhile, ← hs1, List.takeWhile_append_dropWhile]

theorem strtoDec_spec (fmt : Fmt) (s : List Nat) (hk : (strtoDec fmt s).consumed ≠ 0) :
    ∃ neg m e, IsDecNumeral (s.take (strtoDec fmt s).consumed) neg m e ∧
      (strtoDec fmt s).value = roundDec fmt neg m e ∧ (strtoDec fmt s).consumed ≤ s.length := by
  unfold strtoDec at hk ⊢
  cases hsc : scanDec s with
  | none => simp [hsc] at hk
  | some pr =>
    obtain ⟨p, rest⟩ := pr
    obtain ⟨hv, hs⟩ := scanDec_spec s p rest hsc
    simp only
    refine ⟨p.neg, p.mant, p.exp10, ⟨p, hv, ?_, rfl, rfl, rfl⟩, rfl, ?_⟩
    · conv => rhs; rw [hs]
      simp
    · conv => rhs; rw [hs]
      simp

theorem strtoDec_overflow_iff (fmt : Fmt) (s : List Nat) :
    ((strtoDec fmt s).overflow = true ↔ ∃ sg, (strtoDec fmt s).value = .inf sg) ∧
    ((strtoDec fmt s).overflow = true → (strtoDec fmt s).erange = true) := by
  unfold strtoDec
  cases scanDec s with
  | none => simp
  | some pr => cases hv : roundDec fmt pr.1.neg pr.1.mant pr.1.exp10 <;> simp [hv]

theorem strtoDec_contract (fmt : Fmt) (s : List Nat) : (strtoDec fmt s).contract := fun h =>
  ⟨(strtoDec_overflow_iff fmt s).2 h, (strtoDec_overflow_iff fmt s).1.mp h⟩

theorem isDecNumeral_prepend (ws t : List Nat) (hws : ws.all isSpace = true) (neg : Bool) (m : Nat) (e : Int)
    (h : IsDecNumeral t neg m e) : IsDecNumeral (ws ++ t) neg m e := by
  obtain ⟨p, hv, ht, hn, hm, he⟩ := h
  refine ⟨{ p with ws := ws ++ p.ws }, ?_, ?_, hn, hm, he⟩
  · obtain ⟨h1, h2⟩ := hv
    exact ⟨by simp [List.all_append, hws, h1], h2⟩
  · simp only [DecParts.text, List.append_assoc] at ht ⊢
    rw [ht]

/-- `mpt_convert_string` for a float target over the decimal `strtod` model: what an accepted conversion consumed is
    white space followed by a decimal numeral, its correctly rounded value is finite and is what is stored -/
theorem convertStringF_decimal (tgt : Ty) (p : TextParser) (hp : numberFloatTarget tgt = some p)
    (hc : checkFloatParser p = true) (fmt : Fmt)
    (s : List Nat) (d : Bool) (o : Option FVal) (n : Nat)
    (h : convertStringF tgt (strtoDec fmt) s d = .ok (o, n)) (hn : n ≠ 0) :
    n ≤ s.length ∧ ∃ neg m e, IsDecNumeral (s.take n) neg m e ∧ (∀ sg, roundDec fmt neg m e ≠ .inf sg) ∧
      (d = true → o = some (roundDec fmt neg m e)) ∧ (d = false → o = none) := by
  rcases skipBlanks_ok (convertStringF_eq tgt _ s d ▸ h) with ⟨_, rfl, _⟩ | ⟨k, hk, hres, rfl⟩
  · exact absurd rfl hn
  simp only [convertNumberF, hp] at hres
  obtain ⟨hov, hcons, hst⟩ := runFloatParser_no_overflow p hc _ (strtoDec_contract fmt _) _ d o k hres hk
  obtain ⟨neg, m, e, hnum, hval, hle⟩ := strtoDec_spec fmt (s.dropWhile isSpace) (hcons ▸ hk)
  rw [← hcons] at hnum hle
  refine ⟨by have := length_ws_add s; omega, neg, m, e, ?_, ?_, ?_, ?_⟩
  · rw [take_ws_add]; exact isDecNumeral_prepend _ _ (List.all_takeWhile) neg m e hnum
  · intro sg hinf
    rw [(strtoDec_overflow_iff fmt _).1.mpr ⟨sg, hval ▸ hinf⟩] at hov
    cases hov
  · intro hd; rw [hst hd, hval]
  · rintro rfl; obtain ⟨_, _, ho⟩ := runFloatParser_ok hres hk; exact ho

end Mpt.Conv
