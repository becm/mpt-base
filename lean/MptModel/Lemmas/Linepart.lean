/-
  C18: one call of `mpt_linepart_linear`.  The two counting loops (`count_spec`), the three indices of `linearCore`
  (`kIdx`, `bIdx`, `tLen`), what a call guarantees (`PartOK` for the core, `CallOK` with the 65535 clip), and
  induction along the caller's loop (`parts_ind`).
-/
import MptModel.Impl.Linepart
namespace Mpt.Linepart
open Mpt.Visible

theorem out_iff (r : Range) (x : Rat) : out r x = true ↔ (x < r.min ∨ r.max < x) := by
  unfold out; simp

theorem has_iff (r : Range) (x : Rat) : r.has x = true ↔ (r.min ≤ x ∧ x ≤ r.max) := by
  unfold Range.has; simp

theorem has_eq_not_out (r : Range) (x : Rat) : r.has x = !out r x := by
  unfold Range.has out
  by_cases h1 : x < r.min <;> by_cases h2 : r.max < x <;> simp [h1, h2] <;> grind

theorem not_inside_of_out (r : Range) (ys : List Rat) (i : Nat) (x : Rat)
    (h : ys[i]? = some x) (ho : out r x = true) : ¬ insideAt r ys i := by
  intro ⟨y, hy, hh⟩
  rw [h] at hy; cases hy
  rw [has_eq_not_out, ho] at hh
  cases hh

theorem inside_of_not_out (r : Range) (ys : List Rat) (i : Nat) (x : Rat)
    (h : ys[i]? = some x) (ho : out r x = false) : insideAt r ys i :=
  ⟨x, h, by rw [has_eq_not_out, ho]; rfl⟩

theorem insideAt_lt {r : Range} {xs : List Rat} {i : Nat} (h : insideAt r xs i) : i < xs.length := by
  obtain ⟨x, hx, _⟩ := h
  exact (List.getElem?_eq_some_iff.1 hx).1

theorem count_spec (p : Rat → Bool) (f : List Rat → Nat) (hnil : f [] = 0)
    (hcons : ∀ x xs, f (x :: xs) = if p x then f xs + 1 else 0) (l : List Rat) :
    f l ≤ l.length ∧ (∀ i, i < f l → ∃ x, l[i]? = some x ∧ p x = true) ∧
    (f l < l.length → ∃ x, l[f l]? = some x ∧ p x = false) := by
  induction l with
  | nil => rw [hnil]; exact ⟨Nat.le_refl _, (fun i h => nomatch h), (fun h => nomatch h)⟩
  | cons x xs ih =>
    rw [hcons]
    obtain ⟨h1, h2, h3⟩ := ih
    cases hp : p x with
    | false => exact ⟨Nat.zero_le _, (fun i h => nomatch h), (fun _ => ⟨x, rfl, hp⟩)⟩
    | true =>
      refine ⟨Nat.succ_le_succ h1, fun i h => ?_, fun h => h3 (Nat.lt_of_succ_lt_succ h)⟩
      cases i with
      | zero => exact ⟨x, rfl, hp⟩
      | succ j => exact h2 j (Nat.lt_of_succ_lt_succ h)

theorem visLen_spec (r : Range) (l : List Rat) :
    visLen r l ≤ l.length ∧ (∀ i, i < visLen r l → ∃ x, l[i]? = some x ∧ out r x = false) ∧
    (visLen r l < l.length → ∃ x, l[visLen r l]? = some x ∧ out r x = true) := by
  simpa using count_spec (fun x => !out r x) (visLen r) rfl (fun x xs => by cases h : out r x <;> simp [visLen, h]) l

theorem outLen_spec (r : Range) (l : List Rat) :
    outLen r l ≤ l.length ∧ (∀ i, i < outLen r l → ∃ x, l[i]? = some x ∧ out r x = true) ∧
    (outLen r l < l.length → ∃ x, l[outLen r l]? = some x ∧ out r x = false) :=
  count_spec (out r) (outLen r) rfl (fun _ _ => rfl) l

theorem outLen_pos (r : Range) (l : List Rat) (x : Rat) (h : l[0]? = some x) (ho : out r x = true) :
    0 < outLen r l := by
  cases l with
  | nil => simp at h
  | cons y ys =>
    simp at h; subst h
    unfold outLen; rw [if_pos ho]; omega

/-- number of points taken by the "partial first" block -/
def kIdx (r : Range) (ys : List Rat) : Nat := if headCut r ys then 2 else 0
/-- index at which the counting loop stops (`raw = usr = bIdx` at that moment) -/
def bIdx (r : Range) (ys : List Rat) : Nat := kIdx r ys + visLen r (ys.drop (kIdx r ys))
/-- number of values skipped by the "trailing invisible" loop -/
def tLen (r : Range) (ys : List Rat) : Nat := outLen r (ys.drop (bIdx r ys + 1))

theorem headCut_spec (r : Range) (ys : List Rat) (h : headCut r ys = true) :
    ∃ x0 x1, ys[0]? = some x0 ∧ ys[1]? = some x1 ∧ out r x0 = true ∧ r.has x1 = true := by
  match ys, h with
  | x0 :: x1 :: rest, h =>
    simp only [headCut, Bool.and_eq_true] at h
    exact ⟨x0, x1, rfl, rfl, h.1, h.2⟩

/-- the "partial first" test is a look-ahead of the counting loop: the first value is invisible, the next one counts -/
theorem headCut_cons (r : Range) (x : Rat) (l : List Rat) :
    headCut r (x :: l) = (out r x && decide (0 < visLen r l)) := by
  cases l with
  | nil => simp [headCut, visLen]
  | cons y l => cases h : out r y <;> simp [headCut, visLen, has_eq_not_out, h]

theorem bIdx_cons (r : Range) (x : Rat) (l : List Rat) :
    bIdx r (x :: l) = if out r x = true ∧ visLen r l = 0 then 0 else visLen r l + 1 := by
  unfold bIdx kIdx
  rw [headCut_cons]
  cases hx : out r x
  · simp [visLen, hx]
  · cases l with
    | nil => simp [visLen, hx]
    | cons y l => cases hy : out r y <;> simp [visLen, hx, hy]; omega

theorem bIdx_spec (r : Range) (ys : List Rat) :
    bIdx r ys ≤ ys.length ∧
    (∀ i, i < bIdx r ys → insideAt r ys i ∨ i = 0 ∧ headCut r ys = true) ∧
    (bIdx r ys < ys.length → ∃ x, ys[bIdx r ys]? = some x ∧ out r x = true) ∧
    (bIdx r ys = 0 → ∀ x1, ys[1]? = some x1 → out r x1 = true) ∧
    (0 < bIdx r ys → insideAt r ys (bIdx r ys - 1)) := by
  cases ys with
  | nil => exact ⟨Nat.le_refl _, (fun i h => nomatch h), (fun h => nomatch h), (fun _ _ h => nomatch h), (fun h => nomatch h)⟩
  | cons x l =>
    obtain ⟨v1, v2, v3⟩ := visLen_spec r l
    have hin : ∀ i, i < visLen r l → insideAt r (x :: l) (i + 1) := fun i h => by
      obtain ⟨y, hy, ho⟩ := v2 i h
      exact inside_of_not_out r _ _ y hy ho
    rw [bIdx_cons, headCut_cons]
    -- `bIdx` is 0 when the first value is invisible and no visible one follows it directly, else one more than the visible
    -- run behind the first value
    by_cases h0 : out r x = true ∧ visLen r l = 0
    · rw [if_pos h0]
      refine ⟨Nat.zero_le _, (fun i h => nomatch h), (fun _ => ⟨x, rfl, h0.1⟩), (fun _ x1 h1 => ?_), (fun h => nomatch h)⟩
      obtain ⟨y, hy, ho⟩ := v3 (by rw [h0.2]; exact Nat.lt_of_succ_lt_succ (List.getElem?_eq_some_iff.1 h1).1)
      rw [h0.2] at hy
      exact (Option.some.inj (hy.symm.trans h1)) ▸ ho
    · rw [if_neg h0]
      refine ⟨Nat.succ_le_succ v1, fun i h => ?_, fun h => v3 (Nat.lt_of_succ_lt_succ h), (fun h => nomatch h), fun _ => ?_⟩
      · cases i with
        | succ k => exact .inl (hin k (Nat.lt_of_succ_lt_succ h))
        | zero =>
          cases hx : out r x with
          | false => exact .inl (inside_of_not_out r _ 0 x rfl hx)
          | true => exact .inr ⟨rfl, by simpa using Nat.pos_of_ne_zero fun hv => h0 ⟨hx, hv⟩⟩
      · cases hv : visLen r l with
        | succ k => exact hin k (by omega)
        | zero =>
          cases hx : out r x with
          | false => exact inside_of_not_out r _ 0 x rfl hx
          | true => exact absurd ⟨hx, hv⟩ h0

theorem tLen_le (r : Range) (ys : List Rat) (h : bIdx r ys < ys.length) :
    bIdx r ys + 1 + tLen r ys ≤ ys.length := by
  unfold tLen
  have := (outLen_spec r (ys.drop (bIdx r ys + 1))).1
  simp only [List.length_drop] at this
  omega

theorem tLen_out (r : Range) (ys : List Rat) (i : Nat) (h1 : bIdx r ys < i) (h2 : i ≤ bIdx r ys + tLen r ys) :
    ¬ insideAt r ys i := by
  unfold tLen at h2
  obtain ⟨x, hx, hxo⟩ := (outLen_spec r (ys.drop (bIdx r ys + 1))).2.1 (i - (bIdx r ys + 1)) (by omega)
  rw [List.getElem?_drop, show bIdx r ys + 1 + (i - (bIdx r ys + 1)) = i by omega] at hx
  exact not_inside_of_out r ys i x hx hxo

theorem tLen_pos (r : Range) (ys : List Rat) (h : bIdx r ys = 0) (hl : 1 < ys.length) : 0 < tLen r ys := by
  unfold tLen
  rw [h]
  obtain ⟨_, _, _, hnext, _⟩ := bIdx_spec r ys
  exact outLen_pos r _ ys[1] (by rw [List.getElem?_drop]; exact List.getElem?_eq_getElem hl)
    (hnext h _ (List.getElem?_eq_getElem hl))

theorem tLen_stop (r : Range) (ys : List Rat) (h : bIdx r ys + 1 + tLen r ys < ys.length) :
    insideAt r ys (bIdx r ys + 1 + tLen r ys) := by
  obtain ⟨x, hx, hxo⟩ := (outLen_spec r (ys.drop (bIdx r ys + 1))).2.2 (by
    simp only [List.length_drop]; unfold tLen at h; omega)
  rw [List.getElem?_drop] at hx
  exact inside_of_not_out r ys _ x hx hxo

theorem linearCore_eq (r : Range) (ys : List Rat) :
    linearCore r ys =
      if bIdx r ys = ys.length then
        { raw := bIdx r ys, usr := bIdx r ys, cut := if headCut r ys then cutCode r ys else 0, trim := 0 }
      else
        { raw := bIdx r ys + tLen r ys + (if bIdx r ys + 1 + tLen r ys = ys.length then 1 else 0),
          usr := if bIdx r ys ≠ 0 then bIdx r ys + 1 else 0,
          cut := if headCut r ys then cutCode r ys else 0,
          trim := if bIdx r ys ≠ 0 then
            u16 (code (trimFrac r (ys.getD (bIdx r ys - 1) 0) (ys.getD (bIdx r ys) 0))) else 0 } := by
  rfl

/-- what the core (`linearCore`, the call without the 65535 clip) guarantees on a non-empty window `ys` -/
structure PartOK (r : Range) (ys : List Rat) (p : Part) : Prop where
  pos : 0 < p.raw
  raw_le : p.raw ≤ ys.length
  usr_le : p.usr ≤ ys.length
  usr_raw : p.usr ≤ p.raw + 1
  interior : ∀ i, 0 < i → i + 1 < p.usr → insideAt r ys i
  hidden : ∀ i, p.usr ≤ i → i < p.raw → ¬ insideAt r ys i
  last : p.raw < p.usr → ¬ insideAt r ys p.raw
  first : 0 < p.usr → ¬ insideAt r ys 0 → headCut r ys = true

/-- `PartOK` of a record given by its fields: with `PartOK.mk` the goals would speak of `{ raw := …, … }.raw`, and `omega`
    takes the projection of a record literal as an atom -/
theorem PartOK.mk' {r : Range} {ys : List Rat} {raw usr cut trim : Nat} (pos : 0 < raw) (raw_le : raw ≤ ys.length)
    (usr_le : usr ≤ ys.length) (usr_raw : usr ≤ raw + 1) (interior : ∀ i, 0 < i → i + 1 < usr → insideAt r ys i)
    (hidden : ∀ i, usr ≤ i → i < raw → ¬ insideAt r ys i) (last : raw < usr → ¬ insideAt r ys raw)
    (first : 0 < usr → ¬ insideAt r ys 0 → headCut r ys = true) : PartOK r ys ⟨raw, usr, cut, trim⟩ :=
  ⟨pos, raw_le, usr_le, usr_raw, interior, hidden, last, first⟩

theorem linearCore_ok (r : Range) (ys : List Rat) (hne : 0 < ys.length) : PartOK r ys (linearCore r ys) := by
  rw [linearCore_eq]
  obtain ⟨hb, hbefore, hstop, _, _⟩ := bIdx_spec r ys
  have hinside : ∀ i, 0 < i → i < bIdx r ys → insideAt r ys i := fun i h0 h =>
    (hbefore i h).resolve_right fun e => by omega
  -- something is drawn only when the counting loop got somewhere; then an invisible first point was a "partial first"
  have hfirst : 0 < bIdx r ys → ¬ insideAt r ys 0 → headCut r ys = true := fun h hn =>
    ((hbefore 0 h).resolve_left hn).2
  by_cases hd : bIdx r ys = ys.length
  · rw [if_pos hd]
    exact .mk' (by omega) (by omega) (by omega) (by omega) (fun i h0 h1 => hinside i h0 (by omega))
      (fun i h1 h2 => by omega) (fun h => by omega) (fun _ => hfirst (by omega))
  · rw [if_neg hd]
    have hlt : bIdx r ys < ys.length := by omega
    have ht := tLen_le r ys hlt
    obtain ⟨xb, hxb, hxbo⟩ := hstop hlt
    by_cases hz : bIdx r ys = 0
    · -- nothing drawn
      have hpos : 0 < tLen r ys + (if bIdx r ys + 1 + tLen r ys = ys.length then 1 else 0) := by
        by_cases hl : 1 < ys.length
        · have := tLen_pos r ys hz hl; omega
        · have : tLen r ys = 0 := by omega
          rw [if_pos (by omega)]; omega
      have hnz : ¬ bIdx r ys ≠ 0 := fun h => h hz
      rw [if_neg hnz, if_neg hnz]
      refine .mk' (by omega) (by split <;> omega) (Nat.zero_le _) (Nat.zero_le _) (fun i _ h1 => by omega) ?_
        (fun h => by omega) (fun h => by omega)
      intro i _ h2
      by_cases hi : i = 0
      · subst hi; rw [hz] at hxb; exact not_inside_of_out r ys 0 xb hxb hxbo
      · exact tLen_out r ys i (by omega) (by split at h2 <;> omega)
    · rw [if_pos hz, if_pos hz]
      refine .mk' (by omega) (by split <;> omega) (by omega) (by omega)
        (fun i h0 h1 => hinside i h0 (by omega))
        (fun i h1 h2 => tLen_out r ys i (by omega) (by split at h2 <;> omega)) ?_ (fun _ => hfirst (by omega))
      intro h
      have h0 : tLen r ys = 0 := by split at h <;> omega
      have h1 : ¬ bIdx r ys + 1 + tLen r ys = ys.length := fun hc => by rw [if_pos hc] at h; omega
      rw [if_neg h1, h0]
      exact not_inside_of_out r ys _ xb hxb hxbo

theorem insideAt_take (r : Range) (xs : List Rat) (n i : Nat) (h : i < n) :
    insideAt r (xs.take n) i ↔ insideAt r xs i := by
  unfold insideAt
  rw [List.getElem?_take, if_pos h]

theorem insideAt_window {r : Range} {xs ys : List Rat} {c : Nat} (hw : ∀ k, k < ys.length → ys[k]? = xs[c + k]?)
    {k : Nat} (hk : k < ys.length) : insideAt r ys k ↔ insideAt r xs (c + k) := by
  unfold insideAt
  rw [hw k hk]

theorem window_drop_take (xs : List Rat) (c m k : Nat) (hk : k < ((xs.drop c).take m).length) :
    ((xs.drop c).take m)[k]? = xs[c + k]? := by
  rw [List.length_take] at hk
  rw [List.getElem?_take, if_pos (Nat.lt_of_lt_of_le hk (Nat.min_le_left _ _)), List.getElem?_drop]

/-- what one call of `mpt_linepart_linear` with a range guarantees about the caller's data -/
structure CallOK (r : Range) (xs : List Rat) (p : Part) : Prop where
  pos : 0 < p.raw
  raw_le : p.raw ≤ min xs.length u16max
  usr_le : p.usr ≤ min xs.length u16max
  usr_raw : p.usr ≤ p.raw + 1
  interior : ∀ i, 0 < i → i + 1 < p.usr → insideAt r xs i
  hidden : ∀ i, p.usr ≤ i → i < p.raw → ¬ insideAt r xs i
  last : p.raw < p.usr → ¬ insideAt r xs p.raw

theorem linear_ok (r : Range) (xs : List Rat) (hne : 0 < xs.length) :
    CallOK r xs (linepartLinear xs (some r)) := by
  have hl : (xs.take u16max).length = min u16max xs.length := List.length_take
  have hu : u16max = 65535 := rfl
  have h := linearCore_ok r (xs.take u16max) (by rw [hl, hu]; omega)
  show CallOK r xs (linearCore r (xs.take u16max))
  generalize linearCore r (xs.take u16max) = p at h
  obtain ⟨h1, h2, h3, h4, h5, h6, h7, _⟩ := h
  rw [hl, Nat.min_comm] at h2 h3
  have hr : p.raw ≤ u16max := Nat.le_trans h2 (Nat.min_le_right _ _)
  have hu' : p.usr ≤ u16max := Nat.le_trans h3 (Nat.min_le_right _ _)
  refine ⟨h1, h2, h3, h4, ?_, ?_, ?_⟩
  · intro i a b; exact (insideAt_take r xs u16max i (by omega)).1 (h5 i a b)
  · intro i a b c; exact h6 i a b ((insideAt_take r xs u16max i (by omega)).2 c)
  · intro a c; exact h7 a ((insideAt_take r xs u16max _ (by omega)).2 c)

theorem linear_some (xs : List Rat) (r : Range) : linepartLinear xs (some r) = linearCore r (xs.take u16max) := rfl

theorem linear_none (xs : List Rat) :
    linepartLinear xs none = { raw := min 65535 xs.length, usr := min 65535 xs.length, cut := 0, trim := 0 } := by
  show ({ raw := (xs.take 65535).length, usr := (xs.take 65535).length, cut := 0, trim := 0 } : Part) = _
  rw [List.length_take]

theorem linear_progress (xs : List Rat) (range : Option Range) (hne : 0 < xs.length) :
    0 < (linepartLinear xs range).raw ∧ (linepartLinear xs range).raw ≤ min xs.length 65535 := by
  cases range with
  | none =>
    rw [linear_none]
    -- `simp only []` reduces the projections of the record literal, which `omega` would take as atoms
    simp only []; omega
  | some r => exact ⟨(linear_ok r xs hne).pos, (linear_ok r xs hne).raw_le⟩

theorem linearCore_single (r : Range) (x : Rat) (ho : out r x = true) :
    linearCore r [x] = { raw := 1, usr := 0, cut := 0, trim := 0 } := by
  have hb : bIdx r [x] = 0 := by rw [bIdx_cons, if_pos ⟨ho, rfl⟩]
  have ht : tLen r [x] = 0 := by rw [tLen, hb]; rfl
  have hc : headCut r [x] = false := rfl
  rw [linearCore_eq, hb, ht, hc]
  rfl

theorem partsAux_cons (range : Option Range) (fuel : Nat) (xs : List Rat) (hne : 0 < xs.length) :
    partsAux range (fuel + 1) xs =
      linepartLinear xs range :: partsAux range fuel (xs.drop (linepartLinear xs range).raw) := by
  have := (linear_progress xs range hne).1
  simp only [partsAux]
  rw [if_neg (by omega), if_neg (by omega)]

theorem partsAux_nil (range : Option Range) (fuel : Nat) (xs : List Rat) (h : xs.length = 0) :
    partsAux range fuel xs = [] := by
  cases fuel with
  | zero => rfl
  | succ n => simp only [partsAux]; rw [if_pos h]

theorem partsAux_ind (range : Option Range) (xs : List Rat) {motive : Nat → List Part → Prop}
    (stop : motive xs.length [])
    (step : ∀ c rest, c < xs.length → 0 < (linepartLinear (xs.drop c) range).raw →
      motive (c + (linepartLinear (xs.drop c) range).raw) rest → motive c (linepartLinear (xs.drop c) range :: rest))
    (fuel c : Nat) (hc : c ≤ xs.length) (hf : xs.length - c ≤ fuel) : motive c (partsAux range fuel (xs.drop c)) := by
  induction fuel generalizing c with
  | zero =>
    rw [partsAux_nil _ _ _ (by rw [List.length_drop]; omega), show c = xs.length by omega]; exact stop
  | succ n ih =>
    by_cases hlt : c < xs.length
    · have hl : (xs.drop c).length = xs.length - c := List.length_drop
      obtain ⟨h1, h2⟩ := linear_progress (xs.drop c) range (by omega)
      replace h2 := Nat.le_trans h2 (Nat.min_le_left _ _)
      rw [partsAux_cons _ _ _ (by omega), List.drop_drop]
      exact step c _ hlt h1 (ih _ (by omega) (by omega))
    · rw [partsAux_nil _ _ _ (by rw [List.length_drop]; omega), show c = xs.length by omega]; exact stop

/-- induction along the records of the repeated calls, in positions of the whole data `xs`: the window of the call at `c`
    is `xs.drop c`, the next call is at `c + raw` -/
theorem parts_ind (range : Option Range) (xs : List Rat) {motive : Nat → List Part → Prop}
    (stop : motive xs.length [])
    (step : ∀ c rest, c < xs.length → 0 < (linepartLinear (xs.drop c) range).raw →
      motive (c + (linepartLinear (xs.drop c) range).raw) rest → motive c (linepartLinear (xs.drop c) range :: rest)) :
    motive 0 (parts xs range) :=
  partsAux_ind range xs stop step xs.length 0 (Nat.zero_le _) (Nat.le_refl _)

end Mpt.Linepart
