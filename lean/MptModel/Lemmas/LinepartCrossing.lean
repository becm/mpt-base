/-
  C18: which fraction a call hands to `mpt_linepart_code` (`cutFrac_crossing`: the exact crossing of the segment with the
  range boundary), where `linearCore` stores the codes (`core_cut`, `core_trim`; they are 16-bit values: `core_fields`), and
  hence what `_cut` / `_trim` hold when a drawn end point lies outside the range — the non-zero code of the exact crossing
  fraction with the visible neighbour (`Stored`).  It is stated in positions of data of which the counting loop sees any
  stretch (`StoredAt`, `core_stored`); the call at a point of the caller's loop is the instance `call_stored`.
-/
import MptModel.Lemmas.Linepart
import MptModel.Lemmas.LinepartFrac
namespace Mpt.Linepart
open Mpt.Visible

/-- `_cut` and `_trim` are 0 or a value assigned to a `uint16_t` -/
theorem core_fields (r : Range) (ys : List Rat) : (linearCore r ys).cut ≤ 65535 ∧ (linearCore r ys).trim ≤ 65535 := by
  have hc : (if headCut r ys then cutCode r ys else 0) ≤ 65535 := by
    split
    · unfold cutCode; split
      · exact u16_le _
      · exact Nat.zero_le _
    · exact Nat.zero_le _
  rw [linearCore_eq]
  split
  · exact ⟨hc, Nat.zero_le _⟩
  · refine ⟨hc, ?_⟩
    show (if bIdx r ys ≠ 0 then u16 _ else 0) ≤ 65535
    split
    · exact u16_le _
    · exact Nat.zero_le _

theorem cutFrac_crossing (r : Range) (a b : Rat) (ha : out r a = true) (hb : r.has b = true) :
    cutFrac r a b = crossing a b (nearBound r a) ∧
    0 < crossing a b (nearBound r a) ∧ crossing a b (nearBound r a) ≤ 1 ∧
    a + crossing a b (nearBound r a) * (b - a) = nearBound r a := by
  rw [out_iff] at ha
  rw [has_iff] at hb
  unfold cutFrac crossing nearBound
  by_cases h : a < r.min
  · simp only [h, ↓reduceIte]
    have hpos : 0 < b - a := by grind
    refine ⟨trivial, ?_, ?_, ?_⟩
    · rw [Rat.lt_div_iff hpos]; grind
    · apply Rat.not_lt.1; intro hc
      rw [Rat.lt_div_iff hpos] at hc; grind
    · rw [Rat.div_mul_cancel (by grind)]; grind
  · simp only [h, ↓reduceIte]
    have hpos : 0 < a - b := by grind
    have e : (r.max - a) / (b - a) = (a - r.max) / (a - b) := by
      have : (r.max - a) / (b - a) = (-(a - r.max)) / (-(a - b)) := by congr 1 <;> grind
      rw [this]; grind
    rw [e]
    refine ⟨rfl, ?_, ?_, ?_⟩
    · rw [Rat.lt_div_iff hpos]; grind
    · apply Rat.not_lt.1; intro hc
      rw [Rat.lt_div_iff hpos] at hc; grind
    · have : (a - r.max) / (a - b) * (b - a) = -((a - r.max) / (a - b) * (a - b)) := by grind
      rw [this, Rat.div_mul_cancel (by grind)]; grind

theorem trimFrac_eq (r : Range) (prev x : Rat) : trimFrac r prev x = cutFrac r x prev := rfl

theorem core_cut (r : Range) (ys : List Rat) (hc : headCut r ys = true) (x0 x1 : Rat)
    (h0 : ys[0]? = some x0) (h1 : ys[1]? = some x1) :
    (linearCore r ys).cut = u16 (code (cutFrac r x0 x1)) := by
  match ys, hc, h0, h1 with
  | y0 :: y1 :: rest, hc, h0, h1 =>
    simp at h0 h1; subst h0; subst h1
    rw [linearCore_eq]
    split <;> rfl

theorem core_trim (r : Range) (ys : List Rat) (hlt : bIdx r ys < ys.length) (hz : bIdx r ys ≠ 0)
    (prev x : Rat) (hp : ys[bIdx r ys - 1]? = some prev) (hx : ys[bIdx r ys]? = some x) :
    (linearCore r ys).trim = u16 (code (trimFrac r prev x)) := by
  rw [linearCore_eq, if_neg (by omega)]
  simp only [hz, ne_eq, not_false_eq_true, ↓reduceIte, List.getD_eq_getElem?_getD, hp, hx, Option.getD_some]

/-- the last drawn point is invisible exactly in the "trim" case of the counting loop -/
theorem core_trim_case (r : Range) (ys : List Rat) (hu : 0 < (linearCore r ys).usr)
    (hn : ¬ insideAt r ys ((linearCore r ys).usr - 1)) :
    bIdx r ys < ys.length ∧ bIdx r ys ≠ 0 ∧ (linearCore r ys).usr = bIdx r ys + 1 := by
  obtain ⟨hb, _, _, _, hprev⟩ := bIdx_spec r ys
  rw [linearCore_eq] at hu hn ⊢
  by_cases hd : bIdx r ys = ys.length
  · rw [if_pos hd] at hu hn
    exact absurd (hprev hu) hn
  · rw [if_neg hd] at hu ⊢
    by_cases hz : bIdx r ys = 0
    · simp only [hz, ne_eq, not_true_eq_false, if_false] at hu; cases hu
    · exact ⟨by omega, hz, if_pos hz⟩

/-- what `_cut` / `_trim` hold for the segment from the invisible value `a` to the visible value `b`: the non-zero
    code of the exact crossing fraction `t`, `a + t·(b − a) = bound`, `0 < t ≤ 1` -/
structure Stored (r : Range) (a b : Rat) (v : Nat) : Prop where
  visible : r.has b = true
  pos : 0 < v
  code_eq : v = (code (crossing a b (nearBound r a))).toNat
  frac_pos : 0 < crossing a b (nearBound r a)
  frac_le : crossing a b (nearBound r a) ≤ 1
  meets : a + crossing a b (nearBound r a) * (b - a) = nearBound r a

/-- `v` enters by an equation so that `core_cut` / `core_trim` can be handed in as they stand -/
theorem stored_crossing (r : Range) (a b : Rat) (ha : out r a = true) (hb : r.has b = true) (v : Nat)
    (hv : v = u16 (code (cutFrac r a b))) : Stored r a b v := by
  obtain ⟨c1, c2, c3, c4⟩ := cutFrac_crossing r a b ha hb
  rw [c1, u16_code _ (Rat.le_of_lt c2) c3] at hv
  have hp := code_pos _ c2 c3
  exact ⟨hb, by omega, hv, c2, c3, c4⟩

theorem Stored.decoded {r : Range} {a b : Rat} {v : Nat} (h : Stored r a b v) :
    real (v : Int) - crossing a b (nearBound r a) ≤ 1 / 65536 ∧
    crossing a b (nearBound r a) - real (v : Int) ≤ 1 / 65536 ∧ 0 < v := by
  obtain ⟨_, c2, c3, c4, c5, _⟩ := h
  have acc := code_accuracy _ (Rat.le_of_lt c4) c5
  rw [c3, Int.toNat_of_nonneg (code_bounds _ (Rat.le_of_lt c4) c5).1]
  exact ⟨acc.1, acc.2, c3 ▸ c2⟩

/-- the record `p` at point `c` of the data `xs` holds, at a drawn end outside the range, the code of the crossing with the
    visible neighbour: in `cut` for the first, in `trim` for the last drawn point -/
structure StoredAt (r : Range) (xs : List Rat) (c : Nat) (p : Part) : Prop where
  cut : 0 < p.usr → ¬ insideAt r xs c → ∃ x0 x1, xs[c]? = some x0 ∧ xs[c + 1]? = some x1 ∧ Stored r x0 x1 p.cut
  trim : 0 < p.usr → ¬ insideAt r xs (c + p.usr - 1) →
    ∃ prev x, xs[c + p.usr - 2]? = some prev ∧ xs[c + p.usr - 1]? = some x ∧ Stored r x prev p.trim

theorem core_stored (r : Range) {xs ys : List Rat} {c : Nat} (hw : ∀ k, k < ys.length → ys[k]? = xs[c + k]?)
    (hne : 0 < ys.length) : StoredAt r xs c (linearCore r ys) := by
  have ok := linearCore_ok r ys hne
  constructor
  · intro hu ho
    have hc := ok.first hu fun hi => ho ((insideAt_window hw hne).1 hi)
    obtain ⟨x0, x1, e0, e1, hout, hhas⟩ := headCut_spec r ys hc
    exact ⟨x0, x1, hw 0 hne ▸ e0, hw 1 (List.getElem?_eq_some_iff.1 e1).1 ▸ e1,
      stored_crossing r x0 x1 hout hhas _ (core_cut r ys hc x0 x1 e0 e1)⟩
  · intro hu ho
    have hule := ok.usr_le
    obtain ⟨hlt, hz, hus⟩ := core_trim_case r ys hu fun hi => ho (by
      rw [Nat.add_sub_assoc hu]; exact (insideAt_window hw (by omega)).1 hi)
    obtain ⟨_, _, hstop, _, hprev⟩ := bIdx_spec r ys
    obtain ⟨prev, ep, hph⟩ := hprev (by omega)
    obtain ⟨x, ex, hxo⟩ := hstop hlt
    rw [hus]
    -- the trim fraction is the cut fraction of the segment read backwards
    refine ⟨prev, x, ?_, ?_, stored_crossing r x prev hxo hph _ (trimFrac_eq r prev x ▸ core_trim r ys hlt hz prev x ep ex)⟩
    · rw [← ep, hw _ (by omega)]; congr 1; omega
    · rw [← ex, hw _ hlt]; congr 1

theorem call_stored (xs : List Rat) (r : Range) (c : Nat) (hc : c < xs.length) :
    StoredAt r xs c (linepartLinear (xs.drop c) (some r)) :=
  core_stored r (window_drop_take xs c u16max)
    (by rw [List.length_take, List.length_drop]; exact Nat.lt_min.2 ⟨by decide, by omega⟩)

end Mpt.Linepart
