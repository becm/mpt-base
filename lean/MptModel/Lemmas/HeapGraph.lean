/-
  What the reference-count operations do to a heap whose buffers may have any element type: `unref` (the last
  reference runs the finalisers and frees the buffer), `replaceBuf` (a handle is re-pointed, its old buffer loses the
  reference) and the way back of `detachCopy` when the copy into the new buffer is refused.  The buffer table is
  described through `dropRef` (Lemmas/Heap.lean), the log through `Buf.toks`, which is empty for traits without finaliser.
-/
import MptModel.Lemmas.HeapElem
namespace Mpt.Heap
open Mpt

theorem toks_plain {x : Buf} (hp : PlainT x.traits) : x.toks = [] := by
  unfold Buf.toks
  cases ht : x.traits with
  | none => rfl
  | some t => simp only [(hp t ht).2.1, Option.isSome_none, Bool.false_eq_true, false_and, if_false]

theorem toks_empty {x : Buf} (hu : x.used = 0) : x.toks = [] := by
  unfold Buf.toks
  rw [hu]
  cases x.traits with
  | none => rfl
  | some t => simp only [Nat.zero_div, toksAt, ite_self]

theorem unref_spec {s : State} {b : Nat} {x : Buf} (hb : s.buf? b = some x) (hr : 1 ≤ x.ref) (hu : x.used ≤ x.size) :
    ∃ s', unref s b = .ok s' () ∧ OnlyBuf s s' b ∧ s'.buf? b = dropRef s b ∧
      s'.log = s.log ++ if x.ref = 1 then x.toks.map Ev.fini else [] := by
  have blt := State.buf?_lt hb
  unfold unref
  rw [hb]
  simp only
  rw [if_neg (by omega)]
  by_cases r1 : x.ref = 1
  · rw [if_neg (by simp [r1]), if_pos r1]
    generalize hs0 : s.setBuf b { x with ref := 0 } = s0
    have hb0 : s0.buf? b = some { x with ref := 0 } := by rw [← hs0, State.buf?_setBuf_self _ _ _ blt]
    have o0 : OnlyBuf s s0 b := by rw [← hs0]; exact (OnlyBuf.refl s b).setBuf _ blt
    have l0 : s0.log = s.log := by rw [← hs0]; rfl
    have done : ∀ s1, OnlyBuf s0 s1 b → s1.log = s0.log ++ x.toks.map Ev.fini →
        ∃ s', (Out.ok (s1.freeBuf b) () : Out Unit) = .ok s' () ∧ OnlyBuf s s' b ∧ s'.buf? b = dropRef s b ∧
          s'.log = s.log ++ x.toks.map Ev.fini := by
      intro s1 o1 l1
      have o := o0.trans o1
      have blt1 : b < s1.bufs.length := by rw [o.len]; exact blt
      refine ⟨s1.freeBuf b, rfl, ⟨o.hs, o.wins, o.next, o.oracle, (State.freeBuf_length s1 b).trans o.len,
        fun c ne => by rw [State.buf?_freeBuf _ _ _ blt1, if_neg ne]; exact o.other c ne⟩, ?_, by show s1.log = _; rw [l1, l0]⟩
      rw [State.buf?_freeBuf _ _ _ blt1, if_pos rfl, dropRef, hb]; simp only [r1, if_true]
    -- the finalisers, if the element type has one
    cases ht : x.traits with
    | none => exact done s0 (OnlyBuf.refl s0 b) (by simp [Buf.toks, ht])
    | some t =>
      simp only
      by_cases c : t.size ≠ 0 ∧ t.fini.isSome
      · rw [if_pos c]
        have fit : 0 + (x.used - x.used % t.size) / t.size * t.size ≤ ({ x with ref := 0 } : Buf).size := by
          have := Nat.div_mul_le_self (x.used - x.used % t.size) t.size
          simp only [Buf.size] at hu ⊢; omega
        obtain ⟨s1, d', hd, o1, l1, _⟩ := finiLoop_spec _ s0 b 0 t.size _ hb0 fit
        rw [hd]
        exact done s1 o1 (by rw [l1, ← Nat.div_eq_sub_mod_div]; simp only [Buf.toks, ht, c.1, c.2, ne_eq, not_false_eq_true, and_self, if_true])
      · rw [if_neg c]
        exact done s0 (OnlyBuf.refl s0 b) (by
          have : ¬ (t.fini.isSome = true ∧ t.size ≠ 0) := fun c' => c ⟨c'.2, c'.1⟩
          simp only [Buf.toks, ht, this, if_false, List.map_nil, List.append_nil])
  · rw [if_pos r1, if_neg r1]
    refine ⟨_, rfl, (OnlyBuf.refl s b).setBuf _ blt, ?_, (List.append_nil _).symm⟩
    rw [State.buf?_setBuf_self _ _ _ blt, dropRef, hb]; simp only [r1, if_false]

/-- `arr->_buf = new; old->unref()` with `old` a live buffer -/
theorem replaceBuf_some {s1 : State} (dst : Nat) (new : Option Nat) {b : Nat} {x : Buf} (hb : s1.buf? b = some x)
    (hr : 1 ≤ x.ref) (hu : x.used ≤ x.size) :
    ∃ s', replaceBuf s1 dst new (some b) = .ok s' (if new.isSome then 3 else 2) ∧ s'.hs = s1.hs.set dst new ∧ s'.wins = s1.wins ∧
      s'.next = s1.next ∧ s'.oracle = s1.oracle ∧ s'.bufs.length = s1.bufs.length ∧
      (∀ c, s'.buf? c = if c = b then dropRef s1 b else s1.buf? c) ∧
      s'.log = s1.log ++ if x.ref = 1 then x.toks.map Ev.fini else [] := by
  obtain ⟨s', hu', o, hb', hl⟩ := unref_spec (s := s1.setHandle dst new) hb hr hu
  unfold replaceBuf
  simp only [hu']
  refine ⟨s', rfl, o.hs, o.wins, o.next, o.oracle, o.len, fun c => ?_, hl⟩
  by_cases cb : c = b
  · rw [if_pos cb, cb, hb']; rfl
  · rw [if_neg cb, o.other c cb]; rfl

/-- `detachCopy` after the copy into the new buffer `s.bufs.length` has been refused without a trace: the new buffer
    (nothing constructed in it) is released again, `b` gets its reference back, nothing has changed -/
theorem detachCopy_refused {s : State} {b : Nat} {x : Buf} (hb : s.buf? b = some x) (shared : 2 ≤ x.ref) (len fl : Nat)
    {e : Fail}
    (hbs : bufferSet ((s.newBuf len fl x.traits).setBuf b { x with ref := x.ref - 1 }) s.bufs.length x.traits 0 x.content true
      = .fail ((s.newBuf len fl x.traits).setBuf b { x with ref := x.ref - 1 }) e) :
    ∃ s', detachCopy (s.newBuf len fl x.traits) b x s.bufs.length = .fail s' .null ∧
      (∀ c, s'.buf? c = s.buf? c) ∧ s'.hs = s.hs ∧ s'.wins = s.wins ∧ s'.log = s.log ∧ s'.next = s.next ∧
      s'.oracle = s.oracle := by
  have blt := State.buf?_lt hb
  have nbne : s.bufs.length ≠ b := by omega
  unfold detachCopy
  simp only
  generalize hs2 : (s.newBuf len fl x.traits).setBuf b { x with ref := x.ref - 1 } = s2 at hbs
  have h2 := fun c => hs2 ▸ State.buf?_newBuf_setBuf s len fl x.traits b c { x with ref := x.ref - 1 } blt
  have hz : s2.buf? s.bufs.length = some (State.fresh len fl x.traits) := by rw [h2, if_neg nbne, if_pos rfl]
  obtain ⟨s4, hu4, o4, hn4, lg4⟩ := unref_spec hz (Nat.le_refl 1) (Nat.zero_le _)
  rw [toks_empty rfl, List.map_nil, ite_self, List.append_nil] at lg4
  have hb4 : s4.buf? b = some { x with ref := x.ref - 1 } := by
    rw [o4.other b (fun e => nbne e.symm), h2, if_pos rfl]
  simp only [hbs, hu4, hb4]
  refine ⟨_, rfl, fun c => ?_, by rw [← hs2] at o4; exact o4.hs, by rw [← hs2] at o4; exact o4.wins,
    by rw [← hs2] at lg4; exact lg4, by rw [← hs2] at o4; exact o4.next, by rw [← hs2] at o4; exact o4.oracle⟩
  rw [State.buf?_setBuf _ _ _ _ (State.buf?_lt hb4)]
  by_cases e1 : c = b
  · rw [if_pos e1, e1, hb, show x.ref - 1 + 1 = x.ref by omega]
  · rw [if_neg e1]
    by_cases e2 : c = s.bufs.length
    · rw [e2, hn4, dropRef, hz, State.buf?_ge_length s _ (Nat.le_refl _)]; rfl
    · rw [o4.other c e2, h2, if_neg e1, if_neg e2]

end Mpt.Heap
