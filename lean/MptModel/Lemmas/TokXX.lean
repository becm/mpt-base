/-
  The C++ buffer methods (`buffer::trim`, `buffer::skip`, `content<T>::set_length`) and the typed
  array operations built from them (`unique_array::reserve/detach/resize/insert`, assignment and destruction of
  `reference<T>`) are complete steps; so are histories that mix them with the C operations (`HistX.step`).
-/
import MptModel.Lemmas.TokHist
import MptModel.Impl.HeapXX
namespace Mpt.Heap

theorem bufTrim_ok {amb : List Nat} {s : State} {b : Nat} {x : Buf} (gs : GoodS amb s) (hb : s.buf? b = some x) (len : Nat) :
    OpOK amb s (bufTrim s b len) := by
  obtain ⟨t, N, xt, mt, hu, hsz⟩ := (gs.inv.good b x hb).elems
  have h4 := mt.2.2
  have sz0 : t.size ≠ 0 := by omega
  have szp : 0 < t.size := by omega
  unfold bufTrim
  rw [hb]
  simp only
  by_cases lt : x.used < len
  · rw [if_pos lt]; exact Step.refl gs
  · rw [if_neg lt]
    simp only [xt]
    by_cases bad : t.size = 0 ∨ x.used % t.size ≠ 0 ∨ (x.used - len) % t.size ≠ 0
    · rw [if_pos bad]; exact Step.refl gs
    · rw [if_neg bad]
      simp only [not_or, Decidable.not_not] at bad
      obtain ⟨_, _, km⟩ := bad
      have hK := used_eq_mul km
      generalize hKd : (x.used - len) / t.size = K at hK
      have KN : K ≤ N := by
        have : K * t.size ≤ N * t.size := by rw [← hK, ← hu]; omega
        exact Nat.le_of_mul_le_mul_right this szp
      rw [mt.2.1, if_pos rfl, hK, hu, iters_aligned K N t.size sz0]
      -- in element counts: the `N - K` elements from `K` on are destroyed; `cut_step` with no tail to move
      obtain ⟨s1, d', h1, ob, lg, hb1, dl, out⟩ := finiLoop_slots (N - K) s b K t.size x hb h4
        (by rw [Nat.add_sub_cancel' KN, ← hu]; exact hsz)
      rw [h1]
      simp only [hb1]
      have e := cut_step (x := x) (d2 := d') gs hb xt mt hu hsz (Nat.le_of_eq (Nat.add_sub_cancel' KN)) ob lg hb1 dl out
        (by rw [Nat.add_sub_cancel' KN, Nat.sub_self, Nat.zero_mul, Mem.move_zero])
      rwa [Nat.sub_sub_self KN] at e

theorem bufSkip_ok {amb : List Nat} {s : State} {b : Nat} {x : Buf} (gs : GoodS amb s) (hb : s.buf? b = some x) (len : Nat) :
    OpOK amb s (bufSkip s b len) := by
  obtain ⟨t, N, xt, mt, hu, hsz⟩ := (gs.inv.good b x hb).elems
  have h4 := mt.2.2
  have sz0 : t.size ≠ 0 := by omega
  have szp : 0 < t.size := by omega
  unfold bufSkip
  rw [hb]
  simp only
  by_cases lt : x.used < len
  · rw [if_pos lt]; exact Step.refl gs
  · rw [if_neg lt]
    simp only [xt]
    by_cases bad : (decide (t.size = 0 ∨ len % t.size ≠ 0)) = true
    · rw [if_pos bad]; exact Step.refl gs
    · rw [if_neg bad]
      simp only [decide_eq_true_eq, not_or, Decidable.not_not] at bad
      have hl := used_eq_mul bad.2
      generalize hld : len / t.size = l at hl
      have lN : l ≤ N := by
        have : l * t.size ≤ N * t.size := by rw [← hl, ← hu]; omega
        exact Nat.le_of_mul_le_mul_right this szp
      rw [mt.2.1, if_pos rfl, show iters 0 len t.size = l from hl ▸ iters_mul l t.size sz0]
      -- in element counts: the first `l` elements are destroyed; `cut_step` moves the rest to the front
      obtain ⟨s1, d', h1, ob, lg, hb1, dl, out⟩ := finiLoop_slots l s b 0 t.size x hb h4
        (Nat.le_trans (Nat.mul_le_mul_right _ (by omega)) (hu ▸ hsz))
      rw [Nat.zero_mul] at h1
      rw [h1]
      simp only [hb1]
      rw [show x.used - len = (N - l) * t.size by rw [hu, hl, Nat.sub_mul], hl]
      exact cut_step (x := x) gs hb xt mt hu hsz (by omega) ob lg hb1 dl out (by rw [Nat.zero_mul, Nat.zero_add])

theorem contentSetLength_ok {amb : List Nat} {s : State} {b : Nat} {x : Buf} (gs : GoodS amb s) (hb : s.buf? b = some x) (n sz : Nat) :
    OpOK amb s (contentSetLength s b n sz) := by
  unfold contentSetLength
  rw [hb]
  simp only
  split
  · exact Step.refl gs
  · split
    · exact bufTrim_ok gs hb _
    · obtain ⟨t, N, xt, mt, hu, hsz⟩ := (gs.inv.good b x hb).elems
      -- `mpt_buffer_insert` of no bytes at the new end: only the gap in front of it is constructed
      rcases bufferInsert_managed hb xt mt hu (n * sz) 0 with ⟨e, he⟩ | ⟨_, _, _, he⟩ | ⟨p, l, s2, z', ep, el, fit, he, ins⟩ |
        ⟨p, m, s2, d', ep, nm, he, afit, ap⟩
      · rw [he]; exact Step.refl gs
      · rw [he]; exact Step.refl gs
      · rw [he]
        have l0 : l = 0 := by
          rcases Nat.mul_eq_zero.mp el.symm with h | h
          · exact h
          · have := mt.2.2; omega
        subst l0
        exact insert_fill_step gs hb xt mt hu ins fit (Built.refl s2 b z' t.size p [] ins.buf) (fun _ hk => by cases hk) (Or.inl ⟨rfl, rfl⟩)
      · rw [he]
        exact append_step gs hb xt mt hu ap afit (fun _ _ hk => nomatch hk)

theorem uReserve_ok {amb : List Nat} {s : State} (gs : GoodS amb s) {h : Nat} (hlt : h < s.hs.length) (k : XKind) (mt : Managed k.t) (len : Nat) :
    OpOK amb s (uReserve s h k len) := by
  unfold uReserve
  cases hh : s.handle h with
  | none => exact (attach_managed_step gs hlt hh _ _ k.t mt).1
  | some b =>
    simp only
    obtain ⟨x, hb⟩ := gs.inv.live h b hh
    obtain ⟨t, _, xt, _, _, _⟩ := (gs.inv.good b x hb).elems
    rcases ensure_step gs hh hb xt true (len * k.t.size) with ⟨s1, e, he, es⟩ | ⟨s1, nb, he, es⟩
    · rw [he]; exact es
    · rw [he]; exact es.1

theorem uDetach_ok {amb : List Nat} {s : State} (gs : GoodS amb s) {h : Nat} (hlt : h < s.hs.length) (k : XKind) (mt : Managed k.t) :
    OpOK amb s (uDetach s h k) := by
  unfold uDetach
  cases hh : s.handle h with
  | none => exact (attach_managed_step gs hlt hh _ _ k.t mt).1
  | some b =>
    simp only
    obtain ⟨x, hb⟩ := gs.inv.live h b hh
    rw [hb]
    simp only
    obtain ⟨t, _, xt, _, _, _⟩ := (gs.inv.good b x hb).elems
    rcases ensure_step gs hh hb xt true (x.used / k.t.size * k.t.size) with ⟨s1, e, he, es⟩ | ⟨s1, nb, he, es⟩
    · rw [he]; exact es
    · rw [he]; exact es.1

theorem OpOK.andThen {amb : List Nat} {s : State} {r : Out Unit} (h : OpOK amb s r) (f : State → Out Unit)
    (hf : ∀ s1, Step amb s s1 → OpOK amb s1 (f s1)) :
    OpOK amb s (match r with
      | .ok s1 _ => f s1
      | .fail s1 e => .fail s1 e
      | .fault w => .fault w) := by
  cases r with
  | fault w => exact h
  | fail s1 e => exact h
  | ok s1 u => exact OpOK.after h (hf s1 h)

theorem uResize_ok {amb : List Nat} {s : State} (gs : GoodS amb s) {h : Nat} (hlt : h < s.hs.length) (k : XKind) (mt : Managed k.t) (len : Nat) :
    OpOK amb s (uResize s h k len) := by
  unfold uResize
  refine (uReserve_ok gs hlt k mt len).andThen (fun s1 => match s1.handle h with
    | none => .ok s1 ()
    | some b => contentSetLength s1 b len k.t.size) (fun s1 st => ?_)
  cases hh : s1.handle h with
  | none => exact Step.refl st.good
  | some b =>
    obtain ⟨x, hb⟩ := st.good.inv.live h b hh
    exact contentSetLength_ok st.good hb _ _

/-- `detach()`, then a buffer method `f` on the private buffer -/
theorem detachThen_ok {amb : List Nat} {s : State} (gs : GoodS amb s) {h : Nat} (hlt : h < s.hs.length) (k : XKind) (mt : Managed k.t)
    (f : State → Nat → Out Unit) (hf : ∀ {s1 : State} {b : Nat} {x : Buf}, GoodS amb s1 → s1.buf? b = some x → OpOK amb s1 (f s1 b)) :
    OpOK amb s (match uDetach s h k with
      | .ok s1 _ => (match s1.handle h with
        | none => .fail s1 .null
        | some b => f s1 b)
      | .fail s1 e => .fail s1 e
      | .fault w => .fault w) := by
  refine (uDetach_ok gs hlt k mt).andThen (fun s1 => match s1.handle h with
    | none => .fail s1 .null
    | some b => f s1 b) (fun s1 st => ?_)
  cases hh : s1.handle h with
  | none => exact Step.refl st.good
  | some b =>
    obtain ⟨x, hb⟩ := st.good.inv.live h b hh
    exact hf st.good hb

theorem placeElem_eq (s : State) (h nb p : Nat) (k : XKind) (val : Option (List Byte)) (mt : Managed k.t) :
    placeElem s h nb p k val none = ctorLoop 1 s nb p k.t.size := by
  unfold placeElem
  rw [if_pos ⟨mt.1, mt.2.1⟩]
  simp only [ctorLoop]
  cases initAt { s with oracle := [] } nb p k.t.size none <;> rfl

theorem uReserve_typed {amb : List Nat} {s : State} (gs : GoodS amb s) {h : Nat} (hlt : h < s.hs.length) (k : XKind) (mt : Managed k.t)
    (hk : ∀ b x, s.handle h = some b → s.buf? b = some x → x.traits = some k.t) (len : Nat) :
    match uReserve s h k len with
    | .fault _ => False
    | .fail s1 _ => Step amb s s1
    | .ok s1 _ => Step amb s s1 ∧ ∃ nb z, s1.handle h = some nb ∧ s1.buf? nb = some z ∧ z.traits = some k.t := by
  unfold uReserve
  cases hh : s.handle h with
  | none =>
    simp only
    obtain ⟨st, hz⟩ := attach_managed_step gs hlt hh (len * k.t.size - len * k.t.size % k.t.size) (if k.unique then 2 else 0) k.t mt
    refine ⟨st, s.bufs.length, _, ?_, hz, rfl⟩
    simp only [xCreate]
    exact State.handle_setHandle _ h h _ (by simpa using hlt) |>.trans (by simp)
  | some b =>
    simp only
    obtain ⟨x, hb⟩ := gs.inv.live h b hh
    have xt := hk b x hh hb
    rcases ensure_step gs hh hb xt true (len * k.t.size) with ⟨s1, e, he, es⟩ | ⟨s1, nb, he, es⟩
    · rw [he]; exact es
    · rw [he]
      obtain ⟨st, hh1, z, hz, zt, _⟩ := es
      exact ⟨st, nb, z, hh1, hz, zt⟩

/-- placement copy construction by the caller (never refused): one element built from the source token `src` -/
theorem placeCopy_built {s : State} {nb : Nat} {x : Buf} (h p : Nat) (k : XKind) (val : Option (List Byte)) (src : Nat)
    (mt : Managed k.t) (hb : s.buf? nb = some x) (fit : (p + 1) * k.t.size ≤ x.size) :
    ∃ s1 d', placeElem s h nb (p * k.t.size) k val (some src) = .ok s1 () ∧ Built s s1 nb x k.t.size p 1 [src] d' x.used := by
  unfold placeElem
  rw [if_pos ⟨mt.1, mt.2.1⟩]
  -- the constructor runs under the empty schedule, which is put back afterwards
  rcases initAt_cases (s := { s with oracle := [] }) (some src) hb (Nat.succ_mul p k.t.size ▸ fit) with
    ⟨s1, _, _, _, _, _, o1⟩ | ⟨s1, he, fr, hb1, n1, l1, _⟩
  · cases o1
  · rw [he]
    simp only
    exact ⟨_, _, rfl, Built.cons (s := s) (sA := { s1 with oracle := s.oracle }) mt.2.2 fit fr.schedule n1 l1
      (Creates.copy (List.mem_singleton.mpr rfl)) (Built.refl _ nb _ k.t.size (p + 1) [src] hb1)⟩

/-- `unique_array::insert(pos)` / `typed_array::insert(pos, val)`: reserve, `mpt_buffer_insert` of one element,
    placement construction — default, or a copy of an element the caller holds (`copySrc`, an ambient live token) -/
theorem uInsert_ok {amb : List Nat} {s : State} (gs : GoodS amb s) {h : Nat} (hlt : h < s.hs.length) (k : XKind) (mt : Managed k.t)
    (hk : ∀ b x, s.handle h = some b → s.buf? b = some x → x.traits = some k.t)
    (pos : Int) (val : Option (List Byte)) (copySrc : Option Nat) (hsrc : ∀ c, copySrc = some c → c ∈ amb) :
    OpOK amb s (uInsert s h k pos val copySrc) := by
  have h4 := mt.2.2
  have szp : 0 < k.t.size := by omega
  unfold uInsert
  cases insertPos (xLength s h k) pos with
  | none => exact Step.refl gs
  | some pn =>
    obtain ⟨p, need⟩ := pn
    simp only
    have ur := uReserve_typed gs hlt k mt hk need
    generalize uReserve s h k need = r at ur
    cases r with
    | fault w => exact ur
    | fail s1 e => exact ur
    | ok s1 u =>
      obtain ⟨st, nb, z, hh1, hz, zt⟩ := ur
      simp only [hh1]
      obtain ⟨t', n, zt', _, hu, hsz⟩ := (st.good.inv.good nb z hz).elems
      have te : t' = k.t := by rw [zt] at zt'; cases zt'; rfl
      subst te
      rcases bufferInsert_managed hz zt mt hu (p * k.t.size) k.t.size with ⟨e, he⟩ | ⟨_, e0, _⟩ | ⟨p', l, s2, z', ep, el, fit, he, ins⟩ |
        ⟨p', m, s2, d', ep, nm, he, afit, ap⟩
      · rw [he]; exact st
      · omega
      · rw [he]
        simp only
        have e1 : p' = p := (Nat.eq_of_mul_eq_mul_right szp ep).symm
        have e2 : l = 1 := by
          have : 1 * k.t.size = l * k.t.size := by rw [Nat.one_mul]; exact el
          exact (Nat.eq_of_mul_eq_mul_right szp this).symm
        subst e1; subst e2
        have fit' : (p' + 1) * k.t.size ≤ z'.size := by
          have : (p' + 1) * k.t.size ≤ (max n p' + 1) * k.t.size := Nat.mul_le_mul_right _ (by omega)
          simp only [Buf.size, ins.len]; simp only [Buf.size] at fit; omega
        cases copySrc with
        | none =>
          rw [placeElem_eq _ _ _ _ _ _ mt]
          obtain ⟨s3, d', ec, bt, _⟩ := ctorLoop_spec 1 s2 nb p' k.t.size z' ins.buf h4 fit'
          rw [ec]
          exact st.trans (insert_fill_step st.good hz zt mt hu ins fit bt (fun _ hk => by cases hk) (Or.inl ⟨rfl, rfl⟩))
        | some src =>
          obtain ⟨s3, d', ec, bt⟩ := placeCopy_built h p' k val src mt ins.buf fit'
          rw [ec]
          exact st.trans (insert_fill_step st.good hz zt mt hu ins fit bt
            (fun c hc => by simp only [List.mem_singleton] at hc; rw [hc]; exact hsrc src rfl) (Or.inl ⟨rfl, rfl⟩))
      · rw [he]
        exact st.trans (append_step st.good hz zt mt hu ap afit (fun _ _ hk => nomatch hk))

theorem uInsertE_ok {s : State} (gs : GoodS [] s) {h : Nat} (hlt : h < s.hs.length) (k : XKind) (mt : Managed k.t)
    (hk : ∀ b x, s.handle h = some b → s.buf? b = some x → x.traits = some k.t) (pos : Int) :
    OpOK [] s (uInsertE s h k pos) := by
  unfold uInsertE
  have gI := goodS_sourcesInit gs 1
  have inner := uInsert_ok gI (h := h) hlt k mt hk pos none (some s.next)
    (by intro c e; cases e; simp [seqFrom])
  generalize uInsert (sourcesInit s 1) h k pos none (some s.next) = r at inner
  cases r with
  | fault w => exact inner
  | fail s' e => exact step_sources_wrap gs 1 s' inner
  | ok s' v => exact step_sources_wrap gs 1 s' inner

theorem OpOK.unit {α : Type} {amb : List Nat} {s : State} {r : Out α} (h : OpOK amb s r) : OpOK amb s r.unit := by
  cases r <;> exact h

theorem refAssign_ok {amb : List Nat} {s : State} (gs : GoodS amb s) {dst : Nat} (hlt : dst < s.hs.length) (src : Nat) :
    OpOK amb s (refAssign s dst src) := by
  unfold refAssign
  split
  · exact Step.refl gs
  · rename_i diff
    cases hs : s.handle src with
    | none =>
      simp only
      exact (replaceBuf_none_ok gs hlt (fun e => diff (hs.trans e.symm))).unit
    | some a =>
      simp only
      obtain ⟨s1, k, he, ok⟩ := addref_replace_ok gs hlt hs diff
      rw [he]; exact ok.unit


/-- operations of `typed_array<T>` / `unique_array<T>` (element kind `k`) as the harness performs them -/
inductive XEOp where
  | resize (h n : Nat)
  | trim (h n : Nat)                                      -- detach() + buffer::trim
  | skip (h n : Nat)                                      -- detach() + buffer::skip
  | insert (h : Nat) (pos : Int) (val : Option (List Byte))   -- insert(pos): default / placement construction
  | insertCopy (h : Nat) (pos : Int)                      -- `T val; insert(pos, val)`
  | reserve (h n : Nat)
  | detach (h : Nat)
  | assign (dst src : Nat)                                -- operator= / copy construction
  | drop (h : Nat)

def XEOp.handle : XEOp → Nat
  | .resize h _ | .trim h _ | .skip h _ | .insert h _ _ | .insertCopy h _ | .reserve h _ | .detach h | .assign h _ | .drop h => h

def execXE (s : State) (k : XKind) : XEOp → Out Unit
  | .resize h n => uResize s h k n
  | .trim h n => xTrim s h k n
  | .skip h n => xSkip s h k n
  | .insert h pos val => uInsert s h k pos val none
  | .insertCopy h pos => uInsertE s h k pos
  | .reserve h n => uReserve s h k n
  | .detach h => uDetach s h k
  | .assign d src => refAssign s d src
  | .drop h => refDrop s h

def XEOp.pre (s : State) (k : XKind) (op : XEOp) : Prop :=
  op.handle < s.hs.length ∧ Managed k.t ∧ ∀ b x, s.handle op.handle = some b → s.buf? b = some x → x.traits = some k.t

theorem execXE_ok {s : State} (gs : GoodS [] s) (k : XKind) (op : XEOp) (pre : op.pre s k) : OpOK [] s (execXE s k op) := by
  obtain ⟨hlt, mt, hk⟩ := pre
  cases op with
  | resize h n => exact uResize_ok gs hlt k mt n
  | trim h n => exact detachThen_ok gs hlt k mt _ fun g hb => bufTrim_ok g hb _
  | skip h n => exact detachThen_ok gs hlt k mt _ fun g hb => bufSkip_ok g hb _
  | insert h pos val => exact uInsert_ok gs hlt k mt hk pos val none (by intro c e; cases e)
  | insertCopy h pos => exact uInsertE_ok gs hlt k mt hk pos
  | reserve h n => exact uReserve_ok gs hlt k mt n
  | detach h => exact uDetach_ok gs hlt k mt
  | assign d src => exact refAssign_ok gs hlt src
  | drop h => exact (clone_ok gs hlt none).unit

inductive HistX : State → List (EOp ⊕ (XKind × XEOp)) → State → Prop where
  | nil (s : State) : HistX s [] s
  | c {s s1 s2 : State} {op : EOp} {ops} : op.pre s → (execE s op = .ok s1 () ∨ ∃ e, execE s op = .fail s1 e) → HistX s1 ops s2 →
      HistX s (.inl op :: ops) s2
  | x {s s1 s2 : State} {k : XKind} {op : XEOp} {ops} : op.pre s k → (execXE s k op = .ok s1 () ∨ ∃ e, execXE s k op = .fail s1 e) →
      HistX s1 ops s2 → HistX s (.inr (k, op) :: ops) s2

theorem HistX.step {s s' : State} {ops} (hi : HistX s ops s') (gs : GoodS [] s) : Step [] s s' := by
  induction hi with
  | nil s => exact Step.refl gs
  | c pre he _ ih =>
    have := execE_ok gs _ pre
    rcases he with he | ⟨e, he⟩ <;> (rw [he] at this; exact Step.trans this (ih this.good))
  | x pre he _ ih =>
    have := execXE_ok gs _ _ pre
    rcases he with he | ⟨e, he⟩ <;> (rw [he] at this; exact Step.trans this (ih this.good))

end Mpt.Heap
