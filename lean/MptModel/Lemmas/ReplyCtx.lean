/-
  C12, reply context: the invariant behind `at_most_once` and `every_request_accounted`.
  A *slot* is a place where an unanswered request can stand: the context itself (`none`) or deferred
  handle `k` (`some k`).  The outcomes of `contextSend` (`csend_none`, `csend_some`, `csend_shape`); at most one accepted call
  per tag in an ordered log (`count_le_one`).
-/
import MptModel.Lemmas.ListFacts
import MptModel.Lemmas.ReplyId
namespace Mpt.Reply
open Mpt.ReplySpec (mark)

abbrev Slot := Option Nat

def Ctx.slot (c : Ctx) : Slot → Option Req
  | none => c.cur
  | some k => c.handles.getD k none

/-- what every reachable context satisfies: tags of standing requests and of logged calls are below `nextTag` (`lt`,
    `logLt`), which is the number of arms so far (`armsLen`); tags are different in different slots (`inj`) and never those
    of an accepted call (`okDead`); requests and logged calls carry the id bytes of their `arm` (`ids`, `logId`); after an
    accepted call no further call for the same tag (`ordered`) -/
structure Inv (c : Ctx) : Prop where
  lt : ∀ s r, c.slot s = some r → r.tag < c.nextTag
  inj : ∀ s1 s2 r1 r2, c.slot s1 = some r1 → c.slot s2 = some r2 → r1.tag = r2.tag → s1 = s2
  okDead : ∀ e ∈ c.log, e.ok = true → ∀ s r, c.slot s = some r → r.tag ≠ e.tag
  ids : ∀ s r, c.slot s = some r → mark r.val = mark (c.arms.getD r.tag [])
  logLt : ∀ e ∈ c.log, e.tag < c.nextTag
  logId : ∀ e ∈ c.log, e.id = mark (c.arms.getD e.tag [])
  ordered : c.log.Pairwise (fun a b => a.tag = b.tag → a.ok = false)
  armsLen : c.arms.length = c.nextTag
  /-- every non-empty armed request still stands in a slot, or the transport was called for it, or it was
      discarded while the transport was detached -/
  covered : c.ptr = true → ∀ t, t < c.nextTag → c.arms.getD t [] ≠ [] →
    (∃ s r, c.slot s = some r ∧ r.tag = t) ∨ (∃ e ∈ c.log, e.tag = t) ∨ t ∈ c.lost
  /-- requests are discarded only after the transport has been detached -/
  lostDet : c.lost ≠ [] → c.send = false

theorem inv_create (len : Nat) (ptr : Bool) (c : Ctx) (h : create len ptr = some c) : Inv c := by
  unfold create at h
  split at h
  · simp at h
  · simp at h
    have hc : c.cur = none ∧ c.handles = [] ∧ c.log = [] ∧ c.nextTag = 0 ∧ c.arms = [] ∧ c.lost = [] := by subst h; simp
    obtain ⟨h1, h2, h3, h4, h5, h6⟩ := hc
    have hs : ∀ s r, ¬ (c.slot s = some r) := by
      intro s r h
      cases s <;> simp [Ctx.slot, h1, h2] at h
    refine ⟨?lt, ?inj, ?okDead, ?ids, ?logLt, ?logId, ?ordered, ?armsLen, ?covered, ?lostDet⟩
    case lt =>
      intro s r h; exact absurd h (hs s r)
    case inj =>
      intro s1 _ r1 _ h; exact absurd h (hs s1 r1)
    case okDead =>
      intro e he; simp [h3] at he
    case ids =>
      intro s r h; exact absurd h (hs s r)
    case logLt =>
      intro e he; simp [h3] at he
    case logId =>
      intro e he; simp [h3] at he
    case ordered =>
      simp [h3]
    case armsLen =>
      simp [h4, h5]
    case covered =>
      intro _ t ht; rw [h4] at ht; omega
    case lostDet =>
      intro hl; exact absurd h6 hl

/-- an attempt to answer the request `r` standing in slot `s0`: at most one call is logged, it carries
    `r`'s tag and marked id, an accepted call empties the slot, otherwise the slot is emptied or keeps
    a request with the same tag and the same marked id; besides, the request may be entered in `lost` (only with the
    transport detached) and the transport may be detached; nothing else changes -/
theorem inv_answer (c c' : Ctx) (s0 : Slot) (r : Req) (hinv : Inv c) (h0 : c.slot s0 = some r)
    (hother : ∀ s, s ≠ s0 → c'.slot s = c.slot s)
    (hnext : c'.nextTag = c.nextTag) (harms : c'.arms = c.arms)
    (hlog : c'.log = c.log ∨ ∃ msg ok, c'.log = c.log ++ [⟨r.tag, mark r.val, msg, ok⟩] ∧ (ok = true → c'.slot s0 = none))
    (hslot : c'.slot s0 = none ∨ ∃ r', c'.slot s0 = some r' ∧ r'.tag = r.tag ∧ mark r'.val = mark r.val)
    (hlost : c'.lost = c.lost ∨ (c'.lost = c.lost ++ [r.tag] ∧ c.send = false))
    (hsend : c'.send = c.send ∨ c'.send = false) (hptr : c'.ptr = c.ptr)
    (hdone : c.ptr = true → c'.slot s0 = none → (∃ e ∈ c'.log, e.tag = r.tag) ∨ r.tag ∈ c'.lost) :
    Inv c' := by
  -- every request of c' sits in the same slot of c with the same tag and marked id
  have hback : ∀ s r2, c'.slot s = some r2 → ∃ r1, c.slot s = some r1 ∧ r1.tag = r2.tag ∧ mark r1.val = mark r2.val := by
    intro s r2 h
    by_cases hs : s = s0
    · subst hs
      rcases hslot with hn | ⟨r', h1, h2, h3⟩
      · rw [hn] at h; cases h
      · rw [h1] at h; cases h; exact ⟨r, h0, h2.symm, h3.symm⟩
    · rw [hother s hs] at h; exact ⟨r2, h, rfl, rfl⟩
  have hmem : ∀ e ∈ c'.log, e ∈ c.log ∨ ∃ msg ok, e = ⟨r.tag, mark r.val, msg, ok⟩ ∧ (ok = true → c'.slot s0 = none) := by
    intro e he
    rcases hlog with h | ⟨msg, ok, h, hk⟩
    · rw [h] at he; exact Or.inl he
    · rw [h] at he
      rcases List.mem_append.mp he with h1 | h1
      · exact Or.inl h1
      · simp at h1; exact Or.inr ⟨msg, ok, h1, hk⟩
  refine ⟨?lt, ?inj, ?okDead, ?ids, ?logLt, ?logId, ?ordered, ?armsLen, ?covered, ?lostDet⟩
  case lt =>
    intro s r2 h
    obtain ⟨r1, h1, ht, _⟩ := hback s r2 h
    rw [hnext, ← ht]; exact hinv.lt s r1 h1
  case inj =>
    intro s1 s2 r1 r2 h1 h2 ht
    obtain ⟨q1, g1, t1, _⟩ := hback s1 r1 h1
    obtain ⟨q2, g2, t2, _⟩ := hback s2 r2 h2
    exact hinv.inj s1 s2 q1 q2 g1 g2 (by omega)
  case okDead =>
    intro e he hok s r2 h
    obtain ⟨r1, h1, ht, _⟩ := hback s r2 h
    rcases hmem e he with hold | ⟨msg, ok, he', hk⟩
    · rw [← ht]; exact hinv.okDead e hold hok s r1 h1
    · subst he'
      simp only at hok ⊢
      have hn := hk hok
      by_cases hs : s = s0
      · subst hs; rw [hn] at h; cases h
      · intro heq
        exact hs (hinv.inj s s0 r1 r h1 h0 (by omega))
  case ids =>
    intro s r2 h
    obtain ⟨r1, h1, ht, hm⟩ := hback s r2 h
    rw [harms, ← hm, ← ht]; exact hinv.ids s r1 h1
  case logLt =>
    intro e he
    rw [hnext]
    rcases hmem e he with hold | ⟨msg, ok, he', _⟩
    · exact hinv.logLt e hold
    · subst he'; exact hinv.lt s0 r h0
  case logId =>
    intro e he
    rw [harms]
    rcases hmem e he with hold | ⟨msg, ok, he', _⟩
    · exact hinv.logId e hold
    · subst he'; exact hinv.ids s0 r h0
  case ordered =>
    rcases hlog with h | ⟨msg, ok, h, _⟩
    · rw [h]; exact hinv.ordered
    · rw [h, List.pairwise_append]
      refine ⟨hinv.ordered, List.pairwise_singleton _ _, ?_⟩
      intro a ha b hb
      simp at hb; subst hb
      intro htag
      cases hok : a.ok with
      | false => rfl
      | true => exact absurd htag.symm (hinv.okDead a ha hok s0 r h0)
  case armsLen =>
    rw [harms, hnext]; exact hinv.armsLen
  case covered =>
    intro hp t ht hne
    rw [hptr] at hp
    rw [hnext] at ht; rw [harms] at hne
    have hlmono : ∀ x, x ∈ c.lost → x ∈ c'.lost := by
      intro x hx
      rcases hlost with h | ⟨h, _⟩ <;> rw [h]
      · exact hx
      · exact List.mem_append_left _ hx
    have hlogmono : ∀ e, e ∈ c.log → e ∈ c'.log := by
      intro e he
      rcases hlog with h | ⟨_, _, h, _⟩ <;> rw [h]
      · exact he
      · exact List.mem_append_left _ he
    rcases hinv.covered hp t ht hne with ⟨s, r1, h1, h2⟩ | ⟨e, he, h2⟩ | hl
    · by_cases hs : s = s0
      · subst hs
        rw [h0] at h1; cases h1
        rcases hslot with hn | ⟨r', g1, g2, _⟩
        · rcases hdone hp hn with ⟨e, he, h3⟩ | h3
          · exact Or.inr (Or.inl ⟨e, he, by omega⟩)
          · exact Or.inr (Or.inr (h2 ▸ h3))
        · exact Or.inl ⟨s, r', g1, by omega⟩
      · exact Or.inl ⟨s, r1, by rw [hother s hs]; exact h1, h2⟩
    · exact Or.inr (Or.inl ⟨e, hlogmono e he, h2⟩)
    · exact Or.inr (Or.inr (hlmono t hl))
  case lostDet =>
    intro hl
    rcases hlost with h | ⟨_, hs⟩
    · rw [h] at hl
      rcases hsend with g | g
      · rw [g]; exact hinv.lostDet hl
      · exact g
    · rcases hsend with g | g
      · rw [g]; exact hs
      · exact g

theorem csend_none (send ptr : Bool) (msg : Option (List Byte)) (ans : Int) :
    contextSend send ptr none msg ans = ⟨Err.BadArgument.code, none, none, none⟩ := rfl

theorem csend_some (send ptr : Bool) (r : Req) (msg : Option (List Byte)) (ans : Int) :
    let s := contextSend send ptr (some r) msg ans
    (send = false ∧ s.call = none ∧ s.rd = none ∧ s.dropped = some r.tag) ∨
    (send = true ∧ ptr = false ∧ s.call = none ∧ s.rd = some r ∧ s.dropped = none) ∨
    (send = true ∧ ptr = true ∧ 0 ≤ ans ∧ s.call = some ⟨r.tag, mark r.val, msg, true⟩ ∧ s.rd = none ∧ s.ret = ans ∧ s.dropped = none) ∨
    (send = true ∧ ptr = true ∧ ans < 0 ∧ s.call = some ⟨r.tag, mark r.val, msg, false⟩ ∧
      s.rd = some ⟨unmark (mark r.val), r.tag⟩ ∧ s.ret = ans ∧ s.dropped = none) := by
  unfold contextSend
  cases send <;> cases ptr <;> simp
  by_cases h : 0 ≤ ans
  · simp [h]
  · have : ans < 0 := by omega
    simp [h, this]

/-- hypotheses of `inv_answer` from the `contextSend` outcomes -/
theorem csend_shape (send ptr : Bool) (r : Req) (msg : Option (List Byte)) (ans : Int) (log : List Sent) (lost : List Nat) :
    let s := contextSend send ptr (some r) msg ans
    (addCall log s.call = log ∨ ∃ m ok, addCall log s.call = log ++ [⟨r.tag, mark r.val, m, ok⟩] ∧ (ok = true → s.rd = none)) ∧
    (s.rd = none ∨ ∃ r', s.rd = some r' ∧ r'.tag = r.tag ∧ mark r'.val = mark r.val) ∧
    (addLost lost s.dropped = lost ∨ (addLost lost s.dropped = lost ++ [r.tag] ∧ send = false)) ∧
    (ptr = true → (∃ e ∈ addCall log s.call, e.tag = r.tag) ∨ r.tag ∈ addLost lost s.dropped) := by
  intro s
  rcases csend_some send ptr r msg ans with ⟨h0, h1, h2, h3⟩ | ⟨_, hp, h1, h2, h3⟩ | ⟨_, _, _, h1, h2, _, h3⟩ | ⟨_, _, _, h1, h2, _, h3⟩
  · exact ⟨Or.inl (by simp [s, h1, addCall]), Or.inl h2, Or.inr ⟨by simp [s, h3, addLost], h0⟩,
      fun _ => Or.inr (by simp [s, h3, addLost])⟩
  · exact ⟨Or.inl (by simp [s, h1, addCall]), Or.inr ⟨r, h2, rfl, rfl⟩, Or.inl (by simp [s, h3, addLost]),
      fun h => by rw [hp] at h; cases h⟩
  · exact ⟨Or.inr ⟨msg, true, by simp [s, h1, addCall], fun _ => h2⟩, Or.inl h2, Or.inl (by simp [s, h3, addLost]),
      fun _ => Or.inl ⟨⟨r.tag, mark r.val, msg, true⟩, by simp [s, h1, addCall], rfl⟩⟩
  · exact ⟨Or.inr ⟨msg, false, by simp [s, h1, addCall], fun h => by cases h⟩,
      Or.inr ⟨_, h2, rfl, mark_unmark_mark r.val⟩, Or.inl (by simp [s, h3, addLost]),
      fun _ => Or.inl ⟨⟨r.tag, mark r.val, msg, false⟩, by simp [s, h1, addCall], rfl⟩⟩

/-- `inv_answer` for a context whose slot `s0`, log and lost list are what `contextSend` on the request in `s0` returns -/
theorem inv_csend (c c' : Ctx) (s0 : Slot) (r : Req) (msg : Option (List Byte)) (ans : Int) (hinv : Inv c)
    (h0 : c.slot s0 = some r) (hother : ∀ s, s ≠ s0 → c'.slot s = c.slot s)
    (hnext : c'.nextTag = c.nextTag) (harms : c'.arms = c.arms)
    (hlog : c'.log = addCall c.log (contextSend c.send c.ptr (some r) msg ans).call)
    (hslot : c'.slot s0 = (contextSend c.send c.ptr (some r) msg ans).rd)
    (hlost : c'.lost = addLost c.lost (contextSend c.send c.ptr (some r) msg ans).dropped)
    (hsend : c'.send = c.send ∨ c'.send = false) (hptr : c'.ptr = c.ptr) : Inv c' := by
  obtain ⟨hl, hs, hlo, hd⟩ := csend_shape c.send c.ptr r msg ans c.log c.lost
  refine inv_answer c c' s0 r hinv h0 hother hnext harms ?_ ?_ ?_ hsend hptr ?_
  · rw [hlog, hslot]; exact hl
  · rw [hslot]; exact hs
  · rw [hlost]; exact hlo
  · rw [hlog, hlost]; exact fun hp _ => hd hp

/-- Requests change places, the log stays: every request of `c'` stands in `c` (in slot `ρ s`) or is the one just armed on
    the context (`fresh` = its id bytes, tag `c.nextTag`), no request of `c` is dropped, nothing else changes except that
    the transport may be detached.  `inj` needs `ρ` injective on the occupied slots (`hρ`); `covered` needs that no request is
    dropped (`hfwd`) and that the fresh one stands on the context (`hfresh`). -/
theorem inv_move (c c' : Ctx) (hinv : Inv c) (ρ : Slot → Slot) (fresh : Option (List Byte))
    (hnext : c'.nextTag = c.nextTag + fresh.toList.length) (harms : c'.arms = c.arms ++ fresh.toList)
    (hlog : c'.log = c.log) (hlost : c'.lost = c.lost) (hsend : c'.send = c.send ∨ c'.send = false) (hptr : c'.ptr = c.ptr)
    (hback : ∀ s r, c'.slot s = some r → c.slot (ρ s) = some r ∨ (s = none ∧ fresh = some r.val ∧ r.tag = c.nextTag))
    (hρ : ∀ s1 s2 r1 r2, c'.slot s1 = some r1 → c'.slot s2 = some r2 → ρ s1 = ρ s2 → s1 = s2)
    (hfwd : ∀ s r, c.slot s = some r → ∃ s', c'.slot s' = some r)
    (hfresh : ∀ b, fresh = some b → b ≠ [] → c'.slot none = some ⟨b, c.nextTag⟩) : Inv c' := by
  have hlen := hinv.armsLen
  have hget : ∀ t, t < c.nextTag → c'.arms.getD t [] = c.arms.getD t [] := by
    intro t ht
    simp [harms, List.getD_eq_getElem?_getD, List.getElem?_append_left (by omega : t < c.arms.length)]
  have hnew : ∀ b, fresh = some b → c'.arms.getD c.nextTag [] = b ∧ c'.nextTag = c.nextTag + 1 := by
    intro b hb
    simp [harms, hnext, hb, List.getD_eq_getElem?_getD, ← hlen]
  refine ⟨?lt, ?inj, ?okDead, ?ids, ?logLt, ?logId, ?ordered, ?armsLen, ?covered, ?lostDet⟩
  case lt =>
    intro s r h
    rcases hback s r h with g | ⟨_, hb, ht⟩
    · have := hinv.lt _ _ g; omega
    · have := (hnew _ hb).2; omega
  case inj =>
    intro s1 s2 r1 r2 h1 h2 ht
    rcases hback s1 r1 h1 with g1 | ⟨e1, _, t1⟩ <;> rcases hback s2 r2 h2 with g2 | ⟨e2, _, t2⟩
    · exact hρ _ _ _ _ h1 h2 (hinv.inj _ _ _ _ g1 g2 ht)
    · have := hinv.lt _ _ g1; omega
    · have := hinv.lt _ _ g2; omega
    · rw [e1, e2]
  case okDead =>
    intro e he hok s r h
    rw [hlog] at he
    rcases hback s r h with g | ⟨_, _, ht⟩
    · exact hinv.okDead e he hok _ _ g
    · have := hinv.logLt e he; omega
  case ids =>
    intro s r h
    rcases hback s r h with g | ⟨_, hb, ht⟩
    · rw [hget _ (hinv.lt _ _ g)]; exact hinv.ids _ _ g
    · rw [ht, (hnew _ hb).1]
  case logLt =>
    intro e he
    rw [hlog] at he
    have := hinv.logLt e he; omega
  case logId =>
    intro e he
    rw [hlog] at he
    rw [hget _ (hinv.logLt e he)]; exact hinv.logId e he
  case ordered =>
    rw [hlog]; exact hinv.ordered
  case armsLen =>
    simp [harms, hnext, hlen]
  case covered =>
    intro hp t ht hne
    rw [hptr] at hp
    by_cases htn : t < c.nextTag
    · rw [hget t htn] at hne
      rcases hinv.covered hp t htn hne with ⟨s, r, g1, g2⟩ | ⟨e, he, g⟩ | g
      · obtain ⟨s', hs'⟩ := hfwd s r g1
        exact Or.inl ⟨s', r, hs', g2⟩
      · exact Or.inr (Or.inl ⟨e, hlog ▸ he, g⟩)
      · exact Or.inr (Or.inr (hlost ▸ g))
    · cases hf : fresh with
      | none => simp [hf] at hnext; omega
      | some b =>
        obtain ⟨hb, hn⟩ := hnew b hf
        have htn' : t = c.nextTag := by omega
        rw [htn', hb] at hne
        exact Or.inl ⟨none, _, hfresh b hf hne, htn'.symm⟩
  case lostDet =>
    intro hl
    rw [hlost] at hl
    rcases hsend with g | g
    · rw [g]; exact hinv.lostDet hl
    · exact g

theorem inv_of_same (c c' : Ctx) (hinv : Inv c) (h1 : c'.cur = c.cur) (h2 : c'.handles = c.handles) (h3 : c'.log = c.log)
    (h4 : c'.nextTag = c.nextTag) (h5 : c'.arms = c.arms) (h6 : c'.lost = c.lost)
    (h7 : c'.send = c.send ∨ c'.send = false) (h8 : c'.ptr = c.ptr) : Inv c' := by
  have hs : ∀ s, c'.slot s = c.slot s := by intro s; cases s <;> simp [Ctx.slot, h1, h2]
  exact inv_move c c' hinv id none (by simpa using h4) (by simpa using h5) h3 h6 h7 h8 (fun s r h => Or.inl (hs s ▸ h))
    (fun _ _ _ _ _ _ h => h) (fun s r h => ⟨s, hs s ▸ h⟩) nofun

theorem inv_arm (c : Ctx) (bytes : List Byte) (hinv : Inv c) : Inv (arm c bytes).2 := by
  unfold arm
  split
  · exact hinv
  · rename_i hcur
    have hnone : c.cur = none := by simpa using hcur
    split
    · exact hinv
    · refine inv_move c _ hinv id (some bytes) rfl rfl rfl rfl (Or.inl rfl) rfl ?_ (fun _ _ _ _ _ _ h => h) ?_ ?_
      · intro s r h
        cases s with
        | none =>
          simp only [Ctx.slot] at h
          split at h
          · cases h
          · cases h; exact Or.inr ⟨rfl, rfl, rfl⟩
        | some k => exact Or.inl h
      · intro s r h
        cases s with
        | none => simp [Ctx.slot, hnone] at h
        | some k => exact ⟨some k, h⟩
      · intro b hb hne
        cases hb
        have : ¬ bytes.length = 0 := fun h0 => hne (List.eq_nil_of_length_eq_zero h0)
        simp [Ctx.slot, this]

theorem inv_defer (c : Ctx) (hinv : Inv c) : Inv (defer c).2 := by
  unfold defer
  cases hc : c.cur with
  | none => exact hinv
  | some r =>
    simp only []
    split
    · exact hinv
    · -- the request moves from the context to the new handle
      have hold : ∀ k, k < c.handles.length → (c.handles ++ [some r]).getD k none = c.handles.getD k none := by
        intro k hk
        simp [List.getD_eq_getElem?_getD, List.getElem?_append_left hk]
      have hlast : (c.handles ++ [some r]).getD c.handles.length none = some r := by simp [List.getD_eq_getElem?_getD]
      refine inv_move c _ hinv (fun s => if s = some c.handles.length then none else s) none rfl (by simp) rfl rfl
        (Or.inl rfl) rfl ?_ ?_ ?_ nofun
      · intro s r2 h
        left
        cases s with
        | none => simp [Ctx.slot] at h
        | some k =>
          simp only [Ctx.slot] at h
          by_cases hk : k < c.handles.length
          · have : k ≠ c.handles.length := by omega
            rw [hold k hk] at h
            simpa [this, Ctx.slot] using h
          · rw [List.getD_eq_getElem?_getD, List.getElem?_append_right (Nat.le_of_not_lt hk)] at h
            cases hd : k - c.handles.length with
            | succ n => simp [hd] at h
            | zero =>
              have hk2 : k = c.handles.length := by omega
              simp only [hd, List.getElem?_cons_zero, Option.getD_some] at h
              simp [hk2, Ctx.slot, hc, h]
      · intro s1 s2 r1 r2 h1 h2 hρ
        -- the context itself holds no request afterwards
        have n1 : s1 ≠ none := by rintro rfl; simp [Ctx.slot] at h1
        have n2 : s2 ≠ none := by rintro rfl; simp [Ctx.slot] at h2
        by_cases e1 : s1 = some c.handles.length <;> by_cases e2 : s2 = some c.handles.length
        · rw [e1, e2]
        · rw [if_pos e1, if_neg e2] at hρ; exact absurd hρ.symm n2
        · rw [if_neg e1, if_pos e2] at hρ; exact absurd hρ n1
        · rwa [if_neg e1, if_neg e2] at hρ
      · intro s r1 g
        cases s with
        | none =>
          simp only [Ctx.slot, hc] at g; cases g
          exact ⟨some c.handles.length, hlast⟩
        | some k =>
          have hk : k < c.handles.length := getD_some_lt (by simpa [Ctx.slot] using g)
          exact ⟨some k, (hold k hk).trans g⟩

theorem inv_reply (c : Ctx) (msg : Option (List Byte)) (ans : Int) (hinv : Inv c) : Inv (reply c msg ans).2 := by
  unfold reply
  cases hc : c.cur with
  | none =>
    exact inv_of_same c _ hinv (by simp [csend_none, hc]) rfl (by simp [csend_none, addCall]) rfl rfl
      (by simp [csend_none, addLost]) (Or.inl rfl) rfl
  | some r =>
    refine inv_csend c _ none r msg ans hinv (by simp [Ctx.slot, hc]) ?_ rfl rfl rfl rfl rfl (Or.inl rfl) rfl
    intro s hs
    cases s with
    | none => exact absurd rfl hs
    | some k => rfl

theorem inv_dreply (c : Ctx) (k : Nat) (msg : Option (List Byte)) (ans : Int) (hinv : Inv c) :
    Inv (dreply c k msg ans).2 := by
  unfold dreply
  cases hk : c.handles.getD k none with
  | none => exact hinv
  | some r =>
    have hlt := getD_some_lt hk
    obtain ⟨hl, _, hlo, hd⟩ := csend_shape c.send c.ptr r msg ans c.log c.lost
    -- both outcomes change handle `k` only
    have hoth : ∀ (x : Option Req) (s : Slot), s ≠ some k → Ctx.slot { c with handles := c.handles.set k x } s = c.slot s := by
      intro x s hs'
      cases s with
      | none => rfl
      | some k' => exact getD_set_ne _ _ _ _ _ fun h => hs' (by rw [h])
    simp only []
    split
    · exact inv_csend c _ (some k) r msg ans hinv hk (hoth _) rfl rfl rfl (getD_set_self _ _ _ _ hlt) rfl (Or.inl rfl) rfl
    · refine inv_answer c _ (some k) r hinv hk (hoth _) rfl rfl ?_ ?_ hlo (Or.inl rfl) rfl ?_
      · simp only [Ctx.slot]; rw [getD_set_self _ _ _ _ hlt]
        rcases hl with hl | ⟨m, ok, hl, _⟩
        · exact Or.inl hl
        · exact Or.inr ⟨m, ok, hl, fun _ => rfl⟩
      · simp only [Ctx.slot]; rw [getD_set_self _ _ _ _ hlt]; exact Or.inl rfl
      · -- the handle is released: with a transport pointer the transport was called, or it is detached
        exact fun hp _ => hd hp

theorem inv_dropCtx (c : Ctx) (ans : Int) (hinv : Inv c) : Inv (dropCtx c ans) := by
  unfold dropCtx
  have hsend : ∀ b : Bool, (if c.refs - 1 ≠ 0 then false else b) = b ∨ (if c.refs - 1 ≠ 0 then false else b) = false := by
    intro b; split <;> simp
  by_cases hcond : c.send = true ∧ c.cur.isSome = true
  · rw [if_pos hcond]
    cases hc : c.cur with
    | none => simp [hc] at hcond
    | some r =>
      refine inv_csend c _ none r none ans hinv (by simp [Ctx.slot, hc]) ?_ rfl rfl rfl rfl rfl (hsend c.send) rfl
      intro s hs
      cases s with
      | none => exact absurd rfl hs
      | some k => rfl
  · rw [if_neg hcond]
    exact inv_of_same c _ hinv rfl rfl (by simp [addCall]) rfl rfl (by simp [addLost]) (hsend c.send) rfl

theorem inv_step (c : Ctx) (op : Op) (hinv : Inv c) : Inv (step c op) := by
  cases op with
  | arm b => exact inv_arm c b hinv
  | reply m a => exact inv_reply c m a hinv
  | defer => exact inv_defer c hinv
  | dreply k m a => exact inv_dreply c k m a hinv
  | dropCtx a => exact inv_dropCtx c a hinv

theorem inv_run (c : Ctx) (ops : List Op) (hinv : Inv c) : Inv (run c ops) := by
  induction ops generalizing c with
  | nil => exact hinv
  | cons op ops ih =>
    unfold run
    split
    · exact ih _ (inv_step c op hinv)
    · exact ih _ hinv

/-- the clause `covered` of `Inv` is conditional on `ptr`, which no operation changes -/
theorem step_ptr (c : Ctx) (op : Op) : (step c op).ptr = c.ptr := by
  cases op with
  | arm b => simp only [step, arm]; split <;> (try split) <;> rfl
  | reply m a => rfl
  | defer => simp only [step, defer]; split <;> (try split) <;> rfl
  | dreply k m a => simp only [step, dreply]; split <;> (try split) <;> rfl
  | dropCtx a => rfl

theorem run_ptr (c : Ctx) (ops : List Op) : (run c ops).ptr = c.ptr := by
  induction ops generalizing c with
  | nil => rfl
  | cons op ops ih =>
    unfold run
    split
    · rw [ih, step_ptr]
    · exact ih c

theorem count_le_one (log : List Sent) (t : Nat)
    (h : log.Pairwise (fun a b => a.tag = b.tag → a.ok = false)) :
    (log.filter (fun e => e.tag == t && e.ok)).length ≤ 1 := by
  induction log with
  | nil => simp
  | cons x l ih =>
    rw [List.pairwise_cons] at h
    by_cases hx : (x.tag == t && x.ok) = true
    · have hx' : x.tag = t ∧ x.ok = true := by simpa using hx
      have : l.filter (fun e => e.tag == t && e.ok) = [] := by
        rw [List.filter_eq_nil_iff]
        intro b hb hb2
        have hb' : b.tag = t ∧ b.ok = true := by simpa using hb2
        have := h.1 b hb (by rw [hx'.1, hb'.1])
        rw [hx'.2] at this; cases this
      simp [hx, this]
    · simp only [List.filter_cons, hx]
      exact ih h.2

end Mpt.Reply
