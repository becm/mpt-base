/-
  Complete steps.  A step maps a good state (structural invariant + token invariant) to a good
  state and its new events are a legal run of the token spec from what was stored before to what is stored
  after.  `amb` are live tokens that are not stored in any buffer (source elements held by the caller).
  What a rewrite did to the tokens of its buffer has one shape, `Rewrote`: a kept prefix, a destroyed part, fresh tokens
  in its place, a kept tail.  `Rewrote.run` is the run of the spec, `step_of_pair` the complete step: what the heap
  stores is, up to order, the rewritten tokens and a rest that is carried along (`stored_pair`), and the token invariant
  of the result is read off the run (`Run.nodup`).
-/
import MptModel.Lemmas.TokBuf
namespace Mpt.Heap

/-- ambient tokens: live tokens the caller holds outside the buffers (the source elements of a copy), distinct, below the
    counter and stored nowhere -/
def AmbOK (amb : List Nat) (s : State) : Prop := amb.Nodup ∧ ∀ t ∈ amb, t < s.next ∧ t ∉ stored s

/-- good state: structure, and (as long as the 32-bit token counter has not wrapped) tokens -/
structure GoodS (amb : List Nat) (s : State) : Prop where
  inv : InvM s
  tok : s.next ≤ tokLimit → TokP s ∧ AmbOK amb s

/-- a complete step from `s` to `s'`; the handle table keeps its length (`hsl`), so the handles of a history stay valid -/
structure Step (amb : List Nat) (s s' : State) : Prop where
  inv : InvM s'
  hsl : s'.hs.length = s.hs.length
  next : s.next ≤ s'.next
  tok : s'.next ≤ tokLimit → TokP s' ∧ AmbOK amb s' ∧
    ∃ evs, s'.log = s.log ++ evs ∧ Run (amb ++ stored s) evs (amb ++ stored s')

theorem Step.good {amb : List Nat} {s s' : State} (st : Step amb s s') : GoodS amb s' :=
  ⟨st.inv, fun h => ⟨(st.tok h).1, (st.tok h).2.1⟩⟩

theorem Step.refl {amb : List Nat} {s : State} (gs : GoodS amb s) : Step amb s s :=
  ⟨gs.inv, rfl, Nat.le_refl _, fun h => ⟨(gs.tok h).1, (gs.tok h).2, [], by simp, Run.nil _⟩⟩

theorem Step.trans {amb : List Nat} {s s1 s2 : State} (a : Step amb s s1) (b : Step amb s1 s2) : Step amb s s2 := by
  refine ⟨b.inv, by rw [b.hsl, a.hsl], Nat.le_trans a.next b.next, ?_⟩
  intro h
  obtain ⟨tp2, am2, e2, l2, r2⟩ := b.tok h
  obtain ⟨_, _, e1, l1, r1⟩ := a.tok (Nat.le_trans b.next h)
  exact ⟨tp2, am2, e1 ++ e2, by rw [l2, l1]; simp, r1.append r2⟩

/-- every outcome of an operation is a complete step: no fault, and the state it leaves (on success or failure) is reached
    by a `Step` -/
def OpOK {α : Type} (amb : List Nat) (s : State) (r : Out α) : Prop :=
  match r with
  | .fault _ => False
  | .fail s' _ => Step amb s s'
  | .ok s' _ => Step amb s s'

theorem OpOK.after {α : Type} {amb : List Nat} {s s1 : State} {r : Out α} (st : Step amb s s1) (h : OpOK amb s1 r) : OpOK amb s r := by
  cases r with
  | fault w => exact h
  | fail s2 e => exact st.trans h
  | ok s2 v => exact st.trans h

/-- the shape every rewrite of a buffer takes: of its tokens `xt = A ++ G ++ T` the part `G` is destroyed (logged in the
    order `D`), `m` fresh tokens are put behind `A` (copy sources `S`); the destructions are logged after the constructions -/
inductive Rewrote (amb : List Nat) (s s' : State) (xt xt' : List Nat) : Prop where
  | mk {A G T D : List Nat} {cre : List Ev} {m : Nat} {S : List Nat}
      (hx : xt = A ++ G ++ T) (hx' : xt' = A ++ seqFrom s.next m ++ T)
      (next : s'.next = s.next + m) (log : s'.log = s.log ++ cre ++ D.map Ev.fini) (dg : D.Perm G)
      (cr : Creates S s.next cre m) (hS : ∀ k ∈ S, k ∈ amb ∨ k ∈ stored s)

/-- the rewrite as a run of the spec, with the rest `R` of the live tokens (ambient and in other buffers) carried along -/
theorem Rewrote.run {amb : List Nat} {s s' : State} {xt xt' R : List Nat} (wr : Rewrote amb s s' xt xt')
    (fresh : ∀ t ∈ xt ++ R, t < s.next) (hS : ∀ k, k ∈ amb ∨ k ∈ stored s → k ∈ xt ++ R) :
    (∀ t ∈ xt' ++ R, t < s'.next) ∧
      ∃ evs, s'.log = s.log ++ evs ∧ Run (xt ++ R) evs (xt' ++ R) := by
  obtain ⟨rfl, rfl, next, log, dg, cr, hSs⟩ := wr
  refine ⟨fun t ht => ?_, _, by rw [log, List.append_assoc], ?_⟩
  · simp only [List.mem_append, mem_seqFrom] at ht fresh
    rcases ht with ((h | h) | h) | h
    · have := fresh t (Or.inl (Or.inl (Or.inl h))); omega
    · omega
    · have := fresh t (Or.inl (Or.inr h)); omega
    · have := fresh t (Or.inr h); omega
  · refine (cr.run _ fresh fun k hk => hS k (hSs k hk)).append (Run.fini ?_)
    refine List.perm_iff_count.mpr fun a => ?_
    have := dg.count_eq a
    simp only [List.count_append]
    omega

/-- two buffers change: `b` (kept or freed) and the buffer `nb` that did not exist before; every other buffer keeps
    its tokens.  With the structural invariant of the result given, a rewrite of the tokens of `b` into those of the
    two is a complete step. -/
theorem step_of_pair {amb : List Nat} {s s' : State} {b nb : Nat} {x : Buf} (gs : GoodS amb s) (hb : s.buf? b = some x)
    (hnb : s.buf? nb = none) (inv' : InvM s') (hsl : s'.hs.length = s.hs.length) (nx : s.next ≤ s'.next)
    (other : ∀ c, c ≠ b → c ≠ nb → bufToks (s'.buf? c) = bufToks (s.buf? c))
    (wr : s'.next ≤ tokLimit → Rewrote amb s s' x.toks (bufToks (s'.buf? b) ++ bufToks (s'.buf? nb))) :
    Step amb s s' := by
  have bnb : b ≠ nb := by intro e; rw [e] at hb; rw [hb] at hnb; cases hnb
  refine ⟨inv', hsl, nx, fun small => ?_⟩
  obtain ⟨tp, am⟩ := gs.tok (Nat.le_trans nx small)
  obtain ⟨R, p, p'⟩ := stored_pair bnb other
  rw [hb, hnb] at p
  simp only [bufToks, List.append_nil] at p
  -- the live tokens before and after, with `amb` and the other buffers as the rest
  have q : (amb ++ stored s).Perm (x.toks ++ (R ++ amb)) :=
    (List.perm_append_comm.trans (p.append_right amb)).trans (by rw [List.append_assoc])
  have q' : (amb ++ stored s').Perm (bufToks (s'.buf? b) ++ bufToks (s'.buf? nb) ++ (R ++ amb)) :=
    (List.perm_append_comm.trans (p'.append_right amb)).trans (by rw [List.append_assoc])
  have nd : (amb ++ stored s).Nodup := by
    rw [List.nodup_append]
    exact ⟨am.1, (tokP_iff.mp tp).1, fun a ha c hc e => by subst e; exact (am.2 a ha).2 hc⟩
  have fr : ∀ t ∈ amb ++ stored s, t < s.next := fun t ht => by
    rcases List.mem_append.mp ht with h | h
    · exact (am.2 t h).1
    · exact (tokP_iff.mp tp).2 t h
  obtain ⟨fr', evs, hlog, run⟩ := (wr small).run (R := R ++ amb) (fun t ht => fr t (q.mem_iff.mpr ht))
    (fun k hk => q.mem_iff.mp (List.mem_append.mpr hk))
  have run' : Run (amb ++ stored s) evs (amb ++ stored s') := (run.perm_left q.symm).perm_right q'.symm
  have nd' := List.nodup_append.mp (run'.nodup nd)
  refine ⟨tokP_iff.mpr ⟨nd'.2.1, fun t ht => fr' t (q'.mem_iff.mp (List.mem_append.mpr (Or.inr ht)))⟩,
    ⟨nd'.1, fun t ht => ⟨fr' t (q'.mem_iff.mp (List.mem_append.mpr (Or.inl ht))), fun hs => nd'.2.2 t ht t hs rfl⟩⟩,
    evs, hlog, run'⟩

theorem step_of_frame {amb : List Nat} {s s' : State} {b : Nat} {x x' : Buf} (gs : GoodS amb s) (hb : s.buf? b = some x)
    (fr : Frame s s' b) (hb' : s'.buf? b = some x') (r : x'.ref = x.ref) (g : GoodBuf x') (nx : s.next ≤ s'.next)
    (wr : s'.next ≤ tokLimit → Rewrote amb s s' x.toks x'.toks) : Step amb s s' := by
  have dead' : s'.buf? s.bufs.length = none := State.buf?_ge_length s' _ (Nat.le_of_eq fr.len)
  refine step_of_pair (nb := s.bufs.length) gs hb (State.buf?_ge_length s _ (Nat.le_refl _)) (gs.inv.setBuf hb fr hb' r g)
    (by rw [fr.hs]) nx (fun c ne _ => by rw [fr.other c ne]) (fun small => ?_)
  rw [hb', dead']
  exact List.append_nil x'.toks ▸ wr small


theorem step_of_toks_same {amb : List Nat} {s s' : State} (gs : GoodS amb s) (inv' : InvM s') (hsl : s'.hs.length = s.hs.length)
    (toks : ∀ c, bufToks (s'.buf? c) = bufToks (s.buf? c)) (hlog : s'.log = s.log) (hn : s'.next = s.next) : Step amb s s' := by
  have e : stored s' = stored s := by
    rw [← stored_range s' s.bufs.length, ← stored_range s s'.bufs.length, Nat.add_comm]
    exact flatMap_congr fun c _ => toks c
  refine ⟨inv', hsl, Nat.le_of_eq hn.symm, fun small => ?_⟩
  obtain ⟨tp, am⟩ := gs.tok (hn ▸ small)
  rw [e]
  refine ⟨tokP_iff.mpr ⟨e ▸ (tokP_iff.mp tp).1, fun t ht => hn ▸ (tokP_iff.mp tp).2 t (e ▸ ht)⟩, ⟨am.1, fun t ht => ?_⟩, [],
    by rw [hlog]; simp, Run.nil _⟩
  rw [AmbOK, ← e, ← hn] at am
  exact am.2 t ht

theorem step_of_same {amb : List Nat} {s s' : State} (gs : GoodS amb s) (hbuf : ∀ c, s'.buf? c = s.buf? c) (hhs : s'.hs = s.hs)
    (hlog : s'.log = s.log) (hn : s'.next = s.next) : Step amb s s' :=
  step_of_toks_same gs (gs.inv.congr hbuf hhs) (by rw [hhs]) (fun c => by rw [hbuf]) hlog hn

def others (s : State) (b t : Nat) : Prop := ∃ c y, c ≠ b ∧ s.buf? c = some y ∧ t ∈ y.toks

theorem mem_stored_dead {s : State} {b : Nat} (hb : s.buf? b = none) (t : Nat) : t ∈ stored s ↔ others s b t := by
  rw [mem_stored]
  constructor
  · rintro ⟨c, y, hy, ht⟩
    by_cases e : c = b
    · subst e; rw [hb] at hy; cases hy
    · exact ⟨c, y, e, hy, ht⟩
  · rintro ⟨c, y, _, hy, ht⟩; exact ⟨c, y, hy, ht⟩

/-- description of what a rewrite of one buffer did to its tokens: `g1` destroyed first, `m` fresh tokens
    created (copy sources `S`), `g2` destroyed last.  The general shape, in which destructions may precede the
    constructions; the steps proved here only meet the case `Rewrote` (`g1 = []`) -/
structure Delta (s s' : State) (amb xt xt' : List Nat) where
  g1 : List Nat
  g2 : List Nat
  cre : List Ev
  m : Nat
  S : List Nat
  next : s'.next = s.next + m
  log : s'.log = s.log ++ (g1.map Ev.fini ++ cre ++ g2.map Ev.fini)
  creates : Creates S s.next cre m
  n1 : g1.Nodup
  s1 : ∀ t ∈ g1, t ∈ xt
  hS : ∀ k ∈ S, (k ∈ amb ∨ k ∈ stored s) ∧ k ∉ g1
  n2 : g2.Nodup
  s2 : ∀ t ∈ g2, (t ∈ xt ∧ t ∉ g1) ∨ (s.next ≤ t ∧ t < s.next + m)
  nd : xt'.Nodup
  mem : ∀ t, t ∈ xt' ↔ ((t ∈ xt ∧ t ∉ g1) ∨ (s.next ≤ t ∧ t < s.next + m)) ∧ t ∉ g2

theorem goodBuf_of {x : Buf} {t : Traits} (xt : x.traits = some t) (mt : Managed t) {n : Nat} (hu : x.used = n * t.size)
    (fit : n * t.size ≤ x.size) : GoodBuf x :=
  ⟨t, xt, mt, by rw [hu]; exact fit, by rw [hu]; exact Nat.mul_mod_left _ _⟩

theorem GoodBuf.elems {x : Buf} (g : GoodBuf x) : ∃ t n, x.traits = some t ∧ Managed t ∧ x.used = n * t.size ∧ x.used ≤ x.size := by
  obtain ⟨t, xt, mt, u, a⟩ := g
  exact ⟨t, x.used / t.size, xt, mt, used_eq_mul a, u⟩

/-- the elements `i .. i+l-1` of a buffer of `n` have been destroyed (`s1`, data `d1`); the tail is moved down over
    them and the buffer shortened: a complete step -/
theorem cut_step {amb : List Nat} {s s1 : State} {b : Nat} {x : Buf} {t : Traits} {n i l : Nat} {d1 d2 : List Byte}
    (gs : GoodS amb s) (hb : s.buf? b = some x) (xt : x.traits = some t) (mt : Managed t) (hu : x.used = n * t.size)
    (hsz : x.used ≤ x.size) (il : i + l ≤ n) (ob : OnlyBuf s s1 b)
    (lg : s1.log = s.log ++ (slotsFrom x.data t.size i l).map Ev.fini)
    (hb1 : s1.buf? b = some { x with data := d1 }) (dl1 : d1.length = x.data.length)
    (same1 : ∀ j, j < i ∨ i + l ≤ j → slot d1 t.size j = slot x.data t.size j)
    (hd2 : d2 = Mem.move d1 (i * t.size) ((i + l) * t.size) ((n - (i + l)) * t.size)) :
    Step amb s (s1.setBuf b { x with data := d2, used := (n - l) * t.size }) := by
  have h4 := mt.2.2
  have blt1 := State.buf?_lt hb1
  have nsz : n * t.size ≤ d1.length := by rw [dl1, ← hu]; exact hsz
  have hsrc : (i + l + (n - (i + l))) * t.size ≤ d1.length := by rw [Nat.add_sub_cancel' il]; exact nsz
  have hdst : (i + (n - (i + l))) * t.size ≤ d1.length := Nat.le_trans (Nat.mul_le_mul_right _ (by omega)) nsz
  have ml : d2.length = x.data.length := by rw [hd2]; exact (move_slots_length d1 t.size i (i + l) _ hsrc hdst).trans dl1
  refine step_of_frame gs hb (ob.frame.setBuf _ blt1) (State.buf?_setBuf_self _ _ _ blt1) rfl
    (goodBuf_of (n := n - l) xt mt rfl (Nat.le_trans (Nat.mul_le_mul_right _ (Nat.sub_le n l)) (by rw [Buf.size, ml, ← hu]; exact hsz)))
    (Nat.le_of_eq ob.next.symm) (fun _ => ?_)
  refine Rewrote.mk (A := slotsFrom x.data t.size 0 i) (G := slotsFrom x.data t.size i l)
    (T := slotsFrom x.data t.size (i + l) (n - (i + l))) (cre := []) (m := 0) (S := []) ?_ ?_
    ob.next (by show s1.log = _; rw [lg]; simp) (List.Perm.refl _) (Creates.nil _) nofun
  · rw [toks_of_used xt mt hu, ← slotsFrom_three, show i + l + (n - (i + l)) = n by omega]
  · have front : slotsFrom d2 t.size 0 i = slotsFrom x.data t.size 0 i := slotsFrom_congr fun j _ h2 => by
      rw [hd2, slot_move d1 t.size i (i + l) _ h4 hsrc hdst j, if_neg (by omega)]
      exact same1 j (Or.inl (by omega))
    have back : slotsFrom d2 t.size (0 + i) (n - (i + l)) = slotsFrom x.data t.size (i + l) (n - (i + l)) :=
      slotsFrom_shift fun a ha => by
        rw [hd2, Nat.zero_add, slot_move d1 t.size i (i + l) _ h4 hsrc hdst, if_pos (by omega), Nat.add_sub_cancel_left]
        exact same1 _ (Or.inr (by omega))
    rw [toks_of_used (x := { x with data := d2, used := (n - l) * t.size }) xt mt rfl, show n - l = i + (n - (i + l)) by omega, slotsFrom_add, front, back]
    simp [seqFrom]

theorem bufferCut_step {amb : List Nat} {s : State} {b : Nat} {x : Buf} (gs : GoodS amb s) (hb : s.buf? b = some x) (off len : Nat) :
    OpOK amb s (bufferCut s b off len) := by
  obtain ⟨t, n, xt, mt, hu, hsz⟩ := (gs.inv.good b x hb).elems
  have h4 := mt.2.2
  have szp : 0 < t.size := by omega
  generalize hr : bufferCut s b off len = r
  unfold bufferCut at hr
  rw [hb] at hr
  simp only at hr
  by_cases c1 : len > x.used
  · rw [if_pos c1] at hr; subst hr; exact Step.refl gs
  rw [if_neg c1] at hr
  by_cases c2 : len = 0 ∧ off > x.used
  · rw [if_pos c2] at hr; subst hr; exact Step.refl gs
  rw [if_neg c2] at hr
  generalize hl : (if len = 0 then x.used - off else len) = len' at hr
  by_cases c3 : x.used - len' < off
  · rw [if_pos c3] at hr; subst hr; exact Step.refl gs
  rw [if_neg c3, xt] at hr
  simp only at hr
  by_cases c4 : t.size = 0 ∨ off % t.size ≠ 0 ∨ len' % t.size ≠ 0
  · rw [if_pos c4] at hr; subst hr; exact Step.refl gs
  rw [if_neg c4] at hr
  simp only [not_or, Decidable.not_not] at c4
  -- from here on in element counts: `off = i` elements, `len' = l` elements
  obtain ⟨i, rfl⟩ := eq_mul_of_mod c4.2.1
  obtain ⟨l, rfl⟩ := eq_mul_of_mod c4.2.2
  have il : i + l ≤ n := by
    have fit : i * t.size + l * t.size ≤ n * t.size := by
      rw [← hu]; clear hb xt c4 gs
      split at hl <;> omega
    rw [← Nat.add_mul] at fit
    exact Nat.le_of_mul_le_mul_right fit szp
  have keep : x.used - l * t.size - i * t.size = (n - (i + l)) * t.size := by
    rw [hu, ← Nat.sub_mul, ← Nat.sub_mul, Nat.sub_sub, Nat.add_comm l i]
  have used2 : i * t.size + (n - (i + l)) * t.size = (n - l) * t.size := by
    rw [← Nat.add_mul]; congr 1; omega
  obtain ⟨s1, d1, hf, ob, l1, hb1, dl1, same1⟩ := finiLoop_slots l s b i t.size x hb h4
    (Nat.le_trans (Nat.mul_le_mul_right _ il) (hu ▸ hsz))
  rw [mt.2.1, if_pos rfl, iters_mul l t.size (by omega), hf] at hr
  simp only [hb1] at hr
  rw [keep, ← Nat.add_mul, move_if, used2] at hr
  subst hr
  exact cut_step (x := x) gs hb xt mt hu hsz il ob l1 hb1 dl1 same1 rfl

/-- `m` elements with fresh tokens have been constructed behind the `n` elements of the buffer, which ends behind them (the
    state a refused gap constructor of `mpt_buffer_insert` / `mpt_buffer_set` leaves): a complete step -/
theorem append_step {amb : List Nat} {s s' : State} {b : Nat} {x : Buf} {t : Traits} {n m : Nat} {S : List Nat} {d' : List Byte}
    (gs : GoodS amb s) (hb : s.buf? b = some x) (xt : x.traits = some t) (mt : Managed t) (hu : x.used = n * t.size)
    (bt : Built s s' b x t.size n m S d' ((n + m) * t.size)) (fit : (n + m) * t.size ≤ x.size)
    (hS : s.next ≤ tokLimit → ∀ k ∈ S, k ∈ amb ∨ k ∈ stored s) : Step amb s s' := by
  have n' := bt.next
  refine step_of_frame gs hb bt.frame bt.buf rfl (goodBuf_of xt mt rfl (by rw [Buf.size, bt.len]; exact fit)) (by omega)
    (fun small => ?_)
  obtain ⟨evs, lg, cr⟩ := bt.log
  refine .mk (A := x.toks) (G := []) (T := []) (D := []) (by simp) ?_ n' (by rw [lg]; simp) (.refl _) cr (hS (by omega))
  rw [toks_of_used (x := { x with data := d', used := (n + m) * t.size }) xt mt rfl, toks_of_used xt mt hu, slotsFrom_add, Nat.zero_add,
    slotsFrom_congr (d := x.data) (fun j _ h2 => bt.out j (Or.inl (by omega))), slotsFrom_eq_seqFrom (fun j h1 h2 => bt.inn small j h1 h2)]
  simp

theorem toks_parts {x : Buf} {t : Traits} (xt : x.traits = some t) (mt : Managed t) {n : Nat} (hu : x.used = n * t.size) (p k : Nat) :
    x.toks = slotsFrom x.data t.size 0 (min n p) ++ slotsFrom x.data t.size p (min n (p + k) - p)
      ++ slotsFrom x.data t.size (p + k) (n - (p + k)) := by
  rw [toks_of_used xt mt hu]
  conv => lhs; rw [show n = min n p + (min n (p + k) - p) + (n - (p + k)) by omega]
  rw [slotsFrom_three, slotsFrom_start (i := min n p) (i' := p) (by omega),
    slotsFrom_start (i := min n p + (min n (p + k) - p)) (i' := p + k) (by omega)]

theorem slotsFrom_rebuilt {d d' : List Byte} {sz n p m a : Nat} (c : Nat)
    (low : ∀ j, j < min n p → slot d' sz j = slot d sz j)
    (gap : ∀ j, n ≤ j → j < p → slot d' sz j = a + (j - n))
    (new : ∀ j, p ≤ j → j < p + m → slot d' sz j = a + (p - n) + (j - p)) :
    slotsFrom d' sz 0 (p + m + c) =
      slotsFrom d sz 0 (min n p) ++ seqFrom a ((p - n) + m) ++ slotsFrom d' sz (p + m) c := by
  rw [show p + m + c = min n p + (p - n) + m + c by omega, show p + m = min n p + (p - n) + m by omega, slotsFrom_add, slotsFrom_three, Nat.zero_add, seqFrom_add, ← List.append_assoc, slotsFrom_congr (d := d) (i := 0) (fun j _ h2 => low j (by omega)),
    slotsFrom_start (i := min n p) (i' := n) (by omega), slotsFrom_eq_seqFrom (fun j h1 h2 => gap j h1 (by omega)),
    slotsFrom_start (i := min n p + (p - n)) (i' := p) (by omega), slotsFrom_eq_seqFrom (a := a + (p - n)) new]

theorem SetDone.used_eq {s s' : State} {b : Nat} {x x' : Buf} {sz n p k m : Nat} {S : List Nat} {fatal : Bool}
    (sd : SetDone s s' b x x' sz n p k m S fatal) : x'.used = (if fatal then p + m else max n (p + k)) * sz := by
  rw [sd.used]; cases fatal <;> simp

theorem SetDone.toks {s s' : State} {b : Nat} {x x' : Buf} {t : Traits} {n p k m : Nat} {S : List Nat} {fatal : Bool}
    (sd : SetDone s s' b x x' t.size n p k m S fatal) (xt : x.traits = some t) (mt : Managed t) (small : s'.next ≤ tokLimit) :
    x'.toks = slotsFrom x.data t.size 0 (min n p) ++ seqFrom s.next ((p - n) + m)
      ++ (if fatal then [] else slotsFrom x.data t.size (p + k) (n - (p + k))) := by
  have cnt : (if fatal then p + m else max n (p + k)) = p + m + (if fatal then 0 else n - (p + k)) := by
    cases fatal with
    | true => simp only [if_true]; omega
    | false => have := sd.nfat rfl; simp only [Bool.false_eq_true, if_false]; omega
  rw [toks_of_used (sd.traits.trans xt) mt sd.used_eq, cnt, slotsFrom_rebuilt _ sd.low (sd.gap small) (sd.new small)]
  cases fatal with
  | true => rfl
  | false =>
    have mk := sd.nfat rfl
    simp only [Bool.false_eq_true, if_false]
    rw [slotsFrom_start (d := x'.data) (i := p + m) (i' := p + k) (c := n - (p + k)) (by omega)]
    exact congrArg _ (slotsFrom_congr (fun j h1 _ => sd.high rfl j h1))

theorem SetDone.good {s s' : State} {b : Nat} {x x' : Buf} {t : Traits} {n p k m : Nat} {S : List Nat} {fatal : Bool}
    (sd : SetDone s s' b x x' t.size n p k m S fatal) (xt : x.traits = some t) (mt : Managed t)
    (nsz : n * t.size ≤ x.size) (qfit : (p + k) * t.size ≤ x.size) : GoodBuf x' := by
  refine goodBuf_of (sd.traits.trans xt) mt sd.used_eq ?_
  rw [Buf.size, sd.len]
  cases fatal with
  | true => exact Nat.le_trans (Nat.mul_le_mul_right _ (Nat.add_le_add_left sd.mle p)) qfit
  | false =>
    simp only [Bool.false_eq_true, if_false]
    rw [← Nat.mul_max_mul_right]; exact Nat.max_le.mpr ⟨nsz, qfit⟩

/-- `mpt_buffer_set` on a live buffer of managed elements is a complete step; the copy sources must be live
    tokens (the replaced elements are destroyed only after their replacements are constructed, so they may be
    elements of the buffer itself) -/
theorem bufferSet_step {amb : List Nat} {s : State} {b : Nat} {x : Buf} {t : Traits} (gs : GoodS amb s) (hb : s.buf? b = some x)
    (xt : x.traits = some t) (pos : Nat) (bytes : List Byte) (hasSrc : Bool) (S : List Nat)
    (hS : hasSrc = true → ∀ j, j < bytes.length / t.size → slot bytes t.size j ∈ S)
    (hSl : s.next ≤ tokLimit → ∀ k ∈ S, k ∈ amb ∨ k ∈ stored s) :
    OpOK amb s (bufferSet s b (some t) pos bytes hasSrc) := by
  obtain ⟨t', n, xt', mt, hu, hsz⟩ := (gs.inv.good b x hb).elems
  rw [xt] at xt'; cases xt'
  rcases bufferSet_managed hb xt mt hu hsz pos bytes hasSrc S hS with ⟨e, he⟩ | ⟨p, k, m, fatal, s', x', v, ep, ek, qfit, he, sd⟩ |
    ⟨p, m, s', d', ep, lt, he, afit, ap⟩
  · rw [he]; exact Step.refl gs
  · rw [he]
    refine show Step amb s s' from step_of_frame gs hb sd.frame sd.buf sd.ref (sd.good xt mt (hu ▸ hsz) qfit) (by rw [sd.next]; omega)
      (fun small => ?_)
    obtain ⟨cre, crc, lg⟩ := sd.log
    have hSs := hSl (by rw [sd.next] at small; omega)
    have tk := sd.toks xt mt small
    -- the replaced elements are destroyed last; after a fatal end the old tail is destroyed as well, before them
    cases fatal with
    | false => exact .mk (toks_parts xt mt hu p k) tk sd.next (by rw [lg]; simp) (.refl _) crc hSs
    | true =>
      exact .mk (A := slotsFrom x.data t.size 0 (min n p))
        (G := slotsFrom x.data t.size p (min n (p + k) - p) ++ slotsFrom x.data t.size (p + k) (n - (p + k))) (T := [])
        ((toks_parts xt mt hu p k).trans (by simp)) (tk.trans (by simp)) sd.next (by rw [lg]; simp) List.perm_append_comm crc hSs
  · rw [he]; exact append_step gs hb xt mt hu ap afit hSl

/-- handle `h`, which held `b`, is pointed at the new private buffer `z`; `b` is left as `y` (one reference less, or
    freed with its last reference), every other buffer is as before.  With what the two buffers store a rewrite of
    the tokens of `b`, a complete step -/
theorem retarget_step {amb : List Nat} {s s' : State} {h b : Nat} {x z : Buf} {y : Option Buf} (gs : GoodS amb s)
    (hh : s.handle h = some b) (hb : s.buf? b = some x)
    (hy : y = if x.ref = 1 then none else some { x with ref := x.ref - 1 })
    (hhs : s'.hs = s.hs.set h (some s.bufs.length))
    (hbuf : ∀ c, s'.buf? c = if c = s.bufs.length then some z else if c = b then y else s.buf? c)
    (zr : z.ref = 1) (zg : GoodBuf z) (nx : s.next ≤ s'.next)
    (wr : s'.next ≤ tokLimit → Rewrote amb s s' x.toks (bufToks y ++ z.toks)) :
    Step amb s s' ∧ s'.handle h = some s.bufs.length ∧ s'.buf? s.bufs.length = some z := by
  have hnb : s.buf? s.bufs.length = none := State.buf?_ge_length s _ (Nat.le_refl _)
  have bne : b ≠ s.bufs.length := Nat.ne_of_lt (State.buf?_lt hb)
  have hbn : s'.buf? s.bufs.length = some z := by rw [hbuf, if_pos rfl]
  have hbb : s'.buf? b = y := by rw [hbuf, if_neg bne, if_pos rfl]
  obtain ⟨inv', hh'⟩ := gs.inv.retarget (s' := s') (State.handle_lt hh) hnb hhs (fun c => by
    rw [hbuf c, hh]
    by_cases e1 : c = s.bufs.length
    · rw [if_pos e1, if_pos e1]
    · rw [if_neg e1, if_neg e1]
      by_cases e2 : c = b
      · rw [if_pos e2, if_pos (congrArg some e2.symm), e2, dropRef, hb, hy]
      · rw [if_neg e2, if_neg (fun e => e2 (Option.some.inj e).symm)]) zr zg
  refine ⟨step_of_pair gs hb hnb inv' (by rw [hhs, List.length_set]) nx
    (fun c c1 c2 => by rw [hbuf c, if_neg c2, if_neg c1]) (fun small => ?_), hh', hbn⟩
  rw [hbb, hbn]
  exact wr small

end Mpt.Heap
