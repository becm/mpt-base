/-
  The text argument iterator (mptcore/meta/iterator_string.c) over a text of tokens separated by single
  characters (`sepJoin`): converting the element at the position (`atPos`), advancing behind its separator,
  `mpt_iterator_consume` on number and count tokens, and the protocol for arbitrary call sequences (`StrRel`).
  Defined here, used by the statements of Props/C19: the documented loop reading numbers (`strWalk`) and keys
  (`keyWalk`, over `KeyWord`s); one call and a call sequence on the model (`StrIt.step`, `StrIt.run`, answers `TOut`) and
  their comparison with the answers of the automaton `TCur` (`resOk`: past the end "no further element" may be
  reported once more where the automaton reports an error; `allOk`).
-/
import MptModel.Lemmas.IterScan
import MptModel.Impl.IterArgs
namespace Mpt.Iter
open Mpt.IterSpec

/-- tokens (numbers or key words), each followed by one separator character, and a last token -/
def sepJoin : List (List Char × Char) → List Char → List Char
  | [], last => last
  | (t, c) :: more, last => t ++ c :: sepJoin more last

/-- text iterator at position `p` with no element marked; the lemmas take `p = pre.length`, `pre` consumed -/
def atPos (sep text : List Char) (p : Nat) : StrIt :=
  { sep := sep, text := text, pos := some p, endNull := false, restore := none, patched := false }

def KeyWord (sep w : List Char) : Prop := w ≠ [] ∧ ∀ x ∈ w, isSpace x = false ∧ sep.contains x = false


theorem convWith_mid {α : Type} (scan : List Char → Scan α) (sep pre t : List Char) (c : Char) (rest : List Char) (v : α)
    (r0 : Option Nat) (p0 : Bool)
    (hscan : scan (t ++ c :: rest) = .ok v (c :: rest)) (hd : dropSpace (t ++ c :: rest) = t ++ c :: rest)
    (hne : t ≠ []) :
    ({ atPos sep (pre ++ (t ++ c :: rest)) pre.length with restore := r0, patched := p0 } : StrIt).convWith scan =
      ({ atPos sep (pre ++ (t ++ c :: rest)) pre.length with restore := some (pre.length + t.length), patched := true },
        .ok v) := by
  have he : (t ++ c :: rest).isEmpty = false := by cases t with | nil => exact absurd rfl hne | cons _ _ => rfl
  unfold StrIt.convWith atPos
  simp only [List.drop_left, he, Bool.false_eq_true, ↓reduceIte, hd, hscan]
  have hr : pre.length + ((t ++ c :: rest).length - (c :: rest).length) = pre.length + t.length := by simp
  rw [hr]
  rw [if_neg (by simp)]

theorem convWith_last {α : Type} (scan : List Char → Scan α) (sep pre t : List Char) (v : α)
    (hscan : scan t = .ok v []) (hd : dropSpace t = t) (hne : t ≠ []) :
    (atPos sep (pre ++ t) pre.length).convWith scan = (atPos sep (pre ++ t) pre.length, .ok v) := by
  have he : t.isEmpty = false := by cases t with | nil => exact absurd rfl hne | cons _ _ => rfl
  unfold StrIt.convWith atPos
  simp only [List.drop_left, he, Bool.false_eq_true, ↓reduceIte, hd, hscan]
  simp

theorem conv_mid (sep pre t : List Char) (c : Char) (rest : List Char) (v : Rat) (h : strictNumber t = some v)
    (hs : SepChar c) (r0 : Option Nat) (p0 : Bool) :
    ({ atPos sep (pre ++ (t ++ c :: rest)) pre.length with restore := r0, patched := p0 } : StrIt).conv =
      ({ atPos sep (pre ++ (t ++ c :: rest)) pre.length with restore := some (pre.length + t.length), patched := true },
        .ok v) :=
  convWith_mid cdouble sep pre t c rest v r0 p0 (cdouble_strict t _ v h (stops_cons c rest hs))
    (strict_dropSpace t _ v h) (strict_ne_nil t v h)

theorem conv_last (sep pre t : List Char) (v : Rat) (h : strictNumber t = some v) :
    (atPos sep (pre ++ t) pre.length).conv = (atPos sep (pre ++ t) pre.length, .ok v) := by
  have hc := cdouble_strict t [] v h stops_nil
  have hd := strict_dropSpace t [] v h
  rw [List.append_nil] at hc hd
  exact convWith_last cdouble sep pre t v hc hd (strict_ne_nil t v h)

theorem advance_last (sep text : List Char) (p : Nat) (h : p < text.length) :
    (atPos sep text p).advance = ({ atPos sep text p with pos := none }, .last) := by
  unfold StrIt.advance atPos
  simp only [Bool.false_eq_true, ↓reduceIte]
  rw [if_neg (by omega)]

theorem advance_sep (sep pre t : List Char) (c : Char) (rest : List Char) (hr : NoLeadSpace rest) :
    ({ atPos sep (pre ++ (t ++ c :: rest)) pre.length with
        restore := some (pre.length + t.length), patched := true } : StrIt).advance =
      (atPos sep ((pre ++ t ++ [c]) ++ rest) (pre ++ t ++ [c]).length, .more) := by
  have htxt : pre ++ (t ++ c :: rest) = (pre ++ t ++ [c]) ++ rest := by simp
  have hpos : pre.length + t.length + 1 = (pre ++ t ++ [c]).length := by simp; omega
  have hlt : pre.length < (pre ++ (t ++ c :: rest)).length := by simp; omega
  have hnl : ((pre ++ (t ++ c :: rest)).drop (pre.length + t.length + 1)).all isSpace = false := by
    rw [htxt, hpos, List.drop_left]; exact noLead_not_all _ hr
  unfold StrIt.advance atPos
  simp only [Bool.false_eq_true, ↓reduceIte]
  rw [if_neg (by omega), if_neg (by intro hc; rw [hc.2] at hnl; cases hnl), htxt, hpos]

theorem pos_lt (pre t : List Char) (h : t ≠ []) : pre.length < (pre ++ t).length := by
  cases t with
  | nil => exact absurd rfl h
  | cons _ _ => simp


/-- the documented loop on a text argument iterator: read (convert to a number), advance -/
def strWalk : Nat → StrIt → List Rat × StrIt
  | 0, it => ([], it)
  | fuel + 1, it =>
    if !it.hasValue then ([], it)
    else match it.conv with
      | (it1, .ok v) =>
        match it1.advance with
        | (it2, .more) => ((strWalk fuel it2).1.cons v, (strWalk fuel it2).2)
        | (it2, _) => ([v], it2)
      | (it1, _) => ([], it1)

theorem toks_sepJoin (pairs : List (List Char × Char)) (last : List Char) (vs : List Rat) (vl : Rat)
    (hp : ∀ p ∈ pairs, SepChar p.2) (hv : pairs.map (fun p => strictNumber p.1) = vs.map some)
    (hl : strictNumber last = some vl) : TokS SepChar (sepJoin pairs last) (vs ++ [vl]) := by
  induction pairs generalizing vs with
  | nil =>
    cases vs with
    | nil => exact .last hl
    | cons _ _ => cases hv
  | cons p more ih =>
    cases vs with
    | nil => cases hv
    | cons v vs' =>
      simp only [List.map_cons, List.cons.injEq] at hv
      exact .cons hv.1 (hp p (by simp)) (ih vs' (fun q hq => hp q (by simp [hq])) hv.2)

theorem strWalk_toks {rest : List Char} {vs : List Rat} (h : TokS SepChar rest vs) (pre sep : List Char) (fuel : Nat)
    (hf : vs.length ≤ fuel) : (strWalk fuel (atPos sep (pre ++ rest) pre.length)).1 = vs := by
  induction h generalizing pre fuel with
  | @last t v ht =>
    obtain ⟨f, rfl⟩ : ∃ f, fuel = f + 1 := ⟨fuel - 1, by simp at hf; omega⟩
    rw [strWalk]
    have hv1 : (atPos sep (pre ++ t) pre.length).hasValue = true := rfl
    rw [hv1]
    simp only [Bool.not_true, Bool.false_eq_true, ↓reduceIte]
    rw [conv_last sep pre t v ht]
    simp only []
    rw [advance_last sep _ _ (pos_lt pre t (strict_ne_nil t v ht))]
  | @cons t rest c v vs ht hc more ih =>
    obtain ⟨f, rfl⟩ : ∃ f, fuel = f + 1 := ⟨fuel - 1, by simp at hf; omega⟩
    rw [strWalk]
    have hv1 : (atPos sep (pre ++ (t ++ c :: rest)) pre.length).hasValue = true := rfl
    rw [hv1]
    simp only [Bool.not_true, Bool.false_eq_true, ↓reduceIte]
    rw [show (atPos sep (pre ++ (t ++ c :: rest)) pre.length).conv = _ from conv_mid sep pre t c _ v ht hc none false]
    simp only []
    rw [advance_sep sep pre t c _ more.noLead]
    simp only []
    rw [ih (pre ++ t ++ [c]) f (by simp at hf; omega)]

theorem strWalk_from (pairs : List (List Char × Char)) (last : List Char) (vs : List Rat) (vl : Rat)
    (hp : ∀ p ∈ pairs, SepChar p.2) (hv : pairs.map (fun p => strictNumber p.1) = vs.map some)
    (hl : strictNumber last = some vl) (pre sep : List Char) (fuel : Nat) (hf : pairs.length < fuel) :
    (strWalk fuel (atPos sep (pre ++ sepJoin pairs last) pre.length)).1 = vs ++ [vl] := by
  have hlen : pairs.length = vs.length := by simpa using congrArg List.length hv
  exact strWalk_toks (toks_sepJoin pairs last vs vl hp hv hl) pre sep fuel (by simp; omega)


/-- `mpt_iterator_consume(…, 'd', …)` takes a number token and moves behind its separator -/
theorem consumeD_mid (sep pre t : List Char) (c : Char) (rest : List Char) (v : Rat) (h : strictNumber t = some v)
    (hs : SepChar c) (hr : NoLeadSpace rest) :
    (Src.str (atPos sep (pre ++ (t ++ c :: rest)) pre.length)).consumeD =
      (.str (atPos sep ((pre ++ t ++ [c]) ++ rest) (pre ++ t ++ [c]).length), .ok v) := by
  simp only [Src.consumeD]
  have hv : (atPos sep (pre ++ (t ++ c :: rest)) pre.length).hasValue = true := rfl
  rw [hv]
  simp only [Bool.not_true, Bool.false_eq_true, ↓reduceIte]
  rw [show (atPos sep (pre ++ (t ++ c :: rest)) pre.length).conv = _ from conv_mid sep pre t c rest v h hs none false]
  simp only []
  rw [advance_sep sep pre t c rest hr]

theorem consumeD_last (sep pre t : List Char) (v : Rat) (h : strictNumber t = some v) :
    (Src.str (atPos sep (pre ++ t) pre.length)).consumeD =
      (.str { atPos sep (pre ++ t) pre.length with pos := none }, .ok v) := by
  simp only [Src.consumeD]
  have hv : (atPos sep (pre ++ t) pre.length).hasValue = true := rfl
  rw [hv]
  simp only [Bool.not_true, Bool.false_eq_true, ↓reduceIte]
  rw [conv_last sep pre t v h]
  simp only []
  rw [advance_last sep _ _ (pos_lt pre t (strict_ne_nil t v h))]

theorem consumeD_done (s : StrIt) (h : s.pos = none) : (Src.str s).consumeD = (.str s, .err .MissingData) := by
  simp only [Src.consumeD, StrIt.hasValue, h]
  rfl

/-- `mpt_iterator_consume(…, 'u', …)` takes a count token and moves behind its separator -/
theorem consumeU_mid (sep pre n : List Char) (c : Char) (rest : List Char) (k : Nat) (h : strictCount n = some k)
    (hc : isDigit c = false) (hr : NoLeadSpace rest) :
    (Src.str (atPos sep (pre ++ (n ++ c :: rest)) pre.length)).consumeU =
      (.str (atPos sep ((pre ++ n ++ [c]) ++ rest) (pre ++ n ++ [c]).length), .ok k) := by
  obtain ⟨hd, hne⟩ := count_dropSpace n (c :: rest) k h
  have hu := (cuint32_strict n (c :: rest) k h (by intro x hx; cases hx; exact hc)).1
  simp only [Src.consumeU]
  have hv : (atPos sep (pre ++ (n ++ c :: rest)) pre.length).hasValue = true := rfl
  rw [hv]
  simp only [Bool.not_true, Bool.false_eq_true, ↓reduceIte]
  rw [show (atPos sep (pre ++ (n ++ c :: rest)) pre.length).convWith cuint32 = _ from
    convWith_mid cuint32 sep pre n c rest k none false hu hd hne]
  simp only []
  rw [advance_sep sep pre n c rest hr]

/-- a created iterator stands at position 0: written with the consumed prefix `pre := []` of the position lemmas -/
theorem StrIt.create_atPos (text sep : List Char) :
    StrIt.create (some text) (some sep) = atPos sep ([] ++ text) ([] : List Char).length := rfl


theorem keyBody_word (sep : List Char) (se : Bool) (w rest : List Char) (e len : Nat)
    (hw : ∀ x ∈ w, isSpace x = false ∧ sep.contains x = false) :
    StrIt.keyBody sep se (w ++ rest) e len =
      if w = [] then StrIt.keyBody sep se rest e len
      else StrIt.keyBody sep se rest (e + w.length) (e + w.length) := by
  induction w generalizing e len with
  | nil => simp
  | cons x xs ih =>
    obtain ⟨h1, h2⟩ := hw x (by simp)
    simp only [List.cons_append, StrIt.keyBody, h1, Bool.false_eq_true, ↓reduceIte, h2]
    rw [ih (e + 1) (e + 1) (fun y hy => hw y (by simp [hy]))]
    by_cases hx : xs = []
    · subst hx; simp
    · simp only [hx, ↓reduceIte, List.length_cons, reduceCtorEq]
      have : e + 1 + xs.length = e + (xs.length + 1) := by omega
      rw [this]

theorem spaceLen_head (c : Char) (t : List Char) (h : isSpace c = false) : StrIt.spaceLen (c :: t) = 0 := by
  simp [StrIt.spaceLen, h]

theorem keyScan_word (sep w tail : List Char) (hw : KeyWord sep w) (hsep : sep.isEmpty = false)
    (ht : tail = [] ∨ ∃ c rest, tail = c :: rest ∧ sep.contains c = true ∧ isSpace c = false) :
    StrIt.keyScan sep (w ++ tail) = some (0, w.length) := by
  obtain ⟨hne, hall⟩ := hw
  cases w with
  | nil => exact absurd rfl hne
  | cons x xs =>
    have hx := (hall x (by simp)).1
    unfold StrIt.keyScan
    simp only [List.cons_append, spaceLen_head x _ hx, List.drop_zero, hsep, Bool.false_eq_true, ↓reduceIte]
    have := keyBody_word sep (sep.any isSpace) (x :: xs) tail 0 0 hall
    simp only [List.cons_append] at this
    rw [this]
    rcases ht with rfl | ⟨c, rest, rfl, hc, hcs⟩
    · simp [StrIt.keyBody]
    · simp only [reduceCtorEq, ↓reduceIte, StrIt.keyBody, hcs, Bool.false_eq_true, hc, Nat.zero_add]

theorem key_mid (sep pre w : List Char) (c : Char) (rest : List Char) (hw : KeyWord sep w)
    (hc : sep.contains c = true) (hcs : isSpace c = false) :
    (atPos sep (pre ++ (w ++ c :: rest)) pre.length).key =
      ({ atPos sep (pre ++ (w ++ c :: rest)) pre.length with restore := some (pre.length + w.length), patched := true },
        .ok w) := by
  have he : (w ++ c :: rest).isEmpty = false := by cases w <;> rfl
  have hsep : sep.isEmpty = false := by cases sep with | nil => cases hc | cons _ _ => rfl
  unfold StrIt.key atPos
  simp only [List.drop_left, he, Bool.false_eq_true, ↓reduceIte,
    keyScan_word sep w (c :: rest) hw hsep (Or.inr ⟨c, rest, rfl, hc, hcs⟩), Nat.add_zero, List.drop_zero,
    List.take_left']
  rw [if_neg (by simp)]

theorem key_last (sep pre w : List Char) (hw : KeyWord sep w) (hsep : sep.isEmpty = false) :
    (atPos sep (pre ++ w) pre.length).key = (atPos sep (pre ++ w) pre.length, .ok w) := by
  have he : w.isEmpty = false := by cases w with | nil => exact absurd rfl hw.1 | cons _ _ => rfl
  have hk := keyScan_word sep w [] hw hsep (Or.inl rfl)
  rw [List.append_nil] at hk
  unfold StrIt.key atPos
  simp only [List.drop_left, he, Bool.false_eq_true, ↓reduceIte, hk, Nat.add_zero, List.drop_zero, List.take_length]
  rw [if_pos (by simp)]

/-- the documented loop reading keys -/
def keyWalk : Nat → StrIt → List (List Char)
  | 0, _ => []
  | fuel + 1, it =>
    if !it.hasValue then []
    else match it.key with
      | (it1, .ok v) =>
        match it1.advance with
        | (it2, .more) => v :: keyWalk fuel it2
        | (_, _) => [v]
      | (_, _) => []

theorem keyJoin_noLead (sep : List Char) (pairs : List (List Char × Char)) (last : List Char)
    (hp : ∀ p ∈ pairs, KeyWord sep p.1) (hl : KeyWord sep last) : NoLeadSpace (sepJoin pairs last) := by
  have key : ∀ (w rest : List Char), KeyWord sep w → NoLeadSpace (w ++ rest) := by
    intro w rest hw
    cases w with
    | nil => exact absurd rfl hw.1
    | cons x xs => exact ⟨x, xs ++ rest, rfl, (hw.2 x (by simp)).1⟩
  cases pairs with
  | nil => simpa [sepJoin] using key last [] hl
  | cons p more => exact key p.1 _ (hp p (by simp))

/-- induction over the pairs, for every consumed prefix `pre`: per pair one key read (`key_mid`) and one advance
    (`advance_sep`, the text behind the separator starts with a word: `keyJoin_noLead`) -/
theorem keyWalk_from (sep : List Char) (pairs : List (List Char × Char)) (last : List Char)
    (hp : ∀ p ∈ pairs, KeyWord sep p.1 ∧ sep.contains p.2 = true ∧ isSpace p.2 = false)
    (hl : KeyWord sep last) (hsep : sep.isEmpty = false) (pre : List Char) (fuel : Nat) (hf : pairs.length < fuel) :
    keyWalk fuel (atPos sep (pre ++ sepJoin pairs last) pre.length) = pairs.map (·.1) ++ [last] := by
  obtain ⟨f, rfl⟩ : ∃ f, fuel = f + 1 := ⟨fuel - 1, by omega⟩
  induction pairs generalizing pre f with
  | nil =>
    simp only [sepJoin]
    rw [keyWalk]
    have hv1 : (atPos sep (pre ++ last) pre.length).hasValue = true := rfl
    rw [hv1]
    simp only [Bool.not_true, Bool.false_eq_true, ↓reduceIte]
    rw [key_last sep pre last hl hsep]
    simp only []
    rw [advance_last sep _ _ (pos_lt pre last hl.1)]
    rfl
  | cons p more ih =>
    obtain ⟨w, c⟩ := p
    obtain ⟨f', rfl⟩ : ∃ f', f = f' + 1 := ⟨f - 1, by simp at hf; omega⟩
    obtain ⟨hw, hc, hcs⟩ := hp (w, c) (by simp)
    have hrec := ih (fun q hq => hp q (by simp [hq])) (pre ++ w ++ [c]) f' (by simp at hf; omega)
    simp only [sepJoin]
    rw [keyWalk]
    have hv1 : (atPos sep (pre ++ (w ++ c :: sepJoin more last)) pre.length).hasValue = true := rfl
    rw [hv1]
    simp only [Bool.not_true, Bool.false_eq_true, ↓reduceIte]
    rw [key_mid sep pre w c _ hw hc hcs]
    simp only []
    rw [advance_sep sep pre w c _ (keyJoin_noLead sep more last (fun q hq => (hp q (by simp [hq])).1) hl)]
    simp only []
    rw [hrec]
    rfl

theorem wordLen_word (w rest : List Char) (hw : ∀ x ∈ w, isSpace x = false) :
    StrIt.wordLen (w ++ ' ' :: rest) = w.length := by
  induction w with
  | nil => rfl
  | cons x xs ih =>
    simp only [List.cons_append, StrIt.wordLen, hw x (by simp), Bool.false_eq_true, ↓reduceIte, List.length_cons]
    rw [ih (fun y hy => hw y (by simp [hy]))]


inductive TOut where
  | val (v : Option Rat)      -- NULL or the converted number
  | noconv                    -- the element is not a number
  | adv (a : AdvRes)
  | rst
  deriving Repr, DecidableEq

/-- one call: `value` = `value()` and conversion of the element to `double` -/
def StrIt.step (s : StrIt) : Call → StrIt × TOut
  | .value =>
    if !s.hasValue then (s, .val none)
    else match s.conv with
      | (s1, .ok v) => (s1, .val (some v))
      | (s1, .err _) => (s1, .noconv)
  | .advance => (s.advance.1, .adv s.advance.2)
  | .reset => (s.reset.1, .rst)

def StrIt.run (s : StrIt) : List Call → List TOut
  | [] => []
  | op :: ops => (s.step op).2 :: StrIt.run (s.step op).1 ops

/-- a report of the model is what the protocol demands; past the end "no further element" may be reported
    once more before the error -/
def resOk : TRes → TOut → Prop
  | .val v, .val w => v = w
  | .adv .more, .adv .more => True
  | .adv .last, .adv .last => True
  | .adv .err, .adv (.err _) => True
  | .adv .err, .adv .last => True
  | .rst, .rst => True
  | _, _ => False

def allOk : List TRes → List TOut → Prop
  | [], [] => True
  | r :: rs, o :: os => resOk r o ∧ allOk rs os
  | _, _ => False

/-- the states of a text iterator over a text of number tokens that the calls can reach, related to the protocol
    automaton: at a token in the middle (not read / read: the element is marked), at the last token, behind it -/
inductive StrRel (sep text : List Char) (all : List Rat) : TCur → StrIt → Prop
  | mid (c : TCur) (pre t : List Char) (ch : Char) (rest : List Char) (v : Rat) (vs : List Rat)
      (htext : text = pre ++ (t ++ ch :: rest)) (ht : strictNumber t = some v) (hs : SepChar ch)
      (more : TokS SepChar rest vs) (hall : c.all = all) (hrem : c.rem = v :: vs) (hread : c.read = false) :
      StrRel sep text all c (atPos sep text pre.length)
  | read (c : TCur) (pre t : List Char) (ch : Char) (rest : List Char) (v : Rat) (vs : List Rat)
      (htext : text = pre ++ (t ++ ch :: rest)) (ht : strictNumber t = some v) (hs : SepChar ch)
      (more : TokS SepChar rest vs) (hall : c.all = all) (hrem : c.rem = v :: vs) :
      StrRel sep text all c { atPos sep text pre.length with restore := some (pre.length + t.length), patched := true }
  | last (c : TCur) (pre t : List Char) (v : Rat) (htext : text = pre ++ t) (ht : strictNumber t = some v)
      (hall : c.all = all) (hrem : c.rem = [v]) : StrRel sep text all c (atPos sep text pre.length)
  | ended (c : TCur) (s : StrIt) (hpos : s.pos = none) (ht : s.text = text) (hsep : s.sep = sep)
      (hall : c.all = all) (hrem : c.rem = []) : StrRel sep text all c s

theorem strRel_text {sep text : List Char} {all : List Rat} {c : TCur} {s : StrIt}
    (h : StrRel sep text all c s) : s.text = text ∧ s.sep = sep ∧ c.all = all := by
  cases h with
  | mid _ _ _ _ _ _ _ _ _ _ hall _ _ => exact ⟨rfl, rfl, hall⟩
  | read _ _ _ _ _ _ _ _ _ _ hall _ => exact ⟨rfl, rfl, hall⟩
  | last _ _ _ _ _ hall _ => exact ⟨rfl, rfl, hall⟩
  | ended _ _ ht hsep hall _ => exact ⟨ht, hsep, hall⟩

theorem StrRel.at {sep text rest : List Char} {all vs : List Rat} (c : TCur) (pre : List Char)
    (h : TokS SepChar rest vs) (htext : text = pre ++ rest) (hall : c.all = all) (hrem : c.rem = vs)
    (hread : c.read = false) : StrRel sep text all c (atPos sep text pre.length) := by
  cases h with
  | last ht => exact .last c pre _ _ htext ht hall hrem
  | cons ht hc more => exact .mid c pre _ _ _ _ _ htext ht hc more hall hrem hread

/-- `StrRel` says where in the text the iterator stands, so every call is one of the equations above
    (`conv_mid`, `conv_last`, `advance_sep`, `advance_last`); `reset` returns to the front of the whole text -/
theorem strRel_step (sep text : List Char) (all : List Rat) (hT : TokS SepChar text all) (c : TCur) (s : StrIt)
    (h : StrRel sep text all c s) (op : Call) (c' : TCur) (r : TRes) (hstep : c.step op = some (c', r)) :
    StrRel sep text all c' (s.step op).1 ∧ resOk r (s.step op).2 := by
  obtain ⟨htx, hsp, hcall⟩ := strRel_text h
  cases op with
  | reset =>
    cases hstep
    have hs0 : (s.step .reset).1 = atPos sep text ([] : List Char).length := by
      simp only [StrIt.step, StrIt.reset, atPos, List.length_nil]
      rw [← htx, ← hsp]
    rw [hs0]
    exact ⟨StrRel.at _ [] hT rfl hcall hcall rfl, trivial⟩
  | value =>
    cases hstep
    cases h with
    | mid pre t ch rest v vs htext ht hs more hall hrem hread =>
      have hcv := conv_mid sep pre t ch rest v ht hs none false
      rw [← htext] at hcv
      have hval : (atPos sep text pre.length).hasValue = true := rfl
      simp only [StrIt.step, hval, Bool.not_true, Bool.false_eq_true, ↓reduceIte,
        show (atPos sep text pre.length).conv = _ from hcv]
      exact ⟨.read _ pre t ch rest v vs htext ht hs more hall hrem, by simp [resOk, hrem]⟩
    | read pre t ch rest v vs htext ht hs more hall hrem =>
      have hcv := conv_mid sep pre t ch rest v ht hs (some (pre.length + t.length)) true
      rw [← htext] at hcv
      have hval : ({ atPos sep text pre.length with
          restore := some (pre.length + t.length), patched := true } : StrIt).hasValue = true := rfl
      simp only [StrIt.step, hval, Bool.not_true, Bool.false_eq_true, ↓reduceIte, hcv]
      exact ⟨.read _ pre t ch rest v vs htext ht hs more hall hrem, by simp [resOk, hrem]⟩
    | last pre t v htext ht hall hrem =>
      have hcv := conv_last sep pre t v ht
      rw [← htext] at hcv
      have hval : (atPos sep text pre.length).hasValue = true := rfl
      simp only [StrIt.step, hval, Bool.not_true, Bool.false_eq_true, ↓reduceIte, hcv]
      exact ⟨.last _ pre t v htext ht hall hrem, by simp [resOk, hrem]⟩
    | ended _ hpos ht hsep hall hrem =>
      have hval : s.hasValue = false := by simp [StrIt.hasValue, hpos]
      simp only [StrIt.step, hval, Bool.not_false, ↓reduceIte]
      exact ⟨.ended _ s hpos ht hsep hall hrem, by simp [resOk, hrem]⟩
  | advance =>
    cases h with
    | mid pre t ch rest v vs htext ht hs more hall hrem hread =>
      -- an element in the middle, not read: no statement
      simp [TCur.step, hrem, hread] at hstep
    | read pre t ch rest v vs htext ht hs more hall hrem =>
      simp only [TCur.step, hrem] at hstep
      split at hstep
      · cases hstep
        have hadv := advance_sep sep pre t ch rest more.noLead
        have htxt : text = (pre ++ t ++ [ch]) ++ rest := by rw [htext]; simp
        rw [← htext] at hadv
        simp only [StrIt.step, hadv]
        rw [← htxt]
        exact ⟨StrRel.at _ (pre ++ t ++ [ch]) more htxt hall rfl rfl, by cases more <;> simp [resOk]⟩
      · cases hstep
    | last pre t v htext ht hall hrem =>
      simp only [TCur.step, hrem] at hstep
      split at hstep
      · cases hstep
        have hlt : pre.length < text.length := by rw [htext]; exact pos_lt pre t (strict_ne_nil t v ht)
        simp only [StrIt.step, advance_last sep _ _ hlt]
        exact ⟨.ended _ _ rfl rfl rfl hall rfl, trivial⟩
      · cases hstep
    | ended _ hpos ht hsep hall hrem =>
      simp only [TCur.step, hrem, Option.some.injEq, Prod.mk.injEq] at hstep
      obtain ⟨hc', hr⟩ := hstep
      subst hc'; subst hr
      simp only [StrIt.step, StrIt.advance, hpos]
      by_cases he : s.endNull = true
      · simp only [he, ↓reduceIte]
        exact ⟨.ended _ s hpos ht hsep hall hrem, trivial⟩
      · simp only [he, Bool.false_eq_true, ↓reduceIte]
        exact ⟨.ended _ _ rfl ht hsep hall hrem, trivial⟩

theorem strRel_run (sep text : List Char) (all : List Rat) (hT : TokS SepChar text all) (ops : List Call) (c : TCur)
    (s : StrIt) (h : StrRel sep text all c s) (outs : List TRes) (hrun : c.run ops = some outs) :
    allOk outs (s.run ops) := by
  induction ops generalizing c s outs with
  | nil =>
    simp only [TCur.run, Option.some.injEq] at hrun
    subst hrun
    exact True.intro
  | cons op ops ih =>
    simp only [TCur.run] at hrun
    cases hst : c.step op with
    | none => rw [hst] at hrun; cases hrun
    | some pr =>
      obtain ⟨c', r⟩ := pr
      rw [hst] at hrun
      simp only [] at hrun
      cases hro : c'.run ops with
      | none => rw [hro] at hrun; cases hrun
      | some outs' =>
        rw [hro] at hrun
        simp only [Option.map_some, Option.some.injEq] at hrun
        subst hrun
        obtain ⟨hrel, hres⟩ := strRel_step sep text all hT c s h op c' r hst
        exact ⟨hres, ih c' _ hrel outs' hro⟩

end Mpt.Iter
