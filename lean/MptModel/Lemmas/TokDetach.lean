/-
  `detach` (private copy / move) on buffers of managed elements (`DetachM`, `detach_managed`), and how a handle comes to a
  buffer of its own as a complete step: `ensure` on a handle that holds one (`ensure_step`), a fresh buffer for an empty
  handle (`attach_managed_step`).
-/
import MptModel.Lemmas.TokUnits
import MptModel.Lemmas.HeapGraph
namespace Mpt.Heap

theorem fresh_toks (len f : Nat) (t : Traits) (mt : Managed t) : (State.fresh len f (some t)).toks = [] := by
  rw [toks_of_used (x := State.fresh len f (some t)) (n := 0) rfl mt (by simp [State.fresh])]
  rfl

/-- the element-wise copy of `detach` and `reserve`: `mpt_buffer_set` of the first `u` bytes of the buffer `x` into
    the empty buffer `z0` of the same element type.  Refused without a change, or `m` elements with fresh tokens are
    copy-constructed from elements of `x` (fewer than offered when a constructor and its fallback are refused) -/
theorem bufferSet_copy {s : State} {nb : Nat} {z0 x : Buf} {t : Traits} {N : Nat} (hz : s.buf? nb = some z0)
    (zt : z0.traits = some t) (z0u : z0.used = 0) (xt : x.traits = some t) (mt : Managed t) (hu : x.used = N * t.size)
    (hsz : x.used ≤ x.size) (u : Nat) (hle : u ≤ x.used) :
    (∃ e, bufferSet s nb (some t) 0 (x.data.take u) true = .fail s e) ∨
    (∃ s' v z m cre, bufferSet s nb (some t) 0 (x.data.take u) true = .ok s' v ∧ Frame s s' nb ∧ s'.buf? nb = some z ∧
      z.ref = z0.ref ∧ z.traits = some t ∧ GoodBuf z ∧ z.used ≤ u ∧ s'.next = s.next + m ∧ s'.log = s.log ++ cre ∧
      Creates x.toks s.next cre m ∧ (s'.next ≤ tokLimit → z.toks = seqFrom s.next m)) := by
  have h4 := mt.2.2
  have szp : 0 < t.size := by omega
  have bl : (x.data.take u).length = u := by rw [List.length_take]; exact Nat.min_eq_left (Nat.le_trans hle hsz)
  have srcs : true = true → ∀ j, j < (x.data.take u).length / t.size → slot (x.data.take u) t.size j ∈ x.toks := by
    intro _ j hj
    have h1 : (j + 1) * t.size ≤ u := (Nat.le_div_iff_mul_le szp).mp (bl ▸ hj)
    have jN : j + 1 ≤ N := Nat.le_of_mul_le_mul_right (hu ▸ Nat.le_trans h1 hle) szp
    rw [slot_take x.data t.size _ j h4 h1, toks_of_used xt mt hu, mem_slotsFrom]
    exact ⟨j, Nat.zero_le j, by omega, rfl⟩
  rcases bufferSet_managed hz zt mt (n := 0) (by rw [z0u, Nat.zero_mul]) (by rw [z0u]; exact Nat.zero_le _) 0 (x.data.take u) true
      x.toks srcs with ⟨e, he⟩ | ⟨p, k, m, fatal, s3, z, v, ep, ek, qfit, he, sd⟩ | ⟨p, m, s3, z, ep, lt, _⟩
  · exact Or.inl ⟨e, he⟩
  · have p0 : p = 0 := by
      rcases Nat.mul_eq_zero.mp ep.symm with h | h <;> omega
    subst p0
    have zu : z.used = m * t.size := by
      rw [sd.used]
      cases fatal with
      | true => simp
      | false => simp only [Bool.false_eq_true, if_false]; rw [sd.nfat rfl]; simp
    have mk : m * t.size ≤ (0 + k) * t.size := Nat.mul_le_mul_right _ (by have := sd.mle; omega)
    obtain ⟨cre, crc, lg⟩ := sd.log
    refine Or.inr ⟨s3, v, z, m, cre, he, sd.frame, sd.buf, sd.ref, sd.traits.trans zt,
      goodBuf_of (sd.traits.trans zt) mt zu (Nat.le_trans mk (by rw [Buf.size, sd.len]; exact qfit)),
      by rw [zu, ← bl, ek, ← Nat.zero_add k]; exact mk, by rw [sd.next]; omega, ?_, by simpa using crc, fun small => ?_⟩
    · rw [lg, show min 0 (0 + k) - 0 = 0 by omega, show 0 - (0 + k) = 0 by omega]
      cases fatal <;> simp [slotsFrom]
    · rw [toks_of_used (sd.traits.trans zt) mt zu]
      exact slotsFrom_eq_seqFrom fun j h1 h2 => (sd.new small j h1 h2).trans (by omega)
  · rcases Nat.mul_eq_zero.mp ep.symm with h | h <;> omega

/-- outcome of `detach` on a live buffer of managed elements: nothing to do; refused without a trace; `copied` (shared
    buffer: copies with fresh tokens, the old buffer loses a reference); `moved` (private buffer: the tokens `A` move,
    the tokens `T` that do not fit are destroyed, the old buffer is freed) -/
inductive DetachM (s : State) (b : Nat) (x : Buf) (t : Traits) : Out Nat → Prop where
  | same : DetachM s b x t (.ok s b)
  | refused (s' : State) (e : Fail) : (∀ c, s'.buf? c = s.buf? c) → s'.hs = s.hs → s'.log = s.log → s'.next = s.next →
      DetachM s b x t (.fail s' e)
  | copied (s' : State) (z : Buf) (m : Nat) (cre : List Ev) : 2 ≤ x.ref → s'.hs = s.hs →
      (∀ c, s'.buf? c = if c = s.bufs.length then some z else if c = b then some { x with ref := x.ref - 1 } else s.buf? c) →
      z.ref = 1 → z.traits = some t → GoodBuf z → z.used ≤ x.used → s'.next = s.next + m → s'.log = s.log ++ cre → Creates x.toks s.next cre m →
      (s'.next ≤ tokLimit → z.toks = seqFrom s.next m) →
      DetachM s b x t (.ok s' s.bufs.length)
  | moved (s' : State) (z : Buf) (A T : List Nat) : x.ref = 1 → s'.hs = s.hs →
      (∀ c, s'.buf? c = if c = s.bufs.length then some z else if c = b then none else s.buf? c) →
      z.ref = 1 → z.traits = some t → GoodBuf z → z.used ≤ x.used → s'.next = s.next → s'.log = s.log ++ T.map Ev.fini →
      x.toks = A ++ T → z.toks = A →
      DetachM s b x t (.ok s' s.bufs.length)

theorem detach_shared {s : State} {b : Nat} {x : Buf} (hb : s.buf? b = some x) (sz0 : esize x.traits ≠ 0) (shared : 2 ≤ x.ref)
    (cp : x.uncopyable = false ∨ x.used = 0) (n : Nat) :
    detach s b n = detachCopy (s.newBuf (roundUp n (esize x.traits)) (x.flags - x.flags % 2) x.traits) b x s.bufs.length := by
  unfold detach
  rw [hb]
  simp only
  rw [if_neg sz0, if_neg (fun h => by omega), if_neg (fun h => by rcases cp with c | c <;> simp [c] at h), if_pos shared]

theorem detachCopy_ok {s1 s3 : State} {b nb : Nat} {x : Buf} {v : Int}
    (h : bufferSet (s1.setBuf b { x with ref := x.ref - 1 }) nb x.traits 0 x.content true = .ok s3 v) :
    detachCopy s1 b x nb = .ok s3 nb := by
  unfold detachCopy
  simp only [h]

theorem detachCopy_managed {s : State} {b : Nat} {x : Buf} {t : Traits} {N : Nat} (hb : s.buf? b = some x) (xt : x.traits = some t)
    (mt : Managed t) (hu : x.used = N * t.size) (hsz : x.used ≤ x.size) (shared : 2 ≤ x.ref) (len : Nat) :
    DetachM s b x t (detachCopy (s.newBuf len (x.flags - x.flags % 2) x.traits) b x s.bufs.length) := by
  have blt := State.buf?_lt hb
  have nbne : s.bufs.length ≠ b := by omega
  generalize hs2 : (s.newBuf len (x.flags - x.flags % 2) x.traits).setBuf b { x with ref := x.ref - 1 } = s2
  have h2 := fun c => hs2 ▸ State.buf?_newBuf_setBuf s len (x.flags - x.flags % 2) x.traits b c { x with ref := x.ref - 1 } blt
  have hz : s2.buf? s.bufs.length = some (State.fresh len (x.flags - x.flags % 2) x.traits) := by
    rw [h2, if_neg nbne, if_pos rfl]
  rcases bufferSet_copy (s := s2) hz xt rfl xt mt hu hsz x.used (Nat.le_refl _) with
    ⟨e, he⟩ | ⟨s3, v, z, m, cre, he, fr, hb3, zr, zt, zg, zle, hnx, hlog, crc, ztoks⟩
  · -- the data does not fit: the new buffer is released again, the reference restored
    obtain ⟨s', hd, hbuf, hhs, _, hlog, hnx, _⟩ := detachCopy_refused hb shared len (x.flags - x.flags % 2) (e := e)
      (by rw [hs2, xt, Buf.content]; exact he)
    rw [hd]
    exact DetachM.refused _ _ hbuf hhs hlog hnx
  · rw [detachCopy_ok (by rw [hs2, xt]; exact he)]
    refine DetachM.copied s3 z m cre shared (by rw [fr.hs, ← hs2]; rfl) (fun c => ?_) zr zt zg zle
      (by rw [hnx, ← hs2]; rfl) (by rw [hlog, ← hs2]; rfl) (by rw [← hs2] at crc; exact crc)
      (fun small => by rw [ztoks small, ← hs2]; rfl)
    by_cases e1 : c = s.bufs.length
    · rw [if_pos e1, e1, hb3]
    · rw [if_neg e1, fr.other c e1, h2]
      by_cases e2 : c = b
      · rw [if_pos e2, if_pos e2]
      · rw [if_neg e2, if_neg e1, if_neg e2]

theorem detachMove_managed {s : State} {b : Nat} {x : Buf} {t : Traits} {N : Nat} (hb : s.buf? b = some x) (xt : x.traits = some t)
    (mt : Managed t) (hu : x.used = N * t.size) (hsz : x.used ≤ x.size) (r1 : x.ref = 1) (L : Nat) :
    DetachM s b x t (detachMove (s.newBuf (L * t.size) (x.flags - x.flags % 2) x.traits) b x s.bufs.length (L * t.size)) := by
  have h4 := mt.2.2
  have sz0 : t.size ≠ 0 := by omega
  have blt := State.buf?_lt hb
  have nbne : s.bufs.length ≠ b := by omega
  have bne : ¬ b = s.bufs.length := fun e => nbne e.symm
  have nsz : N * t.size ≤ x.data.length := by rw [← hu]; exact hsz
  have asz := le_allocSize (L * t.size)
  rw [xt]
  unfold detachMove
  generalize hs2 : (s.newBuf (L * t.size) (x.flags - x.flags % 2) (some t)).setBuf b { x with ref := 0 } = s2
  have h2 := fun c => hs2 ▸ State.buf?_newBuf_setBuf s (L * t.size) (x.flags - x.flags % 2) (some t) b c { x with ref := 0 } blt
  have hb2 : s2.buf? b = some { x with ref := 0 } := by rw [h2]; simp
  -- destroy what does not fit
  have tail : ∃ s3 d3, finiTail s2 b x (L * t.size) = .ok s3 () ∧ OnlyBuf s2 s3 b ∧
      s3.log = s2.log ++ (slotsFrom x.data t.size L (N - L)).map Ev.fini ∧
      s3.buf? b = some { x with ref := 0, data := d3 } ∧ d3.length = x.data.length ∧
      (∀ j, j < L → slot d3 t.size j = slot x.data t.size j) := by
    have ual : x.used - x.used % t.size = N * t.size := by rw [hu, Nat.mul_mod_left]; simp
    have ftd : finiTail s2 b x (L * t.size) =
        if x.used > L * t.size then finiLoop (N - L) s2 b (L * t.size) t.size else .ok s2 () := by
      unfold finiTail
      rw [xt]
      simp only [mt.2.1, if_true]
      rw [ual, iters_aligned L N t.size sz0]
    rw [ftd]
    by_cases gt : x.used > L * t.size
    · rw [if_pos gt]
      have LN : L < N := by
        rw [hu] at gt
        exact Nat.lt_of_mul_lt_mul_right gt
      obtain ⟨s3, d3, hf, ob, l3, hb3, dl3, same3⟩ := finiLoop_slots (N - L) s2 b L t.size { x with ref := 0 } hb2 h4
        (by simp only [Buf.size]; have : L + (N - L) = N := by omega
            rw [this]; exact nsz)
      exact ⟨s3, d3, hf, ob, l3, hb3, dl3, fun j hj => same3 j (Or.inl hj)⟩
    · rw [if_neg gt]
      have NL : N - L = 0 := by
        rw [hu] at gt
        have : N * t.size ≤ L * t.size := by omega
        have := Nat.le_of_mul_le_mul_right this (by omega : 0 < t.size)
        omega
      exact ⟨s2, x.data, rfl, OnlyBuf.refl s2 b, by rw [NL]; simp [slotsFrom], hb2, rfl, fun _ _ => rfl⟩
  obtain ⟨s3, d3, hf, ob, l3, hb3, dl3, same3⟩ := tail
  rw [hf]
  simp only
  have hz3 : s3.buf? s.bufs.length = some (State.fresh (L * t.size) (x.flags - x.flags % 2) (some t)) := by
    rw [ob.other _ nbne, h2]; simp [nbne]
  rw [hb3, hz3]
  simp only
  -- the `min N L` elements that fit are written to the front of the new buffer
  have adde : min x.used (L * t.size) = (min N L) * t.size := by
    rw [hu]
    rcases Nat.le_total N L with h | h
    · rw [Nat.min_eq_left h, Nat.min_eq_left (Nat.mul_le_mul_right _ h)]
    · rw [Nat.min_eq_right h, Nat.min_eq_right (Nat.mul_le_mul_right _ h)]
  rw [adde]
  have fsz : (State.fresh (L * t.size) (x.flags - x.flags % 2) (some t)).size = allocSize (L * t.size) := by
    simp [State.fresh, Buf.size]
  rw [if_neg (by rw [fsz]; omega)]
  have tl : (List.take ((min N L) * t.size) d3).length = (min N L) * t.size := by
    rw [List.length_take, dl3]
    omega
  generalize hz' : ({ State.fresh (L * t.size) (x.flags - x.flags % 2) (some t) with
      data := Mem.write (State.fresh (L * t.size) (x.flags - x.flags % 2) (some t)).data 0 (List.take ((min N L) * t.size) d3),
      used := (min N L) * t.size } : Buf) = z
  have zdl : z.data.length = allocSize (L * t.size) := by
    rw [← hz']
    show (Mem.write _ 0 _).length = _
    rw [Mem.write_length _ _ _ (by rw [tl]; simp [State.fresh]; omega)]; simp [State.fresh]
  -- in these slots `z` reads what `x` did: the copy takes them from `d3`, which the destructor loop left alone below `L`
  have zslots : ∀ j, j < min N L → slot z.data t.size j = slot x.data t.size j := by
    intro j hj
    rw [← hz']
    show slot (Mem.write _ 0 _) t.size j = _
    have := slot_write (State.fresh (L * t.size) (x.flags - x.flags % 2) (some t)).data t.size 0 (min N L)
      (List.take ((min N L) * t.size) d3) h4 tl (by simp [State.fresh]; omega) j
    rw [Nat.zero_mul] at this
    rw [this]
    have c : 0 ≤ j ∧ j < 0 + min N L := by omega
    rw [if_pos c, Nat.sub_zero, slot_take d3 t.size _ j h4 (Nat.mul_le_mul_right _ (by omega))]
    exact same3 j (by omega)
  have l3' : b < s3.bufs.length := State.buf?_lt hb3
  have nl3 : s.bufs.length < s3.bufs.length := State.buf?_lt hz3
  -- `x.toks` splits into the moved part `A` (what `z` stores) and the destroyed part `T`; the other goals are the handles,
  -- the buffer table, the counter and the log
  refine DetachM.moved _ z (slotsFrom x.data t.size 0 (min N L)) (slotsFrom x.data t.size L (N - L)) r1 ?_ ?_ (by rw [← hz']; rfl)
    (by rw [← hz']; rfl) (goodBuf_of (by rw [← hz']; rfl) mt (by rw [← hz']) (by simp only [Buf.size, zdl]; omega))
    (by rw [← hz', hu]; exact Nat.mul_le_mul_right _ (Nat.min_le_left _ _)) ?_ ?_ ?_ ?_
  · show s3.hs = _; rw [ob.hs, ← hs2]; rfl
  · intro c
    rw [State.buf?_freeBuf _ _ _ (by simp; exact l3'), State.buf?_setBuf _ _ _ _ nl3]
    by_cases e1 : c = b
    · rw [e1]; simp [bne]
    · rw [if_neg e1]
      by_cases e2 : c = s.bufs.length
      · rw [e2]; simp
      · rw [if_neg e2, ob.other c e1, h2]; simp [e1, e2]
  · show s3.next = _; rw [ob.next, ← hs2]; rfl
  · show s3.log = _; rw [l3, ← hs2]; rfl
  · rw [toks_of_used xt mt hu]
    have e : N = min N L + (N - L) := by omega
    conv => lhs; rw [e]
    rw [slotsFrom_add]
    congr 1
    exact slotsFrom_start (by intro h; omega)
  · rw [toks_of_used (x := z) (by rw [← hz']; rfl) mt (n := min N L) (by rw [← hz'])]
    exact slotsFrom_congr (fun j _ h2 => zslots j (by omega))

theorem detach_managed {s : State} {b : Nat} {x : Buf} {t : Traits} (inv : InvM s) (hb : s.buf? b = some x)
    (xt : x.traits = some t) (n : Nat) : DetachM s b x t (detach s b n) := by
  obtain ⟨t', N, xt', mt, hu, hsz⟩ := (inv.good b x hb).elems
  rw [xt] at xt'; cases xt'
  have sz0 : t.size ≠ 0 := by have := mt.2.2; omega
  have r := inv.ref b x hb
  unfold detach
  rw [hb]
  simp only [xt, esize]
  rw [if_neg sz0]
  obtain ⟨L, hL⟩ := eq_mul_of_mod (roundUp_mod n t.size sz0)
  rw [hL]
  by_cases inplace : x.ref < 2 ∧ L * t.size ≤ x.size ∧ ¬ x.immutable = true
  · rw [if_pos inplace]; exact DetachM.same
  · rw [if_neg inplace]
    by_cases nocopy : 2 ≤ x.ref ∧ x.uncopyable = true ∧ x.used ≠ 0
    · rw [if_pos nocopy]; exact DetachM.refused s _ (fun _ => rfl) rfl rfl rfl
    · rw [if_neg nocopy]
      by_cases shared : 2 ≤ x.ref
      · rw [if_pos shared, ← xt]; exact detachCopy_managed hb xt mt hu hsz shared _
      · rw [if_neg shared, ← xt]; exact detachMove_managed hb xt mt hu hsz (by omega) L

theorem attach_managed_step {amb : List Nat} {s : State} (gs : GoodS amb s) {h : Nat} (hlt : h < s.hs.length) (hh : s.handle h = none)
    (len fl : Nat) (t : Traits) (mt : Managed t) :
    Step amb s ((s.newBuf len fl (some t)).setHandle h (some s.bufs.length)) ∧
    ((s.newBuf len fl (some t)).setHandle h (some s.bufs.length)).buf? s.bufs.length = some (State.fresh len fl (some t)) := by
  have hnb : s.buf? s.bufs.length = none := State.buf?_ge_length s _ (Nat.le_refl _)
  have hz : ((s.newBuf len fl (some t)).setHandle h (some s.bufs.length)).buf? s.bufs.length = some (State.fresh len fl (some t)) := by
    rw [State.buf?_setHandle, State.buf?_newBuf]; simp
  have fg : GoodBuf (State.fresh len fl (some t)) := goodBuf_of (n := 0) rfl mt (by simp [State.fresh]) (by simp)
  obtain ⟨inv', _⟩ := gs.inv.retarget (s' := (s.newBuf len fl (some t)).setHandle h (some s.bufs.length)) hlt hnb (by simp)
    (by intro c; rw [State.buf?_setHandle, State.buf?_newBuf]; simp [hh]) rfl fg
  refine ⟨step_of_toks_same gs inv' (by simp) ?_ rfl rfl, hz⟩
  intro c
  rw [State.buf?_setHandle, State.buf?_newBuf]
  by_cases e : c = s.bufs.length
  · rw [e, hnb]; simp [bufToks, fresh_toks _ _ t mt]
  · simp [e]

theorem ensure_step {amb : List Nat} {s : State} {h b : Nat} {x : Buf} {t : Traits} (gs : GoodS amb s) (hh : s.handle h = some b)
    (hb : s.buf? b = some x) (xt : x.traits = some t) (need : Bool) (n : Nat) :
    (∃ s' e, ensure s h b need n = .fail s' e ∧ Step amb s s') ∨
    (∃ s' nb, ensure s h b need n = .ok s' nb ∧
      Step amb s s' ∧ s'.handle h = some nb ∧ ∃ z, s'.buf? nb = some z ∧ z.traits = some t ∧ z.used ≤ x.used) := by
  unfold ensure
  cases need with
  | false => exact Or.inr ⟨s, b, rfl, Step.refl gs, hh, x, hb, xt, Nat.le_refl _⟩
  | true =>
    rw [if_pos rfl]
    have dm := detach_managed gs.inv hb xt n
    generalize detach s b n = r at dm
    -- `copied` and `moved` as rewrites of the tokens of `b` into those of `b` and the new buffer (`retarget_step`)
    cases dm with
    | same =>
      simp only
      rw [setHandle_self hh]
      exact Or.inr ⟨s, b, rfl, Step.refl gs, hh, x, hb, xt, Nat.le_refl _⟩
    | refused s' e hbuf hhs hlog hnx => exact Or.inl ⟨s', e, rfl, step_of_same gs hbuf hhs hlog hnx⟩
    | copied s' z m cre shared hhs hbuf zr zt zg zle hnx hlog crc ztoks =>
      obtain ⟨st, hh', hz⟩ := retarget_step (s' := s'.setHandle h (some s.bufs.length)) gs hh hb (if_neg (by omega)).symm
        (by rw [State.setHandle_hs, hhs]) hbuf zr zg (by show s.next ≤ s'.next; omega) (fun small => by
          show Rewrote _ _ _ _ (x.toks ++ z.toks)
          rw [ztoks small]
          exact .mk (A := x.toks) (G := []) (T := []) (D := []) (by simp) (by simp) hnx
            (by show s'.log = _; rw [hlog]; simp) (.refl _) crc (fun k hk => Or.inr (mem_stored.mpr ⟨b, x, hb, hk⟩)))
      exact Or.inr ⟨_, _, rfl, st, hh', z, hz, zt, zle⟩
    | moved s' z A T r1 hhs hbuf zr zt zg zle hnx hlog xtk ztk =>
      obtain ⟨st, hh', hz⟩ := retarget_step (s' := s'.setHandle h (some s.bufs.length)) gs hh hb (if_pos r1).symm
        (by rw [State.setHandle_hs, hhs]) hbuf zr zg (by show s.next ≤ s'.next; omega) (fun _ => by
          show Rewrote _ _ _ _ ([] ++ z.toks)
          rw [ztk]
          exact .mk (A := A) (G := T) (T := []) (cre := []) (m := 0) (S := []) (by rw [xtk]; simp)
            (by simp [seqFrom]) (by show s'.next = _; rw [hnx]; rfl)
            (by show s'.log = _; rw [hlog]; simp) (.refl _) (Creates.nil _) nofun)
      exact Or.inr ⟨_, _, rfl, st, hh', z, hz, zt, zle⟩

end Mpt.Heap
