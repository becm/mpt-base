/-
  C06: the invariant is kept.  A name that passes the tests of the add functions (the cross-table duplicate test is a
  whole-string lookup) is no short name and is not registered yet (`accepted_name`); with `run_cases` every registration
  keeps `Inv` (`inv_step`), so every reachable state has it (`inv_runOps`).
-/
import MptModel.Lemmas.RegistryName
namespace Mpt.Registry
open Mpt.Generated Mpt.RegSpec

/-- the documented short names expand to names of built-in entries, and `resolveShort` expands them; none contains `:`
    (byte 58), at which `mpt_alias_typeid` splits a description -/
theorem shortNames_builtin : ∀ sf ∈ shortNames, resolveShort sf.1 = sf.2 ∧ sf.1 ≠ [] ∧ 58 ∉ sf.1 ∧
    ∃ e ∈ allNamed init, e.name = some sf.2 := by decide

theorem short_targets_builtin (n : Name) (hn : resolveShort n ≠ n) :
    ∃ e ∈ allNamed init, e.name = some (resolveShort n) := by
  have hsf : ∃ sf ∈ shortNames, resolveShort n = sf.2 := by
    unfold resolveShort at hn ⊢
    -- the four tests of `resolveShort` in order, each with its row of `shortNames`; last the case that none applies
    repeat' split
    · exact ⟨_, .head _, rfl⟩
    · exact ⟨_, .tail _ (.head _), rfl⟩
    · exact ⟨_, .tail _ (.tail _ (.head _)), rfl⟩
    · exact ⟨_, .tail _ (.tail _ (.tail _ (.head _))), rfl⟩
    · exact absurd (by simp only [*, ↓reduceIte]) hn
  obtain ⟨sf, hsf, h⟩ := hsf
  obtain ⟨_, _, _, hbuiltin⟩ := shortNames_builtin sf hsf
  exact h ▸ hbuiltin

theorem nameRefused_short {minLen : Nat} (mode : String) (own : Name → Bool) (r : Reg) {n : Name} (h : n.length < minLen) :
    nameRefused minLen mode own r (some n) = true := by
  simp [nameRefused, h]

theorem nameRefused_dup {minLen : Nat} (own : Name → Bool) {r : Reg} {n : Name} (h : (namedTraits r n (-1)).isSome = true) :
    nameRefused minLen "full" own r (some n) = true := by
  simp [nameRefused, dupFound, h]

theorem accepted_name {r : Reg} (hinv : Inv r) {name : Option Name} {minLen : Nat} {own : Name → Bool} (hmin : 0 < minLen)
    (h : nameRefused minLen "full" own r name = false) :
    (∀ n, name = some n → resolveShort n = n ∧ n ≠ []) ∧
    (∀ a ∈ allNamed r, a.name = name → name = none) := by
  cases name with
  | none => exact ⟨by intro n hn; simp at hn, by intro a _ _; rfl⟩
  | some n =>
    simp only [nameRefused, dupFound, if_true, Bool.or_eq_false_iff, decide_eq_false_iff_not, Nat.not_lt] at h
    -- the own-table test is not needed: the cross-table lookup of the whole string excludes every registered name
    obtain ⟨⟨hlen, _⟩, hnone⟩ := h
    have hne : n ≠ [] := by
      intro h0; subst h0; exact Nat.lt_irrefl 0 (Nat.lt_of_lt_of_le hmin hlen)
    have hlk : lookupKey r (resolveShort n) = none := by
      rw [namedTraits_whole, if_neg hne] at hnone
      simpa using hnone
    have hres : resolveShort n = n := by
      by_cases hs : resolveShort n = n
      · exact hs
      · obtain ⟨e, he, hen⟩ := short_targets_builtin n hs
        exact absurd hlk (lookupKey_ne_none (allNamed_mono hinv.ext e he) hen)
    refine ⟨?_, ?_⟩
    · intro m hm; simp at hm; subst hm; exact ⟨hres, hne⟩
    · intro a ha han
      rw [hres] at hlk
      exact absurd hlk (lookupKey_ne_none ha han)

theorem named_inv_add {r r' : Reg} (hinv : Inv r) {e : Named} {minLen : Nat} {own : Name → Bool} (hmin : 0 < minLen)
    (hacc : nameRefused minLen "full" own r e.name = false)
    (hmem : ∀ a, a ∈ allNamed r' ↔ a ∈ allNamed r ∨ a = e) :
    (∀ a ∈ allNamed r', ∀ n, a.name = some n → resolveShort n = n ∧ n ≠ []) ∧
    (∀ a ∈ allNamed r', ∀ b ∈ allNamed r', a.name = b.name → a.name ≠ none → a = b) := by
  obtain ⟨hA, hB⟩ := accepted_name hinv hmin hacc
  refine ⟨?_, ?_⟩
  · intro a ha n hn
    rcases (hmem a).mp ha with ha | rfl
    · exact hinv.noShort a ha n hn
    · exact hA n hn
  · intro a ha b hb hab hne
    rcases (hmem a).mp ha with ha | rfl <;> rcases (hmem b).mp hb with hb | rfl
    · exact hinv.unique a ha b hb hab hne
    · exact absurd (hB a ha hab) (by rw [← hab]; exact hne)
    · exact absurd (hB b hb hab.symm) hne
    · rfl

theorem forall_getElem?_append {α} {l : List α} {x : α} {P : Nat → α → Prop} (h : ∀ i a, l[i]? = some a → P i a)
    (hx : P l.length x) : ∀ i a, (l ++ [x])[i]? = some a → P i a := by
  intro i a ha
  rcases Nat.lt_trichotomy i l.length with hi | rfl | hi
  · exact h i a (by rwa [List.getElem?_append_left hi] at ha)
  · rw [List.getElem?_concat_length] at ha; cases ha; exact hx
  · rw [List.getElem?_eq_none (by simp; omega)] at ha; cases ha

theorem inv_step {r : Reg} (hinv : Inv r) (op : Op) : Inv (step r op) := by
  -- only the table of the kind grows: its length bound comes from the passed range test, for the two named tables the
  -- name invariants from `named_inv_add` and the id of the new entry from `forall_getElem?_append`
  have hext := hinv.ext.trans (step_ext r op)
  unfold step at hext ⊢
  rcases run_cases r op with h | h
  · rw [h]; exact hinv
  · cases op <;> dsimp only at h <;> simp only [h.1] at hext ⊢
    · exact { hinv with ext := hext, dynLen := by have := h.2; simp; omega }
    · exact { hinv with ext := hext, genLen := by have := h.2; simp; omega }
    · rename_i name
      obtain ⟨_, hroom, hname⟩ := h
      obtain ⟨hs, hu⟩ := named_inv_add (e := ⟨name, TypeTab.interfaceBase + r.ifaces.length, .known ptrDesc⟩)
        (r' := { r with ifaces := r.ifaces ++ [some ⟨name, TypeTab.interfaceBase + r.ifaces.length, .known ptrDesc⟩] })
        hinv (by decide) hname
        (fun a => by simp [allNamed, or_assoc])
      exact { hinv with
              ext := hext
              ifaceLen := by have := hinv.ifaceLen; simp; omega
              ifaceId := fun i e he =>
                forall_getElem?_append (P := fun i o => ∀ e : Named, o = some e → e.id = TypeTab.interfaceBase + i)
                  (fun i o h e he => hinv.ifaceId i e (he ▸ h)) (fun e he => by cases he; rfl) i (some e) he e rfl
              noShort := hs
              unique := hu }
    · rename_i name
      obtain ⟨_, hroom, hname⟩ := h
      obtain ⟨hs, hu⟩ := named_inv_add (e := ⟨name, TypeTab.metaBase + r.metas.length, .known ptrDesc⟩)
        (r' := { r with metas := r.metas ++ [⟨name, TypeTab.metaBase + r.metas.length, .known ptrDesc⟩] })
        hinv (by decide) hname
        (fun a => by simp only [allNamed, List.mem_append, List.mem_singleton]; exact or_right_comm)
      exact { hinv with
              ext := hext
              metaLen := by have := hinv.metaLen; simp; omega
              metaId := forall_getElem?_append (P := fun i (e : Named) => e.id = TypeTab.metaBase + i) hinv.metaId rfl
              noShort := hs
              unique := hu }

theorem inv_foldl {r : Reg} (hinv : Inv r) (ops : List Op) : Inv (ops.foldl step r) := by
  induction ops generalizing r with
  | nil => exact hinv
  | cons op ops ih => exact ih (inv_step hinv op)

theorem inv_runOps (ops : List Op) : Inv (runOps ops) := inv_foldl inv_init ops

end Mpt.Registry
