/-
  C16, systems of identifiers: the system invariant `SysInv` and agreement `Agree` with the value-level collection `Vals` of
  Spec/Ident.lean, each maintained slot-wise (`SysInv.of_slot`, `Agree.of_slot`).  One operation of a system is analysed
  once (`step_spec`): no fault, the system invariant, and agreement with whatever collection the system agreed with; the
  heap discipline (`step_inv`) and the refinement (`step_refines`, `run_refines`) are read off it and off its extension
  to histories (`run_spec`): after every history each identifier denotes the value the value-level machine holds for its
  slot.
-/
import MptModel.Lemmas.Ident
import MptModel.Impl.IdentAbs
namespace Mpt.Ident

/-- system invariant: every live identifier is well-formed, and every live block is referenced by the (live)
    identifier that owns it — nothing dangles, nothing is leaked -/
structure SysInv (s : Sys) : Prop where
  wf : ∀ k id, s.get k = some id → Wf id s.heap k
  own : ∀ (t : Nat) (b : Block), s.heap.blocks[t]? = some b → b.live = true →
    ∃ id, s.get b.owner = some id ∧ id.max < id.len ∧ getBase id.area = .ok (.tok t)

theorem SysInv.empty : SysInv Sys.empty := by
  constructor
  · intro k id h; simp [Sys.get, Sys.empty] at h
  · intro t b h; simp [Sys.empty] at h

theorem SysInv.ownOf {s : Sys} (hi : SysInv s) {k : Nat} {id : Ident} (hg : s.get k = some id) : Own id s.heap k := by
  intro t b hb hl hown
  obtain ⟨id', hg', h1, h2⟩ := hi.own t b hb hl
  rw [hown, hg] at hg'
  cases hg'
  exact ⟨h1, h2⟩

theorem SysInv.released {s : Sys} (hi : SysInv s) {k : Nat} (hg : s.get k = none) : Released s.heap.blocks k := by
  intro t b hb hown
  by_cases hl : b.live = true
  · obtain ⟨id', hg', _⟩ := hi.own t b hb hl
    rw [hown, hg] at hg'; cases hg'
  · simpa using hl

/-- `Sys.get` and `Vals.slot` are both `(l[k]?).getD none`: the slot lemmas serve both levels -/
theorem slot_set_self {α} {l : List (Option α)} {k : Nat} {x : α} (v : Option α) (hg : (l[k]?).getD none = some x) :
    ((l.set k v)[k]?).getD none = v :=
  getD_set_self l k v none (getD_some_lt hg)

theorem slot_set_other {α} {l : List (Option α)} {k j : Nat} (v : Option α) (hjk : j ≠ k) :
    ((l.set k v)[j]?).getD none = (l[j]?).getD none :=
  getD_set_ne l k j v none hjk

theorem slot_append_other {α} {l : List (Option α)} {j : Nat} (v : Option α) (hj : j ≠ l.length) :
    (((l ++ [v])[j]?).getD none) = (l[j]?).getD none := by
  by_cases hlt : j < l.length
  · rw [List.getElem?_append_left hlt]
  · rw [List.getElem?_eq_none (show l.length ≤ j by omega), List.getElem?_eq_none (by simp; omega)]

theorem SysInv.of_slot {s s' : Sys} (hi : SysInv s) {k : Nat} (hf : Frame s.heap s'.heap k)
    (hother : ∀ j, j ≠ k → s'.get j = s.get j) (hwf : ∀ id', s'.get k = some id' → Wf id' s'.heap k)
    (hown : ∀ (t : Nat) (b : Block), s'.heap.blocks[t]? = some b → b.live = true → b.owner = k →
      ∃ id', s'.get k = some id' ∧ id'.max < id'.len ∧ getBase id'.area = .ok (.tok t)) : SysInv s' := by
  constructor
  · intro j idj hj
    by_cases hjk : j = k
    · subst hjk; exact hwf idj hj
    · rw [hother j hjk] at hj
      exact (hi.wf j idj hj).frame hf hjk
  · intro t b hb hl
    by_cases hbk : b.owner = k
    · rw [hbk]; exact hown t b hb hl hbk
    · obtain ⟨idj, hj, h1, h2⟩ := hi.own t b ((hf t b hbk).mpr hb) hl
      exact ⟨idj, by rw [hother _ hbk]; exact hj, h1, h2⟩

theorem SysInv.update {s : Sys} (hi : SysInv s) {k : Nat} {id id' : Ident} {h' : Heap} (hg : s.get k = some id)
    (hw : Wf id' h' k) (ho : Own id' h' k) (hf : Frame s.heap h' k) :
    SysInv { ids := s.ids.set k (some id'), heap := h' } := by
  have hgk : ({ ids := s.ids.set k (some id'), heap := h' } : Sys).get k = some id' := slot_set_self _ hg
  exact hi.of_slot hf (fun j hjk => slot_set_other _ hjk) (fun _ h => by rw [hgk] at h; cases h; exact hw)
    fun t b hb hl hbk => ⟨id', hgk, ho t b hb hl hbk⟩

theorem SysInv.remove {s : Sys} (hi : SysInv s) {k : Nat} {id : Ident} {h' : Heap} (hg : s.get k = some id)
    (hdead : ∀ (t : Nat) (b : Block), h'.blocks[t]? = some b → b.owner = k → b.live = false) (hf : Frame s.heap h' k) :
    SysInv { ids := s.ids.set k none, heap := h' } := by
  have hgk : ({ ids := s.ids.set k none, heap := h' } : Sys).get k = none := slot_set_self _ hg
  exact hi.of_slot hf (fun j hjk => slot_set_other _ hjk) (fun _ h => by rw [hgk] at h; cases h)
    fun t b hb hl hbk => by rw [hdead t b hb hbk] at hl; cases hl

theorem owned_zero {s : Sys} {k : Nat}
    (hdead : Released s.heap.blocks k) : s.owned k = 0 := by
  unfold Sys.owned
  rw [List.length_eq_zero_iff, List.filter_eq_nil_iff]
  intro b hb
  obtain ⟨t, ht, rfl⟩ := List.mem_iff_getElem.mp hb
  simp only [Bool.and_eq_true, beq_iff_eq, not_and]
  intro hl hown
  have := hdead t _ (List.getElem?_eq_getElem ht) hown
  rw [hl] at this; cases this

theorem SysInv.push {s : Sys} (hi : SysInv s) {id : Ident} {h' : Heap} (hw : Wf id h' s.ids.length)
    (ho : Own id h' s.ids.length) (hf : Frame s.heap h' s.ids.length) :
    SysInv { ids := s.ids ++ [some id], heap := h' } := by
  have hgk : ({ ids := s.ids ++ [some id], heap := h' } : Sys).get s.ids.length = some id := by simp [Sys.get]
  exact hi.of_slot hf (fun j hj => slot_append_other _ hj) (fun _ h => by rw [hgk] at h; cases h; exact hw)
    fun t b hb hl hbk => ⟨id, hgk, ho t b hb hl hbk⟩

theorem fresh_slot_released {s : Sys} (hi : SysInv s) : Released s.heap.blocks s.ids.length := by
  apply hi.released
  simp [Sys.get]

/-- slot by slot the identifiers of the system denote the values of the collection, and ended slots are ended in both -/
structure Agree (s : Sys) (sp : Vals) : Prop where
  len : s.ids.length = sp.length
  slot : ∀ k, (s.get k = none ∧ Vals.slot sp k = none) ∨
    ∃ id v, s.get k = some id ∧ Vals.slot sp k = some v ∧ Denotes id s.heap k v

theorem Agree.empty : Agree Sys.empty [] := by
  constructor
  · rfl
  · intro k; left; simp [Sys.get, Sys.empty, Vals.slot]

theorem Agree.live {s : Sys} {sp : Vals} (ha : Agree s sp) {k : Nat} {id : Ident} (hg : s.get k = some id) :
    ∃ v, Vals.slot sp k = some v ∧ Denotes id s.heap k v := by
  rcases ha.slot k with ⟨h1, _⟩ | ⟨id', v, h1, h2, h3⟩
  · rw [hg] at h1; cases h1
  · rw [hg] at h1; cases h1; exact ⟨v, h2, h3⟩

theorem Agree.dead {s : Sys} {sp : Vals} (ha : Agree s sp) {k : Nat} (hg : s.get k = none) : Vals.slot sp k = none := by
  rcases ha.slot k with ⟨_, h2⟩ | ⟨id', v, h1, _, _⟩
  · exact h2
  · rw [hg] at h1; cases h1

theorem Agree.of_slot {s s' : Sys} {sp sp' : Vals} (ha : Agree s sp) {k : Nat} (hf : Frame s.heap s'.heap k)
    (hlen : s'.ids.length = sp'.length)
    (hs : ∀ j, j ≠ k → s'.get j = s.get j) (hsp : ∀ j, j ≠ k → Vals.slot sp' j = Vals.slot sp j)
    (hk : (s'.get k = none ∧ Vals.slot sp' k = none) ∨
      ∃ id v, s'.get k = some id ∧ Vals.slot sp' k = some v ∧ Denotes id s'.heap k v) : Agree s' sp' := by
  refine ⟨hlen, fun j => ?_⟩
  by_cases hjk : j = k
  · subst hjk; exact hk
  · rw [hs j hjk, hsp j hjk]
    rcases ha.slot j with h1 | ⟨idj, vj, h1, h2, h3⟩
    · exact Or.inl h1
    · exact Or.inr ⟨idj, vj, h1, h2, Holds.frame h3 hf hjk⟩

theorem Agree.update {s : Sys} {sp : Vals} (ha : Agree s sp) {k : Nat} {id id' : Ident} {h' : Heap} {v : Val}
    (hg : s.get k = some id) (hd : Denotes id' h' k v) (hf : Frame s.heap h' k) :
    Agree { ids := s.ids.set k (some id'), heap := h' } (sp.set k (some v)) := by
  obtain ⟨v0, hv0, _⟩ := ha.live hg
  exact ha.of_slot (s' := ⟨_, h'⟩) hf (by simp [ha.len]) (fun j hjk => slot_set_other _ hjk) (fun j hjk => slot_set_other _ hjk)
    (Or.inr ⟨id', v, slot_set_self _ hg, slot_set_self _ hv0, hd⟩)

theorem Agree.remove {s : Sys} {sp : Vals} (ha : Agree s sp) {k : Nat} {id : Ident} {h' : Heap}
    (hg : s.get k = some id) (hf : Frame s.heap h' k) :
    Agree { ids := s.ids.set k none, heap := h' } (sp.set k none) := by
  obtain ⟨v0, hv0, _⟩ := ha.live hg
  exact ha.of_slot (s' := ⟨_, h'⟩) hf (by simp [ha.len]) (fun j hjk => slot_set_other _ hjk) (fun j hjk => slot_set_other _ hjk)
    (Or.inl ⟨slot_set_self _ hg, slot_set_self _ hv0⟩)

theorem Agree.push {s : Sys} {sp : Vals} (ha : Agree s sp) {id : Ident} {h' : Heap} {v : Val}
    (hd : Denotes id h' s.ids.length v) (hf : Frame s.heap h' s.ids.length) :
    Agree { ids := s.ids ++ [some id], heap := h' } (sp ++ [some v]) := by
  exact ha.of_slot (s' := ⟨_, h'⟩) hf (by simp [ha.len]) (fun j hj => slot_append_other _ hj)
    (fun j hj => slot_append_other _ (ha.len ▸ hj))
    (Or.inr ⟨id, v, by simp [Sys.get], by rw [ha.len]; simp [Vals.slot], hd⟩)

theorem denotes_unset {id : Ident} {h : Heap} {k : Nat} (hh : Holds id h k 0 []) : Denotes id h k Val.unset := by
  unfold Denotes Val.stored Val.unset
  simpa [utf8] using hh

theorem Holds.denotes_of_copy {id src : Ident} {h h' : Heap} {k j cs : Nat} {d : List Byte} {v : Val}
    (hh : Holds id h k cs d) (hsrc : Holds src h' j cs d) (hv : Denotes src h' j v) : Denotes id h k v := by
  have hd : d = v.stored := Except.ok.inj (hsrc.read.symm.trans hv.read)
  have hc : cs = v.charset := hsrc.cs.symm.trans hv.cs
  subst hd hc; exact hh

theorem Vals.set_slot {sp : Vals} {k : Nat} {v : Val} (h : Vals.slot sp k = some v) : sp.set k (some v) = sp := by
  rw [← h, Vals.slot, ← List.getD_eq_getElem?_getD]
  exact set_getD_self sp k none

/-- what the caller owes: storage of at least `sizeof(struct identifier)`, and a buffer as long as announced -/
def Op.valid : Op → Prop
  | .new size => 16 ≤ size
  | .set _ (some b) len => len ≤ b.length
  | _ => True

/-- what `step_spec` says of one operation: it does not fault (no free of a wild, dead or foreign block, no read of a
    clobbered pointer or freed block, no access outside storage), the invariant is kept, an identifier that ends leaves
    no block behind, and whatever value-level collection the system agreed with, it agrees with that collection's step
    afterwards -/
def StepSpec (s : Sys) (op : Op) : Prop :=
  ∃ s' r, s.step op = .ok (s', r) ∧ SysInv s' ∧ (∀ n, r = .ended n → n = 0) ∧
    ∀ sp, Agree s sp → Agree s' (sp.step op.abs)

theorem StepSpec.invalid {s : Sys} (hi : SysInv s) {op : Op} (hstep : s.step op = .ok (s, .invalid))
    (hsp : ∀ sp, Agree s sp → sp.step op.abs = sp) : StepSpec s op :=
  ⟨s, .invalid, hstep, hi, fun _ => nofun, fun sp ha => (hsp sp ha).symm ▸ ha⟩

theorem StepSpec.done {s s' : Sys} {op : Op} {ok : Bool} (hstep : s.step op = .ok (s', .done ok)) (hi : SysInv s')
    (ha : ∀ sp, Agree s sp → Agree s' (sp.step op.abs)) : StepSpec s op :=
  ⟨s', .done ok, hstep, hi, fun _ => nofun, ha⟩

theorem StepSpec.ended {s : Sys} (hi : SysInv s) {op : Op} {k : Nat} {id : Ident} (hg : s.get k = some id) {h' : Heap}
    (hstep : s.step op = .ok (⟨s.ids.set k none, h'⟩, .ended (Sys.owned ⟨s.ids.set k none, h'⟩ k)))
    (hf : Frame s.heap h' k) (hdead : Released h'.blocks k)
    (hsp : ∀ sp v0, Vals.slot sp k = some v0 → sp.step op.abs = sp.set k none) : StepSpec s op := by
  refine ⟨_, _, hstep, hi.remove hg hdead hf, fun n hn => ?_, fun sp ha => ?_⟩
  · cases hn; exact owned_zero hdead
  · obtain ⟨v0, hv0, _⟩ := ha.live hg
    rw [hsp sp v0 hv0]; exact ha.remove hg hf

/-- One step, both levels at once.  Every operation rewrites one slot `k` (an existing one, or the new last one) and touches
    only blocks of owner `k`: the identifier-level lemma (`set_stores`, `copy_spec`, `create_spec`, `fini_spec`) gives the
    new identifier with `Holds` and `Frame`, and `SysInv.update/push/remove`, `Agree.update/push/remove` carry that to the
    system. -/
theorem step_spec {s : Sys} (hi : SysInv s) (op : Op) (hv : op.valid) : StepSpec s op := by
  cases op with
  | new size =>
    obtain ⟨id, hc, hh, _⟩ := create_spec size hv s.heap s.ids.length (fresh_slot_released hi)
    exact .done (by simp only [Sys.step, hc, bind, Except.bind, pure, Except.pure]; rfl)
      (hi.push hh.wf hh.own (Frame.refl _ _)) fun sp ha => ha.push (denotes_unset hh) (Frame.refl _ _)
  | set k name len =>
    cases hg : s.get k with
    | none =>
      exact .invalid hi (by simp [Sys.step, hg, pure, Except.pure]) fun sp ha => by simp only [Op.abs, Vals.step, ha.dead hg]
    | some id =>
      have hvb : ∀ b, name = some b → len ≤ b.length := fun b hb => by subst hb; exact hv
      cases hb : (nameOf name len).bind setVal with
      | none =>
        -- `Sys.step` writes the identifier back even when the call is refused: an update of slot `k` with what it held, where
        -- the value-level step leaves the collection alone (`Vals.set_slot`)
        have hs := set_refused id s.heap k name len hvb hb
        refine .done (by simp only [Sys.step, hg, hs, bind, Except.bind, pure, Except.pure]; rfl)
          (hi.update hg (hi.wf k id hg) (hi.ownOf hg) (Frame.refl _ _)) fun sp ha => ?_
        obtain ⟨v0, hv0, hd0⟩ := ha.live hg
        have := ha.update hg hd0 (Frame.refl _ _)
        rw [Vals.set_slot hv0] at this
        simpa only [Op.abs, Vals.step, hv0, hb] using this
      | some v =>
        obtain ⟨id', h', hs, hd, hf, _⟩ := set_stores (hi.wf k id hg) (hi.ownOf hg) name len hvb hb
        refine .done (by simp only [Sys.step, hg, hs, bind, Except.bind, pure, Except.pure]; rfl)
          (hi.update hg hd.wf hd.own hf) fun sp ha => ?_
        obtain ⟨v0, hv0, _⟩ := ha.live hg
        simpa only [Op.abs, Vals.step, hv0, hb] using ha.update hg hd hf
  | copy k j =>
    cases hg : s.get k with
    | none =>
      exact .invalid hi (by simp [Sys.step, hg, pure, Except.pure]) fun sp ha => by simp only [Op.abs, Vals.step, ha.dead hg]
    | some id =>
      cases j with
      | none =>
        obtain ⟨id', h', hs, hh, hf, _⟩ := copy_null (hi.wf k id hg) (hi.ownOf hg)
        refine .done (by simp only [Sys.step, hg, hs, bind, Except.bind, pure, Except.pure]; rfl)
          (hi.update hg hh.wf hh.own hf) fun sp ha => ?_
        obtain ⟨v0, hv0, _⟩ := ha.live hg
        simpa only [Op.abs, Vals.step, hv0] using ha.update hg (denotes_unset hh) hf
      | some j =>
        cases hgj : s.get j with
        | none =>
          refine .invalid hi (by simp [Sys.step, hg, hgj, pure, Except.pure]) fun sp ha => ?_
          obtain ⟨v0, hv0, _⟩ := ha.live hg
          simp only [Op.abs, Vals.step, hv0, ha.dead hgj]
        | some src =>
          by_cases hjk : j = k
          · subst hjk
            -- copy onto itself: again an update of slot `k` with what it held, on both levels
            have hs := copy_self (hi.wf j id hg)
            refine .done (by simp only [Sys.step, hg, beq_self_eq_true, hs, bind, Except.bind, pure, Except.pure]; rfl)
              (hi.update hg (hi.wf j id hg) (hi.ownOf hg) (Frame.refl _ _)) fun sp ha => ?_
            obtain ⟨v0, hv0, hd0⟩ := ha.live hg
            simpa only [Op.abs, Vals.step, hv0] using ha.update hg hd0 (Frame.refl _ _)
          · obtain ⟨d, hsrc⟩ := (hi.wf j src hgj).holds (hi.ownOf hgj)
            obtain ⟨id', h', hs, hh, hf, _⟩ := copy_spec (hi.wf k id hg) (hi.ownOf hg) hsrc
            have hb : (j == k) = false := by simpa using hjk
            refine .done (by simp only [Sys.step, hg, hgj, hb, hs, bind, Except.bind, pure, Except.pure]; rfl)
              (hi.update hg hh.wf hh.own hf) fun sp ha => ?_
            obtain ⟨v0, hv0, _⟩ := ha.live hg
            obtain ⟨vj, hvj, hdj⟩ := ha.live hgj
            simpa only [Op.abs, Vals.step, hv0, hvj] using ha.update hg (hh.denotes_of_copy hsrc hdj) hf
  | free k =>
    cases hg : s.get k with
    | none =>
      exact .invalid hi (by simp [Sys.step, hg, pure, Except.pure]) fun sp ha => by simp only [Op.abs, Vals.step, ha.dead hg]
    | some id =>
      obtain ⟨id', h', hs, hh, hf, _⟩ := set_unset (hi.wf k id hg) (hi.ownOf hg)
      exact .ended hi hg (by simp only [Sys.step, hg, hs, bind, Except.bind, pure, Except.pure]) hf
        (hh.own.released (by have := hh.len; simp at this; omega)) fun sp v0 hv0 => by simp only [Op.abs, Vals.step, hv0]
  | tinit j =>
    obtain ⟨c, hc, hhc, _⟩ := create_spec 16 (by omega) s.heap s.ids.length (fresh_slot_released hi)
    have hc' : init (rawStorage 16) 16 = .ok c := hc
    cases j with
    | none =>
      exact .done (by simp only [Sys.step, traitsInit, hc', bind, Except.bind, pure, Except.pure]; rfl)
        (hi.push hhc.wf hhc.own (Frame.refl _ _)) fun sp ha => ha.push (denotes_unset hhc) (Frame.refl _ _)
    | some j =>
      cases hgj : s.get j with
      | none =>
        exact .invalid hi (by simp [Sys.step, hgj, pure, Except.pure]) fun sp ha => by simp only [Op.abs, Vals.step, ha.dead hgj]
      | some src =>
        obtain ⟨d, hsrc⟩ := (hi.wf j src hgj).holds (hi.ownOf hgj)
        obtain ⟨id', h', hs, hh, hf, _⟩ := copy_spec hhc.wf hhc.own hsrc
        refine .done (by simp only [Sys.step, hgj, Option.map_some, traitsInit, hc', hs, bind, Except.bind, pure, Except.pure]; rfl)
          (hi.push hh.wf hh.own hf) fun sp ha => ?_
        obtain ⟨vj, hvj, hdj⟩ := ha.live hgj
        simpa only [Op.abs, Vals.step, hvj] using ha.push (hh.denotes_of_copy hsrc hdj) hf
  | tfini k =>
    cases hg : s.get k with
    | none =>
      exact .invalid hi (by simp [Sys.step, hg, pure, Except.pure]) fun sp ha => by simp only [Op.abs, Vals.step, ha.dead hg]
    | some id =>
      obtain ⟨id', h', hs, hf, hdead⟩ := fini_spec (hi.wf k id hg) (hi.ownOf hg)
      exact .ended hi hg (by simp only [Sys.step, hg, hs, bind, Except.bind, pure, Except.pure]) hf hdead
        fun sp v0 hv0 => by simp only [Op.abs, Vals.step, hv0]

theorem step_inv {s : Sys} (hi : SysInv s) (op : Op) (hv : op.valid) :
    ∃ s' r, s.step op = .ok (s', r) ∧ SysInv s' ∧ (∀ n, r = .ended n → n = 0) := by
  obtain ⟨s', r, hs, hi', he, _⟩ := step_spec hi op hv
  exact ⟨s', r, hs, hi', he⟩

theorem step_refines {s : Sys} {sp : Vals} (hi : SysInv s) (ha : Agree s sp) (op : Op) (hv : op.valid) :
    ∃ s' r, s.step op = .ok (s', r) ∧ SysInv s' ∧ Agree s' (sp.step op.abs) := by
  obtain ⟨s', r, hs, hi', _, ha'⟩ := step_spec hi op hv
  exact ⟨s', r, hs, hi', ha' sp ha⟩

/-- `step_spec` along a history: the agreement is stated for every collection the start agrees with, so it composes -/
theorem run_spec {s : Sys} (hi : SysInv s) (ops : List Op) (hv : ∀ op, op ∈ ops → op.valid) :
    ∃ s', s.run ops = .ok s' ∧ SysInv s' ∧ ∀ sp, Agree s sp → Agree s' (sp.run (ops.map Op.abs)) := by
  induction ops generalizing s with
  | nil => exact ⟨s, rfl, hi, fun _ ha => ha⟩
  | cons op rest ih =>
    obtain ⟨s1, r, hs, hi1, _, ha1⟩ := step_spec hi op (hv op (by simp))
    obtain ⟨s', hr, hi', ha'⟩ := ih hi1 (fun o ho => hv o (by simp [ho]))
    exact ⟨s', by simp only [Sys.run, hs, bind, Except.bind]; exact hr, hi', fun sp ha => ha' _ (ha1 sp ha)⟩

theorem run_refines {s : Sys} {sp : Vals} (hi : SysInv s) (ha : Agree s sp) (ops : List Op) (hv : ∀ op, op ∈ ops → op.valid) :
    ∃ s', s.run ops = .ok s' ∧ SysInv s' ∧ Agree s' (sp.run (ops.map Op.abs)) := by
  obtain ⟨s', hr, hi', ha'⟩ := run_spec hi ops hv
  exact ⟨s', hr, hi', ha' sp ha⟩

end Mpt.Ident
