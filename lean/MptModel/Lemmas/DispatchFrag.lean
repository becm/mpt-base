/-
  Fragmented command messages for C11: the tokenizer and argument scan of `Impl/Dispatch.lean` are those of the C17
  model (`Spec/Flat.lean`), so the id computed from a message in fragments is that of the flattened message.
  (`Impl/Dispatch.lean` mirrors message_argv.c on one contiguous part and so carries its own `nextChar`, `memtok`,
  `isTokWs`, `isQuote`, and uses `isSpace`, `isGraph` of `Spec/Dispatch.lean`; they are shown equal to the C17 model's here.)
-/
import MptModel.Impl.Dispatch
import MptModel.Lemmas.MessageArgv
namespace Mpt.Dispatch

theorem isGraph_eq (c : Byte) : Flat.isGraph c = isGraph c := by
  simp [Flat.isGraph, isGraph]

theorem flat_nextChar (d : List Byte) (c : Byte) : Flat.nextChar d c = nextChar d c := by
  unfold Flat.nextChar Flat.find nextChar
  cases d.findIdx? (· == c) <;> rfl

theorem flat_trim (d : List Byte) :
    Flat.trimFlat d = (match d.findIdx? (fun c => !isSpace c) with | some p => d.drop p | none => d) := by
  unfold Flat.trimFlat Flat.find Flat.notSpace
  have : (fun c => !Flat.isSpace c) = (fun c => !isSpace c) := by
    funext c; simp [Flat.isSpace, isSpace]
  rw [this]
  cases d.findIdx? (fun c => !isSpace c) <;> rfl

theorem wsTok_contains (c : Byte) : ([9, 32, 10, 13, 11] : List Byte).contains c = isTokWs c := by
  simp only [isTokWs, List.contains_cons, List.contains_nil, Bool.or_false, Bool.or_assoc]

theorem isQuote_iff (c : Byte) : isQuote c = true ↔ (c = 39 ∨ c = 34) := by
  simp [isQuote]
theorem quote_contains (c : Byte) : ([39, 34] : List Byte).contains c = isQuote c := by
  simp only [isQuote, List.contains_cons, List.contains_nil, Bool.or_false]

/-- the step of the C17 token search for white-space arguments, in the vocabulary of `memtokGo` -/
theorem tokStep_memtok (q : Option Byte) (prev c : Byte) :
    Flat.tokStep Flat.wsTok ⟨q, prev, false⟩ c =
      match q with
      | some qc => some ⟨if c == qc && prev != 92 then none else some qc, c, false⟩
      | none =>
        if isQuote c then some ⟨some c, prev, false⟩ else if isTokWs c then none else some ⟨none, c, false⟩ := by
  rw [Mpt.tokStep_ws, quote_contains, wsTok_contains]
  cases q with
  | some qc =>
    have : (some qc == some c) = (c == qc) := by rw [Option.some_beq_some, BEq.comm]
    simp only [Option.isSome_some, if_true, this]
  | none => rfl

def foundAt {σ} (pos : Nat) : Flat.Scan σ → Option Nat
  | .found i => some (pos + i)
  | .more _ => none

theorem foundAt_scan_cons {σ} (step : σ → Byte → Option σ) (s : σ) (c : Byte) (cs : List Byte) (pos : Nat) :
    foundAt pos (Flat.scan step s (c :: cs)) =
      match step s c with
      | none => some pos
      | some s' => foundAt (pos + 1) (Flat.scan step s' cs) := by
  rw [Flat.scan]
  cases step s c with
  | none => rfl
  | some s' =>
    simp only
    cases Flat.scan step s' cs with
    | found i => exact congrArg some (Nat.add_right_comm pos 1 i ▸ rfl)
    | more t => rfl

theorem tok_eq_go (d : List Byte) (pos : Nat) (q : Option Byte) (prev : Byte) (hq : ∀ c, q = some c → c ≠ 0) :
    memtokGo d pos (q.getD 0) prev = foundAt pos (Flat.scan (Flat.tokStep Flat.wsTok) ⟨q, prev, false⟩ d) := by
  induction d generalizing pos q prev with
  | nil => rfl
  | cons c rest ih =>
    rw [foundAt_scan_cons, tokStep_memtok, memtokGo]
    cases q with
    | some qc =>
      simp only [Option.getD_some, ne_eq, hq qc rfl, not_false_eq_true, if_true]
      by_cases hcl : (c == qc && prev != 92) = true
      · simp only [hcl, if_true]
        exact ih (pos + 1) none c (fun x hx => nomatch hx)
      · simp only [hcl, Bool.false_eq_true, if_false]
        exact ih (pos + 1) (some qc) c hq
    | none =>
      simp only [Option.getD_none, ne_eq, not_true_eq_false, if_false]
      by_cases hqt : isQuote c = true
      · have hc0 : c ≠ 0 := by rintro rfl; simp [isQuote] at hqt
        simp only [hqt, if_true]
        exact ih (pos + 1) (some c) prev (fun x hx => Option.some.inj hx ▸ hc0)
      · by_cases hws : isTokWs c = true
        · simp only [hqt, hws, if_true, Bool.false_eq_true, if_false]
        · simp only [hqt, hws, Bool.false_eq_true, if_false]
          exact ih (pos + 1) none c (fun x hx => nomatch hx)

theorem flat_tok (d : List Byte) : Flat.tok d Flat.wsTok = memtok d := by
  unfold Flat.tok memtok
  rw [show memtokGo d 0 0 32 = _ from tok_eq_go d 0 none 32 (fun c hc => nomatch hc)]
  cases Flat.scan (Flat.tokStep Flat.wsTok) {} d <;> simp [foundAt]

theorem flat_argv (d : List Byte) (sep : Byte) :
    Flat.argv d sep = (messageArgv d sep).map fun p => (p.2, p.1) := by
  unfold Flat.argv messageArgv argWs
  by_cases he : d.isEmpty = true
  · simp [he]
  · simp only [he, Bool.false_eq_true, if_false]
    by_cases hs : sep = 0
    · subst hs; simp [flat_nextChar]
    · have hs' : (sep == 0) = false := by simpa using hs
      simp only [hs', hs, Bool.false_eq_true, if_false, flat_trim, isGraph_eq]
      cases hf : d.findIdx? (fun c => !isSpace c) <;>
        (simp only []; by_cases hg : isGraph sep = true
         · simp [hg, flat_nextChar]
         · have hg' : isGraph sep = false := by simpa using hg
           simp only [hg', Bool.not_false, if_true, Bool.false_eq_true, if_false, flat_tok]
           cases memtok _ <;> simp [flat_nextChar])

theorem messageArgv_bounds {d : List Byte} {sep : Byte} {base : List Byte} {len : Nat}
    (h : messageArgv d sep = some (base, len)) : len ≤ base.length ∧ base.length ≤ d.length :=
  (argv_bounds d sep len base (by rw [flat_argv, h]; rfl)).2

theorem msgOf_flat (frags : List (List Byte)) : (msgOf frags).flat = frags.flatten := by
  cases frags <;> simp [Msg.flat, msgOf]

theorem hashText_congr {X base : List Byte} {len : Nat} (sep : Byte) (hlen : len ≠ 0)
    (hX : X.take len = base.take len) :
    HashId.id (mptHash (X.take (if sep = 0 ∧ X[len - 1]? = some 0 then len - 1 else len))) =
      .id (mptHash (base.take (if sep = 0 ∧ base[len - 1]? = some 0 then len - 1 else len))) := by
  have htk : ∀ n, n ≤ len → X.take n = base.take n := fun n hn => by
    rw [← Nat.min_eq_left hn, ← List.take_take, hX, List.take_take]
  have hge : X[len - 1]? = base[len - 1]? := by
    have hlt : len - 1 < len := by omega
    rw [← List.getElem?_take_of_lt hlt, hX, List.getElem?_take_of_lt hlt]
  rw [hge]
  split <;> rw [htk _ (by omega)]

theorem hashIdFrag_flat (frags : List (List Byte)) : hashIdFrag frags = hashId frags.flatten := by
  unfold hashIdFrag
  rw [← msgOf_flat frags]
  generalize msgOf frags = m
  simp only
  -- `read_header`, `argv_cases`: the fragment reader is `take`/`drop`, the argument scan `Flat.argv`, of the flat message
  rcases read_header m with ⟨ht, hl⟩ | ⟨ty, arg, ht, hout, hf⟩
  · rw [if_pos ht]
    match m.flat, hl with
    | [], _ => rfl
    | [_], _ => rfl
  · have hty : (m.read 2).out[0]?.getD 0 = ty := by rw [hout]; rfl
    have harg : (m.read 2).out[1]?.getD 0 = arg := by rw [hout]; rfl
    rw [if_neg (by omega), hty, harg, hf, hashId]
    generalize (if ty = msgCommand then arg else 0) = sep
    obtain ⟨m2, ⟨hfa, hm, -⟩ | ⟨n, hfa, hm⟩⟩ := argv_cases (m.read 2).msg sep
    · rw [flat_argv, Option.map_eq_none_iff] at hfa
      rw [hm, hfa]
    · rw [flat_argv, Option.map_eq_some_iff] at hfa
      obtain ⟨⟨base, len⟩, hma, hp⟩ := hfa
      obtain ⟨hn, hm2⟩ := Prod.mk.inj hp
      subst hn hm2
      rw [hm, hma]
      by_cases hz : len = 0
      · simp [hz]
      · simp only [hz, if_false]
        -- the word lies in the current fragment and is used in place, or it is copied into the scratch buffer
        by_cases hc : m2.base.length ≥ len
        · simp only [hc, if_true]
          exact hashText_congr sep hz (List.take_append_of_le_length hc).symm
        · simp only [hc, if_false, (read_spec m2 len).1]
          exact hashText_congr sep hz (List.take_take.trans (by rw [Nat.min_self]))

end Mpt.Dispatch
