/-
  Table-level lemmas for C11: what the command-table functions of `Impl/Dispatch.lean` do to the list of
  live registrations `liveL slots` = `(id, registration)` of every active element; for `mpt_command_reserve` the
  invariant of its compaction loop (`CInv`) and the counting argument that a low free id is found (`lowFreeId_some`).
-/
import MptModel.Impl.Dispatch
import MptModel.Lemmas.ListFacts
namespace Mpt.Dispatch

def liveL (slots : List Slot) : List (Id × Reg) := (slots.filter (·.live)).map fun s => (s.id, s.arg)

theorem liveList_some (t : Table) : liveList (some t) = liveL t.slots := rfl
theorem liveList_none : liveList none = [] := rfl

@[simp] theorem liveL_nil : liveL [] = [] := rfl
theorem liveL_append (a b : List Slot) : liveL (a ++ b) = liveL a ++ liveL b := by
  simp [liveL, List.filter_append]
theorem liveL_cons (s : Slot) (a : List Slot) :
    liveL (s :: a) = if s.live then (s.id, s.arg) :: liveL a else liveL a := by
  simp only [liveL, List.filter_cons]
  split <;> simp

theorem mem_liveL {slots : List Slot} {p : Id × Reg} :
    p ∈ liveL slots ↔ ∃ s, s ∈ slots ∧ s.live ∧ p = (s.id, s.arg) := by
  simp only [liveL, List.mem_map, List.mem_filter]
  grind

theorem liveL_set {slots : List Slot} {i : Nat} {s : Slot} (h : slots[i]? = some s) (s' : Slot) :
    liveL slots = liveL (slots.take i) ++ (liveL [s] ++ liveL (slots.drop (i + 1))) ∧
    liveL (slots.set i s') = liveL (slots.take i) ++ (liveL [s'] ++ liveL (slots.drop (i + 1))) := by
  obtain ⟨hi, rfl⟩ := List.getElem?_eq_some_iff.mp h
  constructor
  · conv => lhs; rw [← List.take_append_drop i slots, List.drop_eq_getElem_cons hi]
    rw [liveL_append, ← liveL_append [_]]; rfl
  · rw [List.set_eq_take_append_cons_drop, if_pos hi, liveL_append, ← liveL_append [_]]; rfl

theorem commandFind_some {slots : List Slot} {id : Id} {i : Nat} (h : commandFind slots id = some i) :
    ∃ s, slots[i]? = some s ∧ s.live = true ∧ s.id = id := by
  obtain ⟨s, hs, hp⟩ := getElem?_of_findIdx? h
  rw [Bool.and_eq_true, beq_iff_eq] at hp
  exact ⟨s, hs, hp.1, hp.2.symm⟩

theorem commandFind_none {slots : List Slot} {id : Id} (h : commandFind slots id = none) :
    ∀ r, (id, r) ∉ liveL slots := by
  unfold commandFind at h
  rw [List.findIdx?_eq_none_iff] at h
  intro r hm
  rw [mem_liveL] at hm
  obtain ⟨s, hs, hl, he⟩ := hm
  have := h s hs
  simp only [Bool.and_eq_false_imp, beq_eq_false_iff_ne] at this
  have := this hl
  cases he
  exact this rfl

theorem commandGet_some {tab : Option Table} {id : Id} {i : Nat} {s : Slot} (h : commandGet tab id = some (i, s)) :
    ∃ t, tab = some t ∧ t.slots[i]? = some s ∧ s.live = true ∧ s.id = id := by
  unfold commandGet at h
  split at h
  · cases h
  · rename_i t
    split at h
    · cases h
    · rename_i j hf
      obtain ⟨s', hs', hl, hid⟩ := commandFind_some hf
      rw [hs'] at h
      obtain ⟨rfl, rfl⟩ := h
      exact ⟨t, rfl, hs', hl, hid⟩

theorem commandGet_none {tab : Option Table} {id : Id} (h : commandGet tab id = none) :
    ∀ r, (id, r) ∉ liveList tab := by
  unfold commandGet at h
  split at h
  · intro r; simp [liveList]
  · rename_i t
    split at h
    · rename_i hf
      exact commandFind_none hf
    · rename_i j hf
      obtain ⟨s', hs', _, _⟩ := commandFind_some hf
      rw [hs'] at h
      cases h

theorem commandEmpty_some {slots : List Slot} {i : Nat} (h : commandEmpty slots = some i) :
    ∃ s, slots[i]? = some s ∧ s.live = false := by
  obtain ⟨s, hs, hp⟩ := getElem?_of_findIdx? h
  exact ⟨s, hs, by simpa using hp⟩

/-- no element carries the placeholder handler `log_reply` (so an active element is a harness handler) -/
def AllUser (slots : List Slot) : Prop := ∀ s, s ∈ slots → s.cmd ≠ some .logReply

def TabUser (tab : Option Table) : Prop := ∀ t, tab = some t → AllUser t.slots

theorem TabUser.some {t : Table} (h : AllUser t.slots) : TabUser (some t) := fun _ ht => Option.some.inj ht ▸ h

theorem allUser_set {slots : List Slot} {i : Nat} {s' : Slot} (h : AllUser slots) (hs : s'.cmd ≠ some .logReply) :
    AllUser (slots.set i s') := fun s hm =>
  (List.mem_or_eq_of_mem_set hm).elim (h s) fun h1 => h1 ▸ hs

theorem allUser_append {a b : List Slot} (ha : AllUser a) (hb : AllUser b) : AllUser (a ++ b) := fun s hm =>
  (List.mem_append.mp hm).elim (ha s) (hb s)

theorem allUser_singleton {s : Slot} (hs : s.cmd ≠ some .logReply) : AllUser [s] := fun _ hm =>
  List.mem_singleton.mp hm ▸ hs

theorem finalise_user {s : Slot} (h : s.cmd ≠ some .logReply) :
    finalise s = if s.live then [.fin s.arg] else [] := by
  unfold finalise Slot.live
  cases hc : s.cmd with
  | none => simp
  | some x => cases x <;> simp_all

theorem clear_log {slots : List Slot} (h : AllUser slots) :
    (slots.map finalise).flatten = (liveL slots).map (.fin ·.2) := by
  induction slots with
  | nil => simp
  | cons s rest ih =>
    have hs : s.cmd ≠ some .logReply := h s (by simp)
    have hr : AllUser rest := fun x hx => h x (by simp [hx])
    rw [List.map_cons, List.flatten_cons, ih hr, liveL_cons, finalise_user hs]
    split <;> simp

/-- where `mpt_command_set` puts the entry: over the element that holds `id` (whose registration is finalised), else
    into the first unused element, else behind the last one (a missing table is created with that one element);
    `liveL_set` gives the live list around the position -/
theorem commandSet_user {tab : Option Table} (id : Id) (r : Reg) (hu : TabUser tab) :
    let res := commandSet tab id (some .user) r
    TabUser res.1 ∧ ∃ A B, liveList res.1 = A ++ (id, r) :: B ∧
      ((∃ old, liveList tab = A ++ (id, old) :: B ∧ res.2 = (0, [.fin old])) ∨
       (liveList tab = A ++ B ∧ (∀ r', (id, r') ∉ liveList tab) ∧ 0 ≤ res.2.1 ∧ res.2.2 = [])) := by
  intro res
  cases hg : commandGet tab id with
  | some x =>
    obtain ⟨i, old⟩ := x
    obtain ⟨t, rfl, hi, hl, rfl⟩ := commandGet_some hg
    have hres : res = (some { t with slots := t.slots.set i { old with cmd := some .user, arg := r } }, 0, finalise old) := by
      simp only [res, commandSet, hg]; rfl
    obtain ⟨h1, h2⟩ := liveL_set hi { old with cmd := some .user, arg := r }
    rw [liveL_cons, if_pos hl] at h1
    rw [hres]
    refine ⟨TabUser.some (allUser_set (hu t rfl) (by simp)), _, _, h2, Or.inl ⟨old.arg, h1, ?_⟩⟩
    rw [finalise_user (hu t rfl old (List.mem_of_getElem? hi)), if_pos hl]
  | none =>
    have hnone := commandGet_none hg
    cases tab with
    | none =>
      have hres : res = (some { slots := [⟨id, some .user, r⟩], cap := allocSize slotSize }, 1, []) := by
        simp only [res, commandSet]
      exact ⟨TabUser.some (allUser_singleton (by simp)), [], [], rfl, Or.inr ⟨rfl, hnone, Int.zero_le_ofNat 1, rfl⟩⟩
    | some t =>
      cases he : (if t.slots.length ≠ 0 then commandEmpty t.slots else none) with
      | some i =>
        obtain ⟨s0, hi, hl0⟩ := commandEmpty_some (by split at he; exact he; cases he)
        have hres : res = (some { t with slots := t.slots.set i ⟨id, some .user, r⟩ }, 0, []) := by
          simp only [res, commandSet, hg, he]
        obtain ⟨h1, h2⟩ := liveL_set hi ⟨id, some .user, r⟩
        rw [liveL_cons, if_neg (by simp [hl0]), liveL_nil, List.nil_append] at h1
        rw [hres]
        exact ⟨TabUser.some (allUser_set (hu t rfl) (by simp)), _, _, h2, Or.inr ⟨h1, hnone, Int.le_refl _, rfl⟩⟩
      | none =>
        obtain ⟨cap, hres⟩ : ∃ cap, res = (some { t with slots := t.slots ++ [⟨id, some .user, r⟩], cap := cap }, 1, []) := by
          simp only [res, commandSet, hg, he]
          exact ⟨_, rfl⟩
        rw [hres]
        refine ⟨TabUser.some (allUser_append (hu t rfl) (allUser_singleton (by simp))), liveL t.slots, [], ?_,
          Or.inr ⟨(List.append_nil _).symm, hnone, Int.zero_le_ofNat 1, rfl⟩⟩
        rw [liveList_some, liveL_append]; rfl

theorem dispatchSet_clear (d : Disp) (id : Id) (hu : TabUser d.tab) :
    let res := dispatchSet d id none 0
    (∃ A B old tab', res.1 = { d with tab := tab' } ∧ TabUser tab' ∧ liveList d.tab = A ++ (id, old) :: B ∧
        liveList tab' = A ++ B ∧ res.2.2 = [.fin old] ∧ 0 ≤ res.2.1) ∨
      ((∀ r', (id, r') ∉ liveList d.tab) ∧ res = (d, Err.BadArgument.code, [])) := by
  intro res
  cases hg : commandGet d.tab id with
  | some x =>
    obtain ⟨i, old⟩ := x
    obtain ⟨t, htab, hi, hl, rfl⟩ := commandGet_some hg
    have hres : res = ({ d with tab := some { t with slots := t.slots.set i { old with cmd := none, arg := 0 } } },
        (i : Int), finalise old) := by
      rw [htab] at hg
      simp only [res, dispatchSet, htab, hg, Option.map_some]
    obtain ⟨h1, h2⟩ := liveL_set hi { old with cmd := none, arg := 0 }
    rw [liveL_cons, if_pos hl] at h1
    rw [hres, htab]
    refine Or.inl ⟨_, _, old.arg, _, rfl, TabUser.some (allUser_set (hu t htab) (by simp)), h1, h2, ?_, Int.natCast_nonneg i⟩
    rw [finalise_user (hu t htab old (List.mem_of_getElem? hi)), if_pos hl]
  | none =>
    exact Or.inr ⟨commandGet_none hg, by simp only [res, dispatchSet, hg]⟩

theorem arrayDrop_log {tab : Option Table} (hu : TabUser tab) : arrayDrop tab = (liveList tab).map (.fin ·.2) := by
  cases tab with
  | none => rfl
  | some t => exact clear_log (hu t rfl)

theorem commandClear_eq (tab : Option Table) :
    commandClear tab = (tab.map fun t => { t with slots := [] }, arrayDrop tab) := by
  cases tab <;> rfl

/-- the loop of `mpt_command_reserve` before round `i`: `used` counts the active elements met so far, which stand at
    the front in their order (`htake`); the positions from `used` up to `i` are unused (`hempty`), the rest is
    untouched (`hdrop`); `cmd`, the first free position, is `used` as soon as something was skipped (`hcmd`, what
    makes `nextFree_eq` applicable); `mid` bounds the ids seen -/
structure CInv (orig : List Slot) (i : Nat) (st : CompSt) : Prop where
  hlen : st.slots.length = orig.length
  hdrop : ∀ j, i ≤ j → st.slots[j]? = orig[j]?
  hk : st.used ≤ i
  htake : st.slots.take st.used = (orig.take i).filter (·.live)
  hempty : ∀ j, st.used ≤ j → j < i → ∃ s, st.slots[j]? = some s ∧ s.live = false
  hcmd : st.cmd = if st.used < i then some st.used else none
  hmid : ∀ s, s ∈ orig.take i → s.id ≤ st.mid

theorem nextFree_eq {slots : List Slot} {c i fuel : Nat} (hf : 0 < fuel)
    (h : c < i → ∃ s, slots[c]? = some s ∧ s.live = false) : nextFree slots c i fuel = c := by
  cases fuel with
  | zero => omega
  | succ n =>
    unfold nextFree
    split
    · rename_i hci
      obtain ⟨s, hs, hl⟩ := h hci
      rw [hs]; simp [hl]
    · rfl

theorem compactStep_inv {orig : List Slot} {i : Nat} {st : CompSt} (h : CInv orig i st) (hi : i < orig.length) :
    CInv orig (i + 1) (compactStep st i) := by
  have hbi : st.slots[i]? = some orig[i] := by
    rw [h.hdrop i (Nat.le_refl i)]; exact List.getElem?_eq_getElem hi
  have htk := List.take_succ_eq_append_getElem hi
  -- the new `mid` of `compactStep`, the same in all three cases
  have hmid' : ∀ s, s ∈ orig.take (i + 1) → s.id ≤ (if orig[i].id > st.mid then orig[i].id else st.mid) := by
    intro s hs
    rw [htk, List.mem_append, List.mem_singleton] at hs
    split
    · rename_i hgt
      rcases hs with hs | rfl
      · exact UInt64.le_trans (h.hmid s hs) (UInt64.le_of_lt hgt)
      · exact UInt64.le_refl _
    · rename_i hgt
      rcases hs with hs | rfl
      · exact h.hmid s hs
      · exact UInt64.not_lt.mp hgt
  have hilen : i < st.slots.length := by rw [h.hlen]; exact hi
  unfold compactStep
  rw [hbi]
  by_cases hlive : orig[i].live = true
  · -- active element
    simp only [hlive, Bool.not_true, Bool.false_eq_true, if_false]
    by_cases hu : st.used < i
    · -- move it down to position `used`
      have hc := h.hcmd
      rw [if_pos hu] at hc
      rw [hc]
      have hulen : st.used < st.slots.length := by omega
      constructor
      case hlen => simp [h.hlen]
      case hdrop =>
        intro j hj
        rw [List.getElem?_set, List.getElem?_set]
        have : ¬ i = j := by omega
        have : ¬ st.used = j := by omega
        simp only [*, if_false]
        exact h.hdrop j (by omega)
      case hk => simp only; omega
      case htake =>
        simp only
        rw [htk, List.filter_append, ← h.htake]
        rw [List.take_set_of_le (by omega), take_succ_set hulen]
        simp [hlive]
      case hempty =>
        intro j hj1 hj2
        simp only at hj1 ⊢
        rw [List.getElem?_set, List.getElem?_set]
        by_cases hji : i = j
        · subst hji
          simp [hilen, Slot.live]
        · have : ¬ st.used = j := by omega
          simp only [hji, this, if_false]
          exact h.hempty j (by omega) (by omega)
      case hcmd =>
        simp only
        have : st.used + 1 < i + 1 := by omega
        rw [if_pos this]
        congr 1
        apply nextFree_eq (by omega)
        intro hlt
        rw [List.getElem?_set, List.getElem?_set]
        have h1 : ¬ i = st.used + 1 := by omega
        have h2 : ¬ st.used = st.used + 1 := by omega
        simp only [h1, h2, if_false]
        exact h.hempty (st.used + 1) (by omega) hlt
      case hmid => exact hmid'
    · have hui : st.used = i := by have := h.hk; omega
      have hc := h.hcmd
      rw [if_neg hu] at hc
      rw [hc]
      constructor
      case hlen => exact h.hlen
      case hdrop => intro j hj; exact h.hdrop j (by omega)
      case hk => simp only; omega
      case htake =>
        rw [htk, List.filter_append, ← h.htake, hui]
        rw [List.take_add_one, hbi]
        simp [hlive]
      case hempty => intro j hj1 hj2; simp only at hj1; omega
      case hcmd => simp only; rw [hui]; simp
      case hmid => exact hmid'
  · -- unused element
    have hl' : orig[i].live = false := by simpa using hlive
    simp only [hl', Bool.not_false, if_true]
    constructor
    case hlen => exact h.hlen
    case hdrop => intro j hj; exact h.hdrop j (by omega)
    case hk => simp only; have := h.hk; omega
    case htake =>
      rw [htk, List.filter_append, ← h.htake]
      simp [hl']
    case hempty =>
      intro j hj1 hj2
      by_cases hji : j = i
      · subst hji; exact ⟨_, hbi, hl'⟩
      · exact h.hempty j hj1 (by omega)
    case hcmd =>
      have hc := h.hcmd
      have := h.hk
      by_cases hu : st.used < i
      · rw [if_pos hu] at hc; rw [hc]; simp; omega
      · rw [if_neg hu] at hc; rw [hc]
        have : st.used = i := by omega
        simp [this]
    case hmid => exact hmid'

theorem compactLoop_inv {orig : List Slot} (n : Nat) {i : Nat} {st : CompSt} (h : CInv orig i st) (hn : i + n = orig.length) :
    CInv orig orig.length (compactLoop st i n) := by
  induction n generalizing i st with
  | zero =>
    have : i = orig.length := by omega
    subst this; exact h
  | succ k ih =>
    exact ih (compactStep_inv h (by omega)) (by omega)

theorem compactLoop_spec (orig : List Slot) :
    let st := compactLoop ⟨orig, none, 0, 0⟩ 0 orig.length
    st.slots.take st.used = orig.filter (·.live) ∧ (∀ s, s ∈ orig → s.id ≤ st.mid) := by
  have h := compactLoop_inv orig.length (show CInv orig 0 ⟨orig, none, 0, 0⟩ by constructor <;> simp) (by simp)
  refine ⟨?_, ?_⟩
  · have := h.htake
    rwa [List.take_length] at this
  · intro s hs
    apply h.hmid
    rwa [List.take_length]

/-- `INTPTR_MAX` is the largest entry of the `switch (max)` of `mpt_command_reserve` -/
theorem widthMax_le (w : Nat) : widthMax w ≤ 9223372036854775807 := by
  unfold widthMax; split <;> omega

theorem liveL_filter (slots : List Slot) : liveL (slots.filter (·.live)) = liveL slots := by
  simp [liveL, List.filter_filter]

theorem commandReserve_some {tab tab' : Option Table} {w idx : Nat} (h : commandReserve tab w = (tab', some idx)) :
    ∃ a b idv m cap, tab' = some ⟨a ++ ⟨idv, some .logReply, m⟩ :: b, cap⟩ ∧ idx = a.length ∧
      liveL a ++ liveL b = liveList tab ∧ (TabUser tab → AllUser a ∧ AllUser b) ∧
      (∀ r, (idv, r) ∉ liveList tab) := by
  unfold commandReserve at h
  simp only at h
  split at h
  · cases h
  · split at h
    · -- first use
      obtain ⟨rfl, rfl⟩ := h
      refine ⟨[], List.replicate 7 ⟨0, none, 0⟩, 1, 1, _, rfl, rfl, ?_, ?_, ?_⟩
      · simp [liveList, liveL, Slot.live]
      · exact fun _ => ⟨nofun, fun s hs => (List.mem_replicate.mp hs).2 ▸ nofun⟩
      · intro r; simp [liveList]
    · rename_i t
      obtain ⟨htake, hmid⟩ := compactLoop_spec t.slots
      generalize compactLoop ⟨t.slots, none, 0, 0⟩ 0 t.slots.length = st at h htake hmid
      split at h
      · cases h
      · rename_i m hm
        obtain ⟨rfl, rfl⟩ := h
        refine ⟨st.slots.take st.used, [], UInt64.ofNat m, m, _, rfl, rfl, ?_, ?_, ?_⟩
        · rw [htake, liveL_filter]; simp [liveList, liveL]
        · exact fun hu => ⟨fun s hs => hu t rfl s (List.mem_filter.mp (htake ▸ hs)).1, nofun⟩
        · intro r hr
          rw [liveList_some, mem_liveL] at hr
          obtain ⟨s, hs, hl, he⟩ := hr
          simp only [Prod.mk.injEq] at he
          split at hm
          · -- low free id
            have := List.find?_some hm
            simp only [Option.isNone_iff_eq_none] at this
            have := commandFind_none this r
            apply this
            rw [htake, liveL_filter, mem_liveL]
            exact ⟨s, hs, hl, by rw [he.1, he.2]⟩
          · -- next id after the highest one
            simp only [Option.some.injEq] at hm
            have h1 := hmid s hs
            have h2 := widthMax_le w
            have h3 : (UInt64.ofNat m).toNat = m := by
              rw [UInt64.toNat_ofNat']; omega
            have h4 := UInt64.le_iff_toNat_le.mp h1
            rw [← he.1, h3] at h4
            omega

/-- a refused `mpt_command_reserve` may have compacted the table, nothing else -/
theorem commandReserve_none {tab tab' : Option Table} {w : Nat} (h : commandReserve tab w = (tab', none)) :
    liveList tab' = liveList tab ∧ (TabUser tab → TabUser tab') := by
  unfold commandReserve at h
  simp only at h
  split at h
  · cases h
    exact ⟨rfl, id⟩
  · split at h
    · cases h
    · rename_i t
      obtain ⟨htake, _⟩ := compactLoop_spec t.slots
      split at h
      · cases h
        exact ⟨by simp only [liveList_some, htake, liveL_filter],
          fun hu => TabUser.some fun s hs => hu t rfl s (List.mem_filter.mp (htake ▸ hs)).1⟩
      · cases h

theorem nodup_map_of_inj_on {α β} {f : α → β} {l : List α} (hl : l.Nodup)
    (hf : ∀ a, a ∈ l → ∀ b, b ∈ l → f a = f b → a = b) : (l.map f).Nodup := by
  unfold List.Nodup at *
  rw [List.pairwise_map]
  exact List.Pairwise.imp_of_mem (fun ha hb hne h => hne (hf _ ha _ hb h)) hl

theorem lowIds_nodup (n : Nat) : (lowIds n).Nodup := by
  exact nodup_map_of_inj_on List.nodup_range (by intro a _ b _ h; omega)

theorem mem_lowIds {n x : Nat} : x ∈ lowIds n ↔ 1 ≤ x ∧ x ≤ n := by
  unfold lowIds
  simp only [List.mem_map, List.mem_range]
  constructor
  · rintro ⟨a, ha, rfl⟩; omega
  · intro h; exact ⟨x - 1, by omega, by omega⟩

/-- "try to find low free id" succeeds whenever some id in `1..max` is free: cutting the search after
    `slots.length + 1` candidates (as `lowFreeId` does) loses nothing, because that many candidates cannot all be taken.
    `hmax` (`INTPTR_MAX`, see `widthMax_le`) keeps `UInt64.ofNat` injective on the candidates. -/
theorem lowFreeId_some {slots : List Slot} {max i : Nat} (hmax : max ≤ 9223372036854775807) (h1 : 1 ≤ i) (h2 : i ≤ max)
    (hfree : ∀ r, (UInt64.ofNat i, r) ∉ liveL slots) : ∃ m, lowFreeId slots max = some m := by
  unfold lowFreeId
  cases hf : (lowIds (min max (slots.length + 1))).find? fun i => (commandFind slots (UInt64.ofNat i)).isNone with
  | some m => exact ⟨m, rfl⟩
  | none =>
    exfalso
    rw [List.find?_eq_none] at hf
    have hall : ∀ x, 1 ≤ x → x ≤ min max (slots.length + 1) → ∃ s, s ∈ slots ∧ s.live = true ∧ s.id = UInt64.ofNat x := by
      intro x hx1 hx2
      have := hf x (mem_lowIds.mpr ⟨hx1, hx2⟩)
      simp only [Option.isNone_iff_eq_none] at this
      cases hc : commandFind slots (UInt64.ofNat x) with
      | none => exact absurd hc this
      | some j =>
        obtain ⟨s, hs, hl, hid⟩ := commandFind_some hc
        exact ⟨s, List.mem_of_getElem? hs, hl, hid⟩
    by_cases hcase : max ≤ slots.length + 1
    · obtain ⟨s, hs, hl, hid⟩ := hall i h1 (by omega)
      apply hfree s.arg
      rw [mem_liveL]
      exact ⟨s, hs, hl, by rw [hid]⟩
    · -- more candidates than elements: they cannot all be ids of elements
      have hnd : ((lowIds (slots.length + 1)).map UInt64.ofNat).Nodup := by
        apply nodup_map_of_inj_on (lowIds_nodup _)
        intro a ha b hb hab
        rw [mem_lowIds] at ha hb
        have := congrArg UInt64.toNat hab
        rw [UInt64.toNat_ofNat', UInt64.toNat_ofNat'] at this
        omega
      have hsub : (lowIds (slots.length + 1)).map UInt64.ofNat ⊆ slots.map (·.id) := by
        intro y hy
        obtain ⟨x, hx, rfl⟩ := List.mem_map.mp hy
        rw [mem_lowIds] at hx
        obtain ⟨s, hs, _, hid⟩ := hall x hx.1 (by omega)
        exact List.mem_map.mpr ⟨s, hs, hid⟩
      have := hnd.length_le_of_subset hsub
      simp only [lowIds, List.length_map, List.length_range] at this
      omega

end Mpt.Dispatch
