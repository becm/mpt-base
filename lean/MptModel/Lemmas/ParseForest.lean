/-
  The written forests of the four styles in the calculus of ParseAdvance.  Nested styles (brace, `{x}`; generic in
  `NestStyle`): a written tree is the composition start line, children, end line — by induction over the forest
  (`forestAdv_all`, `renderNest_finishes`).  Flat styles (`[name]`, `|name`; generic in `SectStyle`): options, then one
  level of sections; a header ends the open section and starts the next (`header_adv`), and the sections run to the
  end of the text (`renderFlat_finishes`).  Then all four styles with their instances of ParseFormats
  (`loop_render`), and `mpt_parse_node` on an empty target when the element loop from a fresh state ends with code 0.
-/
import MptModel.Lemmas.ParseAdvance
import MptModel.Lemmas.ParseFormats

namespace Mpt.Parse
open Mpt.Conf Mpt.Render


section nested
variable {k : Kind} {cfg : Cfg} {openL : LineDecor → List UInt8 → List UInt8} (hst : NestStyle k cfg openL)
variable (d : Decor) (hd : d.ok)

/-- a written tree anywhere in a text — below any open sections, in front of any text: its normal form is appended
    below the innermost open section and the loop stands behind its last line -/
def TreeAdv (k : Kind) (cfg : Cfg) (openL : LineDecor → List UInt8 → List UInt8) (d : Decor) (t : Tree) : Prop :=
  ∀ (kk : Nat) (e : List (List UInt8)), treeOk t = true → treeFits cfg.sect cfg.opt t = true →
    Advances k cfg (fun _ => True) e (renderTree openL d kk t) e (appendAt e.length · (normTree t))

def ForestAdv (k : Kind) (cfg : Cfg) (openL : LineDecor → List UInt8 → List UInt8) (d : Decor) (f : Forest) : Prop :=
  ∀ (kk : Nat) (e : List (List UInt8)), nodesOk f = true → forestFits cfg.sect cfg.opt f = true →
    Advances k cfg (fun _ => True) e (renderNest openL d kk f) e (appendAll e.length · (norm f))

theorem forestAdv_nil : ForestAdv k cfg openL d [] :=
  fun _ _ _ _ => (Advances.nil _).cast (by simp [renderNest]) (by simp [norm, appendAll])

theorem forestAdv_cons (t : Tree) (ts : Forest) (ht : TreeAdv k cfg openL d t) (hts : ForestAdv k cfg openL d ts) :
    ForestAdv k cfg openL d (t :: ts) := by
  intro kk e hok hfit
  have hok' : treeOk t = true ∧ nodesOk ts = true := by simpa [nodesOk] using hok
  have hfit' : treeFits cfg.sect cfg.opt t = true ∧ forestFits cfg.sect cfg.opt ts = true := by
    simpa [forestFits] using hfit
  exact ((ht kk e hok'.1 hfit'.1).seq (hts (kk + treeLines t) e hok'.2 hfit'.2)).cast
    (by simp [renderNest]) (by simp [norm, appendAll])

include hst hd

theorem treeAdv_section (n : List UInt8) (v : Option (List UInt8)) (cs : Forest) (hne : cs ≠ [])
    (hcs : ForestAdv k cfg openL d cs) : TreeAdv k cfg openL d (.node n v cs) := by
  intro kk e hok hfit
  have hce : cs.isEmpty = false := by simpa using hne
  simp only [treeFits, hce, Bool.false_eq_true, ↓reduceIte, Bool.and_eq_true] at hfit
  simp only [treeOk, hce, Bool.false_eq_true, ↓reduceIte, Bool.and_eq_true, Option.isNone_iff_eq_none] at hok
  obtain ⟨hn, rfl, hcok⟩ := hok
  -- the section start line, the children, the section end line
  exact ((open_adv hst (d kk) (hd kk) n e hn hfit.1).seq
    ((hcs (kk + 1) (e ++ [n]) hcok hfit.2).seq (close_adv hst (d (kk + 1 + braceLines cs)) (hd _) e n))).cast
    (by simp [renderTree, hce])
    (fun F => by simp [appendAll_child e.length F n none (norm cs), normTree])

theorem treeAdv_leaf (n : List UInt8) (v : Option (List UInt8)) : TreeAdv k cfg openL d (.node n v []) := by
  intro kk e hok hfit
  have hrt : renderTree openL d kk (.node n v []) = leafLines openL (d kk) n v := by simp [renderTree]
  simp only [treeFits, List.isEmpty_nil, ↓reduceIte, Bool.and_eq_true, Bool.or_eq_true, Bool.not_eq_eq_eq_not,
    Bool.not_true] at hfit
  rw [hrt]
  unfold leafLines
  split
  · -- written as an empty section: start line, end line
    rename_i c hc hv
    have hfs : nameFits cfg.sect n = true := hfit.2.resolve_left (by rw [hv]; exact Bool.noConfusion)
    have hz : (valueOf v).isEmpty = true := by
      cases v with
      | none => rfl
      | some x => simpa [valueless, valueOf] using hv
    exact ((open_adv hst (d kk) (hd kk) n e (treeOk_leaf n v hok).1 hfs).seq
      (close_adv hst c.line (LineDecor.ok_close _ c (hd kk) hc) e n)).cast rfl
      (fun F => by simp [normTree_leaf, hz])
  · exact option_adv hst.toOptStyle trivial (d kk) (hd kk) n v e hok hfit.1

theorem forestAdv_all : ∀ f, ForestAdv k cfg openL d f := by
  intro f
  refine @Tree.rec_1 (TreeAdv k cfg openL d) (ForestAdv k cfg openL d) ?_ (forestAdv_nil d) ?_ f
  · intro n v cs ih
    by_cases hne : cs = []
    · subst hne; exact treeAdv_leaf hst d hd n v
    · exact treeAdv_section hst d hd n v cs hne ih
  · intro t ts iht ihts
    exact forestAdv_cons d t ts iht ihts

theorem renderNest_finishes (f : Forest) (hok : nodesOk f = true) (hfit : forestFits cfg.sect cfg.opt f = true) :
    Finishes k cfg (fun _ => True) [] (renderNest openL d 0 f) (· ++ norm f) :=
  -- a nested text ends outside of sections: `NestStyle.eof` asks for the clean path, not for the previous operation
  ((forestAdv_all hst d hd f 0 [] hok hfit).finish
    (eof_finishes [] fun s src prev junk b _ hc => hst.eof s src prev junk b hc)).cast
    (by simp) (fun F => by simp [appendAll_zero])

end nested


theorem isLeaf_iff (t : Tree) : isLeaf t = true ↔ ∃ n v, t = .node n v [] := by
  cases t with
  | node n v cs =>
    simp only [isLeaf, List.isEmpty_iff]
    constructor
    · intro h; exact ⟨n, v, by rw [h]⟩
    · rintro ⟨n', v', h⟩; cases h; rfl

theorem leaf_cons_ok {sect opt : Nat} {n : List UInt8} {v : Option (List UInt8)} {ts : Forest}
    (hok : nodesOk (.node n v [] :: ts) = true) (hfit : forestFits sect opt (.node n v [] :: ts) = true) :
    (treeOk (.node n v []) = true ∧ nodesOk ts = true) ∧ nameFits opt n = true ∧ forestFits sect opt ts = true := by
  simp only [forestFits, treeFits, List.isEmpty_nil, ↓reduceIte, Bool.and_eq_true] at hfit
  exact ⟨by simpa [nodesOk] using hok, hfit.1.1, hfit.2⟩

/-- the option lines of one section, or those in front of the first section -/
theorem renderOptions_advances {k : Kind} {cfg : Cfg} (hst : OptStyle k cfg PrevOpt) (d : Decor) (hd : d.ok) :
    ∀ (os : Forest) (kk : Nat) (e : List (List UInt8)),
    os.all isLeaf = true → nodesOk os = true → forestFits cfg.sect cfg.opt os = true →
    Advances k cfg PrevOpt e (renderOptions d kk os) e (appendAll e.length · (norm os)) := by
  intro os
  induction os with
  | nil => exact fun _ _ _ _ _ => (Advances.nil _).cast (by simp [renderOptions]) (by simp [norm, appendAll])
  | cons t ts ih =>
    intro kk e hleaf hok hfit
    simp only [List.all_cons, Bool.and_eq_true] at hleaf
    obtain ⟨n, v, rfl⟩ := (isLeaf_iff t).mp hleaf.1
    obtain ⟨hok', hfit'⟩ := leaf_cons_ok hok hfit
    exact ((option_adv hst (.inr (.inr rfl)) (d kk) (hd kk) n v e hok'.1 hfit'.1).seq
      (ih (kk + 1) e hleaf.2 hok'.2 hfit'.2)).cast (by simp [renderOptions]) (by simp [norm, appendAll])

theorem sectNode_facts (sect opt : Nat) (n : List UInt8) (v : Option (List UInt8)) (cs : Forest)
    (hsn : sectNode (.node n v cs) = true) (hok : treeOk (.node n v cs) = true)
    (hfit : treeFits sect opt (.node n v cs) = true) :
    cs.all isLeaf = true ∧ nameOk n = true ∧ nodesOk cs = true ∧ nameFits sect n = true
      ∧ forestFits sect opt cs = true ∧ normTree (.node n v cs) = .node n none (norm cs) := by
  simp only [sectNode, Bool.and_eq_true, Bool.or_eq_true, Bool.not_eq_eq_eq_not, Bool.not_true] at hsn
  by_cases hce : cs.isEmpty = true
  · have hcs : cs = [] := by simpa using hce
    subst hcs
    have hvl : valueless v = true := hsn.2.resolve_left (by simp)
    simp only [treeOk, treeFits, List.isEmpty_nil, ↓reduceIte, Bool.and_eq_true, hvl, Bool.not_true,
      Bool.false_or] at hok hfit
    refine ⟨rfl, hok.1, rfl, hfit.2, rfl, ?_⟩
    cases v with
    | none => rfl
    | some x => simp [normTree, norm, show x.isEmpty = true from hvl]
  · simp only [treeOk, treeFits, hce, Bool.false_eq_true, ↓reduceIte, Bool.and_eq_true,
      Option.isNone_iff_eq_none] at hok hfit
    obtain ⟨hn, rfl, hcok⟩ := hok
    exact ⟨hsn.1, hn, hcok, hfit.1, hfit.2, by simp [normTree]⟩

/-- **a section header** of a flat style: it ends the open section, if there is one, and starts the next -/
theorem header_adv {k : Kind} {cfg : Cfg} {open_ close : List UInt8} (hst : SectStyle k cfg open_ close)
    (o : Option (List UInt8)) (n tr : List UInt8)
    (hn : nameOk n = true) (hfit : nameFits cfg.sect n = true) (htr : headTrailOk tr = true) :
    Advances k cfg PrevOpt o.toList (open_ ++ n ++ close ++ tr ++ [10]) [n] (appendAt 0 · (.node n none [])) := by
  rintro ⟨b, prev, s, src⟩ rest ⟨J, hr, hm, hp⟩
  have hnc := nameFits_ncheck _ _ hfit
  have hr : Ready o.toList s src J (open_ ++ n ++ close ++ tr ++ 10 :: rest) := by simpa [List.append_assoc] using hr
  cases o with
  | none =>
    obtain ⟨s1, src1, J1, heq1, hs1, hJ1, hr1⟩ := hst.headFirst s src prev J n tr rest hp hr hn hnc htr
    exact open_cur k cfg _ (.inr (.inl rfl)) n [] ⟨b, prev, s, src⟩ s1 src1 J1 rest heq1 hs1 hn hm hJ1 hr1
  | some m =>
    -- the opening character ends the open section, the next call reads the name
    obtain ⟨s1, src1, heq1, hp1, hc1, hr1⟩ := hst.headEnd m s src prev J (n ++ close ++ tr ++ 10 :: rest) hp
      (by simpa [List.append_assoc] using hr)
    obtain ⟨p1, hafter1, hclean1⟩ := afterSave_del (e := []) (code := 2) (.inl rfl) (hp1 ▸ hr.clean.1)
    have hstep1 := loop_step k cfg nodeAppend b _ prev s s1 src src1 2 p1 heq1 (by decide) (nodeAppend_close 0 b prev s1 hm)
      hafter1
    rw [hc1] at hstep1
    obtain ⟨s2, src2, J2, heq2, hs2, hJ2, hr2⟩ :=
      hst.headNext { s1 with path := p1, curr := 0, valid := 0 } src1 n tr rest ⟨hclean1, rfl, rfl, hr1⟩ hn hnc htr
    obtain ⟨c', hat, hf, hrun⟩ := open_cur k cfg PrevOpt (.inr (.inl rfl)) n []
      ⟨{ b with depth := 0 + 1 }, Flag.sectEnd, _, src1⟩ s2 src2 J2 rest heq2 hs2 hn (by simp [Under, Flag.sectEnd]) hJ2 hr2
    exact ⟨c', hat, hf, hstep1.trans hrun⟩

section sections
variable {k : Kind} {cfg : Cfg} {open_ close : List UInt8} (hst : SectStyle k cfg open_ close) (d : Decor) (hd : d.ok)
include hst hd

/-- the sections, behind an open one (`o`) or as the first: each header ends the open section and starts the next -/
theorem renderSects_finishes : ∀ (ts : Forest) (kk : Nat) (o : Option (List UInt8)),
    ts.all sectNode = true → nodesOk ts = true → forestFits cfg.sect cfg.opt ts = true →
    Finishes k cfg PrevOpt o.toList (renderSects d open_ close kk ts) (· ++ norm ts) := by
  intro ts
  induction ts with
  | nil =>
    -- a flat text ends inside its last section or outside: `SectStyle.eof` asks for the previous operation only
    exact fun _ _ _ _ _ => (eof_finishes _ fun s src prev junk b hp _ => hst.eof s src prev junk b hp).cast
      (by simp [renderSects]) (by simp [norm])
  | cons t ts ih =>
    intro kk o hsh hok hfit
    cases t with
    | node n v cs =>
      simp only [List.all_cons, Bool.and_eq_true, nodesOk, forestFits] at hsh hok hfit
      obtain ⟨hcl', hn, hcok, hfs, hfc, hnorm⟩ := sectNode_facts _ _ n v cs hsh.1 hok.1 hfit.1
      -- the header, the options, the remaining sections
      exact (((lead_adv (d kk) (hd kk) _).seq
        ((header_adv hst o n (headTrail (d kk)) hn hfs (LineDecor.ok_headTrail _ (hd kk))).seq
          (renderOptions_advances hst.toOptStyle d hd cs (kk + 1) [n] hcl' hcok hfc))).finish
        (ih (kk + 1 + cs.length) (some n) hsh.2 hok.2 hfit.2)).cast
        (by simp [renderSects, List.append_assoc])
        (fun F => by
          show appendAll (0 + 1) (appendAt 0 F (.node n none [])) (norm cs) ++ norm ts = _
          rw [appendAll_child 0 F n none (norm cs)]; simp [norm, hnorm, appendAt])

theorem renderFlat_finishes : ∀ (f : Forest) (kk : Nat),
    flatShape f = true → nodesOk f = true → forestFits cfg.sect cfg.opt f = true →
    Finishes k cfg PrevOpt [] (renderFlat d open_ close kk f) (· ++ norm f) := by
  intro f
  induction f with
  | nil => exact fun kk _ hok hfit => renderSects_finishes hst d hd [] kk none rfl hok hfit
  | cons t ts ih =>
    intro kk hsh hok hfit
    cases t with
    | node n v cs =>
      by_cases hce : cs.isEmpty = true
      · -- an option line
        have hcs : cs = [] := by simpa using hce
        subst hcs
        have hsh' : flatShape ts = true := by simpa [flatShape] using hsh
        obtain ⟨hok', hfit'⟩ := leaf_cons_ok hok hfit
        exact ((option_adv hst.toOptStyle (.inr (.inr rfl)) (d kk) (hd kk) n v [] hok'.1 hfit'.1).finish
          (ih (kk + 1) hsh' hok'.2 hfit'.2)).cast (by simp [renderFlat]) (by simp [norm, appendAt])
      · -- from the first node with children on: sections
        have hce' : cs.isEmpty = false := by simpa using hce
        simp only [flatShape, hce', Bool.false_eq_true, ↓reduceIte, Bool.and_eq_true] at hsh
        exact (renderSects_finishes hst d hd (.node n v cs :: ts) kk none (by simp [sectNode, hsh.1, hsh.2, hce']) hok
          hfit).cast (by simp [renderFlat, hce']) (fun _ => rfl)

end sections

/-- element function and configuration `mpt_parse_node` takes from the description of a style -/
def styleKind : Style → Kind
  | .brace => .pre | .sep => .sep | .bar => .enc | .enc => .enc

def styleConf (sect opt : Nat) : Style → Cfg
  | .brace => cfgB sect opt | .sep => cfgS sect opt | .bar => cfgBar sect opt | .enc => cfgE sect opt

/-- **the element loop reads every style back**: with the `mpt_node_append` handler on the text of an admissible
    forest, written in any style with any valid decoration, from any clean parser state (a fresh one, or what an
    earlier run left), it ends with code 0 and has built the normal form of the forest -/
theorem loop_render (style : Style) (sect opt : Nat) (d : Decor) (hd : d.ok) (f : Forest)
    (ha : admissible style f = true) (hfit : forestFits sect opt f = true) (s : St) (hclean : Clean [] s.path)
    (hv : s.valid = 0) :
    (loop (styleKind style) (styleConf sect opt style) nodeAppend ({} : Build) Flag.section_ s
        { rest := render style d f }).code = 0
    ∧ (loop (styleKind style) (styleConf sect opt style) nodeAppend ({} : Build) Flag.section_ s
        { rest := render style d f }).ctx.forest = norm f := by
  simp only [admissible, Bool.and_eq_true] at ha
  obtain ⟨hok, hshape⟩ := ha
  obtain ⟨b, hb⟩ := visSkip_endText [] (d (bodyLines style f)) rfl (hd _)
  rw [List.nil_append] at hb
  -- every style finishes from the start of the text; the loop starts there
  have start : ∀ {k cfg P txt}, P 1 → Finishes k cfg P [] txt (· ++ norm f) → ∀ tail, visSkip false tail = some b →
      (loop k cfg nodeAppend ({} : Build) Flag.section_ s { rest := txt ++ tail }).code = 0
      ∧ (loop k cfg nodeAppend ({} : Build) Flag.section_ s { rest := txt ++ tail }).ctx.forest = norm f :=
    fun hp h tail htail => by
      simpa [Cur.run] using h ⟨{}, Flag.section_, s, { rest := _ ++ tail }⟩ tail b htail
        ⟨[], ⟨hclean, hv, rfl, rfl⟩, by simp [Under, Flag.section_], hp⟩
  cases style
  · exact start trivial (renderNest_finishes (nestStyle_B sect opt) d hd f hok hfit) _ hb
  · exact start (.inl rfl) (renderFlat_finishes (sectStyle_Sep (fs := sect) (fo := opt)) d hd f 0 hshape hok hfit) _ hb
  · exact start (.inl rfl) (renderFlat_finishes (sectStyle_Bar (fs := sect) (fo := opt)) d hd f 0 hshape hok hfit) _ hb
  · exact start trivial (renderNest_finishes (nestStyle_E sect opt) d hd f hok hfit) _ hb

/-- `mpt_parse_node` with the description of a style, on an empty target, is the element loop of that style from
    a fresh parser state -/
theorem parseNode_style (style : Style) (sect opt : Nat) (input : List UInt8)
    (hcode : (loop (styleKind style) (styleConf sect opt style) nodeAppend ({} : Build) Flag.section_ {}
      { rest := input }).code = 0) :
    (parseNode [] style.desc sect opt (-2) input).code = 0
    ∧ (parseNode [] style.desc sect opt (-2) input).children
        = (loop (styleKind style) (styleConf sect opt style) nodeAppend ({} : Build) Flag.section_ {}
            { rest := input }).ctx.forest := by
  obtain ⟨t, hdesc, hk, hcfg⟩ : ∃ t, parseFormat style.desc = ((styleConf sect opt style).fmt, t)
      ∧ Kind.ofType t = some (styleKind style)
      ∧ styleConf sect opt style = { fmt := (styleConf sect opt style).fmt, sect := sect, opt := opt, eof := -2 } := by
    -- the format type byte of the description: `*`, blank, `x`; the default description is NULL, the three texts
    -- are evaluated in `cfgS_desc`, `cfgBar_desc`, `cfgE_desc`
    cases style
    · exact ⟨42, rfl, by decide, rfl⟩
    · exact ⟨32, cfgS_desc, by decide, rfl⟩
    · exact ⟨120, cfgBar_desc, by decide, rfl⟩
    · exact ⟨120, cfgE_desc, by decide, rfl⟩
  unfold parseNode
  simp only [hdesc, hk]
  rw [← hcfg]
  unfold parseConfig
  simp [hcode]

end Mpt.Parse
