/-
  The four styles as instances of the interfaces of ParseStyle, format function by format function:
  `mpt_parse_format_pre` with the default format on the lines of the brace style (`nestStyle_B`); the option line
  through `mpt_parse_option` (`option_rest`); `mpt_parse_format_enc` on `{name` … `}` (`nestStyle_E`) and on `|name`
  (`sectStyle_Bar`); `mpt_parse_format_sep` on the headers `[name]` (`sectStyle_Sep`).
-/
import MptModel.Lemmas.ParseStyle

namespace Mpt.Parse
open Mpt.Render

section brace

/-- default format `{*} = ` with `#` comments, name restriction words `fs` (sections) and `fo` (options) -/
abbrev cfgB (fs fo : Nat) : Cfg := { sect := fs, opt := fo }

variable {fs fo : Nat}

theorem dataFmt_B (fs fo : Nat) : DataFmt (cfgB fs fo).fmt := ⟨rfl, rfl, rfl⟩
theorem hashOnly_B (fs fo : Nat) : HashOnly (cfgB fs fo).fmt := (dataFmt_B fs fo).com

theorem preBody_name (s : St) (c : UInt8) (hs : s.curr = Flag.name) (hc : nameChar c = true) :
    preBody (cfgB fs fo) s c = .more s.markValid := by
  have h := nameChar_facts c hc
  have hcom := (hashOnly_B fs fo).nameChar hc
  cases s
  subst hs
  unfold preBody
  simp [h.ne0, h.ne61, h.ne123, h.ne125, h.nosp, hcom]

theorem preBody_blank (s : St) (b : UInt8) (hs : s.curr = Flag.name) (hb : isBlank b = true) :
    preBody (cfgB fs fo) s b = .more s := by
  have h := isBlank_facts b hb
  have hcom : (cfgB fs fo).fmt.isComment b = false := by
    rw [(hashOnly_B fs fo).isComment]; exact beq_false_of_ne h.ne35
  cases s
  subst hs
  unfold preBody
  simp [h.ne0, h.ne10, h.ne61, h.ne123, h.ne125, h.sp, hcom]

theorem preBody_assign (s : St) :
    preBody (cfgB fs fo) s 61 = .done (.data { s with curr := Flag.option ||| Flag.name }) := by
  simp [preBody]

theorem preBody_open (s : St) : preBody (cfgB fs fo) s 123 = .done (.brk s (some 123)) := by
  simp [preBody]

theorem preBody_close (s : St) : preBody (cfgB fs fo) s 125 = .done (.ret 2 { s with curr := Flag.sectEnd }) := by
  simp [preBody, Flag.sectEnd]

/-- the loop of `mpt_parse_format_pre`: read a character, save it, look at it -/
abbrev preStep (fs fo : Nat) : St → UInt8 → Step St PreExit := fun s c => preBody (cfgB fs fo) (s.save c) c

theorem takesName_pre : TakesName (preStep fs fo) Flag.name := takesName_of_body _ _ preBody_name
theorem skipsBlank_pre : SkipsBlank (preStep fs fo) Flag.name := skipsBlank_of_body _ _ preBody_blank

/-- a line that starts with a name: insignificant text, the name, blanks, and the character `d` at which the
    body leaves the name loop -/
theorem pre_name (e : List (List UInt8)) (s : St) (src : Src) (J n pre : List UInt8) (d : UInt8) (rest : List UInt8)
    (r : Nat → PreExit) (hr : Ready e s src J (n ++ pre ++ d :: rest)) (hn : nameOk n = true)
    (hpre : pre.all isBlank = true) (hd : d ≠ 0 ∧ d ≠ 10)
    (h2 : ∀ ln, preBody (cfgB fs fo) (Stt e (n ++ pre ++ [d]) true s.path.first n.length Flag.name ln) d = .done (r ln)) :
    ∃ ln src', parseFormatPre (cfgB fs fo) s src = preExit (cfgB fs fo) (r ln) src' ∧ src'.rest = rest := by
  obtain ⟨c0, n', rfl, hc0, _⟩ := nameOk_cons n hn
  have hf := nameChar_facts c0 hc0
  obtain ⟨ln, src1, hnv, hr1⟩ := Ready.nextvis (c := c0) (tl := n' ++ pre ++ d :: rest) hr
    (hashOnly_B fs fo) (visible_of_nameChar c0 hc0)
  have hrun := run_name_blanks (takesName_pre (fs := fs) (fo := fo)) skipsBlank_pre e s.path.first ln (c0 :: n') pre []
    false (nameOk_parts _ hn).2.1 hpre (Or.inr ⟨rfl, by simp⟩)
  have hss : (c0 == (cfgB fs fo).fmt.sstart) = false := beq_false_of_ne hf.ne123
  unfold parseFormatPre
  simp only [hnv, hss, Bool.false_eq_true, ↓reduceIte]
  rw [addchar_clean hr.clean c0]
  simp only [hr.valid]
  rcases first_step (preStep fs fo) (fun s => PreExit.brk s none) _ _ c0 d (c0 :: n' ++ pre) _ rest (r ln) src1 hr1
    (by simp) hrun (by
      simp only [preStep, save_append _ _ _ _ _ _ _ _ (Or.inl rfl) hd.1 hd.2]
      exact h2 ln) with ⟨h, hrest⟩ | ⟨s3, src', h, hscan, hrest⟩
  all_goals simp only [preStep, save_append _ _ _ _ _ _ _ _ (Or.inr rfl) hf.ne0 hf.ne10, List.nil_append, List.length_nil] at h
  · exact ⟨ln, src1, by simp only [h], hrest⟩
  · exact ⟨ln, src', by simp only [h, hscan], hrest⟩

/-- the brace style: `junk name pre = post value trail \n`, `junk name pre {`, `junk }`, end of the text -/
theorem nestStyle_B (fs fo : Nat) : NestStyle .pre (cfgB fs fo) openLine where
  optLine := by
    intro e s src prev junk n pre post tr rest ov _ hr hn hnc hpre hpost htr hval
    obtain ⟨ln, src2, heq, hr2⟩ := pre_name (fs := fs) (fo := fo) e s src junk n pre 61 _ _ hr hn hpre (by decide)
      (fun ln => preBody_assign _)
    simp only [next]
    rw [heq, List.append_assoc]
    exact nameThenData_line (cfgB fs fo) (dataFmt_B fs fo) e n _ _ ln .BadOperation post tr rest ov src2 (nameOk_parts n hn).2.1
      hnc hpost htr hval hr2
  eof := fun s src prev junk b hclean hj hsrc => next_eof (hashOnly_B fs fo) rfl s src prev junk b hclean.1 hj hsrc
  openLine := by
    -- the rest of the line behind `{` is left in the source
    intro e s src prev J dl n rest hr hdl hn hnc
    obtain ⟨ln, src2, heq, hr2⟩ := pre_name (fs := fs) (fo := fo) e s src _ n dl.pre 123 ((headTrail dl ++ [10]) ++ rest) _
      (Ready.lead dl (by simpa [openLine, List.append_assoc] using hr) hdl) hn (LineDecor.ok_parts _ hdl).pre
      (by decide) (fun ln => preBody_open _)
    have h1 : ((cfgB fs fo).fmt.sstart != 0 && (some (123 : UInt8) == some (cfgB fs fo).fmt.sstart)) = true := rfl
    simp only [next]
    rw [heq, List.append_assoc]
    simp only [preExit, preFinish, h1, ↓reduceIte]
    rw [commit_name e n _ _ _ ln fs .BadType .BadOperation (nameOk_parts n hn).2.1 hnc]
    exact ⟨_, src2, headTrail dl ++ [10], rfl, ⟨_, _, _, _, rfl⟩, visSkip_headTrail _ (LineDecor.ok_headTrail _ hdl), hr2⟩
  closeLine := by
    intro e m s src prev junk rest hr
    obtain ⟨ln, src1, hnv, hr1⟩ := hr.nextvis (hashOnly_B fs fo) (by decide)
    refine ⟨Stt (e ++ [m]) [125] false s.path.first 0 Flag.sectEnd ln, src1, ?_, rfl, rfl, hr1⟩
    have hss : ((125 : UInt8) == (cfgB fs fo).fmt.sstart) = false := rfl
    simp only [next, parseFormatPre, hnv, hss, Bool.false_eq_true, ↓reduceIte]
    rw [addchar_clean hr.clean 125]
    simp only [hr.valid, preBody_close, preExit]

end brace


/-- what the formats whose option lines go through `mpt_parse_option` share (the two flat styles and `{x}`): no
    option start/end character, `=` assigns, default data part, regular end of input -/
structure FlatCfg (cfg : Cfg) : Prop where
  ostart : cfg.fmt.ostart = 0
  assign : cfg.fmt.assign = 61
  data : DataFmt cfg.fmt
  eof : cfg.eof = -2

theorem FlatCfg.hash {cfg : Cfg} (h : FlatCfg cfg) : HashOnly cfg.fmt := h.data.com

theorem getc_cons (src : Src) (c : UInt8) (r : List UInt8) (h : src.rest = c :: r) :
    ∃ src1, getc src = (some c, src1) ∧ src1.rest = r := by
  unfold getc
  rw [h]
  exact ⟨_, rfl, rfl⟩

/-- `mpt_parse_option` entered behind a stored first character: the next character, whatever it is -/
theorem optFirst_raw (f : Format) (s : St) (src : Src) (c : UInt8) (r : List UInt8) (hv : s.valid ≠ 0) (hc10 : c ≠ 10)
    (h : src.rest = c :: r) :
    ∃ src1, optFirst f s src = (some c, s, src1) ∧ src1.rest = r := by
  obtain ⟨src1, hg, hr⟩ := getc_cons src c r h
  refine ⟨src1, ?_, hr⟩
  unfold optFirst
  simp [hv, hg, hc10]

theorem head_name_blanks (w bs : List UInt8) (d : UInt8) (R : List UInt8) (hw : w.all nameChar = true)
    (hbs : bs.all isBlank = true) (hd : d ≠ 0 ∧ d ≠ 10) :
    ∃ c t, w ++ bs ++ d :: R = c :: t ∧ c ≠ 0 ∧ c ≠ 10 := by
  cases w with
  | cons c w' =>
    simp only [List.all_cons, Bool.and_eq_true] at hw
    exact ⟨c, _, rfl, (nameChar_facts c hw.1).ne0, (nameChar_facts c hw.1).ne10⟩
  | nil =>
    cases bs with
    | cons b bs' =>
      simp only [List.all_cons, Bool.and_eq_true] at hbs
      exact ⟨b, _, rfl, (isBlank_facts b hbs.1).ne0, (isBlank_facts b hbs.1).ne10⟩
    | nil => exact ⟨d, R, rfl, hd⟩

section option
variable {cfg : Cfg} (hc : FlatCfg cfg)
include hc

theorem optBody_name (s : St) (c : UInt8) (hn : nameChar c = true) : optBody cfg s c = .more s.markValid := by
  have h := nameChar_facts c hn
  unfold optBody
  simp [hc.assign, hc.data.oend, h.ne0, h.ne61, h.nosp, hc.hash.nameChar hn]

theorem optBody_blank (s : St) (b : UInt8) (hb : isBlank b = true) : optBody cfg s b = .more s := by
  have h := isBlank_facts b hb
  unfold optBody
  simp [hc.assign, h.ne10, h.sp]

theorem optBody_assign (s : St) : optBody cfg s 61 = .done (.data s) := by
  unfold optBody
  have : isspace 61 = false := by decide
  simp [hc.assign, this]

abbrev optStep (cfg : Cfg) : St → UInt8 → Step St OptExit := fun s c => optBody cfg (s.save c) c

theorem takesName_opt (cur : Nat) : TakesName (optStep cfg) cur :=
  takesName_of_body _ _ fun s c _ hn => optBody_name hc s c hn

theorem skipsBlank_opt (cur : Nat) : SkipsBlank (optStep cfg) cur :=
  skipsBlank_of_body _ _ fun s b _ hb => optBody_blank hc s b hb

/-- **the rest of an option line behind its first character** (which the format function has already
    saved and declared valid): `name' pre = post value trail \n` through `mpt_parse_option` -/
theorem option_rest (e : List (List UInt8)) (c0 : UInt8) (n' pre post tr rest : List UInt8) (fi : UInt8)
    (cur ln : Nat) (ov : Option (List UInt8)) (src : Src)
    (hn : nameOk (c0 :: n') = true) (hnc : ncheck (c0 :: n') cfg.opt = none)
    (hpre : pre.all isBlank = true) (hpost : post.all isBlank = true) (htr : trailOk tr = true) (hval : OptValOk ov)
    (hsrc : src.rest = n' ++ pre ++ 61 :: (post ++ valueText ov ++ tr ++ 10 :: rest)) :
    ∃ s' src', parseOption cfg (Stt e [c0] true fi 1 cur ln) src
        = ((if (valueOf ov).isEmpty then 3 else 7 : Int), s', src')
      ∧ OptRead e (c0 :: n') ov s' ∧ src'.rest = rest := by
  have hall := (nameOk_parts _ hn).2.1
  have hall' : n'.all nameChar = true := by simp only [List.all_cons, Bool.and_eq_true] at hall; exact hall.2
  obtain ⟨c, t, hct, h0, h10⟩ := head_name_blanks n' pre 61 (post ++ valueText ov ++ tr ++ 10 :: rest) hall' hpre
    (by decide)
  obtain ⟨src1, hnv, hr1⟩ := optFirst_raw cfg.fmt (Stt e [c0] true fi 1 cur ln) src c t Nat.one_ne_zero h10
    (by rw [hsrc, hct])
  have hos : (cfg.fmt.ostart != 0) = false := by rw [hc.ostart]; rfl
  -- the name is complete at the `=`
  have key : ∀ src2 : Src, src2.rest = post ++ valueText ov ++ tr ++ 10 :: rest →
      ∃ s' src', optExit cfg (.data (Stt e ([c0] ++ n' ++ pre ++ [61]) true fi ([c0] ++ n').length
          (Flag.option ||| Flag.name) ln)) src2 = ((if (valueOf ov).isEmpty then 3 else 7 : Int), s', src')
        ∧ OptRead e (c0 :: n') ov s' ∧ src'.rest = rest := by
    intro src2 hr2
    have := nameThenData_line cfg hc.data e (c0 :: n') (pre ++ [61]) fi ln .MissingBuffer post tr rest ov src2 hall hnc
      hpost htr hval hr2
    rw [← List.append_assoc] at this
    exact this
  unfold parseOption
  simp only [hnv, hos, Bool.false_and, Bool.false_eq_true, ↓reduceIte, addchar_keep]
  rcases first_step (optStep cfg)
      (fun s => OptExit.ret (if cfg.eof == -2 then Err.MissingData.code else Err.BadArgument.code) s)
      (Stt e [c0] true fi 1 (Flag.option ||| Flag.name) ln) _ c 61 (n' ++ pre) t _ _ src1 hr1 hct.symm
      (run_name_blanks (takesName_opt hc _) (skipsBlank_opt hc _) e fi ln n' pre [c0] true hall' hpre (Or.inl rfl))
      (by simp only [optStep, save_append _ _ _ _ _ _ _ _ (Or.inl rfl) (by decide : (61 : UInt8) ≠ 0) (by decide)]
          exact optBody_assign hc _) with ⟨h, hrest⟩ | ⟨s3, src', h, hscan, hrest⟩
  all_goals simp only [optStep, save_append _ _ _ _ _ _ _ _ (Or.inl rfl) h0 h10] at h
  · simp only [h]; exact key src1 hrest
  · simp only [h, hscan]; exact key src' hrest

end option


/-- `{x} = #` -/
abbrev cfgE (fs fo : Nat) : Cfg := { fmt := { sstart := 123, send := 125 }, sect := fs, opt := fo }

variable {fs fo : Nat}

/-- (the format does not depend on the restriction words, so the evaluation at 0 0 serves all) -/
theorem cfgE_desc : parseFormat (Style.desc .enc) = ((cfgE fs fo).fmt, 120) :=
  (by decide +kernel : parseFormat (Style.desc .enc) = ((cfgE 0 0).fmt, 120))
theorem flatCfg_E (fs fo : Nat) : FlatCfg (cfgE fs fo) := ⟨rfl, rfl, ⟨rfl, rfl, rfl⟩, rfl⟩

/-- an option line through `mpt_parse_format_enc` (any start/end characters that are no name characters).
    `hprev`: with one character for start and end, the token behind a section end is a section name, not an option -/
theorem enc_option_line {cfg : Cfg} (hc : FlatCfg cfg) (hss : nameChar cfg.fmt.sstart = false)
    (hse' : nameChar cfg.fmt.send = false)
    (e : List (List UInt8)) (s : St) (src : Src) (prev : Nat) (junk n pre post tr rest : List UInt8)
    (ov : Option (List UInt8))
    (hr : Ready e s src junk (n ++ pre ++ 61 :: (post ++ valueText ov ++ tr ++ 10 :: rest)))
    (hprev : prev ≠ Flag.sectEnd ∨ (cfg.fmt.sstart == cfg.fmt.send) = false)
    (hn : nameOk n = true) (hnc : ncheck n cfg.opt = none)
    (hpre : pre.all isBlank = true) (hpost : post.all isBlank = true) (htr : trailOk tr = true) (hval : OptValOk ov) :
    ∃ s' src', parseFormatEnc cfg prev s src = ((if (valueOf ov).isEmpty then 3 else 7 : Int), s', src')
      ∧ OptRead e n ov s' ∧ src'.rest = rest := by
  obtain ⟨c0, n', rfl, hc0, _⟩ := nameOk_cons n hn
  obtain ⟨ln, src1, hnv, hr1⟩ := Ready.nextvis (c := c0)
    (tl := n' ++ pre ++ 61 :: (post ++ valueText ov ++ tr ++ 10 :: rest)) hr hc.hash (visible_of_nameChar c0 hc0)
  have hcs : (c0 == cfg.fmt.sstart) = false := beq_false_of_ne fun h => by rw [h, hss] at hc0; cases hc0
  have hce : (c0 == cfg.fmt.send) = false := beq_false_of_ne fun h => by rw [h, hse'] at hc0; cases hc0
  have hos : (cfg.fmt.ostart != 0) = false := by rw [hc.ostart]; rfl
  have hopt := option_rest hc e c0 n' pre post tr rest s.path.first s.curr ln ov src1 hn hnc hpre hpost htr hval hr1
  have hmv : ({ ({ s with line := ln } : St) with path := ({ s with line := ln } : St).path.addchar c0 } : St).markValid
      = Stt e [c0] true s.path.first 1 s.curr ln := by
    simp only [addchar_clean hr.clean c0, hr.valid]
    rfl
  have hne : ¬ c0 = cfg.fmt.sstart := by simpa using hcs
  by_cases hse : (cfg.fmt.sstart == cfg.fmt.send) = true
  · have hp2 : (prev == Flag.sectEnd) = false := by
      rcases hprev with h | h
      · simpa using h
      · rw [hse] at h; cases h
    rw [parseFormatEnc_same cfg prev s src hse hp2]
    simp only [hnv, hcs, Bool.and_false, Bool.false_eq_true, ↓reduceIte, bne_iff_ne, ne_eq, hne,
      not_false_eq_true, encOption, hos, hmv]
    exact hopt
  · rw [parseFormatEnc_diff cfg prev s src (by simpa using hse)]
    simp only [hnv, hce, Bool.and_false, Bool.false_eq_true, ↓reduceIte, bne_iff_ne, ne_eq, hne,
      not_false_eq_true, encOption, hos, hmv]
    exact hopt


section encname
variable {cfg : Cfg} (hc : HashOnly cfg.fmt)
include hc

theorem takesName_enc (cur : Nat) : TakesName (encStep cfg.fmt) cur := by
  intro e l k fi v ln c hk hn
  have h := nameChar_facts c hn
  have hne : (l ++ [c]).isEmpty = false := by simp
  unfold encStep
  simp [save_append _ _ _ _ _ _ _ _ hk h.ne0 h.ne10, h.ne0, h.nosp, hc.nameChar hn, hne]

omit hc in
theorem encStep_space (s : St) (t : UInt8) (ht0 : t ≠ 0) (ht : isspace t = true) :
    encStep cfg.fmt s t = .done (.brk (s.save t)) := by
  unfold encStep
  simp [ht0, ht]

theorem encStep_hash (s : St) : encStep cfg.fmt s 35 = .done (.comment (s.save 35)) := by
  have hcom : cfg.fmt.isComment 35 = true := by rw [hc.isComment]; decide
  unfold encStep
  simp [hcom, show isspace 35 = false by decide]

omit hc in
/-- `ncheck`, `mpt_path_add` behind the name loop -/
theorem encFinish_name (e : List (List UInt8)) (n tl : List UInt8) (fi : UInt8) (cur ln : Nat) (src : Src)
    (hn : n.all nameChar = true) (hnc : ncheck n cfg.sect = none) :
    ∃ l fi', encFinish cfg (Stt e (n ++ tl) true fi n.length cur ln) src = (1, Stt (e ++ [n]) l false fi' 0 cur ln, src) := by
  unfold encFinish
  rw [commit_name e n tl fi cur ln cfg.sect .BadType .BadOperation hn hnc]
  exact ⟨_, _, rfl⟩

/-- a section header behind the start character: the name and what may follow it on the line (blanks and a
    comment, or a comment glued to the name) -/
theorem encSection_head (e : List (List UInt8)) (s : St) (src : Src) (n tr rest : List UInt8)
    (hclean : Clean e s.path) (hv : s.valid = 0) (hn : nameOk n = true) (hnc : ncheck n cfg.sect = none)
    (htr : headTrailOk tr = true) (hsrc : src.rest = n ++ tr ++ 10 :: rest) :
    ∃ l fi' ln' src' J', encSection cfg s src = (1, Stt (e ++ [n]) l false fi' 0 (Flag.section_ ||| Flag.name) ln', src')
      ∧ visSkip false J' = some false ∧ src'.rest = J' ++ rest := by
  obtain ⟨c0, n', rfl, hall'⟩ := nameOk_cons n hn
  have hall := (nameOk_parts _ hn).2.1
  have h0 := (nameChar_facts c0 hall'.1).ne0
  obtain ⟨ln, src1, hnv, hr1⟩ := nextvis_skip hc [] c0 (n' ++ tr ++ 10 :: rest)
    { s with curr := Flag.section_ } src rfl (visible_of_nameChar c0 hall'.1) (by simpa using hsrc)
  have hrun := (takesName_enc hc (Flag.section_ ||| Flag.name)).run e s.path.first ln n' [c0] true hall'.2 (Or.inl rfl)
  simp only [List.length_singleton] at hrun
  -- the loop is left at the character `t` behind the name
  have key : ∀ (t : UInt8) (R : List UInt8) (x : EncExit), tr ++ 10 :: rest = t :: R →
      encStep cfg.fmt (Stt e ([c0] ++ n') true s.path.first ([c0] ++ n').length (Flag.section_ ||| Flag.name) ln) t
        = .done x →
      ∃ src2, src2.rest = R ∧ encSection cfg s src =
        (match x with
         | .ret code s3 => (code, s3, src2)
         | .brk s3 => encFinish cfg s3 src2
         | .comment s3 => encFinish cfg (endline s3 src2).1 (endline s3 src2).2) := by
    intro t R x ht hx
    obtain ⟨src2, hscan, hr2⟩ := scan_prefix_done (encStep cfg.fmt) (fun s => EncExit.ret Err.MissingData.code s) n' t R
      src1 _ _ x (by rw [hr1, List.append_assoc, ht]) hrun hx
    refine ⟨src2, hr2, ?_⟩
    have hc0 : (c0 == 0) = false := beq_false_of_ne h0
    unfold encSection
    simp only [hnv, hc0, Bool.false_eq_true, ↓reduceIte]
    rw [addchar_clean hclean c0]
    simp only [hv, markValid_stt, List.isEmpty_cons, Bool.not_false, Bool.or_true, List.length_cons,
      List.length_nil, Nat.zero_add, hscan]
    cases x <;> rfl
  rcases headTrail_cases tr htr with htr | ⟨txt, rfl, htxt⟩
  · -- blanks (and a comment): the first of them ends the name
    obtain ⟨t, J', hsplit, ht, ht0, hJ'⟩ := trail_head tr htr
    obtain ⟨src2, hr2, heq⟩ := key t (J' ++ rest) _
      (by rw [← List.singleton_append (l := rest), ← List.append_assoc, hsplit]; rfl)
      (encStep_space _ t ht0 ht)
    obtain ⟨l, fi', hfin⟩ := encFinish_name (cfg := cfg) e ([c0] ++ n') [t] s.path.first (Flag.section_ ||| Flag.name)
      (if t == 10 then ln + 1 else ln) src2 hall hnc
    refine ⟨l, fi', (if t == 10 then ln + 1 else ln), src2, J', ?_, hJ', hr2⟩
    rw [heq, save_stt _ _ _ _ _ _ _ _ ht0, addchar_keep]
    exact hfin
  · -- a comment glued to the name
    obtain ⟨src2, hr2, heq⟩ := key 35 (txt ++ 10 :: rest) _ rfl (encStep_hash hc _)
    obtain ⟨ln3, src3, hend, hr3⟩ := endline_line txt rest
      (Stt e ([c0] ++ n' ++ [35]) true s.path.first ([c0] ++ n').length (Flag.section_ ||| Flag.name) ln) src2 htxt hr2
    obtain ⟨l, fi', hfin⟩ := encFinish_name (cfg := cfg) e ([c0] ++ n') [35] s.path.first
      (Flag.section_ ||| Flag.name) ln3 src3 hall hnc
    refine ⟨l, fi', ln3, src3, [], ?_, rfl, by simpa using hr3⟩
    rw [heq, save_append _ _ _ _ _ _ _ _ (Or.inl rfl) (by decide) (by decide)]
    simp only [hend]
    exact hfin

end encname


/-- `|x| = #` -/
abbrev cfgBar (fs fo : Nat) : Cfg := { fmt := { sstart := 124, send := 124 }, sect := fs, opt := fo }

theorem cfgBar_desc : parseFormat (Style.desc .bar) = ((cfgBar fs fo).fmt, 120) :=
  (by decide +kernel : parseFormat (Style.desc .bar) = ((cfgBar 0 0).fmt, 120))
theorem flatCfg_Bar (fs fo : Nat) : FlatCfg (cfgBar fs fo) := ⟨rfl, rfl, ⟨rfl, rfl, rfl⟩, rfl⟩

/-- enclosed format with one character for start and end (`|name`): it starts a section and ends the open one -/
theorem sectStyle_Bar : SectStyle .enc (cfgBar fs fo) [124] [] where
  optLine := fun e s src prev junk n pre post tr rest ov hprev hr =>
    enc_option_line (flatCfg_Bar fs fo) rfl rfl e s src prev junk n pre post tr rest ov hr
      (Or.inl (by simpa using hprev.not_end.1))
  eof := fun s src prev junk b hprev hj hsrc =>
    next_eof (flatCfg_Bar fs fo).hash (flatCfg_Bar fs fo).eof s src prev junk b hprev.not_end.1 hj hsrc
  headFirst := by
    intro s src prev junk n tr rest hprev hr hn hnc htr
    obtain ⟨ln, src1, hnv, hr1⟩ := Ready.nextvis (tl := n ++ tr ++ 10 :: rest)
      ⟨hr.clean, hr.valid, hr.junk, by simpa [List.append_assoc] using hr.src⟩
      (flatCfg_Bar fs fo).hash (by decide : visible 124 = true)
    obtain ⟨l, fi', ln', src2, J', hes, hJ', hr2⟩ := encSection_head (flatCfg_Bar fs fo).hash []
      { s with line := ln } src1 n tr rest hr.clean hr.valid hn hnc htr hr1
    have hp2 := hprev.not_end.1
    have hem : s.path.elems.isEmpty = true := by rw [hr.clean.1]; rfl
    refine ⟨_, src2, J', ?_, ⟨l, fi', 0, ln', rfl⟩, hJ', hr2⟩
    simp only [next, parseFormatEnc_same (cfgBar fs fo) prev s src rfl hp2, hnv, hem, hes]
    rfl
  headEnd := by
    intro m s src prev junk R hprev hr
    obtain ⟨ln, src1, hnv, hr1⟩ := Ready.nextvis (tl := R) ⟨hr.clean, hr.valid, hr.junk, by simpa using hr.src⟩
      (flatCfg_Bar fs fo).hash (by decide : visible 124 = true)
    have hem : s.path.elems.isEmpty = false := by rw [hr.clean.1]; rfl
    have hp2 := hprev.not_end.1
    refine ⟨{ s with line := ln, curr := Flag.sectEnd }, src1, ?_, rfl, rfl, hr1⟩
    simp only [next, parseFormatEnc_same (cfgBar fs fo) prev s src rfl hp2, hnv, hem]
    rfl
  headNext := by
    intro s src n tr rest hr hn hnc htr
    obtain ⟨l, fi', ln', src2, J', hes, hJ', hr2⟩ := encSection_head (flatCfg_Bar fs fo).hash [] s src n tr rest
      hr.clean hr.valid hn hnc htr (by simpa [List.append_assoc] using hr.src)
    exact ⟨_, src2, J', (parseFormatEnc_behind_end (cfgBar fs fo) s src rfl).trans hes, ⟨l, fi', 0, ln', rfl⟩, hJ', hr2⟩


/-- enclosed format with different start and end characters: sections `{name` … `}` nest -/
theorem nestStyle_E (fs fo : Nat) : NestStyle .enc (cfgE fs fo) encOpenLine where
  optLine := fun e s src prev junk n pre post tr rest ov _ hr =>
    enc_option_line (flatCfg_E fs fo) rfl rfl e s src prev junk n pre post tr rest ov hr (Or.inr rfl)
  eof := fun s src prev junk b hclean hj hsrc =>
    next_eof (flatCfg_E fs fo).hash (flatCfg_E fs fo).eof s src prev junk b hclean.1 hj hsrc
  openLine := by
    intro e s src prev J dl n rest hr hdl hn hnc
    have hht := LineDecor.ok_headTrail _ hdl
    obtain ⟨ln, src1, hnv, hr1⟩ := Ready.nextvis (tl := n ++ headTrail dl ++ 10 :: rest)
      (Ready.lead dl (by simpa [encOpenLine, List.append_assoc] using hr) hdl)
      (flatCfg_E fs fo).hash (by decide : visible 123 = true)
    obtain ⟨l, fi', ln', src2, J', hes, hJ', hr2⟩ := encSection_head (flatCfg_E fs fo).hash e
      { s with line := ln } src1 n (headTrail dl) rest hr.clean hr.valid hn hnc hht hr1
    refine ⟨_, src2, J', ?_, ⟨l, fi', 0, ln', rfl⟩, hJ', hr2⟩
    have h1 : ((123 : UInt8) == 125) = false := rfl
    simp only [next, parseFormatEnc_diff (cfgE fs fo) prev s src rfl, hnv, hes, h1, Bool.and_false, Bool.false_eq_true,
      ↓reduceIte, bne_self_eq_false]
  closeLine := by
    intro e m s src prev junk rest hr
    obtain ⟨ln, src1, hnv, hr1⟩ := hr.nextvis (flatCfg_E fs fo).hash (by decide : visible 125 = true)
    have hem : s.path.elems.isEmpty = false := by rw [hr.clean.1]; simp
    refine ⟨{ s with line := ln, curr := Flag.sectEnd }, src1, ?_, hr.clean.1, rfl, hr1⟩
    simp only [next, parseFormatEnc_diff (cfgE fs fo) prev s src rfl, hnv, hem]
    rfl


/-- `[ ] = #` -/
abbrev cfgS (fs fo : Nat) : Cfg := { fmt := { sstart := 91, send := 93 }, sect := fs, opt := fo }

theorem cfgS_desc : parseFormat (Style.desc .sep) = ((cfgS fs fo).fmt, 32) :=
  (by decide +kernel : parseFormat (Style.desc .sep) = ((cfgS 0 0).fmt, 32))
theorem flatCfg_S (fs fo : Nat) : FlatCfg (cfgS fs fo) := ⟨rfl, rfl, ⟨rfl, rfl, rfl⟩, rfl⟩

theorem sepBody_name (s : St) (c : UInt8) (hn : nameChar c = true) :
    sepBody (cfgS fs fo).fmt s c = .more s.markValid := by
  have h := nameChar_facts c hn
  unfold sepBody
  simp [h.ne93, h.nosp, (flatCfg_S fs fo).hash.nameChar hn]

theorem sepBody_close (s : St) : sepBody (cfgS fs fo).fmt s 93 = .done (.sect s) := by
  simp [sepBody]

abbrev sepStep (fs fo : Nat) : St → UInt8 → Step St SepExit := fun s c => sepBody (cfgS fs fo).fmt (s.save c) c

theorem takesName_sep (cur : Nat) : TakesName (sepStep fs fo) cur :=
  takesName_of_body _ _ fun s c _ hn => sepBody_name s c hn

theorem sepFirst_name (e : List (List UInt8)) (s : St) (src : Src) (n rest : List UInt8)
    (hclean : Clean e s.path) (hv : s.valid = 0) (hn : nameOk n = true) (hnc : ncheck n fs = none)
    (hsrc : src.rest = n ++ 93 :: rest) :
    ∃ s' src', sepFirst (cfgS fs fo) s src = (1, s', src') ∧ SectRead e n s' ∧ src'.rest = rest := by
  obtain ⟨c0, n', rfl, hc0, _⟩ := nameOk_cons n hn
  have hall := (nameOk_parts _ hn).2.1
  obtain ⟨h0, h10⟩ : c0 ≠ 0 ∧ c0 ≠ 10 := ⟨(nameChar_facts c0 hc0).ne0, (nameChar_facts c0 hc0).ne10⟩
  obtain ⟨src1, hg, hr1⟩ := getc_cons src c0 (n' ++ 93 :: rest) (by simpa using hsrc)
  have hsave : s.save c0 = Stt e [c0] false s.path.first 0 s.curr s.line := by
    have h00 : (c0 == 0) = false := beq_false_of_ne h0
    have h10' : (c0 == 10) = false := beq_false_of_ne h10
    cases s with
    | mk path valid curr line =>
      simp only at hv hclean
      subst hv
      simp only [St.save, h00, Bool.false_eq_true, ↓reduceIte, h10', addchar_clean hclean c0]
  -- the name is complete at the `]`
  have key : ∀ src2 : Src, src2.rest = rest →
      ∃ s' src', sepExit (cfgS fs fo) (.sect (Stt e ([] ++ (c0 :: n') ++ [93]) true s.path.first ([] ++ c0 :: n').length
          s.curr s.line)) src2 = (1, s', src') ∧ SectRead e (c0 :: n') s' ∧ src'.rest = rest := by
    intro src2 hr2
    unfold sepExit
    simp only [List.nil_append]
    rw [commit_name e (c0 :: n') [93] _ _ _ _ .BadType .BadOperation hall hnc]
    exact ⟨_, src2, rfl, ⟨_, _, _, _, rfl⟩, hr2⟩
  have hne' : ((cfgS fs fo).fmt.send != (cfgS fs fo).fmt.sstart) = true := rfl
  unfold sepFirst
  simp only [hne', ↓reduceIte, hg, hsave]
  unfold sepName
  rcases first_step (sepStep fs fo) (fun s => SepExit.brk s) (Stt e [] false s.path.first 0 s.curr s.line) _ c0 93
      (c0 :: n') _ rest _ src1 hr1 (by simp)
      ((takesName_sep s.curr).run e s.path.first s.line (c0 :: n') [] false hall (Or.inr ⟨rfl, by simp⟩))
      (by simp only [sepStep, save_append _ _ _ _ _ _ _ _ (Or.inl rfl) (by decide : (93 : UInt8) ≠ 0) (by decide)]
          exact sepBody_close (fs := fs) (fo := fo) _) with ⟨h, hrest⟩ | ⟨s3, src', h, hscan, hrest⟩
  all_goals simp only [sepStep, save_append _ _ _ _ _ _ _ _ (Or.inr rfl) h0 h10, List.nil_append] at h
  · simp only [h]; exact key src1 hrest
  · simp only [h, hscan]; exact key src' hrest

/-- separated format `[name]`: behind an open section the `[` ends it and the next call reads the name up to `]` -/
theorem sectStyle_Sep : SectStyle .sep (cfgS fs fo) [91] [93] where
  optLine := by
    intro e s src prev junk n pre post tr rest ov hprev hr hn hnc hpre hpost htr hval
    obtain ⟨c0, n', rfl, hc0, _⟩ := nameOk_cons n hn
    have hf := nameChar_facts c0 hc0
    obtain ⟨ln, src1, hnv, hr1⟩ := Ready.nextvis (c := c0)
      (tl := n' ++ pre ++ 61 :: (post ++ valueText ov ++ tr ++ 10 :: rest)) hr (flatCfg_S fs fo).hash
      (visible_of_nameChar c0 hc0)
    have hp2 := hprev.not_end.2
    have hopt := option_rest (flatCfg_S fs fo) e c0 n' pre post tr rest s.path.first Flag.name ln ov src1
      hn hnc hpre hpost htr hval hr1
    simp only [next, parseFormatSep_vis (cfgS fs fo) prev s src hp2, hnv, bne_iff_ne, ne_eq]
    have h1 : ¬ c0 = (cfgS fs fo).fmt.sstart := hf.ne91
    have h2 : ¬ c0 = (cfgS fs fo).fmt.ostart := hf.ne0
    simp only [h1, h2, not_false_eq_true, ↓reduceIte]
    rw [addchar_clean hr.clean c0]
    simp only [hr.valid, markValid_stt, List.isEmpty_cons, Bool.not_false, Bool.or_true, List.length_cons,
      List.length_nil, Nat.zero_add]
    exact hopt
  eof := fun s src prev junk b hprev hj hsrc =>
    next_eof (flatCfg_S fs fo).hash (flatCfg_S fs fo).eof s src prev junk b hprev.not_end.2 hj hsrc
  headFirst := by
    intro s src prev junk n tr rest hprev hr hn hnc htr
    obtain ⟨ln, src1, hnv, hr1⟩ := Ready.nextvis (tl := n ++ 93 :: ((tr ++ [10]) ++ rest))
      ⟨hr.clean, hr.valid, hr.junk, by simpa [List.append_assoc] using hr.src⟩
      (flatCfg_S fs fo).hash (by decide : visible 91 = true)
    obtain ⟨s', src2, hes, hs', hr2⟩ := sepFirst_name (fs := fs) (fo := fo) []
      { s with line := ln, curr := Flag.section_ } src1 n ((tr ++ [10]) ++ rest) hr.clean hr.valid hn hnc hr1
    have hp2 := hprev.not_end.2
    have hem : s.path.elems.isEmpty = true := by rw [hr.clean.1]; rfl
    refine ⟨s', src2, tr ++ [10], ?_, hs', visSkip_headTrail tr htr, hr2⟩
    simp only [next, parseFormatSep_vis (cfgS fs fo) prev s src hp2, hnv, hem, hes]
    rfl
  headEnd := by
    intro m s src prev junk R hprev hr
    obtain ⟨ln, src1, hnv, hr1⟩ := Ready.nextvis (tl := R) ⟨hr.clean, hr.valid, hr.junk, by simpa using hr.src⟩
      (flatCfg_S fs fo).hash (by decide : visible 91 = true)
    have hem : s.path.elems.isEmpty = false := by rw [hr.clean.1]; rfl
    have hp2 := hprev.not_end.2
    refine ⟨{ s with line := ln, curr := Flag.sectEnd }, src1, ?_, rfl, rfl, hr1⟩
    simp only [next, parseFormatSep_vis (cfgS fs fo) prev s src hp2, hnv, hem]
    rfl
  headNext := by
    intro s src n tr rest hr hn hnc htr
    obtain ⟨s', src2, hes, hs', hr2⟩ := sepFirst_name (fs := fs) (fo := fo) [] { s with curr := Flag.section_ } src n
      ((tr ++ [10]) ++ rest) hr.clean hr.valid hn hnc (by simpa [List.append_assoc] using hr.src)
    exact ⟨s', src2, tr ++ [10], (parseFormatSep_behind_end (cfgS fs fo) 2 s src (by decide)).trans hes, hs',
      visSkip_headTrail tr htr, hr2⟩

end Mpt.Parse
