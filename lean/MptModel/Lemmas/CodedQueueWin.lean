/-
  Windows of the ring storage.  The encoder of `mpt_queue_push` works on a `struct iovec` cut out
  of the storage, the decoders of `mpt_queue_recv` / `mpt_queue_peek` and `mpt_message_get` on the one or two
  contiguous parts of the data: each is a piece `[a, a+n)` of the storage that holds the logical positions
  `[k, k+n)` of the content (`Maps`).  Reading such a piece reads the content, storing into it replaces that part of
  the content and nothing else (`Maps.read`, `Maps.write`; for a window that reaches the end of the data
  `window_content`, `content_splice`).  At the end: where `mpt_message_get` and `mpt_message_read` find the bytes of the content —
  in one of the two parts of the data, or for `mpt_message_get` at the end of the first and the start of the second
  (`messageGet_spec`, `skipTo_maps`).  (In front: the sign of the error codes, which
  both queue sides go by.)
-/
import MptModel.Impl.CodedQueue
import MptModel.Lemmas.Ring
namespace Mpt.CQ

/-- the C return value of a refusal is negative (both queues tell refusal from progress by the sign) -/
theorem err_code_neg (e : Err) : e.code < 0 := by cases e <;> decide

open Ring in
/-- the window `[a, a+n)` of the storage is the image of the logical positions `[k, k+n)` -/
def Maps (r : Ring) (k a n : Nat) : Prop :=
  k + n ≤ r.store.length ∧ a + n ≤ r.store.length ∧ ∀ i, i < n → physIdx r.store.length r.off (k + i) = a + i

open Ring in
/-- upper part: the logical positions behind the lower part `[off, max)` live in `[0, off)` -/
theorem Maps.upper (r : Ring) (h : r.off ≤ r.store.length) : Maps r (r.store.length - r.off) 0 r.off := by
  refine ⟨by omega, by omega, ?_⟩
  intro i hi
  unfold physIdx
  rw [if_neg (by omega)]; omega

open Ring in
/-- lower part: the first logical positions live in `[off, max)` -/
theorem Maps.lower (r : Ring) (h : r.off ≤ r.store.length) : Maps r 0 r.off (r.store.length - r.off) := by
  refine ⟨by omega, by omega, ?_⟩
  intro i hi
  unfold physIdx
  rw [if_pos (by omega)]; omega

theorem Maps.aligned (r : Ring) (h0 : r.off = 0) : Maps r 0 0 r.store.length := by
  have := Maps.lower r (by rw [h0]; exact Nat.zero_le _)
  rwa [h0, Nat.sub_zero] at this

theorem Maps.in_store {r : Ring} {k a n : Nat} (h : Maps r k a n) : a + n ≤ r.store.length := h.2.1

theorem Maps.sub {r : Ring} {k a n k' a' n' : Nat} (h : Maps r k a n) (hk : k ≤ k') (ha : a' = a + (k' - k))
    (hn : k' - k + n' ≤ n) : Maps r k' a' n' := by
  obtain ⟨h1, h2, h3⟩ := h
  refine ⟨by omega, by omega, fun i hi => ?_⟩
  rw [show k' + i = k + (k' - k + i) by omega, h3 (k' - k + i) (by omega)]; omega

theorem Maps.low (r : Ring) (h : r.WF) : Maps r 0 r.off r.low :=
  (Maps.lower r h.2).sub (Nat.le_refl 0) (by omega) (by simp only [Ring.low, Ring.max]; omega)

open Ring in
theorem Maps.high (r : Ring) (h : r.WF) : Maps r r.low 0 (r.len - r.low) := by
  obtain ⟨h1, h2⟩ := h
  unfold Ring.low Maps physIdx
  simp only [Ring.max]
  refine ⟨by omega, by omega, fun i hi => ?_⟩
  rw [if_neg (by omega)]; omega

open Ring in
/-- a window is a one-part access of the ring: it does not straddle the storage end -/
theorem Maps.parts {r : Ring} {k a n : Nat} (h : Maps r k a n) (hn : 0 < n) : Parts r.store.length r.off k a n 0 := by
  obtain ⟨h1, h2, h3⟩ := h
  have e0 := h3 0 hn
  have e1 := h3 (n - 1) (by omega)
  unfold physIdx at e0 e1
  refine ⟨by omega, ?_, Or.inl rfl⟩
  split at e0 <;> split at e1 <;> omega

open Ring in
theorem Maps.read {r : Ring} {k a n : Nat} (h : Maps r k a n) (hwf : r.WF) (hl : k + n ≤ r.len) :
    (r.store.drop a).take n = (r.content.drop k).take n := by
  rcases Nat.eq_zero_or_pos n with rfl | hn
  · rw [List.take_zero, List.take_zero]
  · rw [← read_content r k n hl, ← read_part r.store r.off k a n hwf.2 (h.parts hn)]; rfl

open Ring in
theorem Maps.write {r : Ring} {k a n : Nat} (h : Maps r k a n) (hwf : r.WF) (hl : k + n ≤ r.len) (w : List Byte)
    (hw : w.length = n) :
    ({ r with store := Mem.write r.store a w } : Ring).content = r.content.take k ++ w ++ r.content.drop (k + n) := by
  subst hw
  rcases Nat.eq_zero_or_pos w.length with h0 | hn
  · rw [List.eq_nil_of_length_eq_zero h0, Mem.write_nil, List.append_nil, List.length_nil, Nat.add_zero,
      List.take_append_drop]
  · rw [content_eq, content_eq]
    rw [write_part r.store r.off k a w hwf.2 (h.parts hn), Mem.take_write _ _ _ _ hl (by rw [unroll_length]; exact hwf.1)]
    rfl

open Ring in
theorem window_content (r : Ring) (h : r.WF) (k a n : Nat) (hm : Maps r k a n) (hk : k ≤ r.len) (hfit : r.len ≤ k + n) :
    ((r.store.drop a).take n).take (r.len - k) = r.content.drop k := by
  have : (r.store.drop a).take (r.len - k) = (r.content.drop k).take (r.len - k) :=
    (hm.sub (Nat.le_refl k) (by omega) (by omega)).read h (by omega)
  rw [List.take_take, Nat.min_eq_left (by omega), this,
    List.take_of_length_le (by rw [List.length_drop, content_length r h.1]; exact Nat.le_refl _)]

open Ring in
theorem content_take_len (r : Ring) (L d : Nat) (h1 : d ≤ L) (h2 : d ≤ r.len) :
    ({ r with len := L } : Ring).content.take d = r.content.take d := by
  rw [← content_take r d h2, ← content_take { r with len := L } d h1]

open Ring in
theorem content_splice (r : Ring) (h : r.WF) (k a n : Nat) (hm : Maps r k a n) (w' : List Byte) (hw : w'.length = n)
    (len' : Nat) (hk : k ≤ r.len) (hl1 : k ≤ len') (hl2 : len' ≤ k + n) :
    ({ r with store := Mem.write r.store a w', len := len' } : Ring).content
      = r.content.take k ++ w'.take (len' - k) := by
  -- with the length set to the window end the window lies inside the data
  have hwf0 : ({ r with len := k + n } : Ring).WF := ⟨hm.1, h.2⟩
  have c := Maps.write (r := { r with len := k + n }) hm hwf0 (Nat.le_refl _) w' hw
  have hd : ({ r with len := k + n } : Ring).content.drop (k + n) = [] :=
    List.drop_of_length_le (by rw [content_length _ hwf0.1]; exact Nat.le_refl _)
  have hA : (r.content.take k).length = k := by rw [List.length_take, content_length r h.1]; omega
  rw [content_take { r with store := Mem.write r.store a w', len := k + n } len' hl2, c,
    hd, List.append_nil, content_take_len r _ k (by omega) hk, List.take_append, hA,
    List.take_of_length_le (by omega)]

open Ring in
/-- `mpt_message_get` denotes the bytes of the queue content: it reads them from one of the two parts of the
    data, or from the end of the first and the start of the second -/
theorem messageGet_spec (r : Ring) (h : r.WF) (off take : Nat) (hfit : off + take ≤ r.len) :
    ∃ c, messageGet r off take = .ok (c, (r.content.drop off).take take) := by
  have hl := Maps.low r h
  have hh := Maps.high r h
  have hb1 := hl.in_store
  have hb2 := hh.in_store
  unfold messageGet
  by_cases hA : off < r.low
  · simp only [hA, if_true]
    rw [if_neg (by omega)]
    by_cases hB : take ≤ r.low - off
    · have e := (hl.sub (k' := off) (a' := r.off + off) (n' := take) (Nat.zero_le _) rfl (by omega)).read h hfit
      rw [if_pos hB, Mem.rd_ok _ _ _ (by omega)]
      exact ⟨0, by rw [← e]; rfl⟩
    · have ex := (hl.sub (k' := off) (a' := r.off + off) (n' := r.low - off) (Nat.zero_le _) rfl (by omega)).read h
        (by omega)
      have ey := (hh.sub (k' := r.low) (a' := 0) (n' := take - (r.low - off)) (by omega) (by omega) (by omega)).read h
        (by omega)
      have e := List.take_add (l := r.content.drop off) (i := r.low - off) (j := take - (r.low - off))
      rw [show r.low - off + (take - (r.low - off)) = take by omega, List.drop_drop,
        show off + (r.low - off) = r.low by omega, ← ex, ← ey] at e
      rw [if_neg hB]
      simp only [Bool.not_true, Bool.false_eq_true, if_false]
      rw [Mem.rd_ok _ _ _ (by omega), Mem.rd_ok _ _ _ (by omega)]
      exact ⟨1, by rw [e]; rfl⟩
  · have e := (hh.sub (k' := off) (a' := off - r.low) (n' := take) (Nat.le_of_not_lt hA) (Nat.zero_add _).symm (by omega)).read h hfit
    simp only [hA, if_false]
    rw [if_neg (by omega)]
    simp only []
    rw [if_neg (by omega), if_pos (by omega), Mem.rd_ok _ _ _ (by omega)]
    exact ⟨0, by rw [← e]; rfl⟩

open Ring in
/-- `mpt_message_read(&msg, off, 0)` on the queue data: the rest of the part that holds offset `off0` is one piece
    of the storage -/
theorem skipTo_maps (r : Ring) (h : r.WF) (off0 b used : Nat) (hs : skipTo r off0 = some (b, used)) :
    Maps r off0 b used ∧ off0 + used ≤ r.len := by
  have hl := Maps.low r h
  have hh := Maps.high r h
  have hlo := (low_spec r h).1
  have hu1 : (if r.len > r.store.length - r.off then r.store.length - r.off else r.len) = r.low := by
    unfold low; simp only [Ring.max]; split <;> omega
  unfold skipTo at hs
  simp only [Ring.max, hu1] at hs
  split at hs
  · rename_i h0
    cases hs; subst h0
    exact ⟨hl, by omega⟩
  split at hs
  · cases hs; exact ⟨hl.sub (Nat.zero_le _) rfl (by omega), by omega⟩
  split at hs
  · -- at the end of the first part: the second part if there is one
    rename_i he
    subst he
    split at hs
    · cases hs; exact ⟨hh, by omega⟩
    · cases hs; exact ⟨hl.sub (Nat.zero_le _) rfl (by omega), by omega⟩
  split at hs
  · cases hs; exact ⟨hh.sub (by omega) (Nat.zero_add _).symm (by omega), by omega⟩
  · cases hs

end Mpt.CQ
