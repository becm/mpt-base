/-
  The data loop of the encoder model, all four COBS framings, against the reference encoder on *marked* bytes
  (a cut where an encoder call ended — zero pair elimination cannot look past it; `markChunk` of Lemmas/Cobs.lean);
  names ending in `M` speak of marked bytes.  The induction is about `encLoopE`, the loop entered at a position
  that may be the end of the window; `encLoopM_spec` is its reading for `encLoop` as `mpt_encode_cobs` enters it.
-/
import MptModel.Lemmas.Encode
namespace Mpt.Codec
open Mpt.Cobs

/-- What the data loop guarantees when it stops (all framings): the window is `pre`, new finished blocks `fin'`
    and an open block `run'`, such that the consumed bytes, marked as one piece, take the reference encoder from
    `run` to `fin'` and `run'`. -/
structure LoopPostM (v : Variant) (w : List Byte) (dst : Nat) (pre run bs : List Byte) (o : LoopOut) : Prop where
  len : o.win.length = w.length
  rem_le : o.rem ≤ bs.length
  /-- at most two window bytes are used per consumed byte -/
  budget : o.dst + 2 * o.rem ≤ dst + 2 * bs.length
  /-- bytes are left only at the end of the window -/
  full : o.rem ≠ 0 → w.length ≤ o.dst + 1
  blocks : ∃ fin' run', o.code = run'.length + 1 ∧ run'.length + 1 < v.maxlen ∧
    o.dst = pre.length + fin'.length + o.code ∧ o.dst ≤ w.length ∧
    o.win.take o.dst = pre ++ fin' ++ codeOf run' :: run' ∧
    (∀ rest, encB v run false (markChunk (bs.take (bs.length - o.rem)) ++ rest) = fin' ++ encB v run' false rest)

theorem take_cons_rem (b : Byte) (rest : List Byte) (rem : Nat) (h : rem ≤ rest.length) :
    (b :: rest).take ((b :: rest).length - rem) = b :: rest.take (rest.length - rem) := by
  have : (b :: rest).length - rem = (rest.length - rem) + 1 := by simp; omega
  rw [this]; rfl

theorem LoopPostM.prepend {v : Variant} {w w1 : List Byte} {dst dst1 : Nat} {pre delta run run1 rest : List Byte}
    {o : LoopOut} (c : List Byte) (h : LoopPostM v w1 dst1 (pre ++ delta) run1 rest o)
    (hl : w1.length = w.length) (hd : dst1 ≤ dst + 2 * c.length)
    (hs : ∀ r, encB v run false (markChunk ((c ++ rest).take ((c ++ rest).length - o.rem)) ++ r) =
      delta ++ encB v run1 false (markChunk (rest.take (rest.length - o.rem)) ++ r)) :
    LoopPostM v w dst pre run (c ++ rest) o := by
  obtain ⟨fin', run', h4, h5, h6, h7, h8, h9⟩ := h.blocks
  have h2 := h.rem_le
  have h3 := h.budget
  refine ⟨h.len.trans hl, by rw [List.length_append]; omega, by rw [List.length_append]; omega, hl ▸ h.full,
    delta ++ fin', run', h4, h5, ?_, hl ▸ h7, ?_, fun r => ?_⟩
  · simp at h6 ⊢; omega
  · simpa using h8
  · rw [hs r, h9 r]; simp

/-- one consumed byte `b`: what follows it in the marked message is behind a cut or begins like `rest` -/
theorem LoopPostM.cons {v : Variant} {w w1 : List Byte} {dst dst1 : Nat} {pre delta run run1 rest : List Byte} {b : Byte}
    {o : LoopOut} (h : LoopPostM v w1 dst1 (pre ++ delta) run1 rest o) (hl : w1.length = w.length)
    (hd : dst1 ≤ dst + 2)
    (hs : ∀ cut r, (cut = false → r.head?.map Prod.fst = rest.head?) →
      encB v run false ((b, cut) :: r) = delta ++ encB v run1 false r) :
    LoopPostM v w dst pre run (b :: rest) o := by
  have h2 := h.rem_le
  refine LoopPostM.prepend [b] h hl hd fun r => ?_
  rw [List.singleton_append, take_cons_rem b rest o.rem h2]
  cases hcons : rest.take (rest.length - o.rem) with
  | nil => exact hs true r (fun h => by cases h)
  | cons y tl =>
    have hy : rest.head? = some y := by
      have := congrArg List.head? hcons
      rwa [List.head?_take, if_neg (by intro h0; rw [h0] at hcons; simp at hcons)] at this
    rw [show markChunk (b :: y :: tl) = (b, false) :: markChunk (y :: tl) from markChunk_cons b y tl]
    refine hs false _ (fun _ => ?_)
    rw [hy]
    cases tl with
    | nil => rfl
    | cons z tl2 => rw [markChunk_cons]; rfl

theorem LoopPostM.cons2 {v : Variant} {w w1 : List Byte} {dst dst1 : Nat} {pre run rest : List Byte}
    {o : LoopOut} (h : LoopPostM v w1 dst1 (pre ++ (pairCode run :: run)) [] rest o) (hl : w1.length = w.length)
    (hd : dst1 ≤ dst + 2) (hp : pairOk v run = true) :
    LoopPostM v w dst pre run (0 :: 0 :: rest) o := by
  have h2 := h.rem_le
  refine LoopPostM.prepend [0, 0] h hl (by simp only [List.length_cons, List.length_nil]; omega) fun r => ?_
  show encB v run false (markChunk ((0 :: 0 :: rest).take ((0 :: 0 :: rest).length - o.rem)) ++ r) = _
  rw [take_cons_rem 0 (0 :: rest) o.rem (Nat.le_succ_of_le h2), take_cons_rem 0 rest o.rem h2, markChunk_cons]
  cases hcons : rest.take (rest.length - o.rem) with
  | nil =>
    simp only [markChunk_single, markChunk_nil, List.nil_append, List.cons_append]
    exact encB_zero_pair v run true r hp
  | cons y tl =>
    rw [markChunk_cons]
    exact encB_zero_pair v run false _ hp

/-- the test of `MPT_cobs_zero` on the open code is `pairOk` of the open block -/
theorem pairTest_eq (v : Variant) (run : List Byte) :
    (v.isZpe && decide (1 < run.length + 1) && decide (run.length + 1 < 32)) = pairOk v run := by
  congr 1
  · congr 1
    simp; omega
  · simp; omega

/-- the data loop entered at a position that may be the end of the window: there the open code is saved and
    everything stays unconsumed -/
def encLoopE (v : Variant) (w : List Byte) (dst code : Nat) (bs : List Byte) : CRes LoopOut :=
  if dst = w.length then do
    let w' ← wr w (dst - code) (UInt8.ofNat code)
    pure ⟨w', dst, code, bs.length⟩
  else encLoop v w dst code false bs

theorem LoopPostM.stop {v : Variant} {w w0 : List Byte} {dst : Nat} {pre run bs : List Byte} {ph : Byte}
    (hw : w.take dst = pre ++ ph :: run) (hl : w.length = w0.length) (hd : dst ≤ w.length)
    (hr : run.length + 1 < v.maxlen) (hs : bs = [] ∨ w.length ≤ dst + 1) :
    LoopPostM v w0 dst pre run bs ⟨w.set pre.length (codeOf run), dst, run.length + 1, bs.length⟩ := by
  have hlen : dst = pre.length + 1 + run.length := by
    have := congrArg List.length hw; simp at this; omega
  refine ⟨by simp [hl], Nat.le_refl _, Nat.le_refl _, fun hne => ?_, [], run, rfl, hr, by simp; omega,
    by simp only; omega, ?_, fun rest => by simp [markChunk_nil]⟩
  · rcases hs with rfl | hs
    · exact absurd rfl hne
    · simp only; omega
  · simp only [List.append_nil]
    exact take_set_mid w dst pre ph _ run hw

/-- The data loop, proved for `encLoopE`: every exit of the C loop after a byte is `encLoopE` one position on, so
    stopping and going on are the same induction step. -/
theorem encLoopE_spec (v : Variant) : ∀ (n : Nat) (bs : List Byte), bs.length = n →
    ∀ (w : List Byte) (dst : Nat) (pre : List Byte) (ph : Byte) (run : List Byte),
      w.take dst = pre ++ ph :: run → dst ≤ w.length → run.length + 1 < v.maxlen →
      ∃ o, encLoopE v w dst (run.length + 1) bs = .ok o ∧ LoopPostM v w dst pre run bs o := by
  intro n
  -- strong induction on the length: the zero-pair step goes on two bytes further
  induction n using Nat.strongRecOn with
  | _ n ih =>
  intro bs hbs w dst pre ph run hw hd hr
  have hlen : dst = pre.length + 1 + run.length := by
    have := congrArg List.length hw; simp at this; omega
  have hi : dst - (run.length + 1) = pre.length := by omega
  have hpl : pre.length < w.length := by omega
  have h1m := (Inv.nil v).len
  by_cases hstop : bs = [] ∨ dst = w.length
  · refine ⟨_, ?_, LoopPostM.stop hw rfl hd hr (hstop.imp id (by omega))⟩
    rcases hstop with rfl | h
    · simp only [encLoopE, encLoop, List.length_nil, ite_self, hi]
      rw [wr_ok _ _ _ hpl]; rfl
    · simp only [encLoopE, if_pos h, hi]
      rw [wr_ok _ _ _ hpl]; rfl
  have hdlt : dst < w.length := by omega
  obtain ⟨b, rest, rfl⟩ : ∃ b rest, bs = b :: rest := List.exists_cons_of_ne_nil (fun h => hstop (Or.inl h))
  have hrl : rest.length < n := by simp at hbs; omega
  -- a block is closed with code `c` over the placeholder; the loop goes on behind it with an empty block
  have close : ∀ (w' : List Byte) (d : Nat) (c : Byte) (data r : List Byte), w'.take d = pre ++ ph :: data →
      d < w'.length → r.length < n → ∃ o, encLoopE v (w'.set pre.length c) (d + 1) 1 r = .ok o ∧
        LoopPostM v (w'.set pre.length c) (d + 1) (pre ++ c :: data) [] r o := by
    intro w' d c data r hw' hd' hr'
    obtain ⟨ph', hw2⟩ := take_succ_ex (w'.set pre.length c) d (by rw [List.length_set]; exact hd')
    rw [take_set_mid w' d pre ph _ data hw'] at hw2
    exact ih r.length hr' r rfl _ (d + 1) _ ph' [] hw2 (by rw [List.length_set]; exact hd') h1m
  rw [show encLoopE v w dst (run.length + 1) (b :: rest) = encLoop v w dst (run.length + 1) false (b :: rest) from
    if_neg (by omega)]
  by_cases hb : b = 0
  · subst hb
    by_cases hpair : pairOk v run = true ∧ rest.head? = some 0
    · -- zero pair
      obtain ⟨hpo, hhead⟩ := hpair
      obtain ⟨rest2, rfl⟩ : ∃ rest2, rest = 0 :: rest2 := by
        cases rest with
        | nil => simp at hhead
        | cons y tl => simp at hhead; exact ⟨tl, by rw [hhead]⟩
      have hmz := v.zpe_maxlen ((pairOk_iff v run).mp hpo).1
      obtain ⟨o, ho, hp⟩ := close w dst (pairCode run) run rest2 hw hdlt (by simp at hbs; omega)
      refine ⟨o, ?_, LoopPostM.cons2 hp (List.length_set ..) (Nat.le_succ _) hpo⟩
      rw [← ho]
      -- `encLoop` goes on with `skip = true`, which drops the second zero
      simp only [encLoop, if_true, pairTest_eq, hpo, List.head?_cons, beq_self_eq_true, Bool.and_self, hi, hmz]
      -- 223 = `MPT_COBS_MAXLEN` of encode_cobs_zpe.c (`hmz`): the pair code is `code + MPT_COBS_MAXLEN`
      rw [show UInt8.ofNat (run.length + 1 + 223) = pairCode run from congrArg UInt8.ofNat (Nat.add_assoc _ 1 223),
        wr_ok _ _ _ hpl]
      simp only [CRes.bind_ok, encLoopE, List.length_set, List.length_cons, Nat.add_sub_cancel]
      rfl
    · -- plain zero
      have hpairb : (pairOk v run && (rest.head? == some 0)) = false :=
        Bool.eq_false_iff.mpr (by simpa using hpair)
      obtain ⟨o, ho, hp⟩ := close w dst (codeOf run) run rest hw hdlt hrl
      refine ⟨o, ?_, LoopPostM.cons hp (List.length_set ..) (Nat.le_succ _) fun cut r hc =>
        encB_zero_plain v run cut r fun hp hcut h0 => hpair ⟨hp, by rw [← hc hcut]; exact h0⟩⟩
      rw [← ho]
      simp only [encLoop, if_true, pairTest_eq, hpairb, hi, Bool.false_eq_true, if_false]
      rw [show UInt8.ofNat (run.length + 1) = codeOf run from rfl, wr_ok _ _ _ hpl]
      simp only [CRes.bind_ok, encLoopE, List.length_set, Nat.add_sub_cancel]
      rfl
  · -- data byte
    have hw1 : (w.set dst b).take (dst + 1) = pre ++ ph :: (run ++ [b]) := by
      rw [take_succ_set hdlt, hw]; simp
    by_cases hmax : run.length + 2 = v.maxlen
    · by_cases hfull : dst + 1 = w.length
      · -- no room for the code byte of the next block: the byte is taken back
        have hw0 : (w.set dst b).take dst = pre ++ ph :: run := by rw [List.take_set_of_le (Nat.le_refl _), hw]
        refine ⟨_, ?_, LoopPostM.stop hw0 (List.length_set ..) (by rw [List.length_set]; exact hd) hr
          (Or.inr (by rw [List.length_set, ← hfull]; exact Nat.le_refl _))⟩
        simp only [encLoop, hb, if_false, hmax, if_true, hi]
        rw [wr_ok _ _ _ hdlt]
        simp only [CRes.bind_ok]
        rw [if_pos hfull, wr_ok _ _ _ (by rw [List.length_set]; exact hpl)]; rfl
      · have hd2 : dst + 1 < w.length := by omega
        obtain ⟨o, ho, hp⟩ := close (w.set dst b) (dst + 1) (UInt8.ofNat v.maxlen) (run ++ [b]) rest hw1
          (by rw [List.length_set]; exact hd2) hrl
        refine ⟨o, ?_, LoopPostM.cons hp (by simp) (Nat.le_refl _)
          (fun cut r _ => by rw [encB_full v run b cut r hb hmax]; simp)⟩
        rw [← ho]
        simp only [encLoop, hb, if_false, hmax, if_true, hfull, hi]
        rw [wr_ok _ _ _ hdlt]
        simp only [CRes.bind_ok]
        rw [wr_ok _ _ _ (by rw [List.length_set]; exact hpl)]
        simp only [CRes.bind_ok, encLoopE, List.length_set]
        rfl
    · obtain ⟨o, ho, hp⟩ := ih rest.length hrl rest rfl (w.set dst b) (dst + 1) pre ph (run ++ [b]) hw1
        (by rw [List.length_set]; exact hdlt) (by simp; omega)
      have hp' : LoopPostM v (w.set dst b) (dst + 1) (pre ++ []) (run ++ [b]) rest o := by simpa using hp
      refine ⟨o, ?_, LoopPostM.cons hp' (List.length_set ..) (Nat.le_succ _)
        (fun cut r _ => by rw [encB_data v run b cut r hb hmax]; simp)⟩
      rw [show (run ++ [b]).length + 1 = run.length + 1 + 1 by simp] at ho
      rw [← ho]
      simp only [encLoop, hb, if_false, hmax, hi]
      rw [wr_ok _ _ _ hdlt]
      simp only [CRes.bind_ok, encLoopE, List.length_set, show dst + 1 - (run.length + 1 + 1) = pre.length by omega]

/-- the loop as `mpt_encode_cobs` enters it, with room for at least one byte -/
theorem encLoopM_spec (v : Variant) (bs w : List Byte) (dst code : Nat) (pre : List Byte) (ph : Byte) (run : List Byte)
    (hw : w.take dst = pre ++ ph :: run) (hc : code = run.length + 1) (hd : dst < w.length)
    (hr : run.length + 1 < v.maxlen) :
    ∃ o, encLoop v w dst code false bs = .ok o ∧ LoopPostM v w dst pre run bs o := by
  subst hc
  have := encLoopE_spec v bs.length bs rfl w dst pre ph run hw (by omega) hr
  rwa [show encLoopE v w dst (run.length + 1) bs = encLoop v w dst (run.length + 1) false bs from if_neg (by omega)] at this

end Mpt.Codec
