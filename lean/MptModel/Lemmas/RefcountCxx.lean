/-
  C15 lemmas, the C++ handle class `mpt::reference<T>`: objects own handle slots (`Slots`), and destroying an
  object destroys its handle (`cascade`).  Copy and move assignment, `detach` and the cascade keep the numbers of
  objects and slots (`St.shape`), the invariant and `Mono`.  The cascade is used through its two clauses
  (`cascade_of_settled`, `cascade_succ_some`); "settled" is `pendingOwner nroot = none` (`pending_spec`, `pending_none_iff`).
  It finishes when it has fuel for every filled owned slot (`cascade_complete`), in particular with fuel for every object
  after an operation that creates none (`cascade_settles_of_shape`).
-/
import MptModel.Lemmas.RefcountHist

namespace Mpt.Refcount

theorem assignRef_shape (s : St) (h : Nat) (src : Option Nat) : (s.assignRef h src).shape = s.shape := by
  unfold St.assignRef; split
  · rfl
  · rw [sethnd_shape, release_shape, retain_shape]

theorem moveRef_shape (s : St) (h g : Nat) : (s.moveRef h g).shape = s.shape := by
  unfold St.moveRef; split
  · rfl
  · rw [sethnd_shape, release_shape, sethnd_shape]

theorem detachRef_shape (s : St) (h : Nat) : (s.detachRef h).shape = s.shape := by
  unfold St.detachRef; split
  · rfl
  · simp [St.shape]

/-- the two clauses of `St.cascade` (with `cascade_succ_some`); by `rw [St.cascade]`, not `unfold`: the latter also opens the
    inner call -/
theorem cascade_of_settled (s : St) (nroot fuel : Nat) (hp : s.pendingOwner nroot = none) : s.cascade nroot fuel = s := by
  cases fuel with
  | zero => rfl
  | succ n => rw [St.cascade, hp]

theorem cascade_succ_some (s : St) (nroot fuel o : Nat) (hp : s.pendingOwner nroot = some o) :
    s.cascade nroot (fuel + 1) = (s.drop (nroot + o)).cascade nroot fuel := by
  rw [St.cascade, hp]

theorem cascade_shape (s : St) (nroot fuel : Nat) : (s.cascade nroot fuel).shape = s.shape := by
  induction fuel generalizing s with
  | zero => rfl
  | succ n ih =>
    cases hp : s.pendingOwner nroot with
    | none => rw [cascade_of_settled s nroot _ hp]
    | some o => rw [cascade_succ_some s nroot n o hp, ih, drop_shape]

/-- every object has its owned handle slot -/
def Slots (s : St) (nroot : Nat) : Prop := ∀ o, o < s.objs.length → nroot + o < s.hnd.length

theorem slots_of_shape (s s' : St) (nroot : Nat) (h : s'.shape = s.shape) (hs : Slots s nroot) : Slots s' nroot := by
  simp only [St.shape, Prod.mk.injEq] at h
  intro o ho
  rw [h.2]; rw [h.1] at ho; exact hs o ho


theorem assignRef_inv (s : St) (h : Nat) (src : Option Nat) (hI : Inv s) (hh : h < s.hnd.length) :
    Inv (s.assignRef h src) := by
  rw [assignRef_eq]
  split
  · exact hI
  · exact assignCore_inv s h src _ hI hh rfl

theorem moveRef_inv (s : St) (h g : Nat) (hI : Inv s) (hh : h < s.hnd.length) (hg : g < s.hnd.length) :
    Inv (s.moveRef h g) := by
  unfold St.moveRef
  split
  · exact hI
  · rename_i hne
    have a := sethnd_invP s _ g none hI hg
    have hgd : ({ s with hnd := s.hnd.set g none } : St).hnd.getD h none = s.hnd.getD h none := by
      show (s.hnd.set g none).getD h none = _
      simp only [List.getD_eq_getElem?_getD]
      rw [List.getElem?_set_ne (fun e => hne e.symm)]
    have hp : ∀ b, s.hnd.getD h none = some b → 1 ≤ (({ s with hnd := s.hnd.set g none } : St).obj b).count := by
      intro b hb
      show 1 ≤ (s.obj b).count
      have h0 := (hI b).1; simp only [Int.add_zero] at h0
      have := hrefs_pos s.hnd h b hb
      omega
    have b := release_invP _ _ (s.hnd.getD h none) a hp
    have bh := release_hnd ({ s with hnd := s.hnd.set g none } : St) (s.hnd.getD h none)
    have c := sethnd_invP _ _ h (s.hnd.getD g none) b (by rw [bh]; show h < (s.hnd.set g none).length; simpa using hh)
    refine invP_congr _ _ _ c (fun x => ?_)
    rw [bh, hgd]
    simp only [ind, reduceCtorEq, ↓reduceIte]
    omega

theorem detachRef_inv (s : St) (h : Nat) (hI : Inv s) (hh : h < s.hnd.length) : Inv (s.detachRef h) := by
  unfold St.detachRef
  cases ho : s.hnd.getD h none with
  | none => exact hI
  | some o =>
    simp only []
    have hl := obj_alive_lt s o (inv_referenced_alive s hI h o ho)
    have a := sethnd_invP s _ h none hI hh
    have b := setext_invP ({ s with hnd := s.hnd.set h none } : St) _ o ((s.obj o).ext + 1) a hl
    refine invP_congr _ _ _ b (fun x => ?_)
    show (0 : Int) + ind (s.hnd.getD h none) x - ind none x - (if x = o then (((s.obj o).ext + 1 : Nat) : Int) - (s.obj o).ext else 0) = 0
    rw [ho]
    simp only [ind, Option.some.injEq, reduceCtorEq, ↓reduceIte]
    by_cases e : x = o
    · subst e; simp only [↓reduceIte]; omega
    · have e' : ¬ o = x := fun y => e y.symm
      simp only [e, e', ↓reduceIte]; omega


theorem pending_spec (s : St) (nroot o : Nat) (hp : s.pendingOwner nroot = some o) :
    o < s.objs.length ∧ (s.obj o).alive = false ∧ (s.hnd.getD (nroot + o) none).isSome = true := by
  unfold St.pendingOwner at hp
  exact ⟨by simpa using List.mem_of_find?_eq_some hp, by simpa using List.find?_some hp⟩

theorem cascade_inv (s : St) (nroot fuel : Nat) (hI : Inv s) (hs : Slots s nroot) :
    Inv (s.cascade nroot fuel) ∧ Slots (s.cascade nroot fuel) nroot := by
  refine ⟨?_, slots_of_shape s _ nroot (cascade_shape s nroot fuel) hs⟩
  induction fuel generalizing s with
  | zero => exact hI
  | succ n ih =>
    cases hp : s.pendingOwner nroot with
    | none => rw [cascade_of_settled s nroot _ hp]; exact hI
    | some o =>
      rw [cascade_succ_some s nroot n o hp]
      exact ih _ (drop_inv s _ hI (hs o (pending_spec s nroot o hp).1)) (slots_of_shape s _ nroot (drop_shape s _) hs)


theorem assignRef_mono (s : St) (h : Nat) (src : Option Nat) : Mono s (s.assignRef h src) := by
  rw [assignRef_eq]; split
  · exact Mono.refl s
  · exact assignCore_mono s h src _

theorem moveRef_mono (s : St) (h g : Nat) : Mono s (s.moveRef h g) := by
  unfold St.moveRef; split
  · exact Mono.refl s
  · exact mono_hnd ((mono_hnd (Mono.refl s) _).trans (release_mono _ _)) _

theorem detachRef_mono (s : St) (h : Nat) : Mono s (s.detachRef h) := by
  unfold St.detachRef; split
  · exact Mono.refl s
  · rename_i o _
    exact mono_hnd (mono_setobj s o { (s.obj o) with ext := (s.obj o).ext + 1 } rfl rfl) _

theorem cascade_mono (s : St) (nroot fuel : Nat) : Mono s (s.cascade nroot fuel) := by
  induction fuel generalizing s with
  | zero => exact Mono.refl s
  | succ n ih =>
    cases hp : s.pendingOwner nroot with
    | none => rw [cascade_of_settled s nroot _ hp]; exact Mono.refl s
    | some o => rw [cascade_succ_some s nroot n o hp]; exact (drop_mono s _).trans (ih _)


/-- handle slots owned by objects that refer to something -/
def filled (s : St) (nroot : Nat) : Nat :=
  ((List.range s.objs.length).filter fun o => (s.hnd.getD (nroot + o) none).isSome).length

theorem filter_length_lt {α : Type} (l : List α) (p q : α → Bool) (hpq : ∀ x, q x = true → p x = true)
    (a : α) (ha : a ∈ l) (hp : p a = true) (hq : q a = false) : (l.filter q).length < (l.filter p).length := by
  have e : l.filter q = (l.filter p).filter q := by
    rw [List.filter_filter]
    exact List.filter_congr fun x _ => by cases h : q x <;> simp [hpq x, h]
  rw [e]
  exact List.length_filter_lt_length_iff_exists.mpr ⟨a, List.mem_filter.mpr ⟨ha, hp⟩, by simp [hq]⟩

theorem drop_filled (s : St) (nroot o : Nat) (ho : o < s.objs.length)
    (hs : (s.hnd.getD (nroot + o) none).isSome = true) : filled (s.drop (nroot + o)) nroot < filled s nroot := by
  unfold filled
  rw [shape_objs (drop_shape s (nroot + o))]
  have hh : (s.drop (nroot + o)).hnd = s.hnd.set (nroot + o) none := by
    unfold St.drop
    cases hv : s.hnd.getD (nroot + o) none with
    | none => rw [hv] at hs; cases hs
    | some t => simp only [unref_hnd]
  rw [hh]
  apply filter_length_lt _ _ _ _ o (List.mem_range.mpr ho) hs
  · simp only [List.getD_eq_getElem?_getD, List.getElem?_set, ↓reduceIte]
    split <;> rfl
  · intro x hx
    simp only [List.getD_eq_getElem?_getD, List.getElem?_set] at hx ⊢
    split at hx
    · split at hx <;> simp at hx
    · exact hx

theorem pending_drop_filled (s : St) (nroot o : Nat) (hp : s.pendingOwner nroot = some o) :
    filled (s.drop (nroot + o)) nroot < filled s nroot :=
  drop_filled s nroot o (pending_spec s nroot o hp).1 (pending_spec s nroot o hp).2.2

/-- every step of the cascade empties a filled owned slot, so `filled` bounds the steps -/
theorem cascade_complete (s : St) (nroot fuel : Nat) (hf : filled s nroot ≤ fuel) :
    (s.cascade nroot fuel).pendingOwner nroot = none := by
  induction fuel generalizing s with
  | zero =>
    cases hp : s.pendingOwner nroot with
    | none => rw [cascade_of_settled s nroot _ hp]; exact hp
    | some o => have := pending_drop_filled s nroot o hp; omega
  | succ n ih =>
    cases hp : s.pendingOwner nroot with
    | none => rw [cascade_of_settled s nroot _ hp]; exact hp
    | some o =>
      rw [cascade_succ_some s nroot n o hp]
      have := pending_drop_filled s nroot o hp
      exact ih _ (by omega)

theorem filled_le (s : St) (nroot : Nat) : filled s nroot ≤ s.objs.length := by
  unfold filled
  have := List.length_filter_le (fun o => (s.hnd.getD (nroot + o) none).isSome) (List.range s.objs.length)
  simpa using this


/-- `s` is the state before an operation, `t` the state after it and before its cascade: fuel for every object of `s` is
    enough when the operation kept the number of objects -/
theorem cascade_settles_of_shape (s t : St) (nroot fuel : Nat) (hf : s.objs.length ≤ fuel) (ht : t.shape = s.shape) :
    (t.cascade nroot fuel).pendingOwner nroot = none := by
  apply cascade_complete
  have := filled_le t nroot
  have := shape_objs ht
  omega


theorem pending_none_iff (s : St) (nroot : Nat) :
    s.pendingOwner nroot = none ↔
      ∀ o, o < s.objs.length → ¬ ((s.obj o).alive = false ∧ (s.hnd.getD (nroot + o) none).isSome = true) := by
  unfold St.pendingOwner
  rw [List.find?_eq_none]
  constructor
  · intro h o ho hc
    have := h o (List.mem_range.mpr ho)
    rw [hc.1, hc.2] at this
    exact this rfl
  · intro h o ho
    cases ha : (s.obj o).alive <;> simp_all

/-- giving a reference away neither destroys an object nor fills a slot -/
theorem detachRef_pending (s : St) (nroot h : Nat) (hp : s.pendingOwner nroot = none) :
    (s.detachRef h).pendingOwner nroot = none := by
  rw [pending_none_iff] at hp ⊢
  have hl := shape_objs (detachRef_shape s h)
  intro o ho hc
  rw [hl] at ho
  apply hp o ho
  unfold St.detachRef at hc
  cases hv : s.hnd.getD h none with
  | none => simp only [hv] at hc; exact hc
  | some t =>
    simp only [hv] at hc
    obtain ⟨h1, h2⟩ := hc
    constructor
    · rw [obj_set] at h1
      split at h1
      · rename_i hc'; rw [hc'.1]; exact h1
      · exact h1
    · simp only [List.getD_eq_getElem?_getD, List.getElem?_set] at h2 ⊢
      split at h2
      · split at h2 <;> simp at h2
      · exact h2

end Mpt.Refcount
