/-
  C15 lemmas: the implementation model M (`Mpt.Refcount`, counters) against the spec S
  (`Mpt.Refs`, no counters): abstraction `abs` and, per operation, "the outcome of M is one of the outcomes S allows".
  The handle operations of the C part (take, copy, drop, both assignments) are one assignment on either side
  (`assignCore`, `Refs.assign`), related once by `abs_assignCore`.
-/
import MptModel.Lemmas.Refcount
import MptModel.Spec.Refs

namespace Mpt.Refcount
open Mpt.Refs

/-- forget the counter: what S knows about an object -/
def absObj (o : RObj) : SObj := { kind := o.kind, ext := o.ext, dead := !o.alive, elems := o.elems }

/-- the S state of an M state: the counters are dropped, S derives the totals from the handles -/
def abs (s : St) : SSt := { objs := s.objs.map absObj, hnd := s.hnd }

/-- M's result `r` (state, accepted) is outcome `a` of S -/
def Sim (a : Alt) (r : St × Bool) : Prop := a.ok = r.2 ∧ a.st = abs r.1

theorem abs_hndv (s : St) : (abs s).hnd = s.hnd := rfl

theorem abs_getD (s : St) (o : Nat) (h : o < s.objs.length) : (abs s).objs.getD o default = absObj (s.obj o) := by
  unfold abs St.obj
  simp only [List.getD_eq_getElem?_getD, List.getElem?_map, List.getElem?_eq_getElem h, Option.map_some, Option.getD_some]

theorem abs_ext_kind (s : St) (o : Nat) :
    ((abs s).objs.getD o default).ext = (s.obj o).ext ∧ ((abs s).objs.getD o default).kind = (s.obj o).kind := by
  rcases Nat.lt_or_ge o s.objs.length with h | h
  · rw [abs_getD s o h]; exact ⟨rfl, rfl⟩
  · unfold abs St.obj
    simp only [List.getD_eq_getElem?_getD, List.getElem?_map, List.getElem?_eq_none h, Option.map_none, Option.getD_none]
    exact ⟨rfl, rfl⟩

theorem refs_abs (s : St) (o : Nat) : refs (abs s) o = (s.obj o).ext + hrefs s.hnd o := by
  unfold refs; rw [(abs_ext_kind s o).1]; rfl

theorem refs_abs_inv (s : St) (hI : Inv s) (o : Nat) : refs (abs s) o = (s.obj o).count := by
  rw [refs_abs]; have := count_of_inv s hI o; omega

theorem canTake_abs (s : St) (hI : Inv s) (o : Nat) (ho : o < s.objs.length) :
    canTake (abs s) o = decide ((s.addref o).2 ≠ 0) := by
  unfold canTake
  rw [refs_abs_inv s hI, abs_getD s o ho, addref_ret]
  have hb := (hI o).2.1
  simp only [absObj, Bool.not_not]
  cases ha : (s.obj o).alive with
  | false => simp
  | true =>
    simp only [↓reduceIte, Bool.true_and]
    rw [raise_eq _ hb]
    by_cases hc : (s.obj o).count = 0 ∨ (s.obj o).count = MAXV
    · simp only [hc, ↓reduceIte, ne_eq, not_true_eq_false, decide_false, Bool.and_eq_false_imp, decide_eq_true_eq]
      rcases hc with h | h <;> rw [h] <;> simp [MAXV]
    · simp only [hc, ↓reduceIte]
      have : 0 < (s.obj o).count ∧ (s.obj o).count < MAXV := by omega
      simp [this.1, this.2]

theorem map_set_same (l : List RObj) (o : Nat) (x : RObj) (hx : absObj x = absObj (l.getD o default)) :
    (l.set o x).map absObj = l.map absObj := by
  have e : absObj (l.getD o default) = (l.map absObj).getD o (absObj default) := by
    simp only [List.getD_eq_getElem?_getD, List.getElem?_map]; cases l[o]? <;> rfl
  rw [List.map_set, hx, e, set_getD_self]

theorem addref_absobjs (s : St) (o : Nat) : (s.addref o).1.objs.map absObj = s.objs.map absObj := by
  unfold St.addref
  simp only []
  split
  · rfl
  · exact map_set_same _ _ _ rfl

theorem abs_addref (s : St) (o : Nat) : abs (s.addref o).1 = abs s := by
  unfold abs; rw [addref_absobjs, addref_hnd]

theorem unref_absobjs (s : St) (o : Nat) :
    (s.unref o).objs.map absObj =
      if (s.obj o).alive = true ∧ (lower (s.obj o).count).2 = 0 then
        (s.objs.map absObj).set o { absObj (s.obj o) with dead := true }
      else s.objs.map absObj := by
  unfold St.unref
  simp only []
  by_cases ha : (s.obj o).alive = true
  · simp only [ha, Bool.not_true, Bool.false_eq_true, ↓reduceIte, true_and]
    by_cases hr : (lower (s.obj o).count).2 = 0
    · simp only [hr, ne_eq, not_true_eq_false, ↓reduceIte]
      rw [List.map_set]; rfl
    · simp only [hr, ne_eq, not_false_eq_true, ↓reduceIte]
      refine map_set_same _ _ _ ?_
      show _ = absObj (s.obj o)
      simp only [absObj, ha]
  · have ha' : (s.obj o).alive = false := by simpa using ha
    simp only [ha', Bool.not_false, ↓reduceIte, Bool.false_eq_true, false_and]

theorem released_abs (s : St) (o : Nat) (hb : (s.obj o).count ≤ MAXV) (hnd' : List (Option Nat)) (e' : Nat)
    (ha : (s.obj o).alive = true)
    (hr : e' + hrefs hnd' o + 1 = (s.obj o).count) :
    (released { objs := (s.objs.map absObj).set o { absObj (s.obj o) with ext := e' }, hnd := hnd' } o).1 =
      { objs := ((s.unref o).objs.map absObj).set o { absObj ((s.unref o).obj o) with ext := e' }, hnd := hnd' } := by
  have ho := obj_alive_lt s o ha
  unfold released
  have hg : ((s.objs.map absObj).set o { absObj (s.obj o) with ext := e' }).getD o default = { absObj (s.obj o) with ext := e' } := by
    simp [List.getD_eq_getElem?_getD, ho]
  have hrefs' : refs { objs := (s.objs.map absObj).set o { absObj (s.obj o) with ext := e' }, hnd := hnd' } o = e' + hrefs hnd' o := by
    unfold refs; simp only [hg]; rfl
  simp only [hrefs', hg]
  rw [unref_absobjs, unref_obj]
  simp only [ha, true_and, and_self, ↓reduceIte]
  rw [lower_eq _ hb]
  have hne : ¬ (s.obj o).count = 0 := by omega
  simp only [hne, ↓reduceIte]
  by_cases h1 : (s.obj o).count = 1
  · have hz : e' + hrefs hnd' o = 0 := by omega
    have hz2 : (s.obj o).count - 1 = 0 := by omega
    simp only [hz, hz2, absObj, ha, Bool.not_true, Bool.not_false, and_self, ↓reduceIte, ne_eq, not_true_eq_false, decide_false]
    congr 1
    simp [List.set_set]
  · have hz : ¬ e' + hrefs hnd' o = 0 := by omega
    have hz2 : ¬ (s.obj o).count - 1 = 0 := by omega
    simp only [hz, hz2, false_and, ↓reduceIte, ne_eq, not_false_eq_true, decide_true, absObj, ha, Bool.not_true]


theorem set_self_abs (s : St) (o : Nat) : (s.objs.map absObj).set o (absObj (s.obj o)) = s.objs.map absObj := by
  rw [← List.map_set]; exact map_set_same _ _ _ rfl

theorem absObj_ext_self (x : RObj) (e : Nat) (h : x.ext = e) : ({ absObj x with ext := e } : SObj) = absObj x := by
  subst h; rfl

theorem addref_absobj (s : St) (o x : Nat) : absObj ((s.addref o).1.obj x) = absObj (s.obj x) := by
  rw [addref_obj]; split
  · rename_i h; rw [h.1]; rfl
  · rfl

theorem abs_hnd (s : St) (hnd : List (Option Nat)) : abs { s with hnd := hnd } = { abs s with hnd := hnd } := rfl


theorem extAdd_refines (s : St) (o : Nat) (hI : Inv s) (ho : o < s.objs.length) :
    ∃ a ∈ Refs.extAdd (abs s) o, Sim a (s.extAdd o) := by
  unfold Refs.extAdd St.extAdd
  rw [canTake_abs s hI o ho]
  by_cases hr : (s.addref o).2 = 0
  · simp only [hr, ne_eq, not_true_eq_false, decide_false, Bool.false_eq_true, ↓reduceIte]
    exact ⟨{ ok := false, st := abs s }, by simp [refusedAlts], rfl, (abs_addref s o).symm⟩
  · simp only [hr, ne_eq, not_false_eq_true, decide_true, ↓reduceIte]
    refine ⟨_, List.mem_singleton.mpr rfl, rfl, ?_⟩
    rw [abs_getD s o ho]
    unfold abs
    simp only [List.map_set, addref_absobjs, addref_hnd]
    congr 2
    show _ = { absObj ((s.addref o).1.obj o) with ext := ((s.addref o).1.obj o).ext + 1 }
    rw [addref_absobj, addref_ext]
    rfl

theorem extUnref_refines (s : St) (o : Nat) (hI : Inv s) (he : 1 ≤ (s.obj o).ext) :
    ∃ a ∈ Refs.extUnref (abs s) o, Sim a (s.extUnref o, true) := by
  have ho := obj_lt_of_ext s o he
  have hc := count_of_inv s hI o
  have ha : (s.obj o).alive = true := alive_of_count hI o (by omega)
  refine ⟨_, List.mem_singleton.mpr rfl, rfl, ?_⟩
  rw [abs_getD s o ho]
  have := released_abs s o (hI o).2.1 s.hnd ((s.obj o).ext - 1) ha (by omega)
  show (released { objs := (s.objs.map absObj).set o { absObj (s.obj o) with ext := (absObj (s.obj o)).ext - 1 }, hnd := s.hnd } o).1 = _
  rw [show (absObj (s.obj o)).ext = (s.obj o).ext from rfl, this]
  unfold St.extUnref abs
  simp only [List.map_set, unref_hnd]
  congr 2
  show _ = { absObj ((s.unref o).obj o) with ext := ((s.unref o).obj o).ext - 1 }
  rw [unref_ext]

theorem create_refines (s : St) (k : OKind) (n : Nat) (els : List Nat) (cap : Nat) (ev : List Ev) :
    abs { s with objs := s.objs ++ [{ kind := k, count := n, alive := true, ext := n, elems := els, cap := cap }], ev := ev } =
      { abs s with objs := (abs s).objs ++ [{ kind := k, ext := n, elems := els }] } := by
  unfold abs; simp [absObj]



theorem retain_fail (s : St) (src : Option Nat) (hf : (s.retain src).2 = false) :
    ∃ n, src = some n ∧ (s.addref n).2 = 0 ∧ (s.retain src).1 = (s.addref n).1 := by
  unfold St.retain at hf ⊢
  cases src with
  | none => cases hf
  | some n => exact ⟨n, rfl, by simpa using hf, rfl⟩

theorem assign_refused_mem (t : SSt) (h n : Nat) (hct : canTake t n = false) :
    ({ ok := false, st := t } : Alt) ∈ Refs.assign t h (some n) false := by
  unfold Refs.assign
  simp only []
  split
  · rename_i e
    rw [← e]
    simp [hct, refusedAlts]
  · simp [hct, refusedAlts]

theorem assign_refused (s : St) (h : Nat) (src : Option Nat) (hI : Inv s)
    (hsrc : ∀ n, src = some n → n < s.objs.length) (hf : (s.retain src).2 = false) :
    ∃ a ∈ Refs.assign (abs s) h src false, a.ok = false ∧ a.st = abs (s.retain src).1 := by
  obtain ⟨n, rfl, hz, he⟩ := retain_fail s src hf
  have hct : canTake (abs s) n = false := by rw [canTake_abs s hI n (hsrc n rfl)]; simp [hz]
  rw [he, abs_addref]
  exact ⟨{ ok := false, st := abs s }, assign_refused_mem (abs s) h n hct, rfl, rfl⟩

theorem assign_alts_self (s : SSt) (h : Nat) (src : Option Nat) (m : Bool) (e : src = s.hnd.getD h none) :
    ({ ok := true, st := s } : Alt) ∈ Refs.assign s h src m := by
  unfold Refs.assign
  simp only [e, ↓reduceIte]
  exact List.mem_cons_self ..

/-- S after handle `h` was given `v`: the replaced referent lost a reference -/
def assigned (t : SSt) (h : Nat) (v : Option Nat) : SSt :=
  match t.hnd.getD h none with
  | none => setHnd t h v
  | some o => (released (setHnd t h v) o).1

theorem _root_.Mpt.Refs.drop_eq_assign (t : SSt) (h : Nat) : Refs.drop t h = Refs.assign t h none false := by
  unfold Refs.drop Refs.assign
  cases hv : t.hnd.getD h none with
  | none => rfl
  | some o => simp

theorem _root_.Mpt.Refs.take_eq_assign (t : SSt) (h o : Nat) (he : t.hnd.getD h none = none) :
    Refs.take t h o = Refs.assign t h (some o) false := by
  unfold Refs.take Refs.assign
  simp only [he, reduceCtorEq, ↓reduceIte, Bool.false_eq_true]

theorem assign_mem (t : SSt) (h : Nat) (src : Option Nat) (hct : ∀ n, src = some n → canTake t n = true) :
    ∃ a ∈ Refs.assign t h src false, a.ok = true ∧ a.st = assigned t h src := by
  by_cases e : src = t.hnd.getD h none
  · -- the same referent: nothing changes, and `assigned` says so because the handle still counts
    refine ⟨_, assign_alts_self t h src false e, rfl, ?_⟩
    subst e
    unfold assigned
    rw [show setHnd t h (t.hnd.getD h none) = t by unfold setHnd; rw [set_getD_self]]
    cases hv : t.hnd.getD h none with
    | none => rfl
    | some o =>
      have hp : ¬ refs t o = 0 := by have := hrefs_pos t.hnd h o hv; unfold refs; unfold hrefs at this; omega
      simp [released, hp]
  · unfold Refs.assign assigned
    simp only [e, ↓reduceIte, Bool.false_eq_true]
    cases src with
    | none =>
      cases hv : t.hnd.getD h none with
      | none => exact absurd hv.symm e
      | some o => exact ⟨_, List.mem_singleton.mpr rfl, rfl, rfl⟩
    | some n =>
      simp only [hct n rfl, ↓reduceIte]
      cases hv : t.hnd.getD h none with
      | none => exact ⟨_, List.mem_singleton.mpr rfl, rfl, rfl⟩
      | some o => exact ⟨_, List.mem_singleton.mpr rfl, rfl, rfl⟩

theorem abs_retain (s : St) (src : Option Nat) : abs (s.retain src).1 = abs s := by
  unfold St.retain
  cases src with
  | none => rfl
  | some n => exact abs_addref s n

/-- `src` retained (or not: then `v` is nothing), the old referent released, `v` stored: for S, handle `h`
    was given `v`.  The balance of `retain_invP` is what makes S's `released` — which counts the handles AFTER
    the store — agree with M's `unref` on the counter BEFORE it; self-assignment is no special case. -/
theorem abs_assignCore (s : St) (h : Nat) (src v : Option Nat) (hI : Inv s) (hh : h < s.hnd.length)
    (hv : v = if (s.retain src).2 then src else none) :
    abs (assignCore s h src v) = assigned (abs s) h v := by
  have a := retain_invP s src hI
  have ah := retain_hnd s src
  unfold assignCore assigned
  rw [abs_hndv]
  cases ho : s.hnd.getD h none with
  | none => show abs { (s.retain src).1 with hnd := s.hnd.set h v } = _; rw [abs_hnd, abs_retain]; rfl
  | some o =>
    have hs := hrefs_set s.hnd h v o hh
    have hc := (a o).1
    rw [ah] at hc
    have hb : (if (s.retain src).2 = true then ind src o else 0) = ind v o := by rw [hv]; split <;> rfl
    have h1 : ind (some o) o = 1 := if_pos rfl
    rw [ho, h1] at hs
    simp only [hb] at hc
    have key := released_abs (s.retain src).1 o (a o).2.1 (s.hnd.set h v) ((s.retain src).1.obj o).ext
      (alive_of_count a o (by omega)) (by omega)
    rw [absObj_ext_self _ _ rfl, absObj_ext_self _ _ (unref_ext _ o o), set_self_abs, set_self_abs] at key
    rw [show (s.retain src).1.objs.map absObj = s.objs.map absObj from congrArg SSt.objs (abs_retain s src)] at key
    exact key.symm

theorem assign_refines (s : St) (h : Nat) (src : Option Nat) (hI : Inv s) (hh : h < s.hnd.length)
    (hsrc : ∀ n, src = some n → n < s.objs.length) :
    ∃ a ∈ Refs.assign (abs s) h src false,
      Sim a (if (s.retain src).2 then (assignCore s h src src, true) else ((s.retain src).1, false)) := by
  cases hok : (s.retain src).2 with
  | false => exact assign_refused s h src hI hsrc hok
  | true =>
    have hct : ∀ n, src = some n → canTake (abs s) n = true := by
      intro n e; subst e
      have hr : (s.addref n).2 ≠ 0 := by simpa [St.retain] using hok
      rw [canTake_abs s hI n (hsrc n rfl)]; simp [hr]
    obtain ⟨a, ha, h1, h2⟩ := assign_mem (abs s) h src hct
    exact ⟨a, ha, h1, h2.trans (abs_assignCore s h src src hI hh (by rw [hok]; rfl)).symm⟩

theorem take_refines (s : St) (h o : Nat) (hI : Inv s) (hh : h < s.hnd.length) (he : s.hnd.getD h none = none)
    (ho : o < s.objs.length) :
    ∃ a ∈ Refs.take (abs s) h o, Sim a ((s.take h o).1, (s.take h o).2.isOk) := by
  rw [Refs.take_eq_assign (abs s) h o he, take_eq s h o he]
  obtain ⟨a, ha, hs⟩ := assign_refines s h (some o) hI hh (fun n e => by cases e; exact ho)
  refine ⟨a, ha, ?_⟩
  cases hr : (s.retain (some o)).2 <;> rw [hr] at hs <;> exact hs

theorem copy_refines (s : St) (h g : Nat) (hI : Inv s) (hh : h < s.hnd.length) (he : s.hnd.getD h none = none) :
    ∃ a ∈ Refs.copy (abs s) h g, Sim a ((s.copy h g).1, (s.copy h g).2.isOk) := by
  unfold Refs.copy St.copy
  rw [abs_hndv]
  cases hg : s.hnd.getD g none with
  | none => exact ⟨_, List.mem_singleton.mpr rfl, rfl, rfl⟩
  | some o => exact take_refines s h o hI hh he (obj_alive_lt s o (inv_referenced_alive s hI g o hg))

theorem drop_refines (s : St) (h : Nat) (hI : Inv s) (hh : h < s.hnd.length) :
    ∃ a ∈ Refs.drop (abs s) h, Sim a (s.drop h, true) := by
  rw [Refs.drop_eq_assign, drop_eq]
  exact assign_refines s h none hI hh nofun

theorem assignMeta_refines (s : St) (h : Nat) (src : Option Nat) (hI : Inv s) (hh : h < s.hnd.length)
    (hsrc : ∀ n, src = some n → n < s.objs.length) :
    ∃ a ∈ Refs.assign (abs s) h src false, Sim a ((s.assignMeta h src).1, (s.assignMeta h src).2.isOk) := by
  rw [assignMeta_eq]
  obtain ⟨a, ha, hs⟩ := assign_refines s h src hI hh hsrc
  refine ⟨a, ha, ?_⟩
  cases hr : (s.retain src).2 <;> rw [hr] at hs <;> exact hs

theorem kindOf_abs (s : St) (o : Option Nat) : kindOf (abs s) o = traitsOf s o := by
  unfold kindOf traitsOf
  cases o with
  | none => rfl
  | some i => simp only [Option.map_some, (abs_ext_kind s _).2]

theorem assignArr_refines (s : St) (h : Nat) (src : Option Nat) (hI : Inv s) (hh : h < s.hnd.length)
    (hsrc : ∀ n, src = some n → n < s.objs.length) :
    ∃ a ∈ Refs.assign (abs s) h src
        (src.isSome && (s.hnd.getD h none).isSome && decide (kindOf (abs s) src ≠ kindOf (abs s) (s.hnd.getD h none))),
      Sim a ((s.assignArr h src).1, (s.assignArr h src).2.isOk) := by
  -- S's mismatch flag is M's second guard
  have hb : (src.isSome && (s.hnd.getD h none).isSome && decide (traitsOf s src ≠ traitsOf s (s.hnd.getD h none))) =
      decide (src.isSome = true ∧ (s.hnd.getD h none).isSome = true ∧ traitsOf s src ≠ traitsOf s (s.hnd.getD h none)) := by
    simp only [Bool.decide_and, Bool.decide_eq_true, Bool.and_assoc]
  rw [assignArr_eq, kindOf_abs, kindOf_abs, hb]
  by_cases e : src = s.hnd.getD h none
  · rw [if_pos e]
    exact ⟨_, assign_alts_self (abs s) h _ _ e, rfl, rfl⟩
  · rw [if_neg e]
    by_cases hm : src.isSome = true ∧ (s.hnd.getD h none).isSome = true ∧ traitsOf s src ≠ traitsOf s (s.hnd.getD h none)
    · rw [if_pos hm, decide_eq_true hm]
      refine ⟨{ ok := false, st := abs s }, ?_, rfl, rfl⟩
      unfold Refs.assign
      simp only [abs_hndv, e, ↓reduceIte]
      exact List.mem_singleton.mpr rfl
    · rw [if_neg hm, decide_eq_false hm]
      obtain ⟨a, ha, hs⟩ := assign_refines s h src hI hh hsrc
      refine ⟨a, ha, ?_⟩
      cases hr : (s.retain src).2 <;> rw [hr] at hs <;> exact hs



theorem relocate_move_abs (s : St) (h o newcap : Nat) (els : List Nat) (ha : (s.obj o).alive = true)
    (hc : (s.obj o).count = 1) :
    abs (s.relocateWith h o newcap true els) =
      { objs := (s.objs.map absObj).set o { absObj (s.obj o) with dead := true, elems := [] } ++
                  [{ kind := .rbuf, ext := 0, elems := els }],
        hnd := s.hnd.set h (some s.objs.length) } := by
  have ho := obj_alive_lt s o ha
  unfold St.relocateWith
  simp only [↓reduceIte]
  have hx : ({ s with objs := s.objs.set o { (s.obj o) with elems := [] } } : St).obj o = { (s.obj o) with elems := [] } := by
    rw [obj_set, if_pos ⟨rfl, ho⟩]
  unfold abs
  simp only [List.map_append, List.map_cons, List.map_nil, unref_hnd, unref_len, List.length_set]
  rw [unref_absobjs, hx]
  simp only [ha, hc, true_and]
  have hl : (lower 1).2 = 0 := by decide
  simp only [hl, ↓reduceIte, List.map_set, List.set_set]
  rfl

theorem relocate_copy_abs (s : St) (h o newcap : Nat) (els : List Nat)
    (hc : 2 ≤ (s.obj o).count) (hb : (s.obj o).count ≤ MAXV) :
    abs (s.relocateWith h o newcap false els) =
      { objs := s.objs.map absObj ++ [{ kind := .rbuf, ext := 0, elems := els }],
        hnd := s.hnd.set h (some s.objs.length) } := by
  unfold St.relocateWith
  simp only [Bool.false_eq_true, ↓reduceIte]
  unfold abs
  simp only [List.map_append, List.map_cons, List.map_nil, unref_hnd, unref_len]
  rw [unref_absobjs]
  have e : ({ s with elog := s.elog ++ els.map ElEv.copy } : St).obj o = s.obj o := rfl
  rw [e, lower_eq _ hb]
  have h0 : ¬ (s.obj o).count = 0 := by omega
  have h1 : ¬ (s.obj o).count - 1 = 0 := by omega
  simp only [h0, h1, ↓reduceIte, and_false]
  rfl

theorem detach_refines (s : St) (h len : Nat) (hI : Inv s) :
    ∃ a ∈ Refs.detach (abs s) h, Sim a (s.detach h len) := by
  unfold Refs.detach Refs.detachKeep St.detach
  simp only [abs_hndv]
  cases hv : s.hnd.getD h none with
  | none => exact ⟨_, List.mem_singleton.mpr rfl, rfl, rfl⟩
  | some o =>
    simp only []
    have ha := inv_referenced_alive s hI h o hv
    have ho := obj_alive_lt s o ha
    have hp := hrefs_pos s.hnd h o hv
    have hc := count_of_inv s hI o
    have hb := (hI o).2.1
    rw [refs_abs_inv s hI o, abs_getD s o ho]
    -- S decides "shared" by its derived reference total, M by the counter: by the invariant they are the same number.
    -- Four cases: unshared and fits (nothing), unshared and too small (move), shared and refused, shared and copied
    by_cases h2 : (s.obj o).count < 2
    · have h1 : (s.obj o).count = 1 := by omega
      have hns : ¬ (s.obj o).count > 1 := by omega
      simp only [h2, ↓reduceIte, hns]
      by_cases hcap : len * 8 ≤ (s.obj o).cap
      · simp only [hcap, ↓reduceIte]
        exact ⟨{ ok := true, st := abs s }, by simp, rfl, rfl⟩
      · simp only [hcap, ↓reduceIte]
        refine ⟨{ ok := true, st := { objs := ((abs s).objs ++ [({ kind := .rbuf, ext := 0, elems := (absObj (s.obj o)).elems } : SObj)]).set o { absObj (s.obj o) with dead := true, elems := [] }, hnd := s.hnd.set h (some (abs s).objs.length) } }, by simp, rfl, ?_⟩
        unfold St.relocate
        rw [relocate_move_abs s h o _ _ ha h1]
        simp only [abs, List.length_map]
        congr 1
        rw [List.set_append_left _ _ (by simpa using ho)]
        rfl
    · have hs : (s.obj o).count > 1 := by omega
      simp only [h2, ↓reduceIte, hs]
      by_cases hfit : (s.obj o).elems.length * 8 > capOf (len * 8)
      · simp only [hfit, ↓reduceIte]
        exact ⟨{ ok := false, st := abs s }, by simp, rfl, rfl⟩
      · simp only [hfit, ↓reduceIte]
        refine ⟨{ ok := true, st := { objs := (abs s).objs ++ [{ kind := .rbuf, ext := 0, elems := (absObj (s.obj o)).elems }], hnd := s.hnd.set h (some (abs s).objs.length) }, evs := [{ obj := o, copied := (absObj (s.obj o)).elems }] }, by simp, rfl, ?_⟩
        unfold St.relocate
        rw [relocate_copy_abs s h o _ _ (by omega) hb]
        simp only [abs, List.length_map]
        rfl

theorem reserve_refines (s : St) (h len : Nat) (hI : Inv s) :
    ∃ a ∈ Refs.reserve (abs s) h len, Sim a (s.reserve h len) := by
  unfold Refs.reserve St.reserve
  rw [abs_hndv]
  cases hv : s.hnd.getD h none with
  | none =>
    refine ⟨_, List.mem_cons_of_mem _ (List.mem_singleton.mpr rfl), rfl, ?_⟩
    simp [abs, absObj]
  | some o =>
    have ha := inv_referenced_alive s hI h o hv
    simp only []
    split
    · rename_i hs
      unfold Refs.detachKeep
      simp only [abs_hndv, hv]
      rw [refs_abs_inv s hI o, abs_getD s o (obj_alive_lt s o ha)]
      simp only [hs, ↓reduceIte]
      refine ⟨{ ok := true, st := { objs := (abs s).objs ++ [{ kind := .rbuf, ext := 0, elems := (absObj (s.obj o)).elems }], hnd := s.hnd.set h (some (abs s).objs.length) }, evs := [{ obj := o, copied := (absObj (s.obj o)).elems }] }, by simp, rfl, ?_⟩
      rw [relocate_copy_abs s h o _ _ (by omega) (hI o).2.1]
      simp only [abs, List.length_map]
      rfl
    · exact detach_refines s h len hI

end Mpt.Refcount
