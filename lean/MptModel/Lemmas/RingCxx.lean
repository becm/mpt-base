/-
  For the step the drivers run (`Ring.stepX`) and the C++ `io::queue` wrappers: `setSrc` against the spec's
  `srcBytes`, membership in `Deque.allowedGrow`, the guarded `mpt_queue_prepare`, the element loops of
  `io::queue::write` and `io::queue::read`.
-/
import MptModel.Lemmas.RingAccess
import MptModel.Lemmas.RingStorage
import MptModel.Impl.RingOps
namespace Mpt
namespace Ring
open Deque (XOut sizeMax)
variable {r : Ring} {cap : Nat} {d : List Byte}

theorem setSrc_eq_srcBytes (n : Nat) (b : Option (List Byte)) : setSrc n b = Deque.srcBytes n b := by
  cases b <;> rfl

theorem srcBytes_length (n : Nat) (b : Option (List Byte)) : (Deque.srcBytes n b).length = n :=
  setSrc_eq_srcBytes n b ▸ setSrc_length n b

theorem srcBytes_zero (b : Option (List Byte)) : Deque.srcBytes 0 b = [] :=
  setSrc_eq_srcBytes 0 b ▸ setSrc_zero b

theorem mem_allowedGrow_ok (d new : List Byte) (cap n : Nat) (hfit : d.length < cap ∧ n ≤ cap - d.length)
    (h0 : n = 0 → new = d) : (XOut.ok [], new) ∈ Deque.allowedGrow d cap n new := by
  unfold Deque.allowedGrow
  split
  · rw [h0 (by assumption)]; simp
  · rw [if_pos (by omega)]; simp

theorem mem_allowedGrow_refused (d new : List Byte) (cap n : Nat) (hfit : ¬(d.length < cap ∧ n ≤ cap - d.length)) :
    (XOut.refused, d) ∈ Deque.allowedGrow d cap n new := by
  unfold Deque.allowedGrow
  split
  · simp
  · rw [if_neg (by omega)]; simp

/-- the guard is `SIZE_MAX - sizeof(void *) - queue->max < len` of queue_resize.c (`8` = pointer size); when it
    fires nothing is touched and 0 is returned, otherwise `prepare_spec` applies -/
theorem prepareC_spec (H : r.Holds cap d) (n : Nat) :
    ∃ r' left cap', r.prepareC n = .ok (r', left) ∧ r'.Holds cap' d ∧
      ((n > cap - d.length ∧ n - (cap - d.length) > sizeMax - 8 - cap) → left = 0) ∧
      (¬(n > cap - d.length ∧ n - (cap - d.length) > sizeMax - 8 - cap) → n ≤ left) := by
  unfold prepareC
  simp only [max, H.len, H.cap]
  by_cases hc : n > cap - d.length ∧ n - (cap - d.length) > sizeMax - 8 - cap
  · rw [if_pos hc]
    exact ⟨r, 0, cap, rfl, H, fun _ => rfl, fun hn => absurd hc hn⟩
  · rw [if_neg hc]
    obtain ⟨r', left, cap', he, H', _, hn⟩ := prepare_spec H n
    exact ⟨r', left, cap', he, H', fun hh => absurd hh hc, fun _ => hn⟩

/-- the element loop of `io::queue::write`: with room for all elements (which `xwrite` has prepared) no `mpt_qpush`
    of the loop is refused, so the count returned is `done` plus their number -/
theorem xwriteLoop_spec (part : Nat) (hp : 0 < part) (elems : List (List Byte)) (he : ∀ e ∈ elems, e.length = part)
    (H : r.Holds cap d) (done : Nat) (hfree : part * elems.length ≤ cap - d.length) :
    ∃ r', xwriteLoop r part elems done = .ok (r', done + elems.length) ∧ r'.Holds cap (d ++ elems.flatten) := by
  induction elems generalizing r d done with
  | nil => exact ⟨r, rfl, by rwa [List.flatten_nil, List.append_nil]⟩
  | cons e es ih =>
    have hel : e.length = part := he e List.mem_cons_self
    have hm : part * (es.length + 1) = part * es.length + part := Nat.mul_succ _ _
    simp only [List.length_cons] at hfree
    obtain ⟨r1, c, hq, H1⟩ := qpush_ok H part (some e) (by omega)
    rw [setSrc_some e hel] at H1
    unfold xwriteLoop
    rw [hq]
    simp only []
    obtain ⟨r', hr, H'⟩ := ih (fun x hx => he x (List.mem_cons_of_mem _ hx)) H1 (done + 1)
      (by rw [List.length_append]; omega)
    refine ⟨r', ?_, by rwa [List.flatten_cons, ← List.append_assoc]⟩
    rw [hr]
    simp only [List.length_cons]
    congr 2
    omega

theorem xread_spec (H : r.Holds cap d) (part k : Nat) :
    ∃ r' outs d', r.xread part k = .ok (r', outs) ∧ r'.Holds cap d' ∧ d' ++ outs.reverse.flatten = d ∧
      (∀ o ∈ outs, o.length = part) ∧ outs.length ≤ k ∧ (k * part ≤ d.length → outs.length = k) ∧
      (outs.length < k → d'.length < part) := by
  induction k generalizing r d with
  | zero => exact ⟨r, [], d, rfl, H, by simp, by simp, by simp, by simp, by simp⟩
  | succ k ih =>
    unfold xread
    by_cases hp : part ≤ d.length
    · obtain ⟨r1, he, H1⟩ := qpop_ok H part hp
      obtain ⟨r2, outs, d', he2, H2, hc2, hl2, hk2, hf2, hst2⟩ := ih H1
      rw [List.length_take, Nat.min_eq_left (Nat.sub_le _ _)] at hf2
      rw [he]
      simp only []
      rw [he2]
      refine ⟨r2, _, d', rfl, H2, ?_, ?_, ?_, ?_, ?_⟩
      · rw [List.reverse_cons, List.flatten_append, ← List.append_assoc, hc2]
        simp
      · intro o ho
        rcases List.mem_cons.mp ho with rfl | ho
        · rw [List.length_drop]; omega
        · exact hl2 o ho
      · simp only [List.length_cons]; omega
      · intro hkp
        rw [Nat.succ_mul] at hkp
        simp only [List.length_cons]
        rw [hf2 (by omega)]
      · intro hlt
        simp only [List.length_cons] at hlt
        exact hst2 (by omega)
    · rw [qpop_refused H part true hp]
      refine ⟨r, [], d, rfl, H, by simp, by simp, by simp, ?_, fun _ => by omega⟩
      intro hkp
      rw [Nat.succ_mul] at hkp
      omega

theorem xreadNull_spec (H : r.Holds cap d) (part k : Nat) :
    ∃ r' n, r.xreadNull part k = .ok (r', n) ∧ n ≤ k ∧ n * part ≤ d.length ∧
      r'.Holds cap (d.take (d.length - n * part)) := by
  -- the answer when the loop stops at once: nothing removed
  have hstay {r : Ring} {d : List Byte} (H : r.Holds cap d) : r.Holds cap (d.take (d.length - 0 * part)) := by
    rwa [Nat.zero_mul, Nat.sub_zero, List.take_length]
  induction k generalizing r d with
  | zero => exact ⟨r, 0, rfl, Nat.le_refl _, by omega, hstay H⟩
  | succ k ih =>
    unfold xreadNull
    by_cases hp : part ≤ d.length
    · rcases (qpop_spec H part false).1 hp with ⟨r1, he, H1⟩ | ⟨_, he⟩
      · obtain ⟨r2, n, he2, hk, hn, H2⟩ := ih H1
        rw [he]
        simp only []
        rw [he2]
        rw [List.length_take, Nat.min_eq_left (by omega)] at hn H2
        refine ⟨r2, n + 1, rfl, by omega, by rw [Nat.succ_mul]; omega, ?_⟩
        rwa [List.take_take, Nat.min_eq_left (by omega), Nat.sub_sub, Nat.add_comm, ← Nat.succ_mul] at H2
      · rw [he]
        exact ⟨r, 0, rfl, by omega, by omega, hstay H⟩
    · rw [qpop_refused H part false hp]
      exact ⟨r, 0, rfl, by omega, by omega, hstay H⟩

end Ring
end Mpt
