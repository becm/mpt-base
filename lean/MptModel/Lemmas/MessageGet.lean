/-
  C17: mpt_message_get — the (at most two-fragment) message over wrapped queue data denotes the requested stretch of the
  queue's logical content.  `get_eq` is the closed form of the model on a stretch inside the data (every read is in
  bounds: `Mem.rd_ok`); its fragments are an access to the ring in one part or in two (`Ring.Parts`), so `Ring.read_part` /
  `Ring.read_parts` say what they denote (`get_denotes`; nothing is read when the stretch is empty at the end of the data).
  A stretch that is not inside the data is refused, for any ring (`get_refused`).
-/
import MptModel.Impl.Message
import MptModel.Lemmas.Ring
namespace Mpt

/-- `mpt_message_get` on a stretch inside the data: two fragments exactly when the stretch starts in the first data part
    (`low = min (max − off) len` bytes) and runs beyond it -/
theorem get_eq (r : Ring) (h : r.WF) (pos take : Nat) (hle : pos + take ≤ r.len) :
    Msg.get r pos take = .ok
      (if pos < min (r.store.length - r.off) r.len ∧ min (r.store.length - r.off) r.len < pos + take then
        ⟨Mem.read r.store (r.off + pos) (min (r.store.length - r.off) r.len - pos),
          [Mem.read r.store 0 (take - (min (r.store.length - r.off) r.len - pos))]⟩
      else ⟨Mem.read r.store (if pos < min (r.store.length - r.off) r.len then r.off + pos
          else pos - min (r.store.length - r.off) r.len) take, []⟩) := by
  obtain ⟨h1, h2⟩ := h
  unfold Msg.get
  have hb1 : r.off + min (r.store.length - r.off) r.len ≤ r.store.length :=
    Nat.add_le_of_le_sub' h2 (Nat.min_le_left _ _)
  have hb2 := Nat.min_le_right (r.store.length - r.off) r.len
  generalize min (r.store.length - r.off) r.len = low at hb1 hb2
  simp only []
  by_cases hp : pos < low
  · rw [if_pos hp]
    simp only [hp, true_and, if_true]
    rw [if_neg (by omega)]
    by_cases ht : take ≤ low - pos
    · rw [if_pos ht, if_neg (by omega), Mem.rd_ok _ _ _ (by omega)]; rfl
    · rw [if_neg ht, if_pos (by omega), Mem.rd_ok _ _ _ (by omega), Mem.rd_ok _ _ _ (by omega)]; rfl
  · rw [if_neg hp, if_neg (by omega)]
    simp only [hp, false_and, if_false]
    rw [if_neg (by omega), if_pos (by omega), Mem.rd_ok _ _ _ (by omega)]; rfl

theorem get_denotes (r : Ring) (h : r.WF) (pos take : Nat) (hle : pos + take ≤ r.len) (m : Msg)
    (hm : Msg.get r pos take = .ok m) : m.flat = (r.content.drop pos).take take := by
  rw [get_eq r h pos take hle] at hm
  cases hm
  rw [← Ring.read_content r pos take hle]
  obtain ⟨h1, h2⟩ := h
  have hM : r.off + (r.store.length - r.off) = r.store.length := Nat.add_sub_cancel' h2
  generalize r.store.length - r.off = M at hM ⊢
  -- either the first data part ends with the storage (`low = M`) or the data do not wrap (`low = len`)
  rcases Nat.le_total M r.len with hl | hl
  · rw [Nat.min_eq_left hl]
    split
    · have P : Ring.Parts r.store.length r.off pos (r.off + pos) (M - pos) (take - (M - pos)) :=
        ⟨by omega, .inl ⟨rfl, by omega⟩, by omega⟩
      simp only [Msg.flat, List.flatten_cons, List.flatten_nil, List.append_nil]
      rw [Ring.read_parts _ _ _ _ _ _ h2 P]; congr 1; omega
    · simp only [Msg.flat, List.flatten_nil, List.append_nil]
      split
      · exact Ring.read_part _ _ _ _ _ h2 (.upper rfl (by omega))
      · exact Ring.read_part _ _ _ _ _ h2 (.lower (by omega) (by omega))
  · rw [Nat.min_eq_right hl, if_neg (by omega)]
    simp only [Msg.flat, List.flatten_nil, List.append_nil]
    split
    · exact Ring.read_part _ _ _ _ _ h2 (.upper rfl (by omega))
    · -- `pos = len`: nothing is taken
      obtain rfl : take = 0 := by omega
      rw [Mem.read_zero, Mem.read_zero]

theorem get_refused (r : Ring) (pos take : Nat) (hgt : r.len < pos + take) :
    ∃ e, Msg.get r pos take = .err e := by
  unfold Msg.get
  have hl := Nat.min_le_right (r.store.length - r.off) r.len
  generalize min (r.store.length - r.off) r.len = low0 at hl
  by_cases hp : pos < low0
  · have g1 : take > low0 - pos + (r.len - low0) := by omega
    simp [hp, g1]
  · simp only [hp, if_false]
    by_cases g0 : pos - low0 > r.len - low0
    · simp [g0]
    · have g1 : r.len - low0 - (pos - low0) < take := by omega
      simp [g0, g1]

end Mpt
