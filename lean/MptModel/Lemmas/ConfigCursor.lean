/-
  node_query.c / node_assign.c walk the tree while they consume the path cursor; that is the same as splitting the
  path first (`elems`) and walking with the element list (`findExact`, `nodeAssign`).  `elems_step`, `elems_nil_iff` read
  one unfolding of `elems` backwards (forwards: `elems_done`, `elems_cons` in `ConfigPath`).
-/
import MptModel.Lemmas.ConfigMap
namespace Mpt.Config
open Mpt Mpt.PathMap

theorem elems_step {p : Path} {f : Nat} {es : List (List Byte)} (h : elems p (f + 1) = .ok es) (hl : p.len ≠ 0) :
    ∃ q n es', pathNext p = .ok (q, n) ∧ elems q f = .ok es' ∧ es = stepElem p q n :: es' := by
  simp only [elems, hl, ↓reduceIte] at h
  cases hn : pathNext p with
  | ok qn =>
    obtain ⟨q, n⟩ := qn
    simp only [hn] at h
    cases he : elems q f with
    | ok es' =>
      simp only [he, Res.ok.injEq] at h
      exact ⟨q, n, es', rfl, he, by rw [← h]; rfl⟩
    | err x => simp [he] at h
    | null => simp [he] at h
    | oob => simp [he] at h
    | fault => simp [he] at h
  | err x => simp [hn] at h
  | null => simp [hn] at h
  | oob => simp [hn] at h
  | fault => simp [hn] at h

theorem elems_nil_iff {q : Path} {f : Nat} {es : List (List Byte)} (h : elems q f = .ok es) : es = [] ↔ q.len = 0 := by
  cases f with
  | zero => simp [elems] at h
  | succ f =>
    by_cases hl : q.len = 0
    · simp only [elems, hl, ↓reduceIte, Res.ok.injEq] at h
      simp [hl, ← h]
    · obtain ⟨_, _, _, _, _, he⟩ := elems_step h hl
      simp [hl, he]

theorem nodeAssignP_eq (v : List Byte) : ∀ (f : Nat) (l : List CNode) (p : Path) (es : List (List Byte)),
    elems p f = .ok es → nodeAssignP l p v f = .ok (nodeAssign l es v)
  | 0, _, _, _, h => by simp [elems] at h
  | f + 1, l, p, es, h => by
    by_cases hl : p.len = 0
    · have : es = [] := by simpa [elems, hl] using h.symm
      subst this
      simp [nodeAssignP, hl, nodeAssign]
    -- one step of the cursor is one element (`elems_step`); "last element" is `q.len = 0` on the cursor and `es'.isEmpty`
    -- on the list (`elems_nil_iff`)
    · obtain ⟨q, n, es', hn, he, rfl⟩ := elems_step h hl
      simp only [nodeAssignP, hl, ↓reduceIte, hn, nodeAssign]
      cases hloc : locate l (stepElem p q n) with
      | none => simp [he]
      | some i =>
        simp only
        cases hc : l[i]? with
        | none => rfl
        | some c =>
          simp only
          by_cases hq : q.len = 0
          · have : es' = [] := (elems_nil_iff he).2 hq
            subst this
            simp [hq]
          · have hne : es' ≠ [] := fun h' => hq ((elems_nil_iff he).1 h')
            have hemp : es'.isEmpty = false := by cases es' <;> simp_all
            simp only [hq, ↓reduceIte, hemp, Bool.false_eq_true, nodeAssignP_eq v f c.kids q es' he]
            cases nodeAssign c.kids es' v <;> rfl

theorem nodeFindP_done (l : List CNode) {p : Path} (f : Nat) (hl : p.len = 0) : nodeFindP l p (f + 1) = .ok (none, p) := by
  simp [nodeFindP, hl]

/-- `mpt_node_query` on the cursor: the node it returns with the whole path consumed is the one the exact lookup along
    the elements finds; when it finds no node at all the cursor is where it was -/
theorem nodeFindP_spec : ∀ (f : Nat) (l : List CNode) (p : Path) (es : List (List Byte)), elems p f = .ok es →
    ∃ r q', nodeFindP l p f = .ok (r, q') ∧ (r = none → q' = p) ∧ (if q'.len = 0 then r else none) = findExact l es
  | 0, _, _, _, h => by simp [elems] at h
  | f + 1, l, p, es, h => by
    by_cases hl : p.len = 0
    · have : es = [] := by simpa [elems, hl] using h.symm
      subst this
      exact ⟨none, p, nodeFindP_done l f hl, fun _ => rfl, by simp [findExact]⟩
    · obtain ⟨q, n, es', hn, he, rfl⟩ := elems_step h hl
      simp only [nodeFindP, hl, ↓reduceIte, hn, findExact]
      cases hloc : locate l (stepElem p q n) with
      | none => exact ⟨none, p, rfl, fun _ => rfl, by simp⟩
      | some i =>
        simp only
        cases hc : l[i]? with
        | none => exact ⟨none, p, rfl, fun _ => rfl, by simp⟩
        | some c =>
          have hemp : es'.isEmpty = decide (q.len = 0) := by
            have := elems_nil_iff he
            cases es' <;> simp_all
          simp only [hemp, decide_eq_true_eq]
          by_cases hk : c.kids.isEmpty
          · -- a leaf: nothing is found beneath it
            have hkn : c.kids = [] := by simpa using hk
            refine ⟨some c, q, by simp [hk], nofun, ?_⟩
            by_cases hq : q.len = 0
            · simp [hq]
            · cases es' with
              | nil => simp [hq] at hemp
              | cons a as => simp [hq, hkn, findExact, locate]
          · obtain ⟨r, q', hr, hrn, hfind⟩ := nodeFindP_spec f c.kids q es' he
            simp only [hk, Bool.false_eq_true, ↓reduceIte, hr]
            by_cases hq : q.len = 0
            · -- the path ends here: the walk into the children returns at once (it has fuel left: `elems q 0` is never `.ok`)
              obtain ⟨f', rfl⟩ : ∃ f', f = f' + 1 := ⟨f - 1, by cases f <;> simp_all [elems]⟩
              rw [nodeFindP_done c.kids f' hq] at hr
              cases hr
              exact ⟨some c, q, rfl, nofun, by simp [hq]⟩
            · cases r with
              | some d => exact ⟨some d, q', rfl, nofun, by simpa [hq] using hfind⟩
              | none =>
                cases hrn rfl
                exact ⟨some c, q, rfl, nofun, by simpa [hq] using hfind⟩

theorem nodeGetP_eq (f : Nat) (l : List CNode) (p : Path) (es : List (List Byte)) (h : elems p f = .ok es) :
    nodeGetP l p f = .ok (valueAt l es) := by
  obtain ⟨r, q', hr, _, hfind⟩ := nodeFindP_spec f l p es h
  simp only [nodeGetP, hr, valueAt, ← hfind]
  cases r <;> by_cases hq : q'.len = 0 <;> simp [hq]

end Mpt.Config
