/-
  Profile descriptions (`mpt_iterator_profile`): the number lists read by `getValues` and the coefficient loop,
  the three keywords, what a canonical description (`lin a b`, `bound l i r`, `poly c… : s…`) is handed to
  (`recognise_profile`); what `mpt_iterator_profile` returns satisfies the invariant (`profile_wf`); for
  `C19.profile_malformed_refused`: leading white space is dropped first (`profile_drop`, `startsCI_eq`).
-/
import MptModel.Lemmas.IterAccept
namespace Mpt.Iter
open Mpt.IterSpec


def NoNumber (tail : List Char) : Prop := ∀ v r, cdouble tail ≠ .ok v r

theorem noNumber_nil : NoNumber [] := by intro v r h; cases h

theorem noNumber_colon (l : List Char) : NoNumber (' ' :: ':' :: l) := by
  intro v r h
  rw [cdouble_space, cdouble_refused ':' l (by decide) (by decide) (by decide) (by decide) (by decide) (by decide)] at h
  cases h

theorem polyCoeffs_none (n : Nat) (tail : List Char) (h : NoNumber tail) : polyCoeffs n tail = ([], tail) := by
  cases n with
  | zero => rfl
  | succ k =>
    unfold polyCoeffs
    cases hc : cdouble tail with
    | ok v r => exact absurd hc (h v r)
    | zero => rfl
    | err e => rfl

theorem reads_polyCoeffs {s t : List Char} {vs : List Rat} (h : Reads s vs t) (hn : NoNumber t) (n : Nat)
    (hlen : vs.length ≤ n) : polyCoeffs n s = (vs, t) := by
  induction h generalizing n with
  | done s => exact polyCoeffs_none n s hn
  | step hc _ ih =>
    obtain ⟨k, rfl⟩ : ∃ k, n = k + 1 := ⟨n - 1, by simp at hlen; omega⟩
    unfold polyCoeffs
    rw [hc]
    simp only []
    rw [ih hn k (by simp at hlen; omega)]

theorem numbers_polyCoeffs (body : List Char) (vs : List Rat) (h : numbers body = some vs) (tail : List Char)
    (hst : Stops tail) (hnn : NoNumber tail) (n : Nat) (hn : vs.length ≤ n) :
    polyCoeffs n (body ++ tail) = (vs, tail) :=
  reads_polyCoeffs (numbers_reads body vs h tail hst) hnn n hn

theorem numbers_getValues (body : List Char) (vs : List Rat) (h : numbers body = some vs) (n : Nat)
    (hn : vs.length ≤ n) : getValues n body = some vs := by
  have := numbers_polyCoeffs body vs h [] stops_nil noNumber_nil n hn
  rw [List.append_nil] at this
  unfold getValues
  rw [this]
  rfl

theorem profSkip_numbers (body tail : List Char) (vs : List Rat) (h : numbers body = some vs) :
    profSkip (body ++ tail) = body ++ tail := by
  obtain ⟨⟨x, xs, rfl, hx⟩, h2⟩ := numbers_head body vs h
  unfold profSkip
  simp only [List.cons_append, dropSpace_id x _ hx]
  rw [if_neg (by simpa using h2)]


/-- the two matches of `profile` on the numbers `getValues` has read: `none` unless there are exactly two / three
    (stated as functions, since a `match` written in a lemma is not the matcher inside `profile`) -/
def pick2 (vs : Option (List Rat)) (f : Rat → Rat → Option Gen) : Option Gen :=
  match vs with | some [a, b] => f a b | _ => none
def pick3 (vs : Option (List Rat)) (f : Rat → Rat → Rat → Option Gen) : Option Gen :=
  match vs with | some [a, b, c] => f a b c | _ => none

theorem name_cases (l : List Char) (short long : String) (w : List Char) (hl : long.toList = short.toList ++ w)
    (h : String.ofList l = short ∨ String.ofList l = long) : ∃ w', (w' = [] ∨ w' = w) ∧ l = short.toList ++ w' := by
  rcases h with e | e
  · exact ⟨[], Or.inl rfl, by rw [(ofList_eq _ _).1 e, List.append_nil]⟩
  · exact ⟨w, Or.inr rfl, by rw [(ofList_eq _ _).1 e, hl]⟩

theorem profile_lin (grid : List Rat) (s body : List Char) (vs : List Rat) (hge : grid.isEmpty = false)
    (hb : s.dropWhile isLetter = ' ' :: body)
    (hname : String.ofList (s.takeWhile isLetter) = "lin" ∨ String.ofList (s.takeWhile isLetter) = "linear")
    (hn : numbers body = some vs) (hl : vs.length ≤ 2) :
    profile grid s = pick2 (some vs) (mkLinear grid.length) := by
  obtain ⟨w, hw, e⟩ := name_cases _ "lin" "linear" "ear".toList (by simp) hname
  have hps := profSkip_numbers body [] vs hn
  rw [List.append_nil] at hps
  have h1 : profNext (w ++ ' ' :: body) (some "ear".toList) = some (profSkip body) := by
    rcases hw with rfl | rfl <;> rfl
  have h2 : dropSpace ("lin".toList ++ (w ++ ' ' :: body)) = "lin".toList ++ (w ++ ' ' :: body) := rfl
  have h3 : startsWithCI ("lin".toList ++ (w ++ ' ' :: body)) "lin" = true := rfl
  have h4 : List.drop 3 ("lin".toList ++ (w ++ ' ' :: body)) = w ++ ' ' :: body := rfl
  rw [← List.takeWhile_append_dropWhile (p := isLetter) (l := s), hb, e, List.append_assoc]
  unfold profile
  rw [hge]
  simp only [Bool.false_eq_true, ↓reduceIte, h2, h3]
  rw [h4, h1, hps]
  show pick2 (getValues 2 body) _ = _
  rw [numbers_getValues body vs hn 2 hl]

theorem profile_bound (grid : List Rat) (s body : List Char) (vs : List Rat) (hge : grid.isEmpty = false)
    (hb : s.dropWhile isLetter = ' ' :: body)
    (hname : String.ofList (s.takeWhile isLetter) = "bound" ∨ String.ofList (s.takeWhile isLetter) = "boundary")
    (hn : numbers body = some vs) (hl : vs.length ≤ 3) :
    profile grid s = pick3 (some vs) (mkBoundary grid.length) := by
  obtain ⟨w, hw, e⟩ := name_cases _ "bound" "boundary" "ary".toList (by simp) hname
  have hps := profSkip_numbers body [] vs hn
  rw [List.append_nil] at hps
  have h1 : profNext (w ++ ' ' :: body) (some "ary".toList) = some (profSkip body) := by
    rcases hw with rfl | rfl <;> rfl
  have h2 : dropSpace ("bound".toList ++ (w ++ ' ' :: body)) = "bound".toList ++ (w ++ ' ' :: body) := rfl
  have h3 : startsWithCI ("bound".toList ++ (w ++ ' ' :: body)) "lin" = false := rfl
  have h3' : startsWithCI ("bound".toList ++ (w ++ ' ' :: body)) "bound" = true := rfl
  have h4 : List.drop 5 ("bound".toList ++ (w ++ ' ' :: body)) = w ++ ' ' :: body := rfl
  rw [← List.takeWhile_append_dropWhile (p := isLetter) (l := s), hb, e, List.append_assoc]
  unfold profile
  rw [hge]
  simp only [Bool.false_eq_true, ↓reduceIte, h2, h3, h3']
  rw [h4, h1, hps]
  show pick3 (getValues 3 body) _ = _
  rw [numbers_getValues body vs hn 3 hl]

theorem profile_poly (grid : List Rat) (body : List Char) (hge : grid.isEmpty = false) (hps : profSkip body = body) :
    profile grid ("poly".toList ++ ' ' :: body) = mkPoly body grid := by
  have h1 : profNext (' ' :: body) none = some (profSkip body) := rfl
  have h2 : dropSpace ("poly".toList ++ ' ' :: body) = "poly".toList ++ ' ' :: body := rfl
  have h3 : startsWithCI ("poly".toList ++ ' ' :: body) "lin" = false := rfl
  have h3' : startsWithCI ("poly".toList ++ ' ' :: body) "bound" = false := rfl
  have h3'' : startsWithCI ("poly".toList ++ ' ' :: body) "poly" = true := rfl
  have h4 : List.drop 4 ("poly".toList ++ ' ' :: body) = ' ' :: body := rfl
  unfold profile
  rw [hge]
  simp only [Bool.false_eq_true, ↓reduceIte, h2, h3, h3', h3'']
  rw [h4, h1, hps]

/-- 128 is the coefficient limit of `mpt_iterator_poly` (`polyCoeffs 128`).  The coefficient loop stops at the end of
    the text or at ` : `; the shift list behind the colon is read with the limit `ms.length - 1` and keeps the blank in
    front of it (`reads_blank`). -/
theorem mkPoly_numbers (grid : List Rat) (m : List Char) (ms : List Rat) (hm : numbers m = some ms)
    (hlen : ms.length ≤ 128) (tail : List Char) (ss : List Rat)
    (ht : (tail = [] ∧ ss = []) ∨ ∃ sh, tail = ' ' :: ':' :: ' ' :: sh ∧ numbers sh = some ss ∧ ss.length < ms.length) :
    mkPoly (m ++ tail) grid = some (.poly grid (polyCoeff ms ss) 0 none) := by
  have hms := numbers_ne_nil m ms hm
  have hst : Stops tail ∧ NoNumber tail := by
    rcases ht with ⟨rfl, _⟩ | ⟨sh, rfl, _⟩
    · exact ⟨stops_nil, noNumber_nil⟩
    · exact ⟨stops_space _, noNumber_colon _⟩
  have hpc : polyCoeffs 128 (m ++ tail) = (ms, tail) := numbers_polyCoeffs m ms hm tail hst.1 hst.2 128 hlen
  unfold mkPoly
  simp only [hpc]
  rw [if_neg (by simpa using hms)]
  rcases ht with ⟨rfl, rfl⟩ | ⟨sh, rfl, hs, hlt⟩
  · rfl
  · have hd1 : dropSpace (' ' :: ':' :: ' ' :: sh) = ':' :: ' ' :: sh := rfl
    have hrs := reads_blank (numbers_reads sh ss hs [] stops_nil) (numbers_ne_nil sh ss hs)
    rw [List.append_nil] at hrs
    have hsh := reads_polyCoeffs hrs noNumber_nil (ms.length - 1) (by omega)
    simp only [hd1, List.head?_cons, ↓reduceIte, List.tail_cons, hsh]
    rfl


theorem mkLinear_wf (n : Nat) (a b : Rat) (g : Gen) (h : mkLinear n a b = some g) : g.WF := by
  cases (guard_some h).2
  trivial

theorem mkPoly_shape (d : List Char) (grid : List Rat) (g : Gen) (h : mkPoly d grid = some g) :
    ∃ coeff, g = .poly grid coeff 0 none := by
  unfold mkPoly at h
  simp only [] at h
  split at h
  · cases h
  · generalize (if (dropSpace (polyCoeffs 128 d).2).head? = some ':'
      then polyCoeffs ((polyCoeffs 128 d).1.length - 1) (dropSpace (polyCoeffs 128 d).2).tail
      else ([], dropSpace (polyCoeffs 128 d).2)) = sh at h
    cases (guard_some h).2
    exact ⟨_, rfl⟩

/-- every keyword branch ends in a creator whose result is well formed: `mkLinear_wf`, a boundary generator (nothing
    memoised), `mkPoly_shape` (empty cache) -/
theorem profile_wf (grid : List Rat) (s : List Char) (g : Gen) (h : profile grid s = some g) : g.WF := by
  unfold profile at h
  by_cases hg : grid.isEmpty = true
  · rw [if_pos hg] at h; cases h
  · rw [if_neg hg] at h
    simp only [] at h
    generalize dropSpace s = d at h
    by_cases h1 : startsWithCI d "lin" = true
    · rw [if_pos h1] at h
      split at h
      · cases h
      · split at h
        · exact mkLinear_wf _ _ _ _ h
        · cases h
    · rw [if_neg h1] at h
      by_cases h2 : startsWithCI d "bound" = true
      · rw [if_pos h2] at h
        split at h
        · cases h
        · split at h
          · cases (guard_some h).2
            trivial
          · cases h
      · rw [if_neg h2] at h
        by_cases h3 : startsWithCI d "poly" = true
        · rw [if_pos h3] at h
          split at h
          · cases h
          · obtain ⟨coeff, e⟩ := mkPoly_shape _ _ _ h
            subst e
            intro v hv; cases hv
        · rw [if_neg h3] at h; cases h


theorem recognise_profile (grid : List Rat) (s : List Char) (hge : grid.isEmpty = false) :
    ∀ d, recogniseProfile s = some d →
      match d with
      | .lin a b => profile grid s = mkLinear grid.length a b
      | .bound l i r => profile grid s = mkBoundary grid.length l i r
      | .poly ms ss => profile grid s = some (.poly grid (polyCoeff ms ss) 0 none) := by
  intro d h
  unfold recogniseProfile at h
  simp only [] at h
  split at h
  · rename_i body hbody
    by_cases hname : String.ofList (s.takeWhile isLetter) = "lin" ∨ String.ofList (s.takeWhile isLetter) = "linear"
    · rw [if_pos hname] at h
      split at h <;> cases h
      rename_i a b hnum
      exact profile_lin grid s body _ hge hbody hname hnum (Nat.le_refl 2)
    · rw [if_neg hname] at h
      clear hname
      by_cases hname : String.ofList (s.takeWhile isLetter) = "bound"
          ∨ String.ofList (s.takeWhile isLetter) = "boundary"
      · rw [if_pos hname] at h
        split at h <;> cases h
        rename_i l i r hnum
        exact profile_bound grid s body _ hge hbody hname hnum (Nat.le_refl 3)
      · rw [if_neg hname] at h
        clear hname
        have hsplit := List.takeWhile_append_dropWhile (p := isLetter) (l := s)
        rw [hbody] at hsplit
        by_cases hname : String.ofList (s.takeWhile isLetter) = "poly"
        · -- poly
          rw [if_pos hname] at h
          rw [(ofList_eq _ _).1 hname] at hsplit
          have hj := join_splitC ':' body
          split at h
          · -- coefficients only
            rename_i m hsp
            rw [hsp] at hj
            simp only [joinC] at hj
            subst hj
            cases hm : numbers m with
            | none => rw [hm] at h; cases h
            | some ms =>
              rw [hm] at h
              obtain ⟨hlen, rfl⟩ := guard_some h
              have hps := profSkip_numbers m [] ms hm
              have hmk := mkPoly_numbers grid m ms hm (by omega) [] [] (Or.inl ⟨rfl, rfl⟩)
              rw [List.append_nil] at hps hmk
              rw [← hsplit, profile_poly grid m hge hps, hmk]
          · -- coefficients and shifts
            rename_i m sh hsp
            rw [hsp] at hj
            simp only [joinC] at hj
            split at h
            · rename_i hends
              cases hm : numbers m.dropLast with
              | none => rw [hm] at h; cases h
              | some ms =>
                cases hs : numbers sh.tail with
                | none => rw [hm, hs] at h; cases h
                | some ss =>
                  rw [hm, hs] at h
                  obtain ⟨hlen, rfl⟩ := guard_some h
                  simp only [not_or, Nat.not_lt, Nat.not_le] at hlen
                  have hsh' : sh = ' ' :: sh.tail := by
                    cases sh with
                    | nil => cases hends.2
                    | cons x xs => cases hends.2; rfl
                  have hbody : body = m.dropLast ++ (' ' :: ':' :: ' ' :: sh.tail) := by
                    rw [← hj, dropLast_of_getLast? hends.1, hsh']; simp
                  have hps := profSkip_numbers m.dropLast (' ' :: ':' :: ' ' :: sh.tail) ms hm
                  have hmk := mkPoly_numbers grid m.dropLast ms hm hlen.1 _ ss (Or.inr ⟨_, rfl, hs, hlen.2⟩)
                  rw [← hbody] at hps hmk
                  rw [← hsplit, profile_poly grid body hge hps, hmk]
            · cases h
          · cases h
        · rw [if_neg hname] at h; cases h
  · cases h

theorem startsCI_eq (t : List Char) (w : String) : IterSpec.startsCI t w = startsWithCI t w := rfl

theorem profile_drop (grid : List Rat) (s : List Char) : profile grid s = profile grid (dropSpace s) := by
  unfold profile
  simp only [dropSpace_idem]

end Mpt.Iter
